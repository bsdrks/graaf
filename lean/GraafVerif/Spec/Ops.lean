import GraafVerif.Model.Repr
/-!
# Spec level of C11: abstract digraphs and the set definitions of the four operations

`DG` is a digraph as the property speaks about it: a vertex set and an arc set (predicates).
`abs*` reads the abstract digraph off a representation through its public reads
(`vertices`, `has_arc`, `arc_weight`).
-/
namespace GraafVerif.Ops
open GraafVerif.Repr

structure DG where
  V : Nat → Prop
  A : Nat → Nat → Prop

theorem DG.ext_iff' {g h : DG} : g = h ↔ (∀ v, g.V v ↔ h.V v) ∧ (∀ u v, g.A u v ↔ h.A u v) := by
  constructor
  · rintro rfl; exact ⟨fun _ => Iff.rfl, fun _ _ => Iff.rfl⟩
  · rintro ⟨hv, ha⟩
    cases g; cases h
    simp only [DG.mk.injEq]
    exact ⟨funext fun v => propext (hv v), funext fun u => funext fun v => propext (ha u v)⟩

/-- "a valid digraph": no self-loop, no arc endpoint outside the vertex set. -/
def DG.Valid (g : DG) : Prop := ∀ u v, g.A u v → g.V u ∧ g.V v ∧ u ≠ v

/-- `u → v` exactly when `u ≠ v` are in `V` and `u → v` is not in `A`. -/
def specComplement (g : DG) : DG := ⟨g.V, fun u v => g.V u ∧ g.V v ∧ u ≠ v ∧ ¬ g.A u v⟩
/-- `v → u` exactly when `u → v` is in `A`. -/
def specConverse (g : DG) : DG := ⟨g.V, fun u v => g.A v u⟩
/-- vertex set `V(D) ∪ V(E)`, arc set `A(D) ∪ A(E)`. -/
def specUnion (g h : DG) : DG := ⟨fun v => g.V v ∨ h.V v, fun u v => g.A u v ∨ h.A u v⟩
/-- the subdigraph induced by `{v ∈ V : p v}`. -/
def specFilter (p : Nat → Bool) (g : DG) : DG :=
  ⟨fun v => g.V v ∧ p v = true, fun u v => g.A u v ∧ p u = true ∧ p v = true⟩

/-- Weighted digraphs: `A u v w` = the arc `u → v` is present with weight `w`. -/
structure WDG where
  V : Nat → Prop
  A : Nat → Nat → Int → Prop

theorem WDG.ext_iff' {g h : WDG} : g = h ↔ (∀ v, g.V v ↔ h.V v) ∧ (∀ u v w, g.A u v w ↔ h.A u v w) := by
  constructor
  · rintro rfl; exact ⟨fun _ => Iff.rfl, fun _ _ _ => Iff.rfl⟩
  · rintro ⟨hv, ha⟩
    cases g; cases h
    simp only [WDG.mk.injEq]
    exact ⟨funext fun v => propext (hv v),
      funext fun u => funext fun v => funext fun w => propext (ha u v w)⟩

def WDG.Valid (g : WDG) : Prop :=
  (∀ u v w, g.A u v w → g.V u ∧ g.V v ∧ u ≠ v) ∧ ∀ u v w w', g.A u v w → g.A u v w' → w = w'
/-- converse with the weights carried over. -/
def specConverseW (g : WDG) : WDG := ⟨g.V, fun u v w => g.A v u w⟩

/-! ## Abstraction functions -/

def absAL (d : AdjList) : DG := ⟨fun v => v ∈ d.vertices, fun u v => d.hasArc u v = true⟩
def absAM (d : AdjMap) : DG := ⟨fun v => v ∈ d.vertices, fun u v => d.hasArc u v = true⟩
def absMX (d : AdjMatrix) : DG := ⟨fun v => v ∈ d.vertices, fun u v => d.hasArc u v = true⟩
def absEL (d : EdgeList) : DG := ⟨fun v => v ∈ d.vertices, fun u v => d.hasArc u v = true⟩
def absW (d : AdjListW) : WDG := ⟨fun v => v ∈ d.vertices, fun u v w => d.arcWeight u v = some w⟩

/-! ## Algebraic consequences at the spec level -/

theorem specComplement_valid (g : DG) : (specComplement g).Valid :=
  fun _ _ h => ⟨h.1, h.2.1, h.2.2.1⟩

theorem specConverse_valid {g : DG} (h : g.Valid) : (specConverse g).Valid :=
  fun u v ha => ⟨(h v u ha).2.1, (h v u ha).1, fun e => (h v u ha).2.2 e.symm⟩

theorem specUnion_valid {g h : DG} (hg : g.Valid) (hh : h.Valid) : (specUnion g h).Valid := by
  intro u v ha
  rcases ha with ha | ha
  · exact ⟨Or.inl (hg u v ha).1, Or.inl (hg u v ha).2.1, (hg u v ha).2.2⟩
  · exact ⟨Or.inr (hh u v ha).1, Or.inr (hh u v ha).2.1, (hh u v ha).2.2⟩

theorem specFilter_valid {g : DG} (p : Nat → Bool) (h : g.Valid) : (specFilter p g).Valid :=
  fun u v ha => ⟨⟨(h u v ha.1).1, ha.2.1⟩, ⟨(h u v ha.1).2.1, ha.2.2⟩, (h u v ha.1).2.2⟩

theorem specConverseW_valid {g : WDG} (h : g.Valid) : (specConverseW g).Valid :=
  ⟨fun u v w ha => ⟨(h.1 v u w ha).2.1, (h.1 v u w ha).1, fun e => (h.1 v u w ha).2.2 e.symm⟩,
    fun u v => h.2 v u⟩

/-- complement is an involution on valid digraphs. -/
theorem specComplement_involutive {g : DG} (h : g.Valid) : specComplement (specComplement g) = g := by
  rw [DG.ext_iff']
  refine ⟨fun _ => Iff.rfl, fun u v => ?_⟩
  simp only [specComplement]
  constructor
  · rintro ⟨hu, hv, hne, hn⟩
    exact Classical.byContradiction fun hna => hn ⟨hu, hv, hne, hna⟩
  · intro ha
    exact ⟨(h u v ha).1, (h u v ha).2.1, (h u v ha).2.2, fun hc => hc.2.2.2 ha⟩

/-- converse is an involution. -/
theorem specConverse_involutive (g : DG) : specConverse (specConverse g) = g := rfl

theorem specConverseW_involutive (g : WDG) : specConverseW (specConverseW g) = g := rfl

theorem specUnion_comm (g h : DG) : specUnion g h = specUnion h g := by
  rw [DG.ext_iff']; exact ⟨fun _ => Or.comm, fun _ _ => Or.comm⟩

theorem specUnion_assoc (g h k : DG) : specUnion (specUnion g h) k = specUnion g (specUnion h k) := by
  rw [DG.ext_iff']; exact ⟨fun _ => or_assoc, fun _ _ => or_assoc⟩

theorem specUnion_idem (g : DG) : specUnion g g = g := by
  rw [DG.ext_iff']; exact ⟨fun _ => or_self_iff, fun _ _ => or_self_iff⟩

end GraafVerif.Ops
