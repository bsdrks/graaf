/-!
# The mathematical digraph `(V, A, w)` and its mutation semantics (spec of C01 / C20)

A spec state is a *plain set of arcs with weights*, given by characteristic functions:
`V x` — `x` is a vertex; `W u v = some w` — `u → v` is an arc of weight `w`
(`none` = no arc).  Unweighted digraphs are the case `ω = Unit`.  Nothing here knows about
rows, sorted containers or bit blocks; `specStep` is what the property text says:

* adding is idempotent, re-adding a weighted arc replaces its weight;
* `remove_arc` returns whether the arc was present and removes only it;
* `toggle` (matrix only) is the symmetric difference with `{(u,v)}`;
* a *fixed-order* digraph keeps `V`; a call with `u = v` or an endpoint outside `V` is
  rejected: it panics and leaves the state unchanged;
* a *growing* digraph (`AdjacencyMap`) rejects only `u = v` and admits `u`, `v` into `V`.

No imports: usable from the compiled driver.
-/
namespace GraafVerif.ReprSpec

/-- What a mutating call gives back: `()`, a `bool`, or a panic. -/
inductive Out where
  | unit
  | bool (b : Bool)
  | panic
  deriving DecidableEq, Repr, Inhabited

/-- `add_arc` (`ω = Unit`) / `add_arc_weighted`, and `remove_arc`. -/
inductive Op (ω : Type) where
  | add (u v : Nat) (w : ω)
  | rem (u v : Nat)
  deriving Repr

/-- The calls of `AdjacencyMatrix`, which additionally has `toggle`. -/
inductive MxOp where
  | add (u v : Nat)
  | rem (u v : Nat)
  | tog (u v : Nat)
  deriving Repr, DecidableEq

/-- `AdjacencyMap::add_arc` admits new endpoints; all other representations keep `V = 0..order`. -/
inductive Kind where
  | fixed
  | growing
  deriving DecidableEq, Repr

structure SpecState (ω : Type) where
  V : Nat → Bool
  W : Nat → Nat → Option ω

namespace SpecState
variable {ω : Type}

/-- The arc set. -/
def A (s : SpecState ω) (u v : Nat) : Bool := (s.W u v).isSome

/-- No self-loop, no arc with an endpoint outside `V` (no duplicate arc: `W` is a function). -/
def Valid (s : SpecState ω) : Prop := ∀ u v, s.A u v = true → u ≠ v ∧ s.V u = true ∧ s.V v = true

theorem ext {s t : SpecState ω} (hV : ∀ x, s.V x = t.V x) (hW : ∀ u v, s.W u v = t.W u v) : s = t := by
  cases s; cases t
  congr
  · funext x; exact hV x
  · funext u v; exact hW u v
end SpecState

/-- The digraph on `0..n` without arcs. -/
def emptySpec (ω : Type) (n : Nat) : SpecState ω := ⟨fun x => decide (x < n), fun _ _ => none⟩

/-- `W[(u,v) ↦ x]`. -/
def setW {ω : Type} (W : Nat → Nat → Option ω) (u v : Nat) (x : Option ω) : Nat → Nat → Option ω :=
  fun a b => if a = u ∧ b = v then x else W a b

/-- `V ∪ {u}`. -/
def addV (V : Nat → Bool) (u : Nat) : Nat → Bool := fun a => decide (a = u) || V a

/-- The calls that must be rejected. -/
def rejected {ω : Type} (k : Kind) (s : SpecState ω) (u v : Nat) : Bool :=
  decide (u = v) || (decide (k = .fixed) && !(s.V u && s.V v))

/-- Vertex set after a successful add. -/
def grow (k : Kind) (V : Nat → Bool) (u v : Nat) : Nat → Bool :=
  match k with
  | .fixed => V
  | .growing => addV (addV V u) v

def specStep {ω : Type} (k : Kind) (s : SpecState ω) : Op ω → SpecState ω × Out
  | .add u v w =>
    if rejected k s u v then (s, .panic)
    else (⟨grow k s.V u v, setW s.W u v (some w)⟩, .unit)
  | .rem u v => (⟨s.V, setW s.W u v none⟩, .bool (s.A u v))

/-- Matrix calls on a fixed-order unweighted state. -/
def specStepMx (s : SpecState Unit) : MxOp → SpecState Unit × Out
  | .add u v => specStep .fixed s (.add u v ())
  | .rem u v => specStep .fixed s (.rem u v)
  | .tog u v =>
    if rejected .fixed s u v then (s, .panic)
    else (⟨s.V, setW s.W u v (if s.A u v then none else some ())⟩, .unit)

/-- Run a history: final state and the outputs of all calls.  Used with the spec step and
with every representation's model step. -/
def run {σ ο : Type} (step : σ → ο → σ × Out) : σ → List ο → σ × List Out
  | s, [] => (s, [])
  | s, op :: ops =>
    let r := step s op
    let rest := run step r.1 ops
    (rest.1, r.2 :: rest.2)

/-! ## Spec-level facts (the "never observable" clause) -/

theorem emptySpec_valid (ω : Type) (n : Nat) : (emptySpec ω n).Valid := by
  intro u v h; simp [emptySpec, SpecState.A] at h

theorem rejected_eq_false {ω : Type} (k : Kind) (s : SpecState ω) (u v : Nat) :
    rejected k s u v = false ↔ u ≠ v ∧ (k = .fixed → s.V u = true ∧ s.V v = true) := by
  cases k <;> simp [rejected]

theorem A_setW {ω : Type} (V : Nat → Bool) (W : Nat → Nat → Option ω) (u v : Nat) (x : Option ω) (a b : Nat) :
    (SpecState.mk V (setW W u v x)).A a b = if a = u ∧ b = v then x.isSome else (W a b).isSome := by
  simp only [SpecState.A, setW]; split <;> rfl

theorem specStep_add_rej {ω : Type} {k : Kind} {s : SpecState ω} {u v : Nat} (w : ω)
    (h : rejected k s u v = true) : specStep k s (.add u v w) = (s, .panic) :=
  if_pos h

theorem specStep_add_ok {ω : Type} {k : Kind} {s : SpecState ω} {u v : Nat} (w : ω)
    (h : rejected k s u v = false) :
    specStep k s (.add u v w) = (⟨grow k s.V u v, setW s.W u v (some w)⟩, .unit) :=
  if_neg (ne_true_of_eq_false h)

theorem specStepMx_tog_rej {s : SpecState Unit} {u v : Nat}
    (h : rejected .fixed s u v = true) : specStepMx s (.tog u v) = (s, .panic) :=
  if_pos h

theorem specStepMx_tog_ok {s : SpecState Unit} {u v : Nat} (h : rejected .fixed s u v = false) :
    specStepMx s (.tog u v) = (⟨s.V, setW s.W u v (if s.A u v then none else some ())⟩, .unit) :=
  if_neg (ne_true_of_eq_false h)

theorem grow_of_mem (k : Kind) {V : Nat → Bool} (u v : Nat) {x : Nat} (h : V x = true) : grow k V u v x = true := by
  cases k
  · exact h
  · simp [grow, addV, h]

theorem grow_endpoints {ω : Type} {k : Kind} {s : SpecState ω} {u v : Nat} (h : rejected k s u v = false) :
    grow k s.V u v u = true ∧ grow k s.V u v v = true := by
  cases k
  · exact ((rejected_eq_false _ s u v).mp h).2 rfl
  · simp [grow, addV]

theorem SpecState.Valid.setW {ω : Type} {s : SpecState ω} (h : s.Valid) {V : Nat → Bool}
    (hV : ∀ x, s.V x = true → V x = true) (u v : Nat) {x : Option ω}
    (hx : x.isSome = true → u ≠ v ∧ V u = true ∧ V v = true) :
    (SpecState.mk V (ReprSpec.setW s.W u v x)).Valid := by
  intro a b hab
  rw [A_setW] at hab
  split at hab
  · rename_i hc
    rw [hc.1, hc.2]
    exact hx hab
  · have := h a b hab
    exact ⟨this.1, hV a this.2.1, hV b this.2.2⟩

theorem specStep_valid {ω : Type} (k : Kind) (s : SpecState ω) (op : Op ω) (h : s.Valid) :
    (specStep k s op).1.Valid := by
  cases op with
  | add u v w =>
    cases hr : rejected k s u v
    · rw [specStep_add_ok w hr]
      exact h.setW (fun x => grow_of_mem k u v) u v
        (fun _ => ⟨((rejected_eq_false k s u v).mp hr).1, grow_endpoints hr⟩)
    · rw [specStep_add_rej w hr]; exact h
  | rem u v => exact h.setW (fun _ hx => hx) u v (fun hx => nomatch hx)

theorem specStepMx_valid (s : SpecState Unit) (op : MxOp) (h : s.Valid) : (specStepMx s op).1.Valid := by
  cases op with
  | add u v => exact specStep_valid _ _ _ h
  | rem u v => exact specStep_valid _ _ _ h
  | tog u v =>
    cases hr : rejected .fixed s u v
    · rw [specStepMx_tog_ok hr]
      exact h.setW (fun _ hx => hx) u v (fun _ => ⟨((rejected_eq_false _ s u v).mp hr).1, grow_endpoints hr⟩)
    · rw [specStepMx_tog_rej hr]; exact h

end GraafVerif.ReprSpec
