import GraafVerif.Proof.OracleFastWDist
/-!
# `wdistArcsFast` (Bellman-Ford over a flat arc list, `H08.bfA`) equals `wdistB g [s]`

The round scans ONE flat arc list and re-reads the tail label for every arc — a different
relaxation order from `wdistB` (rows, tail label read once per row), so the intermediate label
vectors differ (e.g. after a negative loop).  But the arc-list round is a pass of `relaxRow` over
the one-arc rows `(u, [(v, w)])`, hence a `RelaxRound` too (`relaxRows_relax`): its `n`-th iterate
is tight iff no negative circuit is reachable, and tight walk-weight labels are unique
(`tight_unique`).  So the two oracles return the same flag always and the same labels whenever the
flag is down.
-/
namespace GraafVerif.OracleFastProof
open GraafVerif GraafVerif.OracleFast GraafVerif.OracleProof

theorem abIn_sim (acc : Array (Option Int) × Bool) (a : Nat × Nat × Int) :
    toL (abIn acc a) = relaxRow (toL acc) (a.1, [(a.2.1, a.2.2)]) := by
  obtain ⟨ar, c⟩ := acc
  simp only [abIn, relaxRow, wIn, toL, Array.getElem?_toList, List.foldl_cons, List.foldl_nil]
  cases ar[a.1]?.getD none with
  | none => rfl
  | some du =>
    simp only []
    cases ar[a.2.1]?.getD none with
    | none => simp
    | some dv =>
      by_cases h : du + a.2.2 < dv
      · simp [h]
      · simp [h]

theorem abRound_sim (arcs : List (Nat × Nat × Int)) (d : Array (Option Int)) :
    toL (abRound arcs d) = relaxRows (arcRows arcs) d.toList := by
  unfold relaxRows arcRows
  rw [List.foldl_map]
  exact Fold.foldl_sim toL abIn _ abIn_sim _ _

theorem abGo_spec {g : WGraph} {S : List Nat} {arcs : List (Nat × Nat × Int)}
    (hR : RelaxRound g S (relaxRows (arcRows arcs))) : ∀ (fuel : Nat) (d : Array (Option Int)),
    (abGo arcs fuel d).2 = (relaxRows (arcRows arcs) (iter (relaxRows (arcRows arcs)) fuel d.toList)).2 ∧
    ((abGo arcs fuel d).2 = false →
      (abGo arcs fuel d).1.toList = iter (relaxRows (arcRows arcs)) fuel d.toList) :=
  exitLoop_spec (abs := Array.toList) (x := id) (abRound_sim arcs) (fun d h => iter_fix hR (hR.noupd d h).2)
    (fun _ _ => rfl) (fun _ => rfl) (fun _ _ => rfl)

theorem singleInit_toList (g : WGraph) (s : Nat) :
    ((Array.replicate g.n (none : Option Int)).setIfInBounds s (some 0)).toList = wInit g [s] := by
  simp [wInit]

section single
variable {g : WGraph} (hwf : g.WF) {arcs : List (Nat × Nat × Int)}
  (harcs : ∀ u v w, (u, v, w) ∈ arcs ↔ g.A u v w) {s : Nat} (hs : s < g.n)
include hwf harcs hs

theorem wdistArcsFast_flag : (wdistArcsFast g arcs s).2 = (wdistB g [s]).2 := by
  have hS := single_lt hs
  have hR := relaxRows_relax hwf [s] (listsArcs_arcRows harcs)
  show (abGo arcs g.n _).2 = _
  rw [(abGo_spec hR g.n _).1, singleInit_toList, Bool.eq_iff_iff,
    iter_flag hR hwf hS (wInv_init g hS), wdistB_flag hwf hS]

theorem wdistArcsFast_eq (hf : (wdistB g [s]).2 = false) : wdistArcsFast g arcs s = wdistB g [s] := by
  have hS := single_lt hs
  have hR := relaxRows_relax hwf [s] (listsArcs_arcRows harcs)
  have hR' := wRound_relax hwf [s]
  have hfl := wdistArcsFast_flag hwf harcs hs
  refine Prod.ext ?_ hfl
  have hf' : (abGo arcs g.n ((Array.replicate g.n none).setIfInBounds s (some 0))).2 = false := hfl.trans hf
  obtain ⟨h1, h2⟩ := abGo_spec hR g.n ((Array.replicate g.n none).setIfInBounds s (some 0))
  rw [singleInit_toList] at h1 h2
  rw [wdistB_eq] at hf ⊢
  show (abGo arcs g.n _).1.toList = _
  rw [h2 hf']
  exact tight_unique (iter_inv hR (wInv_init g hS) g.n) (hR.noupd _ (h1 ▸ hf')).2
    (iter_inv hR' (wInv_init g hS) g.n) (hR'.noupd _ hf).2

end single

theorem wgraphArcs_mem {g : WGraph} (hwf : g.WF) (u v : Nat) (w : Int) :
    (u, v, w) ∈ wgraphArcs g ↔ g.A u v w :=
  mem_arcList.trans ⟨And.right, fun h => ⟨(hwf u v w h).1, h⟩⟩

end GraafVerif.OracleFastProof
