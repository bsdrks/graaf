import GraafVerif.Model.Ops
import GraafVerif.Proof.Par
import GraafVerif.Proof.VecLemmas
/-!
# Thread-count independence of the chunked operations (`∀ ap ≥ 1`, C17 pieces)

`complementAL` and `unionAL` split the rows `0..order` into per-thread chunks; by
`Par.chunks_tile` (resp. `stepRanges_tile` for the `step_by` form) the chunks tile `0..order`
in order, so the result is the row-wise map over `List.range order` whatever `ap` is.
-/
namespace GraafVerif.Ops
open GraafVerif.Repr GraafVerif.Par

theorem complementAL_par_eq_seq (d : AdjList) (ap : Nat) (hap : 0 < ap) (hn : 0 < d.order) :
    complementAL d ap = some (complementSeqAL d) := by
  unfold complementAL complementSeqAL
  simp only []
  rw [if_neg (Nat.ne_of_gt (Nat.lt_min.mpr ⟨hn, hap⟩)), ← List.map_flatMap, ← expand, chunks_tile_min _ _ hap hn]

/-- The `step_by(chunk)` loop started at a multiple of `chunk` is the per-thread loop of `Par.ranges`. -/
theorem stepRanges_go_eq (n chunk : Nat) (hc : 0 < chunk) : ∀ fuel id,
    stepRanges.go n chunk fuel (id * chunk) = ranges.go n chunk fuel id := by
  intro fuel
  induction fuel with
  | zero => intro id; rfl
  | succ fuel ih =>
    intro id
    rw [ranges_go_succ, stepRanges.go, ← Nat.succ_mul, ih (id + 1), Nat.min_comm]
    by_cases hlt : id * chunk < n
    · rw [if_pos hlt, if_neg (Nat.not_le_of_lt
        (Nat.lt_min.mpr ⟨hlt, Nat.mul_lt_mul_of_pos_right (Nat.lt_succ_self id) hc⟩))]
    · rw [if_neg hlt, if_pos (Nat.le_trans (Nat.min_le_left _ _) (Nat.le_of_not_lt hlt))]

theorem stepRanges_tile (n chunk : Nat) (hc : 0 < chunk) :
    expand (stepRanges n chunk) = List.range n := by
  have h := stepRanges_go_eq n chunk hc n 0
  rw [Nat.zero_mul] at h
  rw [stepRanges, h, expand_go n chunk hc n 0 (by rw [Nat.zero_add]; exact Nat.le_mul_of_pos_right n hc),
    Nat.zero_mul, Nat.sub_zero, List.range_eq_range']

/-! ## disjoint slot writes: `foldl set` over a tiling = `map` -/

theorem foldl_set_range {β : Type} (f : Nat → β) (x : β) (n : Nat) :
    (List.range n).foldl (fun acc u => acc.set u (f u)) (List.replicate n x) = (List.range n).map f := by
  rw [Vec.foldl_set_range_append f n _ (Nat.le_of_eq List.length_replicate.symm),
    List.drop_of_length_le (Nat.le_of_eq List.length_replicate), List.append_nil]

theorem unionAL_par_eq_seq (a b : AdjList) (ap : Nat) (hap : 0 < ap) (hn : 0 < max a.order b.order) :
    unionAL a b ap = some (unionSeqAL a b) := by
  have hc : 0 < (max a.order b.order + ap - 1) / ap := divCeil_pos hn hap
  unfold unionAL unionSeqAL
  simp only []
  rw [if_neg (Nat.ne_of_gt hap), if_neg (Nat.ne_of_gt hc), ← List.foldl_flatMap, ← expand,
    stepRanges_tile _ _ hc, foldl_set_range]

end GraafVerif.Ops

namespace GraafVerif.AlgoGenThm.AdjacencyList

/-- `(0..n).step_by(chunk)` in closed form: the ranges of `Par.ranges` with the `min` the other way round -/
theorem stepRanges_closed (n chunk : Nat) (hc : 0 < chunk) : ∀ (fuel id : Nat), (n + chunk - 1) / chunk ≤ id + fuel →
    Ops.stepRanges.go n chunk fuel (id * chunk) =
      (List.range' id ((n + chunk - 1) / chunk - id)).map fun i => (i * chunk, min (i * chunk + chunk) n) := by
  intro fuel id h
  rw [Ops.stepRanges_go_eq n chunk hc, go_closed n chunk hc fuel id h]
  exact List.map_congr_left fun i _ => by rw [Nat.min_comm]

end GraafVerif.AlgoGenThm.AdjacencyList
