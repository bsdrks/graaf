import GraafVerif.Proof.ReprRun
/-!
# The derived `Ord` of the representation models is consistent with structural equality (C20)

`cmp a b = Equal ↔ a = b` for all five models (in particular equal digraphs compare `Equal`),
and a history whose abstract effect is the identity restores the identical structure.  The equations between
spec-level histories that C20 and the history laws of `Proof/Laws2W.lean` lift are at the end.
-/
namespace GraafVerif.Repr
open GraafVerif.ReprSpec

def EqIff {α : Type} (c : α → α → Ordering) : Prop := ∀ a b, c a b = .eq ↔ a = b

/-- The derived comparisons are lexicographic: compare further only on `Equal` (`Ordering.then`). -/
theorem cmpPair_eq_then {α β : Type} (ca : α → α → Ordering) (cb : β → β → Ordering) (x y : α × β) :
    cmpPair ca cb x y = (ca x.1 y.1).then (cb x.2 y.2) := by
  unfold cmpPair; cases ca x.1 y.1 <;> rfl

theorem cmpList_cons {α : Type} (c : α → α → Ordering) (a b : α) (as bs : List α) :
    cmpList c (a :: as) (b :: bs) = (c a b).then (cmpList c as bs) := by
  rw [cmpList]; cases c a b <;> rfl

theorem cmpPair_eqIff {α β : Type} {ca : α → α → Ordering} {cb : β → β → Ordering}
    (ha : EqIff ca) (hb : EqIff cb) : EqIff (cmpPair ca cb) := fun x y => by
  rw [cmpPair_eq_then, Ordering.then_eq_eq, ha, hb]; exact Prod.ext_iff.symm

theorem cmpList_eqIff {α : Type} {c : α → α → Ordering} (h : EqIff c) : EqIff (cmpList c) := by
  intro l₁
  induction l₁ with
  | nil =>
    intro l₂
    cases l₂ with
    | nil => exact ⟨fun _ => rfl, fun _ => rfl⟩
    | cons b bs => exact ⟨fun h => (nomatch h), fun h => (nomatch h)⟩
  | cons a as ih =>
    intro l₂
    cases l₂ with
    | nil => exact ⟨fun h => (nomatch h), fun h => (nomatch h)⟩
    | cons b bs => rw [cmpList_cons, Ordering.then_eq_eq, h, ih, List.cons.injEq]

theorem cmpNat_eqIff : EqIff cmpNat := fun _ _ => Nat.compare_eq_eq

theorem cmpInt_eqIff : EqIff cmpInt := fun _ _ => Int.compare_eq_eq

theorem AdjList.cmp_eq_iff (a b : AdjList) : a.cmp b = .eq ↔ a = b :=
  (cmpList_eqIff (cmpList_eqIff cmpNat_eqIff) a.rows b.rows).trans
    ⟨fun h => by cases a; cases b; exact congrArg _ h, congrArg _⟩

theorem AdjMap.cmp_eq_iff (a b : AdjMap) : a.cmp b = .eq ↔ a = b :=
  (cmpList_eqIff (cmpPair_eqIff cmpNat_eqIff (cmpList_eqIff cmpNat_eqIff)) a.rows b.rows).trans
    ⟨fun h => by cases a; cases b; exact congrArg _ h, congrArg _⟩

theorem AdjListW.cmp_eq_iff (a b : AdjListW) : a.cmp b = .eq ↔ a = b :=
  (cmpList_eqIff (cmpList_eqIff (cmpPair_eqIff cmpNat_eqIff cmpInt_eqIff)) a.rows b.rows).trans
    ⟨fun h => by cases a; cases b; exact congrArg _ h, congrArg _⟩

theorem EdgeList.cmp_eq_iff (a b : EdgeList) : a.cmp b = .eq ↔ a = b :=
  (cmpPair_eqIff (cmpList_eqIff (cmpPair_eqIff cmpNat_eqIff cmpNat_eqIff)) cmpNat_eqIff
      (a.arcs, a.order) (b.arcs, b.order)).trans
    ⟨fun h => by cases a; cases b; cases h; rfl, fun h => h ▸ rfl⟩

theorem AdjMatrix.cmp_eq_iff (a b : AdjMatrix) : a.cmp b = .eq ↔ a = b :=
  have hbv : EqIff (fun x y : BitVec 64 => cmpNat x.toNat y.toNat) := fun x y =>
    (cmpNat_eqIff _ _).trans BitVec.toNat_inj
  (cmpPair_eqIff (cmpList_eqIff hbv) cmpNat_eqIff (a.blocks, a.order) (b.blocks, b.order)).trans
    ⟨fun h => by cases a; cases b; cases h; rfl, fun h => h ▸ rfl⟩

theorem converge_gen {σ ο ω : Type} (step : σ → ο → σ × Out) (sstep : SpecState ω → ο → SpecState ω × Out)
    (WF : σ → Prop) (abs : σ → SpecState ω) (hrun : RunRefines WF abs step sstep)
    (hinj : ∀ d₁ d₂, WF d₁ → WF d₂ → (abs d₁ = abs d₂ ↔ d₁ = d₂))
    (d₁ d₂ : σ) (h₁ : WF d₁) (h₂ : WF d₂) (ops₁ ops₂ : List ο)
    (h : (run sstep (abs d₁) ops₁).1 = (run sstep (abs d₂) ops₂).1) :
    (run step d₁ ops₁).1 = (run step d₂ ops₂).1 :=
  have a := hrun ops₁ d₁ h₁
  have b := hrun ops₂ d₂ h₂
  (hinj _ _ a.1 b.1).mp (a.2.1.trans (h.trans b.2.1.symm))

theorem restores_gen {σ ο ω : Type} {step : σ → ο → σ × Out} {sstep : SpecState ω → ο → SpecState ω × Out}
    {WF : σ → Prop} {abs : σ → SpecState ω} (hrun : RunRefines WF abs step sstep)
    (hinj : ∀ d₁ d₂, WF d₁ → WF d₂ → (abs d₁ = abs d₂ ↔ d₁ = d₂))
    {d : σ} (h : WF d) {ops : List ο} (hs : (run sstep (abs d) ops).1 = abs d) : (run step d ops).1 = d :=
  converge_gen step sstep WF abs hrun hinj d d h h ops [] hs

theorem spec_remove_after_add {ω : Type} (k : Kind) (s : SpecState ω) (u v : Nat) (w : ω)
    (hrej : rejected k s u v = false) (habs : s.W u v = none)
    (hV : k = .growing → s.V u = true ∧ s.V v = true) :
    (run (specStep k) s [.add u v w, .rem u v]).1 = s := by
  show (specStep k (specStep k s (.add u v w)).1 (.rem u v)).1 = s
  rw [specStep_add_ok w hrej]
  show (⟨grow k s.V u v, setW (setW s.W u v (some w)) u v none⟩ : SpecState ω) = s
  rw [setW_setW, ← habs, setW_self, grow_of_endpoints hV]

theorem spec_toggle_twice (s : SpecState Unit) (u v : Nat) :
    (run specStepMx s [.tog u v, .tog u v]).1 = s := by
  show (specStepMx (specStepMx s (.tog u v)).1 (.tog u v)).1 = s
  cases hrej : rejected .fixed s u v
  · -- the second call sees the same vertex set, hence is accepted too
    have hrej' : rejected .fixed (⟨s.V, setW s.W u v (if s.A u v then none else some ())⟩ : SpecState Unit) u v =
        false := hrej
    have hA : (⟨s.V, setW s.W u v (if s.A u v then none else some ())⟩ : SpecState Unit).A u v =
        (if s.A u v then (none : Option Unit) else some ()).isSome := by
      rw [A_setW, if_pos ⟨rfl, rfl⟩]
    have hback : (if (if s.A u v then (none : Option Unit) else some ()).isSome then none else some ()) =
        s.W u v := by
      unfold SpecState.A
      cases s.W u v <;> rfl
    rw [specStepMx_tog_ok hrej]
    show (specStepMx ⟨s.V, _⟩ (.tog u v)).1 = s
    rw [specStepMx_tog_ok hrej', hA, hback]
    show (⟨s.V, setW (setW s.W u v _) u v _⟩ : SpecState Unit) = s
    rw [setW_setW, setW_self]
  · rw [specStepMx_tog_rej hrej, specStepMx_tog_rej hrej]

end GraafVerif.Repr

/-! ## More equations between histories on a fixed vertex set -/
namespace GraafVerif.Laws2
open GraafVerif.Repr GraafVerif.ReprSpec

/-- `add (u,v,w₁); add (u,v,w₂)` = `add (u,v,w₂)` — also when the call is rejected (both sides unchanged) -/
theorem spec_add_add {ω : Type} (s : SpecState ω) (u v : Nat) (w1 w2 : ω) :
    (run (specStep .fixed) s [.add u v w1, .add u v w2]).1 = (run (specStep .fixed) s [.add u v w2]).1 := by
  simp only [run, specStep_add_fixed, rejected_setW]
  cases rejected .fixed s u v
  · exact congrArg _ (setW_setW ..)
  · rfl

/-- adds of two DIFFERENT arcs commute (each may be rejected independently: the vertex set is fixed) -/
theorem spec_add_comm {ω : Type} (s : SpecState ω) (u v x y : Nat) (w w' : ω) (hne : ¬ (u = x ∧ v = y)) :
    (run (specStep .fixed) s [.add u v w, .add x y w']).1 = (run (specStep .fixed) s [.add x y w', .add u v w]).1 := by
  simp only [run, specStep_add_fixed, rejected_setW]
  cases rejected .fixed s u v <;> cases rejected .fixed s x y
  · exact congrArg _ (setW_comm _ _ _ _ _ _ _ hne)
  · rfl
  · rfl
  · rfl

theorem spec_rem_rem {ω : Type} (s : SpecState ω) (u v : Nat) :
    (run (specStep .fixed) s [.rem u v, .rem u v]).1 = (run (specStep .fixed) s [.rem u v]).1 := by
  simp only [run, specStep, setW_setW]

end GraafVerif.Laws2
