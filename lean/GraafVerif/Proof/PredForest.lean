import GraafVerif.Proof.PredTreeChain
/-!
# The predecessor vector of a search that emits a parent before its children

`BfsPred` and `DijkstraPred` emit items that carry a vertex `vx x` and a recorded predecessor `pr x`:
no vertex twice, and a predecessor only after its own item (`ParentFirst`).  `predecessors()` and the
loop of `shortest_path` write `pred[vx x] = pr x` item by item (`Vec.written vx pr none`).  In the vector written by
the items up to `x` (or by more of them) the predecessor links from `vx x` form a duplicate-free chain
that ends at an item without predecessor: the items met are earlier and earlier ones.  What the chain
means for the digraph (`M`: a walk of so many arcs, of such a weight, from a source) is read off link
by link.
-/
namespace GraafVerif.PredTree

variable {ι : Type} (vx : ι → Nat) (pr : ι → Option Nat)

structure ParentFirst (xs : List ι) : Prop where
  nodup : (xs.map vx).Nodup
  before : ∀ pre x post, xs = pre ++ x :: post → ∀ u, pr x = some u → ∃ y ∈ pre, vx y = u

variable {vx pr}

/-- The ancestor chain of the item `x`, as a vertex list `vx x :: c`. -/
theorem ParentFirst.anc {xs : List ι} (h : ParentFirst vx pr xs)
    (M : ι → List Nat → Prop) (root : ∀ x ∈ xs, pr x = none → M x [vx x])
    (link : ∀ x ∈ xs, ∀ y ∈ xs, pr x = some (vx y) → ∀ c, M y (vx y :: c) → M x (vx x :: vx y :: c)) :
    ∀ (k : Nat) (pre : List ι) (x : ι) (post : List ι), pre.length = k → xs = pre ++ x :: post →
      ∃ c : List Nat, (vx x :: c).Nodup ∧ (∀ z ∈ vx x :: c, z ∈ (pre ++ [x]).map vx) ∧ M x (vx x :: c) ∧
        ∀ T : Pred, (∀ y ∈ pre ++ [x], T[vx y]? = some (pr y)) →
          Links T (vx x :: c) ∧ ∀ z, (vx x :: c).getLast? = some z → T[z]? = some none := by
  intro k
  induction k using Nat.strongRecOn with
  | _ k ih =>
    intro pre x post hk hsplit
    have hx : x ∈ xs := hsplit ▸ List.mem_append_right _ List.mem_cons_self
    have hxl : x ∈ pre ++ [x] := List.mem_append_right _ List.mem_cons_self
    cases hp : pr x with
    | none =>
      refine ⟨[], List.pairwise_singleton _ _, fun z hz => ?_, root x hx hp, fun T hT => ?_⟩
      · exact List.mem_singleton.mp hz ▸ List.mem_map_of_mem hxl
      · exact ⟨⟨_, hT x hxl⟩, fun z hz => by
          rw [← (Option.some.inj hz : vx x = z), hT x hxl, hp]⟩
    | some u =>
      obtain ⟨y, hy, rfl⟩ := h.before pre x post hsplit u hp
      obtain ⟨pre', post', rfl⟩ := List.append_of_mem hy
      have hlt' : pre'.length < k := by
        rw [← hk, List.length_append]; exact Nat.lt_add_of_pos_right (Nat.succ_pos _)
      obtain ⟨c, hnd, hmem, hM, hT'⟩ := ih pre'.length hlt' pre' y (post' ++ x :: post) rfl
        (by rw [hsplit, List.append_assoc]; rfl)
      have hsub : ∀ b ∈ pre' ++ [y], b ∈ pre' ++ y :: post' := fun b hb =>
        (List.mem_append.mp hb).elim (List.mem_append_left _)
          (fun hb => List.mem_append_right _ (List.mem_singleton.mp hb ▸ List.mem_cons_self))
      have hyxs : y ∈ xs := hsplit ▸ List.mem_append_left _ hy
      refine ⟨vx y :: c, List.nodup_cons.mpr ⟨fun hm => ?_, hnd⟩, fun z hz => ?_, link x hx y hyxs hp c hM,
        fun T hT => ?_⟩
      · -- the chain of `y` stays among the items before `x`, where `vx x` does not occur
        obtain ⟨b, hb, hbv⟩ := List.mem_map.mp (hmem _ hm)
        have := h.nodup
        rw [hsplit, List.map_append, List.map_cons] at this
        exact (List.nodup_append.mp this).2.2 _ (List.mem_map.mpr ⟨b, hsub b hb, hbv⟩) _ List.mem_cons_self rfl
      · rcases List.mem_cons.mp hz with rfl | hz
        · exact List.mem_map_of_mem hxl
        · obtain ⟨b, hb, hbv⟩ := List.mem_map.mp (hmem z hz)
          exact List.mem_map.mpr ⟨b, List.mem_append_left _ (hsub b hb), hbv⟩
      · obtain ⟨hl, hlast⟩ := hT' T fun b hb => hT b (List.mem_append_left _ (hsub b hb))
        exact ⟨⟨by rw [hT x hxl, hp], hl⟩, fun z hz => hlast z (by rwa [List.getLast?_cons_cons] at hz)⟩

/-- `search_by(vx x, |_, b| b.is_none())` in a vector that holds the predecessors of the items up to
`x` returns the ancestor chain. -/
theorem ParentFirst.searchBy_anc {xs : List ι} (h : ParentFirst vx pr xs) {n : Nat} (hlt : ∀ x ∈ xs, vx x < n)
    (M : ι → List Nat → Prop) (root : ∀ x ∈ xs, pr x = none → M x [vx x])
    (link : ∀ x ∈ xs, ∀ y ∈ xs, pr x = some (vx y) → ∀ c, M y (vx y :: c) → M x (vx x :: vx y :: c))
    {pre : List ι} {x : ι} {post : List ι} (hsplit : xs = pre ++ x :: post)
    {T : Pred} (hT : ∀ y ∈ pre ++ [x], T[vx y]? = some (pr y)) (hlen : T.length = n) :
    ∃ c : List Nat, searchBy T (vx x) isRoot = .ret (some (vx x :: c)) ∧ M x (vx x :: c) := by
  obtain ⟨c, hnd, hmem, hM, hT'⟩ := h.anc M root link pre.length pre x post rfl hsplit
  obtain ⟨hl, hlast⟩ := hT' T hT
  -- a duplicate-free list of vertices `< n`
  have hfuel : c.length < T.length + 2 := by
    have := length_le_of_nodup_lt hnd fun z hz => by
      obtain ⟨b, hb, rfl⟩ := List.mem_map.mp (hmem z hz)
      exact hlt b (hsplit ▸ (List.mem_append.mp hb).elim (List.mem_append_left _)
        (fun hb => List.mem_append_right _ (List.mem_singleton.mp hb ▸ List.mem_cons_self)))
    rw [List.length_cons] at this
    exact hlen ▸ Nat.lt_succ_of_le (Nat.le_succ_of_le (Nat.le_of_succ_le this))
  exact ⟨c, searchBy_of_tchain _ _ _ c (tchain_isNone_of_links _ _ (List.cons_ne_nil _ _) hl hlast) hnd hfuel, hM⟩

end GraafVerif.PredTree
