import GraafVerif.Proof.LawsRep
/-!
# Laws — generators against predicates, operations and `size`

Degrees and `size` of a digraph on `0..n` given by an arc predicate (`IsGen`): a degree is the length of any
duplicate-free list of the neighbours (`length_filter_range`), so each generator only names its neighbour lists; a
size is a sum of out-degrees that take at most two values.  Then, over a `Rep` bundle, what C12's predicates and
C11's operations say about the digraphs C14's generators return.
-/
namespace GraafVerif.Laws
open GraafVerif.Ops GraafVerif.Query GraafVerif.Pred GraafVerif.GenSpec GraafVerif.Gen

theorem length_filter_range {p : Nat → Bool} {n : Nat} {L : List Nat} (hL : L.Nodup)
    (h : ∀ y, y ∈ L ↔ y < n ∧ p y = true) : ((List.range n).filter p).length = L.length :=
  ((List.perm_ext_iff_of_nodup (List.Nodup.sublist List.filter_sublist List.nodup_range) hL).mpr fun y => by
    rw [List.mem_filter, List.mem_range, h]).length_eq

theorem sum_map_ite (p : Nat → Prop) [DecidablePred p] (a b : Nat) (l : List Nat) :
    (l.map fun u => if p u then a else b).sum =
      l.countP (fun u => decide (p u)) * a + (l.length - l.countP fun u => decide (p u)) * b := by
  induction l with
  | nil => simp
  | cons x xs ih =>
    rw [List.map_cons, List.sum_cons, ih, List.length_cons]
    by_cases hx : p x
    · rw [if_pos hx, List.countP_cons_of_pos (p := fun u => decide (p u)) (decide_eq_true hx), Nat.succ_sub_succ, Nat.succ_mul, Nat.add_left_comm a, Nat.add_assoc]
    · rw [if_neg hx, List.countP_cons_of_neg (p := fun u => decide (p u)) (by rw [decide_eq_false hx]; exact Bool.false_ne_true),
        Nat.succ_sub List.countP_le_length, Nat.succ_mul, Nat.add_left_comm, Nat.add_comm b]

/-! ## degrees and size of a digraph on `0..n` -/

theorem deg_swap {G G' : Digraph} (hv : G'.verts = G.verts) (ha : ∀ u v, G'.adj u v = true ↔ G.adj v u = true) (x : Nat) :
    Spec.indegree G' x = Spec.outdegree G x ∧ Spec.outdegree G' x = Spec.indegree G x := by
  unfold Spec.indegree Spec.outdegree Spec.inNeighbors Spec.outNeighbors
  rw [hv]
  constructor
  · congr 1; apply List.filter_congr; intro y _; exact Bool.eq_iff_iff.mpr (ha y x)
  · congr 1; apply List.filter_congr; intro y _; exact Bool.eq_iff_iff.mpr (ha x y)

theorem symmetric_indeg {G : Digraph} (h : Def.IsSymmetric G) (u : Nat) : Spec.indegree G u = Spec.outdegree G u :=
  (deg_swap (G := G) (G' := G) rfl (fun a b => ⟨h a b, h b a⟩) u).1

theorem mem_verts {G : Digraph} {n : Nat} (hv : G.verts = List.range n) {u : Nat} : u ∈ G.verts ↔ u < n := by
  rw [hv]; exact List.mem_range

theorem regular_of_const {G : Digraph} {n k : Nat} (hv : G.verts = List.range n)
    (ho : ∀ u, u < n → Spec.outdegree G u = k) (hi : ∀ u, u < n → Spec.indegree G u = k) : Def.IsRegular G :=
  ⟨k, fun u hu => ⟨hi u ((mem_verts hv).mp hu), ho u ((mem_verts hv).mp hu)⟩⟩

theorem regular_of_symmetric {G : Digraph} {n k : Nat} (hv : G.verts = List.range n) (hs : Def.IsSymmetric G)
    (ho : ∀ u, u < n → Spec.outdegree G u = k) : Def.IsRegular G :=
  regular_of_const hv ho fun u hu => (symmetric_indeg hs u).trans (ho u hu)

theorem size_of_two_valued {G : Digraph} {n a b : Nat} (hv : G.verts = List.range n) (p : Nat → Prop) [DecidablePred p]
    (ho : ∀ u, u < n → Spec.outdegree G u = if p u then a else b) {L : List Nat} (hL : L.Nodup)
    (hm : ∀ u, u ∈ L ↔ u < n ∧ p u) : Spec.size G = L.length * a + (n - L.length) * b := by
  rw [size_eq_sum, hv, List.map_congr_left fun u hu => ho u (List.mem_range.mp hu), sum_map_ite,
    List.countP_eq_length_filter, length_filter_range hL fun u => by rw [hm, decide_eq_true_eq], List.length_range]

theorem size_of_const {G : Digraph} {n k : Nat} (hv : G.verts = List.range n)
    (ho : ∀ u, u < n → Spec.outdegree G u = k) : Spec.size G = n * k := by
  rw [Pred.size_of_const fun u hu => ho u ((mem_verts hv).mp hu), hv, List.length_range]

theorem regular_iff_of_two_valued {G : Digraph} {n a b : Nat} (hv : G.verts = List.range n) (hs : Def.IsSymmetric G)
    (p : Nat → Prop) [DecidablePred p] (ho : ∀ u, u < n → Spec.outdegree G u = if p u then a else b)
    {u₀ u₁ : Nat} (h₀ : u₀ < n) (h₁ : u₁ < n) (p₀ : p u₀) (p₁ : ¬ p u₁) : Def.IsRegular G ↔ a = b := by
  constructor
  · rintro ⟨k, hk⟩
    have e₀ := (hk u₀ ((mem_verts hv).mpr h₀)).2
    have e₁ := (hk u₁ ((mem_verts hv).mpr h₁)).2
    rw [ho u₀ h₀, if_pos p₀] at e₀
    rw [ho u₁ h₁, if_neg p₁] at e₁
    exact e₀.trans e₁.symm
  · rintro rfl
    exact regular_of_symmetric hv hs fun u hu => (ho u hu).trans (ite_self a)

namespace IsGen
variable {G : Digraph} {n : Nat} {P : Nat → Nat → Prop} (h : IsGen G n P)
include h

theorem symmetric (hs : ∀ u v, P u v → P v u) : Def.IsSymmetric G :=
  fun u v x => (h.adj v u).mpr (hs u v ((h.adj u v).mp x))

theorem outdegree_eq (u : Nat) {L : List Nat} (hL : L.Nodup) (hm : ∀ y, y ∈ L ↔ y < n ∧ P u y) :
    Spec.outdegree G u = L.length := by
  unfold Spec.outdegree Spec.outNeighbors
  rw [h.verts]
  exact length_filter_range hL fun y => by rw [hm, h.adj]

theorem indegree_eq (v : Nat) {L : List Nat} (hL : L.Nodup) (hm : ∀ y, y ∈ L ↔ y < n ∧ P y v) :
    Spec.indegree G v = L.length := by
  unfold Spec.indegree Spec.inNeighbors
  rw [h.verts]
  exact length_filter_range hL fun y => by rw [hm, h.adj]

/-- the shape in which `Proof/GenDefs.lean` states the rows of C14 (`star_row_hub`, `cycle_row`, …) -/
theorem outdegree_row (hP : ValidOn n P) (u : Nat) {row : List Nat} (hnd : row.Nodup) (hrow : ∀ v, v ∈ row ↔ P u v) :
    Spec.outdegree G u = row.length :=
  h.outdegree_eq u hnd fun y => (hrow y).trans ⟨fun x => ⟨(hP u y x).2.1, x⟩, And.right⟩

theorem outdegree_zero {u : Nat} (hu : ∀ y, ¬ P u y) : Spec.outdegree G u = 0 :=
  h.outdegree_eq u List.nodup_nil fun y => ⟨fun x => (nomatch x), fun x => (hu y x.2).elim⟩

theorem indegree_zero {v : Nat} (hv : ∀ y, ¬ P y v) : Spec.indegree G v = 0 :=
  h.indegree_eq v List.nodup_nil fun y => ⟨fun x => (nomatch x), fun x => (hv y x.2).elim⟩

theorem outdegree_one {u x : Nat} (hx : ∀ y, y = x ↔ y < n ∧ P u y) : Spec.outdegree G u = 1 :=
  h.outdegree_eq u (List.pairwise_singleton _ x) fun y => List.mem_singleton.trans (hx y)

theorem indegree_one {v x : Nat} (hx : ∀ y, y = x ↔ y < n ∧ P y v) : Spec.indegree G v = 1 :=
  h.indegree_eq v (List.pairwise_singleton _ x) fun y => List.mem_singleton.trans (hx y)

theorem outdegree_allbut {u x : Nat} (hx : x < n) (hm : ∀ y, y < n → (P u y ↔ y ≠ x)) : Spec.outdegree G u = n - 1 := by
  rw [h.outdegree_eq u (List.nodup_range.erase x) fun y => by
      rw [List.nodup_range.mem_erase_iff, List.mem_range]
      exact ⟨fun c => ⟨c.2, (hm y c.2).mpr c.1⟩, fun c => ⟨(hm y c.1).mp c.2, c.1⟩⟩,
    List.length_erase_of_mem (List.mem_range.mpr hx), List.length_range]

theorem arcless (hP : ∀ u v, ¬ P u v) : Def.IsRegular G ∧ Spec.size G = 0 :=
  ⟨regular_of_const h.verts (fun u _ => h.outdegree_zero (hP u)) (fun u _ => h.indegree_zero fun y => hP y u),
    (size_of_const h.verts fun u _ => h.outdegree_zero (hP u)).trans (Nat.mul_zero n)⟩

end IsGen

theorem complete_outdeg {G : Digraph} {n : Nat} (h : IsGen G n (CompleteDef n)) (u : Nat) (hu : u < n) :
    Spec.outdegree G u = n - 1 :=
  h.outdegree_allbut hu fun _ hy => ⟨fun x => x.2.2.symm, fun c => ⟨hu, hy, c.symm⟩⟩

theorem circuit_succ_iff {n u y : Nat} (hn : 2 ≤ n) (hu : u < n) : y = (u + 1) % n ↔ y < n ∧ CircuitDef n u y :=
  ⟨fun e => ⟨e ▸ Nat.mod_lt _ (Nat.zero_lt_of_lt hu), hn, hu, e⟩, fun x => x.2.2.2⟩

theorem circuit_pred_iff {n v y : Nat} (hn : 2 ≤ n) (hv : v < n) : y = (v + n - 1) % n ↔ y < n ∧ CircuitDef n y v :=
  (eq_pred_mod_iff hv).trans ⟨fun x => ⟨x.1, hn, x⟩, fun x => ⟨x.1, x.2.2.2⟩⟩

theorem circuit_deg {G : Digraph} {n : Nat} (hn : 2 ≤ n) (h : IsGen G n (CircuitDef n)) (u : Nat) (hu : u < n) :
    Spec.outdegree G u = 1 ∧ Spec.indegree G u = 1 :=
  ⟨h.outdegree_one fun _ => circuit_succ_iff hn hu, h.indegree_one fun _ => circuit_pred_iff hn hu⟩

theorem circuit_regular {G : Digraph} {n : Nat} (h : IsGen G n (CircuitDef n)) : Def.IsRegular G := by
  by_cases hn : 2 ≤ n
  · exact regular_of_const h.verts (fun u hu => (circuit_deg hn h u hu).1) (fun u hu => (circuit_deg hn h u hu).2)
  · exact (h.arcless fun _ _ x => hn x.1).1

theorem circuit_size {G : Digraph} {n : Nat} (hn : 2 ≤ n) (h : IsGen G n (CircuitDef n)) : Spec.size G = n :=
  (size_of_const h.verts fun u hu => (circuit_deg hn h u hu).1).trans (Nat.mul_one n)

theorem path_outdeg {G : Digraph} {n : Nat} (h : IsGen G n (PathDef n)) (u : Nat) :
    Spec.outdegree G u = if u + 1 < n then 1 else 0 := by
  split
  · next hl => exact h.outdegree_row pathDef_valid u (List.pairwise_singleton _ _) fun _ => path_row hl
  · next hl => exact h.outdegree_zero fun y x => hl x.1

theorem path_size {G : Digraph} {n : Nat} (h : IsGen G n (PathDef n)) : Spec.size G = n - 1 := by
  rw [size_of_two_valued h.verts (fun u => u + 1 < n) (fun u _ => path_outdeg h u) (List.nodup_range (n := n - 1))
      fun u => by
        rw [List.mem_range, Nat.lt_sub_iff_add_lt]
        exact ⟨fun c => ⟨Nat.lt_of_succ_lt c, c⟩, And.right⟩,
    Nat.mul_zero, Nat.mul_one, Nat.add_zero, List.length_range]

theorem biclique_outdeg {G : Digraph} {m n : Nat} (h : IsGen G (m + n) (BicliqueDef m n)) (u : Nat) (hu : u < m + n) :
    Spec.outdegree G u = if u < m then n else m := by
  split
  · next hl =>
    rw [h.outdegree_row bicliqueDef_valid u (nodup_rangeFT _ _) fun _ => biclique_row_left hl, length_rangeFT,
      Nat.add_sub_cancel_left]
  · next hl =>
    rw [h.outdegree_row bicliqueDef_valid u (nodup_rangeFT _ _) fun _ => biclique_row_right (Nat.not_lt.mp hl) hu,
      length_rangeFT, Nat.sub_zero]

theorem biclique_size {G : Digraph} {m n : Nat} (h : IsGen G (m + n) (BicliqueDef m n)) : Spec.size G = 2 * m * n := by
  rw [size_of_two_valued h.verts (· < m) (biclique_outdeg h) (List.nodup_range (n := m)) fun u => by
        rw [List.mem_range]
        exact ⟨fun c => ⟨Nat.lt_of_lt_of_le c (Nat.le_add_right m n), c⟩, And.right⟩,
    List.length_range, Nat.add_sub_cancel_left, Nat.mul_comm n m, ← Nat.two_mul, Nat.mul_assoc]

namespace Rep
variable {R : Type} {M : Rep R}

theorem size_eq {d : R} (h : M.WF d) : M.size d = Spec.size (M.dig d) := (M.core_ok d h).size

theorem conv_fix_of_symmetric {d : R} (h : M.WF d) (hs : DGP.Symmetric (M.abs d)) :
    M.isSymmetric d = true ∧ M.conv d = some d :=
  ⟨(symmetric_iff h).mpr hs, (symmetric_iff_converse h).mp ((symmetric_iff h).mpr hs)⟩

theorem spanning_of_gen {h d : R} {n : Nat} {P Q : Nat → Nat → Prop} (hh : M.WF h) (hd : M.WF d)
    (gh : IsGen (M.dig h) n P) (gd : IsGen (M.dig d) n Q) (hPQ : ∀ u v, P u v → Q u v) :
    M.isSpanningSubdigraph h d = true :=
  (spanning_iff hh hd).mpr (by rw [abs_gen gh, abs_gen gd]; exact ⟨fun _ => Iff.rfl, hPQ⟩)

theorem gen_complete {n : Nat} (hn : 1 ≤ n) (hf : M.fits n) :
    ∃ k, M.fam.complete n = some k ∧ M.isComplete k = some true ∧ M.isSemicomplete k = some true ∧
      M.isSymmetric k = true ∧ M.conv k = some k ∧ M.isRegular k = some true ∧ M.size k = n * (n - 1) := by
  obtain ⟨k, e, hk, gk⟩ := g_complete (M := M) hn hf
  have ak := abs_gen gk
  have hs := conv_fix_of_symmetric hk (by rw [ak]; exact complete_symmetric n)
  exact ⟨k, e, (complete_iff hk).mpr (by rw [ak]; exact complete_complete n),
    (semicomplete_iff hk).mpr (by rw [ak]; exact complete_semicomplete n), hs.1, hs.2,
    (regular_iff hk).mpr (regular_of_symmetric gk.verts (gk.symmetric (complete_symmetric n)) (complete_outdeg gk)),
    by rw [size_eq hk, size_of_const gk.verts (complete_outdeg gk)]⟩

theorem gen_empty {n : Nat} (hn : 1 ≤ n) (hf : M.fits n) :
    ∃ e, M.fam.empty n = some e ∧ M.arcs e = [] ∧ M.isSymmetric e = true ∧ M.isOriented e = true ∧
      M.conv e = some e ∧ M.isRegular e = some true ∧ M.size e = 0 := by
  obtain ⟨k, e, hk, gk⟩ := g_empty (M := M) hn hf
  have ak := abs_gen gk
  have hs := conv_fix_of_symmetric hk (by rw [ak]; exact empty_symmetric n)
  have hd := gk.arcless fun _ _ x => x
  exact ⟨k, e, (arcs_nil_iff hk).mpr (by rw [ak]; exact fun _ _ x => x), hs.1,
    (oriented_iff hk).mpr (by rw [ak]; exact empty_oriented n), hs.2, (regular_iff hk).mpr hd.1,
    (size_eq hk).trans hd.2⟩

theorem gen_circuit {n : Nat} (hn : 1 ≤ n) (hf : M.fits n) :
    ∃ c cc k, M.fam.circuit n = some c ∧ M.conv c = some cc ∧ M.fam.cycle n = some k ∧
      M.isRegular c = some true ∧ (M.isOriented c = true ↔ n ≠ 2) ∧ (2 ≤ n → M.size c = n) ∧
      (∀ u v, (u, v) ∈ M.arcs cc ↔ CircuitDef n v u) ∧ M.un c cc = some k ∧ M.un cc c = some k := by
  obtain ⟨c, e1, h1, g1⟩ := g_circuit (M := M) hn hf
  obtain ⟨k, e2, h2, g2⟩ := g_cycle (M := M) hn hf
  obtain ⟨cc, e3, h3, a3⟩ := conv_spec h1
  have a1 := abs_gen g1
  have key : M.abs k = specUnion (M.abs c) (M.abs cc) := by rw [a3, a1, abs_gen g2, circuit_union_converse]
  refine ⟨c, cc, k, e1, e3, e2, (regular_iff h1).mpr (circuit_regular g1), ?_,
    fun h2n => (size_eq h1).trans (circuit_size h2n g1), fun u v => ?_, (eq_some_iff (un_spec h1 h3) h2).mpr key,
    (eq_some_iff (un_spec h3 h1) h2).mpr (key.trans (specUnion_comm _ _))⟩
  · rw [oriented_iff h1, a1]
    exact ⟨fun h e => circuit2_not_oriented (e ▸ h), circuit_oriented⟩
  · rw [mem_arcs h3, a3, a1]; exact Iff.rfl

theorem gen_cycle {n : Nat} (hn : 1 ≤ n) (hf : M.fits n) :
    ∃ k, M.fam.cycle n = some k ∧ M.isSymmetric k = true ∧ M.conv k = some k ∧ (2 ≤ n → M.isOriented k = false) := by
  obtain ⟨k, e, hk, gk⟩ := g_cycle (M := M) hn hf
  have ak := abs_gen gk
  have hs := conv_fix_of_symmetric hk (by rw [ak]; exact cycle_symmetric n)
  refine ⟨k, e, hs.1, hs.2, fun h2 => Bool.eq_false_iff.mpr fun ho => ?_⟩
  exact cycle_not_oriented h2 (by rw [← ak]; exact (oriented_iff hk).mp ho)

theorem gen_path {n : Nat} (hn : 1 ≤ n) (hf : M.fits n) :
    ∃ p c y k, M.fam.path n = some p ∧ M.fam.circuit n = some c ∧ M.fam.cycle n = some y ∧ M.fam.complete n = some k ∧
      M.isOriented p = true ∧ M.size p = n - 1 ∧ M.isSpanningSubdigraph p c = true ∧
      M.isSpanningSubdigraph c y = true ∧ M.isSpanningSubdigraph y k = true ∧ M.isSubdigraph p k = true := by
  obtain ⟨p, e1, h1, g1⟩ := g_path (M := M) hn hf
  obtain ⟨c, e2, h2, g2⟩ := g_circuit (M := M) hn hf
  obtain ⟨y, e3, h3, g3⟩ := g_cycle (M := M) hn hf
  obtain ⟨k, e4, h4, g4⟩ := g_complete (M := M) hn hf
  have t1 : ∀ u v, PathDef n u v → CircuitDef n u v := (path_sub_circuit n).2
  have t2 : ∀ u v, CircuitDef n u v → CycleDef n u v := (circuit_sub_cycle n).2
  have t3 : ∀ u v, CycleDef n u v → CompleteDef n u v := cycleDef_valid
  exact ⟨p, c, y, k, e1, e2, e3, e4, (oriented_iff h1).mpr (by rw [abs_gen g1]; exact path_oriented n),
    by rw [size_eq h1, path_size g1], spanning_of_gen h1 h2 g1 g2 t1, spanning_of_gen h2 h3 g2 g3 t2,
    spanning_of_gen h3 h4 g3 g4 t3,
    (sub_iff h1 h4).mpr (by rw [abs_gen g1, abs_gen g4]; exact ⟨fun _ => id, fun u v x => t3 u v (t2 u v (t1 u v x))⟩)⟩

theorem gen_star {n : Nat} (hn : 1 ≤ n) (hf : M.fits n) :
    ∃ s, M.fam.star n = some s ∧ M.isSymmetric s = true ∧ M.conv s = some s := by
  obtain ⟨s, e1, h1, g1⟩ := g_star (M := M) hn hf
  exact ⟨s, e1, conv_fix_of_symmetric h1 (by rw [abs_gen g1]; exact star_symmetric n)⟩

theorem gen_star_wheel {n : Nat} (hn : 4 ≤ n) (hf : M.fits n) :
    ∃ s w, M.fam.star n = some s ∧ M.fam.wheel n = some w ∧ M.isSymmetric s = true ∧ M.conv s = some s ∧
      M.isSymmetric w = true ∧ M.conv w = some w ∧ M.isSpanningSubdigraph s w = true := by
  obtain ⟨s, e1, h1, g1⟩ := g_star (M := M) (Nat.le_trans (by decide) hn) hf
  obtain ⟨w, e2, h2, g2⟩ := g_wheel (M := M) hn hf
  have s1 := conv_fix_of_symmetric h1 (by rw [abs_gen g1]; exact star_symmetric n)
  have s2 := conv_fix_of_symmetric h2 (by rw [abs_gen g2]; exact wheel_symmetric n)
  exact ⟨s, w, e1, e2, s1.1, s1.2, s2.1, s2.2, spanning_of_gen h1 h2 g1 g2 (star_sub_wheel n).2⟩

/-- the last conjunct is the repo's own test `union_biclique_complement_is_complete` (`op/union.rs`), at every `m, n` -/
theorem gen_biclique {m n : Nat} (hm : 1 ≤ m) (hn : 1 ≤ n) (hf : M.fits (m + n)) :
    ∃ b c k, M.fam.biclique m n = some b ∧ M.compl b = some c ∧ M.fam.complete (m + n) = some k ∧
      M.isSymmetric b = true ∧ M.conv b = some b ∧ M.size b = 2 * m * n ∧ M.un b c = some k := by
  obtain ⟨b, e1, h1, g1⟩ := g_biclique (M := M) hm hn hf
  have s1 := conv_fix_of_symmetric h1 (by rw [abs_gen g1]; exact biclique_symmetric m n)
  obtain ⟨c, k, e2, e3, e4, _⟩ := union_complement_complete h1 fun v => by rw [vertices_eq h1]; exact mem_verts g1.verts
  exact ⟨b, c, k, e1, e2, e3, s1.1, s1.2, by rw [size_eq h1, biclique_size g1], e4⟩

end Rep
end GraafVerif.Laws
