import GraafVerif.Proof.AlgoGen4Par
/-!
# Generated `AdjacencyList::degree_sequence` = the hand-written `Query.AL.degreeSequence d t`
-/
namespace GraafVerif.AlgoGenThm
open GraafVerif GraafVerif.AlgoGen GraafVerif.Repr

namespace AdjacencyList

theorem degreeSequence_for2_eq (h : List Nat) (v : Nat) (hv : v < h.length) :
    (AlgoGen.AdjacencyList.degreeSequence_for2 h v : Blk (List Nat) (List Nat) _) = .ok (Query.AL.bump h v) :=
  rd_wr_lt _ h v (· + 1) 0 hv

theorem row_fold (n : Nat) (row : List Nat) (hrow : ∀ v ∈ row, v < n) : ∀ (h : List Nat), h.length = n →
    (forLoop AlgoGen.AdjacencyList.degreeSequence_for2 row h : Blk (List Nat) (List Nat) _) = .ok (row.foldl Query.AL.bump h) ∧
      (row.foldl Query.AL.bump h).length = n :=
  fun _ hh => forLoop_update 0 id (fun _ t => t + 1) (fun _ _ => rfl) hh hrow

theorem degreeSequence_for1_eq (n : Nat) (row : List Nat) (hrow : ∀ v ∈ row, v < n) (h : List Nat) (hh : h.length = n) :
    (AlgoGen.AdjacencyList.degreeSequence_for1 h row : Blk (List Nat) (List Nat) _) = .ok (row.foldl Query.AL.bump h) := by
  unfold AlgoGen.AdjacencyList.degreeSequence_for1
  rw [(row_fold n row hrow h hh).1]

theorem chunk_fold (n : Nat) (rows : List (List Nat)) (hrows : ∀ row ∈ rows, ∀ v ∈ row, v < n) (h : List Nat) (hh : h.length = n) :
    (forLoop AlgoGen.AdjacencyList.degreeSequence_for1 rows h : Blk (List (List Nat)) (List Nat) _) =
      .ok (Query.AL.histogram rows h) ∧ (Query.AL.histogram rows h).length = n :=
  forLoop_ok (I := fun x : List Nat => x.length = n) hh fun s hs row hr =>
    ⟨degreeSequence_for1_eq n row (hrows row hr) s hs, (row_fold n row (hrows row hr) s hs).2⟩

theorem degreeSequence_for4_eq (acc : List Nat) (k x : Nat) (hk : k < acc.length) :
    (AlgoGen.AdjacencyList.degreeSequence_for4 acc (k, x) : Blk (List Nat) (List Nat) _) = .ok (acc.set k (acc[k] + x)) := by
  unfold AlgoGen.AdjacencyList.degreeSequence_for4
  simp only [rd_lt _ _ _ hk, wr_lt _ _ _ _ hk, ok_bind, pure_eq_ok]

theorem window_succ {k j n : Nat} (hj : j ≠ k) : (k + 1 ≤ j ∧ j < k + 1 + n) ↔ (k ≤ j ∧ j < k + (n + 1)) := by
  omega

/-- the summation of one local histogram: elementwise addition -/
theorem sum_fold : ∀ (l : List Nat) (k : Nat) (acc : List Nat), k + l.length ≤ acc.length →
    ∃ r, (forLoop AlgoGen.AdjacencyList.degreeSequence_for4 (List.map (fun p : Nat × Nat => (p.2, p.1)) (l.zipIdx k)) acc :
        Blk (List Nat) (List Nat) _) = .ok r ∧ r.length = acc.length ∧
      ∀ j, r[j]? = if k ≤ j ∧ j < k + l.length then some ((acc[j]?.getD 0) + (l[j - k]?.getD 0)) else acc[j]? := by
  intro l
  induction l with
  | nil =>
    intro k acc _
    exact ⟨acc, rfl, rfl, fun j => (if_neg fun c => Nat.not_lt_of_le c.1 c.2).symm⟩
  | cons x l ih =>
    intro k acc hk
    have hkl : k < acc.length := Nat.lt_of_lt_of_le (Nat.lt_add_of_pos_right (Nat.succ_pos _)) hk
    rw [List.zipIdx_cons, List.map_cons, forLoop_cons_ok (h := degreeSequence_for4_eq acc k x hkl)]
    obtain ⟨r, h1, h2, h3⟩ := ih (k + 1) (acc.set k (acc[k] + x))
      (by rw [List.length_set, Nat.add_right_comm]; exact hk)
    refine ⟨r, h1, h2.trans List.length_set, fun j => ?_⟩
    rw [h3 j, List.length_cons]
    by_cases hj : j = k
    · subst hj
      rw [if_neg fun c => Nat.not_succ_le_self j c.1, if_pos ⟨Nat.le_refl j, Nat.lt_add_of_pos_right (Nat.succ_pos _)⟩,
        List.getElem?_set_self hkl, Nat.sub_self, List.getElem?_cons_zero, List.getElem?_eq_getElem hkl]
      rfl
    · rw [List.getElem?_set_ne (Ne.symm hj)]
      simp only [window_succ hj]
      by_cases c : k ≤ j ∧ j < k + (l.length + 1)
      · rw [if_pos c, if_pos c, ← Nat.succ_pred_eq_of_pos (Nat.sub_pos_of_lt (Nat.lt_of_le_of_ne c.1 (Ne.symm hj))),
          List.getElem?_cons_succ]
        rfl
      · rw [if_neg c, if_neg c]

theorem degreeSequence_for3_eq (indeg loc : List Nat) (h : loc.length = indeg.length) :
    (AlgoGen.AdjacencyList.degreeSequence_for3 indeg loc : Blk (List Nat) (List Nat) _) = .ok (Query.AL.addVec indeg loc) := by
  unfold AlgoGen.AdjacencyList.degreeSequence_for3
  obtain ⟨r, h1, _, h3⟩ := sum_fold loc 0 indeg (by omega)
  rw [h1]
  refine congrArg Except.ok (List.ext_getElem? fun j => ?_)
  rw [h3 j, Query.AL.addVec, List.getElem?_zipWith, Nat.zero_add, Nat.sub_zero]
  by_cases hj : j < loc.length
  · rw [if_pos ⟨Nat.zero_le _, hj⟩, List.getElem?_eq_getElem hj, List.getElem?_eq_getElem (h ▸ hj)]
    rfl
  · rw [if_neg (fun c => hj c.2), List.getElem?_eq_none (Nat.le_of_not_lt hj), List.getElem?_eq_none (h ▸ Nat.le_of_not_lt hj)]

theorem addVec_length (a b : List Nat) (h : b.length = a.length) : (Query.AL.addVec a b).length = a.length := by
  simp [Query.AL.addVec, h]

/-- worker `i` (`i` below the number of histograms): reads its histogram, fills it from its chunk, writes it back -/
theorem degreeSequence_for0_eq (n : Nat) (ichunks : List (List Nat)) (i : Nat) (c : List (List Nat)) (hi : i < ichunks.length)
    (hrow : ichunks[i].length = n) (hc : ∀ row ∈ c, ∀ v ∈ row, v < n) :
    (AlgoGen.AdjacencyList.degreeSequence_for0 ichunks (i, c) : Blk (List (List Nat)) (List Nat) _) =
      .ok (ichunks.set i (Query.AL.histogram c ichunks[i])) := by
  unfold AlgoGen.AdjacencyList.degreeSequence_for0
  dsimp only
  have hnot : ¬ i ≥ ichunks.length := by omega
  simp only [hnot, if_false, rd_lt _ _ _ hi, ok_bind, (chunk_fold n c hc ichunks[i] hrow).1, wr_lt _ _ _ _ hi, pure_eq_ok]

/-- the worker loop: worker `i` fills the `i`-th (still zero) histogram from its chunk -/
theorem workers_fold (n : Nat) : ∀ (cs : List (List (List Nat))) (pre : List (List Nat)) (m : Nat),
    (∀ c ∈ cs, ∀ row ∈ c, ∀ v ∈ row, v < n) → cs.length ≤ m →
    (forLoop AlgoGen.AdjacencyList.degreeSequence_for0
        (List.map (fun p : List (List Nat) × Nat => (p.2, p.1)) (cs.zipIdx pre.length)) (pre ++ List.replicate m (List.replicate n 0)) :
        Blk Empty (List Nat) _) =
      .ok (pre ++ cs.map (fun c => Query.AL.histogram c (List.replicate n 0)) ++
        List.replicate (m - cs.length) (List.replicate n 0)) := by
  intro cs
  induction cs with
  | nil => intro pre m _ _; simp
  | cons c cs ih =>
    intro pre m hc hm
    obtain ⟨m', rfl⟩ := Nat.exists_eq_succ_of_ne_zero (Nat.ne_of_gt (Nat.lt_of_lt_of_le (Nat.succ_pos cs.length) hm))
    have hlen : pre.length < (pre ++ List.replicate (m' + 1) (List.replicate n 0)).length := by
      rw [List.length_append, List.length_replicate]; exact Nat.lt_add_of_pos_right (Nat.succ_pos m')
    have hget : (pre ++ List.replicate (m' + 1) (List.replicate n 0))[pre.length] = List.replicate n 0 := by
      rw [List.getElem_append_right (Nat.le_refl _), List.getElem_replicate]
    have hstep := degreeSequence_for0_eq n _ pre.length c hlen (by rw [hget, List.length_replicate]) (hc c List.mem_cons_self)
    rw [List.zipIdx_cons, List.map_cons, forLoop_cons_ok (h := hstep), hget, List.set_append_right _ _ (Nat.le_refl _),
      Nat.sub_self, List.replicate_succ, List.set_cons_zero, List.append_cons]
    have := ih (pre ++ [Query.AL.histogram c (List.replicate n 0)]) m'
      (fun c' hc' => hc c' (List.mem_cons_of_mem _ hc')) (Nat.le_of_succ_le_succ hm)
    rw [List.length_append, List.length_singleton] at this
    rw [this, List.map_cons, List.length_cons, Nat.succ_sub_succ, List.append_assoc pre, List.singleton_append]

theorem take_min_length {α : Type} (l : List α) (a : Nat) : l.take a = l.take (min a l.length) :=
  List.take_eq_take_min

/-- `rows.chunks(⌈n / t⌉)` cuts `rows` at the chunk ranges -/
theorem chunks_eq_ranges {α : Type} (rows : List α) (t : Nat) (ht : 0 < t) (hn : 0 < rows.length) :
    (List.range ((rows.length + (rows.length + t - 1) / t - 1) / ((rows.length + t - 1) / t))).map
        (fun i => (rows.drop (i * ((rows.length + t - 1) / t))).take ((rows.length + t - 1) / t)) =
      (Par.ranges rows.length t).map fun r => (rows.drop r.1).take (r.2 - r.1) := by
  rw [ranges_closed rows.length t ht hn, List.map_map]
  generalize (rows.length + t - 1) / t = c
  apply List.map_congr_left
  intro i _
  show (rows.drop (i * c)).take c = (rows.drop (i * c)).take (min rows.length (i * c + c) - i * c)
  rw [List.take_eq_take_min (l := rows.drop (i * c)), List.length_drop, ← Nat.sub_min_sub_right, Nat.add_sub_cancel_left, Nat.min_comm]

theorem degreeSequence_for5_eq (d : AdjList) (indeg : List Nat) (acc : List Nat) (u : Nat)
    (hu : u < d.rows.length) (hi : u < indeg.length) :
    (AlgoGen.AdjacencyList.degreeSequence_for5 d indeg acc u : Blk (List Nat) (List Nat) _) =
      .ok (acc ++ [indeg[u]?.getD 0 + (d.rows[u]?.getD []).length]) := by
  unfold AlgoGen.AdjacencyList.degreeSequence_for5
  simp only [rd_lt _ _ _ hu, rd_lt _ _ _ hi, ok_bind, pure_eq_ok, List.getElem?_eq_getElem hu, List.getElem?_eq_getElem hi,
    Option.getD_some]

/-- the three loops on an arbitrary list `cs` of at most `t` chunks whose heads are vertices: fill the histograms,
sum them, add the out-degrees -/
theorem degreeSequence_loops (d : AdjList) (t : Nat) (cs : List (List (List Nat)))
    (hcs : ∀ c ∈ cs, ∀ row ∈ c, ∀ v ∈ row, v < d.order) (hlen : cs.length ≤ t) :
    ((forLoop AlgoGen.AdjacencyList.degreeSequence_for0 (List.map (fun p : List (List Nat) × Nat => (p.2, p.1)) cs.zipIdx)
        (List.replicate t (List.replicate d.order 0)) : Blk Empty (List Nat) _) >>= fun ichunks =>
      (forLoop AlgoGen.AdjacencyList.degreeSequence_for3 ichunks (List.replicate d.order 0) : Blk Empty (List Nat) _) >>= fun indeg =>
      (forLoop (AlgoGen.AdjacencyList.degreeSequence_for5 d indeg) (List.range d.order) [] : Blk Empty (List Nat) _)) =
    .ok ((List.range d.order).map fun u =>
      ((cs.map (fun c => Query.AL.histogram c (List.replicate d.order 0)) ++
        List.replicate (t - cs.length) (List.replicate d.order 0)).foldl Query.AL.addVec (List.replicate d.order 0))[u]?.getD 0 +
      (d.rows[u]?.getD []).length) := by
  have hw := workers_fold d.order cs [] t hcs hlen
  rw [List.nil_append, List.nil_append, List.length_nil] at hw
  have hlocals : ∀ x ∈ cs.map (fun c => Query.AL.histogram c (List.replicate d.order 0)) ++
      List.replicate (t - cs.length) (List.replicate d.order 0), x.length = d.order := by
    intro x hx
    rcases List.mem_append.1 hx with hx | hx
    · obtain ⟨c, hc, rfl⟩ := List.mem_map.1 hx
      exact (chunk_fold d.order c (hcs c hc) _ List.length_replicate).2
    · rw [List.eq_of_mem_replicate hx, List.length_replicate]
  have hsum := forLoop_ok (β := Empty) (ρ := List Nat) (I := fun x : List Nat => x.length = d.order)
    (s := List.replicate d.order 0) List.length_replicate fun s hs loc hl => ⟨degreeSequence_for3_eq s loc ((hlocals loc hl).trans hs.symm),
      (addVec_length _ _ ((hlocals loc hl).trans hs.symm)).trans hs⟩
  have hfin := forLoop_ok (β := Empty) (ρ := List Nat) (I := fun _ : List Nat => True) (l := List.range d.order) (s := [])
    trivial fun acc _ u hu =>
    ⟨degreeSequence_for5_eq d _ acc u (List.mem_range.1 hu) (hsum.2.symm ▸ List.mem_range.1 hu), trivial⟩
  rw [hw, ok_bind, hsum.1, ok_bind, hfin.1, foldl_snoc_map, List.nil_append]

/-- `AdjacencyList::degree_sequence` with `available_parallelism() = ap ≥ 1` = the hand-written
`Query.AL.degreeSequence d ap`, for every list of order `≥ 1` whose heads are vertices (part of `AdjList.WF`):
then no unchecked access is out of bounds. -/
theorem degreeSequence_eq (ap : Nat) (d : AdjList) (hap : 0 < ap) (hn : 0 < d.order)
    (hin : ∀ row ∈ d.rows, ∀ v ∈ row, v < d.order) :
    AlgoGen.AdjacencyList.degreeSequence ap d = .ok (Query.AL.degreeSequence d ap) := by
  have hloops := degreeSequence_loops d ap ((Par.ranges d.order ap).map fun r => (d.rows.drop r.1).take (r.2 - r.1))
    (fun c hc row hr v hv => by
      obtain ⟨r, _, rfl⟩ := List.mem_map.1 hc
      exact hin row (List.mem_of_mem_drop (List.mem_of_mem_take hr)) v hv)
    (by rw [List.length_map]; exact ranges_length_le d.order ap hap hn)
  rw [List.map_map, List.length_map] at hloops
  have hlen : d.rows.length = d.order := rfl
  have hchunks := chunks_eq_ranges d.rows ap hap hn
  rw [hlen] at hchunks
  unfold AlgoGen.AdjacencyList.degreeSequence
  dsimp only
  rw [divCeilP_pos _ _ hap, ok_bind, chunksP, if_neg (Nat.ne_of_gt (Par.chunkCount_le d.order ap hap hn).1), ok_bind, hlen,
    hchunks, hloops]
  rfl

end AdjacencyList
end GraafVerif.AlgoGenThm
