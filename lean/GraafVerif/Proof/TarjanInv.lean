import GraafVerif.Proof.TarjanBasic
/-!
# The invariants of Tarjan's algorithm on the model

Following Chen, Cohen, Lévy, Merz, Théry, *Formal Proofs of Tarjan's Strongly Connected
Components Algorithm in Why3, Coq and Isabelle* (ITP 2019), adapted to the imperative shape of
graaf's code (`index`/`low_link` maps, explicit `on_stack` set, low-link stored per vertex
instead of being returned).

The ghost parameter `gray` is the list of vertices whose `connect` call is in progress (the call
path); it is not part of the state.
-/
namespace GraafVerif.Tarjan
open GraafVerif

def St.indexed (s : St) (x : Nat) : Prop := mget s.index x ≠ none
def St.idx (s : St) (x : Nat) : Nat := (mget s.index x).getD 0
def St.lw (s : St) (x : Nat) : Nat := (mget s.low x).getD 0

theorem St.indexed_iff (s : St) (x : Nat) : s.indexed x ↔ mget s.index x = some (s.idx x) := by
  unfold St.indexed St.idx
  cases mget s.index x <;> simp

theorem St.idx_of_some {s : St} {x k : Nat} (h : mget s.index x = some k) : s.idx x = k := by
  simp [St.idx, h]

theorem St.indexed_of_some {s : St} {x k : Nat} (h : mget s.index x = some k) : s.indexed x := by
  simp [St.indexed, h]

theorem St.not_indexed_iff (s : St) (x : Nat) : ¬ s.indexed x ↔ mget s.index x = none := Decidable.not_not

theorem St.isNone_index (s : St) (x : Nat) : (mget s.index x).isNone = true ↔ ¬ s.indexed x :=
  Option.isNone_iff_eq_none.trans (s.not_indexed_iff x).symm

theorem St.indexed_congr {s s' : St} {x : Nat} (h : mget s'.index x = mget s.index x) :
    s'.indexed x ↔ s.indexed x := by
  unfold St.indexed; rw [h]

structure Inv (g : VGraph) (gray : List Nat) (s : St) : Prop where
  nofault : s.fault = none
  onStack : ∀ x, x ∈ s.onStack ↔ x ∈ s.stack
  indexedIff : ∀ x, s.indexed x ↔ (x ∈ s.stack ∨ ∃ c ∈ s.comps, x ∈ c)
  compStack : ∀ c ∈ s.comps, ∀ x ∈ c, x ∉ s.stack
  compDisj : s.comps.Pairwise (fun c d => ∀ x ∈ c, x ∉ d)
  compAsc : ∀ c ∈ s.comps, c.Pairwise (· < ·) ∧ c ≠ []
  verts : ∀ x, s.indexed x → x ∈ g.verts
  lowDef : ∀ x, s.indexed x → mget s.low x ≠ none
  idxLt : ∀ x, s.indexed x → s.idx x < s.i
  sorted : s.stack.Pairwise (fun a b => s.idx b < s.idx a)
  grayStack : ∀ z ∈ gray, z ∈ s.stack
  blackOut : ∀ x, s.indexed x → x ∉ gray → ∀ y ∈ g.out x, s.indexed y
  grayReach : ∀ z ∈ gray, ∀ y ∈ s.stack, s.idx z ≤ s.idx y → VReach g z y
  toGray : ∀ y ∈ s.stack, ∃ z ∈ gray, s.idx z ≤ s.idx y ∧ VReach g y z
  sccs : ∀ c ∈ s.comps, IsSCC g c

/-- `s'` extends `s`: what a nested call may change. -/
structure Ext (s s' : St) : Prop where
  stack : ∃ ext, s'.stack = ext ++ s.stack
  comps : ∃ new, s'.comps = s.comps ++ new
  index : ∀ x, s.indexed x → mget s'.index x = mget s.index x
  low : ∀ x, s.indexed x → mget s'.low x = mget s.low x
  newIdx : ∀ x, ¬ s.indexed x → s'.indexed x → s.i ≤ s'.idx x
  i : s.i ≤ s'.i

theorem Ext.refl (s : St) : Ext s s :=
  ⟨⟨[], rfl⟩, ⟨[], by simp⟩, fun _ _ => rfl, fun _ _ => rfl, fun _ h h' => absurd h' h, Nat.le_refl _⟩

theorem Ext.indexed {s s' : St} (e : Ext s s') {x : Nat} (h : s.indexed x) : s'.indexed x :=
  (St.indexed_congr (e.index x h)).2 h

theorem Ext.idx {s s' : St} (e : Ext s s') {x : Nat} (h : s.indexed x) : s'.idx x = s.idx x := by
  unfold St.idx
  rw [e.index x h]

theorem Ext.lw {s s' : St} (e : Ext s s') {x : Nat} (h : s.indexed x) : s'.lw x = s.lw x := by
  unfold St.lw
  rw [e.low x h]

theorem Ext.trans {s s' s'' : St} (e : Ext s s') (e' : Ext s' s'') : Ext s s'' := by
  obtain ⟨x1, h1⟩ := e.stack
  obtain ⟨x2, h2⟩ := e'.stack
  obtain ⟨c1, hc1⟩ := e.comps
  obtain ⟨c2, hc2⟩ := e'.comps
  refine ⟨⟨x2 ++ x1, by rw [h2, h1, List.append_assoc]⟩, ⟨c1 ++ c2, by rw [hc2, hc1, List.append_assoc]⟩,
    ?_, ?_, ?_, Nat.le_trans e.i e'.i⟩
  · intro x h; rw [e'.index x (e.indexed h), e.index x h]
  · intro x h; rw [e'.low x (e.indexed h), e.low x h]
  · intro x hn h
    by_cases hx : s'.indexed x
    · rw [e'.idx hx]; exact e.newIdx x hn hx
    · exact Nat.le_trans e.i (e'.newIdx x hx h)

theorem unindexed_le_length (g : VGraph) (s : St) : unindexed g s ≤ g.verts.length :=
  List.length_filter_le _ _

theorem Ext.unindexed_le (g : VGraph) {s s' : St} (e : Ext s s') : unindexed g s' ≤ unindexed g s :=
  filter_length_le _ _ _ fun x _ hx =>
    (s.isNone_index x).2 fun h => (s'.isNone_index x).1 hx (e.indexed h)

theorem Ext.unindexed_lt (g : VGraph) {s s' : St} (e : Ext s s') (u : Nat) (hu : u ∈ g.verts)
    (h0 : ¬ s.indexed u) (h1 : s'.indexed u) : unindexed g s' < unindexed g s :=
  filter_length_lt _ _ _
    (fun x _ hx => (s.isNone_index x).2 fun h => (s'.isNone_index x).1 hx (e.indexed h))
    u hu ((s.isNone_index u).2 h0)
    (Bool.eq_false_iff.2 fun h => (s'.isNone_index u).1 h h1)

/-- Precondition of `connect v` in state `s` with call path `gray`. -/
structure Pre (g : VGraph) (gray : List Nat) (v : Nat) (s : St) : Prop where
  inv : Inv g gray s
  vert : v ∈ g.verts
  fresh : ¬ s.indexed v
  reach : ∀ z ∈ gray, VReach g z v

/-- Postcondition of `connect v` from `s` to `s'`. -/
structure Post (g : VGraph) (gray : List Nat) (v : Nat) (s s' : St) : Prop where
  inv : Inv g gray s'
  ext : Ext s s'
  idxV : mget s'.index v = some s.i
  lowLe : s'.lw v ≤ s.i
  alt : (v ∉ s'.stack ∧ s'.stack = s.stack ∧ s'.lw v = s.i) ∨
        (v ∈ s'.stack ∧ ∃ y ∈ s'.stack, s'.idx y = s'.lw v ∧ VReach g v y)
  lowX : ∀ x ∈ s'.stack, x ∉ s.stack → ∀ y ∈ g.out x, y ∈ s.stack → s'.lw v ≤ s'.idx y

/-- Invariant of the `for v in out_neighbors(u)` loop; `s0` is the state when `connect u` was
entered, `done` the out-neighbours already handled. -/
structure Loop (g : VGraph) (gray : List Nat) (u : Nat) (s0 s : St) (done : List Nat) : Prop where
  inv : Inv g (u :: gray) s
  ext : Ext s0 s
  stack : ∃ ext, s.stack = ext ++ u :: s0.stack
  idxU : mget s.index u = some s0.i
  doneIdx : ∀ v ∈ done, s.indexed v
  lowLe : s.lw u ≤ s0.i
  lowWit : ∃ y ∈ s.stack, s.idx y = s.lw u ∧ VReach g u y
  lowDone : ∀ v ∈ done, v ∈ s.stack → s.lw u ≤ s.idx v
  lowX : ∀ x ∈ s.stack, x ∉ s0.stack → x ≠ u → ∀ y ∈ g.out x, y ∈ s0.stack → s.lw u ≤ s.idx y

theorem sorted_split {idx : Nat → Nat} {ext rest : List Nat} {u : Nat}
    (h : (ext ++ u :: rest).Pairwise (fun a b => idx b < idx a)) :
    (∀ y ∈ ext, idx u < idx y) ∧ (∀ y ∈ rest, idx y < idx u) ∧
    (∀ y ∈ ext, ∀ z ∈ rest, idx z < idx y) ∧ rest.Pairwise (fun a b => idx b < idx a) := by
  rw [List.pairwise_append] at h
  obtain ⟨_, h2, h3⟩ := h
  rw [List.pairwise_cons] at h2
  refine ⟨fun y hy => h3 y hy u List.mem_cons_self, h2.1, fun y hy z hz => h3 y hy z (List.mem_cons_of_mem _ hz), h2.2⟩

theorem Inv.stack_idx_inj {g : VGraph} {gray : List Nat} {s : St} (inv : Inv g gray s) {a b : Nat}
    (ha : a ∈ s.stack) (hb : b ∈ s.stack) (h : s.idx a = s.idx b) : a = b := by
  have := inv.sorted
  generalize s.stack = l at *
  induction l with
  | nil => simp at ha
  | cons c l ih =>
    rw [List.pairwise_cons] at this
    rcases List.mem_cons.mp ha with rfl | ha' <;> rcases List.mem_cons.mp hb with rfl | hb'
    · rfl
    · exact absurd (this.1 b hb') (h ▸ Nat.lt_irrefl _)
    · exact absurd (this.1 a ha') (h ▸ Nat.lt_irrefl _)
    · exact ih ha' hb' this.2

theorem Inv.stack_indexed {g : VGraph} {gray : List Nat} {s : St} (inv : Inv g gray s) {x : Nat}
    (hx : x ∈ s.stack) : s.indexed x := (inv.indexedIff x).mpr (Or.inl hx)

end GraafVerif.Tarjan
