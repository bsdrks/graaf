import GraafVerif.Proof.OracleFastHop
/-!
# `forestParentsRec g S = some par` certifies the out-forest shape `IsForest g S par`

Each of its three folds may fail; what a successful fold has established is stated about the prefix
processed so far (`RowInv`, `RowsInv`, `SrcInv`, through `foldlM_prefix`).
-/
namespace GraafVerif.OracleFastProof
open GraafVerif GraafVerif.OracleFast GraafVerif.OracleProof

structure IsForest (g : Graph) (S : List Nat) (par : Array (Option Nat)) : Prop where
  size : par.size = g.n
  arcs : ∀ u v, u < g.n → (v ∈ g.out u ↔ par.getD v none = some u)
  nodup : ∀ u, u < g.n → (g.out u).Nodup
  srcNodup : S.Nodup
  srcLt : ∀ s ∈ S, s < g.n
  srcRoot : ∀ s ∈ S, par.getD s none = none

theorem fpIn_some {n u : Nat} {par par' : Array (Option Nat)} {v : Nat} (h : fpIn n u par v = some par') :
    v < n ∧ par.getD v none = none ∧ par' = par.setIfInBounds v (some u) := by
  obtain ⟨hc, e⟩ := Option.ite_none_left_eq_some.mp h
  rw [Bool.or_eq_true, Bool.or_eq_true, not_or, not_or, decide_eq_true_eq, Nat.not_le,
    Option.not_isSome_iff_eq_none] at hc
  exact ⟨hc.1.1, hc.2, (Option.some.inj e).symm⟩

/-- After the heads `pre` of the row of `u`, started at `par`. -/
structure RowInv (n u : Nat) (par : Array (Option Nat)) (pre : List Nat) (p : Array (Option Nat)) : Prop where
  size : p.size = n
  nodup : pre.Nodup
  fresh : ∀ v ∈ pre, v < n ∧ par.getD v none = none
  get : ∀ v, p.getD v none = if v ∈ pre then some u else par.getD v none

theorem fpRow_spec {g : Graph} {u : Nat} {par par' : Array (Option Nat)} (hs : par.size = g.n)
    (h : fpRow g par u = some par') : RowInv g.n u par (g.out u) par' := by
  refine Fold.foldlM_prefix (RowInv g.n u par) (fpIn g.n u) ?_ (g.out u) [] par par'
    ⟨hs, List.nodup_nil, fun _ hv => (nomatch hv), fun v => by simp⟩ h
  intro pre p v p' hp hv
  obtain ⟨hvn, hnone, rfl⟩ := fpIn_some hv
  have hvp : v ∉ pre := fun hm => by rw [hp.get v, if_pos hm] at hnone; cases hnone
  refine ⟨Array.size_setIfInBounds.trans hp.size, nodup_snoc hp.nodup hvp, ?_, ?_⟩
  · intro w hw
    rcases List.mem_append.mp hw with hw | hw
    · exact hp.fresh w hw
    · cases List.mem_singleton.mp hw
      rw [hp.get v, if_neg hvp] at hnone
      exact ⟨hvn, hnone⟩
  · intro w
    rw [getD_set, hp.get w, hp.size]
    by_cases hvw : v = w
    · subst hvw; simp [hvn]
    · have : ¬ w = v := fun hh => hvw hh.symm
      simp [hvw, this]

/-- After the rows of the vertices `pre`. -/
structure RowsInv (g : Graph) (pre : List Nat) (p : Array (Option Nat)) : Prop where
  size : p.size = g.n
  nodup : ∀ u ∈ pre, (g.out u).Nodup
  get : ∀ v x, p.getD v none = some x ↔ x ∈ pre ∧ v ∈ g.out x

theorem fpRows_spec {g : Graph} {us : List Nat} {par' : Array (Option Nat)}
    (h : us.foldlM (fpRow g) (Array.replicate g.n none) = some par') : RowsInv g us par' := by
  refine Fold.foldlM_prefix (RowsInv g) (fpRow g) ?_ us [] _ par'
    ⟨Array.size_replicate, fun _ hu => (nomatch hu), fun v x => by rw [getD_replicate]; simp⟩ h
  intro pre p u p' hp hu
  have hr := fpRow_spec hp.size hu
  refine ⟨hr.size, ?_, ?_⟩
  · intro w hw
    rcases List.mem_append.mp hw with hw | hw
    · exact hp.nodup w hw
    · cases List.mem_singleton.mp hw; exact hr.nodup
  · intro v x
    rw [hr.get v, List.mem_append, List.mem_singleton]
    by_cases hv : v ∈ g.out u
    · rw [if_pos hv]
      constructor
      · intro hx; cases hx; exact ⟨Or.inr rfl, hv⟩
      · rintro ⟨hx | hx, hvx⟩
        · have h1 := (hr.fresh v hv).2
          rw [(hp.get v x).mpr ⟨hx, hvx⟩] at h1
          cases h1
        · rw [hx]
    · rw [if_neg hv, hp.get v x]
      constructor
      · rintro ⟨hx, hvx⟩; exact ⟨Or.inl hx, hvx⟩
      · rintro ⟨hx | hx, hvx⟩
        · exact ⟨hx, hvx⟩
        · exact absurd (hx ▸ hvx) hv

theorem fpSrc_some {n : Nat} {par : Array (Option Nat)} {isSrc r : Array Bool} {s : Nat}
    (h : fpSrc n par isSrc s = some r) :
    s < n ∧ isSrc.getD s false = false ∧ par.getD s none = none ∧ r = isSrc.setIfInBounds s true := by
  obtain ⟨hc, e⟩ := Option.ite_none_left_eq_some.mp h
  rw [Bool.or_eq_true, Bool.or_eq_true, not_or, not_or, decide_eq_true_eq, Nat.not_le,
    Option.not_isSome_iff_eq_none, Bool.not_eq_true] at hc
  exact ⟨hc.1.1, hc.1.2, hc.2, (Option.some.inj e).symm⟩

/-- After the sources `pre`. -/
structure SrcInv (n : Nat) (par : Array (Option Nat)) (pre : List Nat) (isSrc : Array Bool) : Prop where
  size : isSrc.size = n
  nodup : pre.Nodup
  root : ∀ s ∈ pre, s < n ∧ par.getD s none = none
  get : ∀ v, isSrc.getD v false = true ↔ v ∈ pre

theorem fpSrcs_spec {n : Nat} {par : Array (Option Nat)} {S : List Nat} {r : Array Bool}
    (h : S.foldlM (fpSrc n par) (Array.replicate n false) = some r) : SrcInv n par S r := by
  refine Fold.foldlM_prefix (SrcInv n par) (fpSrc n par) ?_ S [] _ r
    ⟨Array.size_replicate, List.nodup_nil, fun _ hs => (nomatch hs), fun v => by rw [getD_replicate]; simp⟩ h
  intro pre a s a' ha hs
  obtain ⟨hsn, hfalse, hroot, rfl⟩ := fpSrc_some hs
  have hsp : s ∉ pre := fun hm => by rw [(ha.get s).mpr hm] at hfalse; cases hfalse
  refine ⟨Array.size_setIfInBounds.trans ha.size, nodup_snoc ha.nodup hsp, ?_, ?_⟩
  · intro t ht
    rcases List.mem_append.mp ht with ht | ht
    · exact ha.root t ht
    · cases List.mem_singleton.mp ht; exact ⟨hsn, hroot⟩
  · intro v
    rw [getD_set_true (ha.size ▸ hsn), ha.get v, List.mem_append, List.mem_singleton]

theorem forestParentsRec_sound {g : Graph} {S : List Nat} {par : Array (Option Nat)}
    (h : forestParentsRec g S = some par) : IsForest g S par := by
  unfold forestParentsRec at h
  split at h
  · cases h
  · rename_i p hrows
    split at h
    · cases h
    · rename_i r hsrc
      cases h
      have hR := fpRows_spec hrows
      have hS := fpSrcs_spec hsrc
      exact ⟨hR.size, fun u v hu => ⟨fun hv => (hR.get v u).mpr ⟨List.mem_range.mpr hu, hv⟩, fun hv => ((hR.get v u).mp hv).2⟩,
        fun u hu => hR.nodup u (List.mem_range.mpr hu), hS.nodup, fun s hs => (hS.root s hs).1,
        fun s hs => (hS.root s hs).2⟩

theorem IsForest.wf {g : Graph} {S : List Nat} {par : Array (Option Nat)} (hF : IsForest g S par)
    (hout : ∀ u, g.n ≤ u → g.out u = []) : g.WF := by
  intro u v hv
  have hu : u < g.n := by
    rcases Nat.lt_or_ge u g.n with h | h
    · exact h
    · rw [hout u h] at hv; cases hv
  refine ⟨hu, ?_⟩
  have := (hF.arcs u v hu).mp hv
  rw [← hF.size]
  exact getD_lt this (by simp)

theorem ofRows_out_ge (rows : Array (List Nat)) (u : Nat) (h : (Graph.ofRows rows).n ≤ u) :
    (Graph.ofRows rows).out u = [] := by
  show rows.getD u [] = []
  rw [Array.getD_eq_getD_getElem?, Array.getElem?_eq_none h]
  rfl

end GraafVerif.OracleFastProof
