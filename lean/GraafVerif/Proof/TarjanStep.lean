import GraafVerif.Proof.TarjanInv
/-!
# Preservation of the Tarjan invariants by the individual steps of `connect`
(`enter`, the low-link updates, the loop body, `finish`).
-/
namespace GraafVerif.Tarjan
open GraafVerif

theorem enter_index (u : Nat) (s : St) (x : Nat) :
    mget (enter u s).index x = if x = u then some s.i else mget s.index x := mget_mset _ _ _ _

theorem enter_low (u : Nat) (s : St) (x : Nat) :
    mget (enter u s).low x = if x = u then some s.i else mget s.low x := mget_mset _ _ _ _

theorem enter_indexed (u : Nat) (s : St) (x : Nat) : (enter u s).indexed x ↔ (x = u ∨ s.indexed x) := by
  by_cases h : x = u
  · exact iff_of_true (St.indexed_of_some ((enter_index u s x).trans (if_pos h))) (Or.inl h)
  · exact (St.indexed_congr ((enter_index u s x).trans (if_neg h))).trans (or_iff_right h).symm

theorem enter_idx (u : Nat) (s : St) (x : Nat) : (enter u s).idx x = if x = u then s.i else s.idx x := by
  unfold St.idx
  rw [enter_index]
  by_cases h : x = u <;> simp [h]

theorem enter_idx_self (u : Nat) (s : St) : (enter u s).idx u = s.i := by
  rw [enter_idx, if_pos rfl]

theorem enter_lw_self (u : Nat) (s : St) : (enter u s).lw u = s.i := by
  unfold St.lw
  rw [enter_low, if_pos rfl]; rfl

@[simp] theorem enter_stack (u : Nat) (s : St) : (enter u s).stack = u :: s.stack := rfl
@[simp] theorem enter_onStack (u : Nat) (s : St) : (enter u s).onStack = u :: s.onStack := rfl
@[simp] theorem enter_comps (u : Nat) (s : St) : (enter u s).comps = s.comps := rfl
@[simp] theorem enter_fault (u : Nat) (s : St) : (enter u s).fault = s.fault := rfl
@[simp] theorem enter_i (u : Nat) (s : St) : (enter u s).i = s.i + 1 := rfl

theorem Pre.not_stack {g : VGraph} {gray : List Nat} {u : Nat} {s : St} (p : Pre g gray u s) :
    u ∉ s.stack := fun h => p.fresh (p.inv.stack_indexed h)

theorem enter_ext {g : VGraph} {gray : List Nat} {u : Nat} {s : St} (p : Pre g gray u s) :
    Ext s (enter u s) := by
  have hne : ∀ x, s.indexed x → x ≠ u := fun x hx h => p.fresh (h ▸ hx)
  refine ⟨⟨[u], rfl⟩, ⟨[], (List.append_nil _).symm⟩, ?_, ?_, ?_, Nat.le_succ _⟩
  · intro x hx; rw [enter_index, if_neg (hne x hx)]
  · intro x hx; rw [enter_low, if_neg (hne x hx)]
  · intro x hn hx
    rcases (enter_indexed u s x).mp hx with rfl | hx
    · exact Nat.le_of_eq (enter_idx_self x s).symm
    · exact absurd hx hn

theorem enter_inv {g : VGraph} {gray : List Nat} {u : Nat} {s : St} (p : Pre g gray u s) :
    Inv g (u :: gray) (enter u s) := by
  have inv := p.inv
  have hidx : ∀ {x}, s.indexed x → (enter u s).idx x = s.idx x := (enter_ext p).idx
  have hidxs : ∀ {x}, x ∈ s.stack → (enter u s).idx x = s.idx x := fun h => hidx (inv.stack_indexed h)
  have hidxu := enter_idx_self u s
  constructor
  · exact inv.nofault
  · intro x; rw [enter_onStack, enter_stack, List.mem_cons, List.mem_cons, inv.onStack x]
  · intro x; rw [enter_indexed, inv.indexedIff x, enter_stack, List.mem_cons, or_assoc]; rfl
  · intro c hc x hx h
    rcases List.mem_cons.mp h with rfl | h
    · exact p.fresh ((inv.indexedIff x).mpr (Or.inr ⟨c, hc, hx⟩))
    · exact inv.compStack c hc x hx h
  · exact inv.compDisj
  · exact inv.compAsc
  · intro x hx
    rcases (enter_indexed u s x).mp hx with rfl | hx
    · exact p.vert
    · exact inv.verts x hx
  · intro x hx
    rw [enter_low]
    split
    · exact Option.some_ne_none _
    · exact inv.lowDef x (((enter_indexed u s x).mp hx).resolve_left ‹_›)
  · intro x hx
    rcases (enter_indexed u s x).mp hx with rfl | hx
    · rw [hidxu]; exact Nat.lt_succ_self _
    · rw [hidx hx]; exact Nat.lt_succ_of_lt (inv.idxLt x hx)
  · refine List.pairwise_cons.mpr ⟨fun b hb => ?_, inv.sorted.imp_of_mem fun ha hb hab => ?_⟩
    · rw [hidxu, hidxs hb]; exact inv.idxLt b (inv.stack_indexed hb)
    · rw [hidxs ha, hidxs hb]; exact hab
  · intro z hz
    exact List.mem_cons.mpr ((List.mem_cons.mp hz).imp_right (inv.grayStack z))
  · intro x hx hxg y hy
    have hxg := not_or.mp (mt List.mem_cons.mpr hxg)   -- `u` itself is gray
    exact (enter_indexed u s y).mpr
      (Or.inr (inv.blackOut x (((enter_indexed u s x).mp hx).resolve_left hxg.1) hxg.2 y hy))
  · intro z hz y hy hle
    rcases List.mem_cons.mp hy with rfl | hys
    · rcases List.mem_cons.mp hz with rfl | hzg
      · exact Reach.refl _
      · exact p.reach z hzg
    · rcases List.mem_cons.mp hz with rfl | hzg
      · -- only `u` itself has an index ≥ `s.i`
        rw [hidxu, hidxs hys] at hle
        exact absurd (inv.idxLt y (inv.stack_indexed hys)) (Nat.not_lt.mpr hle)
      · rw [hidxs (inv.grayStack z hzg), hidxs hys] at hle
        exact inv.grayReach z hzg y hys hle
  · intro y hy
    rcases List.mem_cons.mp hy with rfl | hy
    · exact ⟨y, List.mem_cons_self, Nat.le_refl _, Reach.refl _⟩
    · obtain ⟨z, hz, hle, hr⟩ := inv.toGray y hy
      exact ⟨z, List.mem_cons_of_mem _ hz, by rw [hidxs (inv.grayStack z hz), hidxs hy]; exact hle, hr⟩
  · exact inv.sccs

/-- Only `lowDef` speaks of the low-links. -/
theorem Inv.setLow {g : VGraph} {gray : List Nat} {s : St} (inv : Inv g gray s) (u k : Nat) :
    Inv g gray { s with low := mset s.low u k } :=
  { inv with
    lowDef := fun x hx => by
      show mget (mset s.low u k) x ≠ none
      rw [mget_mset]
      split
      · exact Option.some_ne_none _
      · exact inv.lowDef x hx }

theorem loop_init {g : VGraph} {gray : List Nat} {u : Nat} {s0 : St} (p : Pre g gray u s0) :
    Loop g gray u s0 (enter u s0) [] := by
  refine ⟨enter_inv p, enter_ext p, ⟨[], rfl⟩, by rw [enter_index, if_pos rfl],
    fun _ h => absurd h List.not_mem_nil, Nat.le_of_eq (enter_lw_self u s0),
    ⟨u, List.mem_cons_self, (enter_idx_self u s0).trans (enter_lw_self u s0).symm, Reach.refl _⟩,
    fun _ h => absurd h List.not_mem_nil, fun x hx hn hne => ?_⟩
  rcases List.mem_cons.mp hx with h | h
  · exact absurd h hne
  · exact absurd h hn

theorem Loop.mem_stack {g : VGraph} {gray : List Nat} {u : Nat} {s0 s : St} {done : List Nat}
    (L : Loop g gray u s0 s done) {y : Nat} (hy : y ∈ s0.stack) : y ∈ s.stack := by
  obtain ⟨ext, hext⟩ := L.stack
  exact hext ▸ List.mem_append_right _ (List.mem_cons_of_mem _ hy)

/-- An out-neighbour that is indexed but no longer on the stack changes nothing. -/
theorem Loop.addDone {g : VGraph} {gray : List Nat} {u : Nat} {s0 s : St} {done : List Nat}
    (L : Loop g gray u s0 s done) (v : Nat) (hv : s.indexed v) (hns : v ∉ s.stack) :
    Loop g gray u s0 s (done ++ [v]) :=
  { L with
    doneIdx := List.forall_mem_append.mpr ⟨L.doneIdx, List.forall_mem_singleton.mpr hv⟩
    lowDone := List.forall_mem_append.mpr
      ⟨L.lowDone, List.forall_mem_singleton.mpr fun hvs => absurd hvs hns⟩ }

/-- The general shape of one loop iteration: from `s` to an extension `s'` (a nested call, or
`s' = s`), then `low_link[u] := k`. -/
theorem Loop.update {g : VGraph} {gray : List Nat} {u : Nat} {s0 s : St} {done : List Nat}
    (L : Loop g gray u s0 s done) (hfresh : ¬ s0.indexed u) (s' : St) (v k : Nat)
    (inv' : Inv g (u :: gray) s') (e : Ext s s')
    (hk : k ≤ s.lw u)
    (hwit : ∃ y ∈ s'.stack, s'.idx y = k ∧ VReach g u y)
    (hv : s'.indexed v) (hvk : v ∈ s'.stack → k ≤ s'.idx v)
    (hx : ∀ x ∈ s'.stack, x ∉ s.stack → ∀ y ∈ g.out x, y ∈ s0.stack → k ≤ s'.idx y) :
    Loop g gray u s0 { s' with low := mset s'.low u k } (done ++ [v]) := by
  have hlw : St.lw { s' with low := mset s'.low u k } u = k := by
    show (mget (mset s'.low u k) u).getD 0 = k
    rw [mget_mset, if_pos rfl]; rfl
  have hus : s.indexed u := St.indexed_of_some L.idxU
  have e0 := L.ext.trans e
  obtain ⟨ext, hext⟩ := L.stack
  obtain ⟨ext', hext'⟩ := e.stack
  refine ⟨inv'.setLow u k, ⟨e0.stack, e0.comps, e0.index, fun x hx => ?_, e0.newIdx, e0.i⟩,
    ⟨ext' ++ ext, by rw [List.append_assoc, ← hext]; exact hext'⟩, (e.index u hus).trans L.idxU,
    List.forall_mem_append.mpr ⟨fun x hx => e.indexed (L.doneIdx x hx), List.forall_mem_singleton.mpr hv⟩,
    ?_, ?_, ?_, ?_⟩
  · show mget (mset s'.low u k) x = mget s0.low x
    rw [mget_mset, if_neg fun h : x = u => hfresh (h ▸ hx)]
    exact e0.low x hx
  · rw [hlw]; exact Nat.le_trans hk L.lowLe
  · rw [hlw]; exact hwit
  · rw [hlw]
    refine List.forall_mem_append.mpr ⟨fun x hx hxs => ?_, List.forall_mem_singleton.mpr hvk⟩
    show k ≤ s'.idx x
    have hxi := L.doneIdx x hx
    rcases (L.inv.indexedIff x).mp hxi with hxs0 | ⟨c, hc, hxc⟩
    · rw [e.idx hxi]; exact Nat.le_trans hk (L.lowDone x hx hxs0)
    · -- `x` lies in a finished component, hence is never on a stack again
      obtain ⟨new', hnew'⟩ := e.comps
      exact absurd hxs (inv'.compStack c (hnew' ▸ List.mem_append_left _ hc) x hxc)
  · rw [hlw]
    intro x hxs hx0 hxu y hy hy0
    show k ≤ s'.idx y
    by_cases hxs0 : x ∈ s.stack
    · rw [e.idx (L.inv.stack_indexed (L.mem_stack hy0))]
      exact Nat.le_trans hk (L.lowX x hxs0 hx0 hxu y hy hy0)
    · exact hx x hxs hxs0 y hy hy0

theorem mget_low_eq {g : VGraph} {gray : List Nat} {s : St} (inv : Inv g gray s) {x : Nat}
    (hx : s.indexed x) : mget s.low x = some (s.lw x) := by
  have := inv.lowDef x hx
  unfold St.lw
  cases h : mget s.low x with
  | none => exact absurd h this
  | some l => rfl

/-- The out-neighbour `v` is on the stack: `low_link[u] := min(low_link[u], index[v])`. -/
theorem Loop.seen {g : VGraph} {gray : List Nat} {u : Nat} {s0 s : St} {done : List Nat}
    (L : Loop g gray u s0 s done) (hfresh : ¬ s0.indexed u) {v w : Nat} (hv : v ∈ g.out u)
    (hidx : mget s.index v = some w) (hvs : v ∈ s.stack) :
    Loop g gray u s0 { s with low := mset s.low u (min (s.lw u) w) } (done ++ [v]) := by
  have hw : s.idx v = w := St.idx_of_some hidx
  refine L.update hfresh s v (min (s.lw u) w) L.inv (Ext.refl s) (Nat.min_le_left _ _) ?_
    (St.indexed_of_some hidx) ?_ ?_
  · rcases Nat.lt_or_ge w (s.lw u) with hlt | hge
    · exact ⟨v, hvs, hw.trans (Nat.min_eq_right (Nat.le_of_lt hlt)).symm, vreach_of_arc hv⟩
    · obtain ⟨y, hy, hyi, hyr⟩ := L.lowWit
      exact ⟨y, hy, hyi.trans (Nat.min_eq_left hge).symm, hyr⟩
  · intro _; rw [hw]; exact Nat.min_le_right _ _
  · intro x hx hnx; exact absurd hx hnx

theorem Loop.pre {g : VGraph} {gray : List Nat} {u : Nat} {s0 s : St} {done : List Nat}
    (L : Loop g gray u s0 s done) (p0 : Pre g gray u s0) {v : Nat} (hv : v ∈ g.out u)
    (hvv : v ∈ g.verts) (hvn : ¬ s.indexed v) : Pre g (u :: gray) v s := by
  have huv : VReach g u v := vreach_of_arc hv
  refine ⟨L.inv, hvv, hvn, ?_⟩
  intro z hz
  rcases List.mem_cons.mp hz with h | h
  · subst h; exact huv
  · exact vreach_trans (p0.reach z h) huv

/-- The out-neighbour `v` was not indexed: after the nested call `connect v`,
`low_link[u] := min(low_link[u], low_link[v])`. -/
theorem Loop.called {g : VGraph} {gray : List Nat} {u : Nat} {s0 s s' : St} {done : List Nat}
    (L : Loop g gray u s0 s done) (hfresh : ¬ s0.indexed u) {v : Nat} (hv : v ∈ g.out u)
    (P : Post g (u :: gray) v s s') :
    Loop g gray u s0 { s' with low := mset s'.low u (min (s'.lw u) (s'.lw v)) } (done ++ [v]) := by
  have hus : s.indexed u := St.indexed_of_some L.idxU
  have huv : VReach g u v := vreach_of_arc hv
  have hlwu : s'.lw u = s.lw u := P.ext.lw hus
  refine L.update hfresh s' v (min (s'.lw u) (s'.lw v)) P.inv P.ext ?_ ?_ (St.indexed_of_some P.idxV) ?_ ?_
  · rw [hlwu]; exact Nat.min_le_left _ _
  · rw [hlwu]
    rcases Nat.lt_or_ge (s'.lw v) (s.lw u) with hlt | hge
    · rw [Nat.min_eq_right (Nat.le_of_lt hlt)]
      rcases P.alt with ⟨_, _, h3⟩ | ⟨_, y, hy, hyi, hyr⟩
      · -- `v` was popped with `low_link[v] = s.i`, above every index handed out before the call
        have hui : s.idx u < s.i := L.inv.idxLt u hus
        rw [St.idx_of_some L.idxU] at hui
        exact absurd (Nat.lt_of_le_of_lt L.lowLe hui) (Nat.not_lt.mpr (h3 ▸ Nat.le_of_lt hlt))
      · exact ⟨y, hy, hyi, vreach_trans huv hyr⟩
    · rw [Nat.min_eq_left hge]
      obtain ⟨y, hy, hyi, hyr⟩ := L.lowWit
      obtain ⟨ext', hext'⟩ := P.ext.stack
      exact ⟨y, hext' ▸ List.mem_append_right _ hy, (P.ext.idx (L.inv.stack_indexed hy)).trans hyi, hyr⟩
  · intro _
    rw [St.idx_of_some P.idxV]
    exact Nat.le_trans (Nat.min_le_right _ _) P.lowLe
  · intro x hx hnx y hy hy0
    exact Nat.le_trans (Nat.min_le_right _ _) (P.lowX x hx hnx y hy (L.mem_stack hy0))

theorem loop_step {g : VGraph} {gray : List Nat} {u : Nat} {s0 s : St} {done : List Nat}
    (L : Loop g gray u s0 s done) (p0 : Pre g gray u s0) (v : Nat) (hv : v ∈ g.out u)
    (hvv : v ∈ g.verts) (rec : Nat → St → St)
    (hrec : ∀ t, Pre g (u :: gray) v t → unindexed g t < unindexed g s0 →
      Post g (u :: gray) v t (rec v t)) :
    Loop g gray u s0 (visit rec u s v) (done ++ [v]) := by
  have hs := L.inv.nofault
  have hus : s.indexed u := St.indexed_of_some L.idxU
  cases hidx : mget s.index v with
  | some w =>
    cases hon : s.onStack.contains v with
    | true =>
      rw [visit_onStack hs hidx hon (mget_low_eq L.inv hus)]
      exact L.seen p0.fresh hv hidx ((L.inv.onStack v).mp (List.contains_iff_mem.mp hon))
    | false =>
      rw [visit_offStack hs hidx hon]
      exact L.addDone v (St.indexed_of_some hidx) fun h =>
        Bool.eq_false_iff.mp hon (List.contains_iff_mem.mpr ((L.inv.onStack v).mpr h))
  | none =>
    have P := hrec s (L.pre p0 hv hvv fun h => h hidx)
      (L.ext.unindexed_lt g u p0.vert p0.fresh hus)
    rw [visit_fresh hs hidx P.inv.nofault (mget_low_eq P.inv (P.ext.indexed hus))
      (mget_low_eq P.inv (St.indexed_of_some P.idxV))]
    exact L.called p0.fresh hv P

theorem loop_all {g : VGraph} {gray : List Nat} {u : Nat} {s0 : St} (p0 : Pre g gray u s0)
    (rec : Nat → St → St)
    (hrec : ∀ v t, v ∈ g.out u → Pre g (u :: gray) v t → unindexed g t < unindexed g s0 →
      Post g (u :: gray) v t (rec v t))
    (hclosed : ∀ v ∈ g.out u, v ∈ g.verts) :
    ∀ (l : List Nat) (done : List Nat) (s : St), (∀ v ∈ l, v ∈ g.out u) →
      Loop g gray u s0 s done → Loop g gray u s0 (l.foldl (visit rec u) s) (done ++ l) := by
  intro l
  induction l with
  | nil => intro done s _ L; rw [List.append_nil]; exact L
  | cons v l ih =>
    intro done s hl L
    have hv := hl v List.mem_cons_self
    have L' := loop_step L p0 v hv (hclosed v hv) rec (fun t => hrec v t hv)
    have := ih (done ++ [v]) _ (fun w hw => hl w (List.mem_cons_of_mem _ hw)) L'
    rw [List.append_assoc] at this
    exact this

/-- After the loop `u` is as black as every other vertex off the call path. -/
theorem Loop.blackOut {g : VGraph} {gray : List Nat} {u : Nat} {s0 s : St}
    (L : Loop g gray u s0 s (g.out u)) : ∀ x, s.indexed x → x ∉ gray → ∀ y ∈ g.out x, s.indexed y := by
  intro x hx hxg y hy
  by_cases hxu : x = u
  · subst hxu; exact L.doneIdx y hy
  · exact L.inv.blackOut x hx (fun h => (List.mem_cons.mp h).elim hxu hxg) y hy

/-- `u` is not the root of its component: nothing is popped, `u` turns from gray to black. -/
theorem nonroot_post {g : VGraph} {gray : List Nat} {u : Nat} {s0 s : St}
    (L : Loop g gray u s0 s (g.out u)) (hlt : s.lw u < s0.i) : Post g gray u s0 s := by
  have inv := L.inv
  have inv' : Inv g gray s :=
    { inv with
      grayStack := fun z hz => inv.grayStack z (List.mem_cons_of_mem _ hz)
      blackOut := L.blackOut
      grayReach := fun z hz => inv.grayReach z (List.mem_cons_of_mem _ hz)
      toGray := fun y hy => by
        obtain ⟨z, hz, hle, hr⟩ := inv.toGray y hy
        rcases List.mem_cons.mp hz with rfl | hzg
        · -- `low_link[u]` is the index of a stack vertex `y'` below `u` that `u` reaches: go on from `y'`
          obtain ⟨y', hy', hyi', hyr'⟩ := L.lowWit
          have hy'u : s.idx y' < s.idx z := by rw [hyi', St.idx_of_some L.idxU]; exact hlt
          obtain ⟨z', hz', hle', hr'⟩ := inv.toGray y' hy'
          rcases List.mem_cons.mp hz' with rfl | hzg'
          · exact absurd hle' (Nat.not_le.mpr hy'u)
          · exact ⟨z', hzg', Nat.le_trans hle' (Nat.le_trans (Nat.le_of_lt hy'u) hle),
              vreach_trans hr (vreach_trans hyr' hr')⟩
        · exact ⟨z, hzg, hle, hr⟩ }
  refine ⟨inv', L.ext, L.idxU, L.lowLe, Or.inr ⟨inv.grayStack u List.mem_cons_self, L.lowWit⟩, ?_⟩
  intro x hx hx0 y hy hy0
  by_cases hxu : x = u
  · subst hxu; exact L.lowDone y hy (L.mem_stack hy0)
  · exact L.lowX x hx hx0 hxu y hy hy0

theorem Loop.above {g : VGraph} {gray : List Nat} {u : Nat} {s0 s : St} {done : List Nat}
    (L : Loop g gray u s0 s done) (p0 : Pre g gray u s0) {ext : List Nat}
    (hext : s.stack = ext ++ u :: s0.stack) :
    (∀ y ∈ ext, s.idx u < s.idx y) ∧ (∀ y ∈ s0.stack, s.idx y < s.idx u) ∧ u ∉ ext ∧
    (∀ y ∈ ext, y ∉ s0.stack) ∧ (∀ m ∈ ext, m ∉ u :: gray) ∧
    s0.stack.Pairwise (fun a b => s.idx b < s.idx a) := by
  obtain ⟨h1, h2, h3, h4⟩ := sorted_split (idx := s.idx) (by rw [← hext]; exact L.inv.sorted)
  have hu_ext : u ∉ ext := fun h => Nat.lt_irrefl _ (h1 u h)
  have hdisj : ∀ x, x ∈ ext → x ∉ s0.stack := fun x hx hx0 => Nat.lt_irrefl _ (h3 x hx x hx0)
  refine ⟨h1, h2, hu_ext, hdisj, ?_, h4⟩
  intro m hm hg
  rcases List.mem_cons.mp hg with h | h
  · exact hu_ext (h ▸ hm)
  · exact hdisj m hm (p0.inv.grayStack m h)

/-- At a root (`low_link[u] = index[u]`) the vertices from the top of the stack down to `u` form a
strongly connected component. -/
theorem root_scc {g : VGraph} {gray : List Nat} {u : Nat} {s0 s : St} (p0 : Pre g gray u s0)
    (L : Loop g gray u s0 s (g.out u)) (hroot : s.lw u = s0.i)
    (ext : List Nat) (hext : s.stack = ext ++ u :: s0.stack) (C : List Nat)
    (hC : ∀ x, x ∈ C ↔ (x ∈ ext ∨ x = u)) : IsSCC g C := by
  have inv := L.inv
  have hidxu : s.idx u = s0.i := St.idx_of_some L.idxU
  obtain ⟨h1, h2, hu_ext, hdisj, hgray_ext, _⟩ := L.above p0 hext
  have hCst : ∀ x, x ∈ C → x ∈ s.stack := by
    intro x hx; rw [hext]
    rcases (hC x).mp hx with h | rfl
    · exact List.mem_append_left _ h
    · exact List.mem_append_right _ List.mem_cons_self
  have huC : u ∈ C := (hC u).mpr (Or.inr rfl)
  have hus : u ∈ s.stack := hCst u huC
  have hfrom : ∀ y, y ∈ C → VReach g u y := by
    intro y hy
    refine inv.grayReach u List.mem_cons_self y (hCst y hy) ?_
    rcases (hC y).mp hy with h | h
    · exact Nat.le_of_lt (h1 y h)
    · rw [h]; exact Nat.le_refl _
  have hto : ∀ y, y ∈ C → VReach g y u := by
    intro y hy
    obtain ⟨z, hz, _, hr⟩ := inv.toGray y (hCst y hy)
    refine vreach_trans hr (inv.grayReach z hz u hus ?_)
    rcases List.mem_cons.mp hz with h | h
    · rw [h]; exact Nat.le_refl _
    · exact Nat.le_of_lt (h2 z (p0.inv.grayStack z h))
  -- maximality: walk from `u`; an arc cannot leave `C` without contradicting `low_link[u] = index[u]`
  have hmax : ∀ b, VReach g u b → VReach g b u → b ∈ C := by
    intro b hub
    induction hub with
    | refl => intro _; exact huC
    | @step m b hum hmb ih =>
      intro hbu
      have hmb' : b ∈ g.out m := hmb
      have hm := ih (vreach_trans (vreach_of_arc hmb) hbu)
      have hbi : s.indexed b := by
        rcases (hC m).mp hm with h | h
        · exact inv.blackOut m (inv.stack_indexed (hCst m hm)) (hgray_ext m h) b hmb'
        · subst h; exact L.doneIdx b hmb'
      rcases (inv.indexedIff b).mp hbi with hbs | ⟨c, hc, hbc⟩
      · rw [hext, List.mem_append, List.mem_cons] at hbs
        rcases hbs with h | h | h
        · exact (hC b).mpr (Or.inl h)
        · exact (hC b).mpr (Or.inr h)
        · have hle : s.lw u ≤ s.idx b := by
            rcases (hC m).mp hm with hm' | hm'
            · exact L.lowX m (hCst m hm) (hdisj m hm') (fun e => hu_ext (e ▸ hm')) b hmb' h
            · subst hm'; exact L.lowDone b hmb' (L.mem_stack h)
          rw [hroot, ← hidxu] at hle
          exact absurd (h2 b h) (Nat.not_lt.mpr hle)
      · exfalso
        have huc : u ∈ c := (inv.sccs c hc).2 b hbc u hbu (Reach.step hum hmb)
        exact inv.compStack c hc u huc hus
  refine ⟨fun x hx y hy => vreach_trans (hto x hx) (hfrom y hy), ?_⟩
  intro x hx y hxy hyx
  exact hmax y (vreach_trans (hfrom x hx) hxy) (vreach_trans hyx (hto x hx))

/-- `u` is the root of its component: everything above and including `u` is popped and forms a
strongly connected component. -/
theorem root_inv {g : VGraph} {gray : List Nat} {u : Nat} {s0 s : St} (p0 : Pre g gray u s0)
    (L : Loop g gray u s0 s (g.out u)) (hroot : s.lw u = s0.i)
    (ext : List Nat) (hext : s.stack = ext ++ u :: s0.stack) (on' C : List Nat)
    (hon : ∀ x, x ∈ on' ↔ (x ∈ s.onStack ∧ x ∉ ext ∧ x ≠ u))
    (hC : ∀ x, x ∈ C ↔ (x ∈ ext ∨ x = u)) (hCs : C.Pairwise (· < ·)) :
    Inv g gray { s with stack := s0.stack, onStack := on', comps := s.comps ++ [C] } := by
  have inv := L.inv
  obtain ⟨_, h2, _, hdisj, _, h4⟩ := L.above p0 hext
  have hmem : ∀ x, x ∈ s.stack ↔ (x ∈ C ∨ x ∈ s0.stack) := fun x => by
    rw [hext, List.mem_append, List.mem_cons, hC, or_assoc]
  have hC0 : ∀ x ∈ C, x ∉ s0.stack := fun x hx =>
    ((hC x).mp hx).elim (hdisj x) fun h => h ▸ p0.not_stack
  have hcomps : ∀ x, (∃ c ∈ s.comps ++ [C], x ∈ c) ↔ ((∃ c ∈ s.comps, x ∈ c) ∨ x ∈ C) := fun x => by
    simp only [List.mem_append, List.mem_singleton, or_and_right, exists_or, exists_eq_left]
  exact
    { inv with
      onStack := fun x => by
        show x ∈ on' ↔ x ∈ s0.stack
        rw [hon x, ← not_or, ← hC x, inv.onStack x, hmem x]
        exact ⟨fun h => h.1.resolve_left h.2, fun h => ⟨Or.inr h, fun hc => hC0 x hc h⟩⟩
      indexedIff := fun x => by
        show s.indexed x ↔ (x ∈ s0.stack ∨ ∃ c ∈ s.comps ++ [C], x ∈ c)
        rw [inv.indexedIff x, hmem x, hcomps x, or_assoc, or_comm, or_assoc]
      compStack := List.forall_mem_append.mpr
        ⟨fun c hc x hxc h => inv.compStack c hc x hxc ((hmem x).mpr (Or.inr h)),
         List.forall_mem_singleton.mpr hC0⟩
      compDisj := List.pairwise_append.mpr ⟨inv.compDisj, List.pairwise_singleton _ _, fun c hc d hd x hxc hxd =>
        inv.compStack c hc x hxc ((hmem x).mpr (Or.inl (List.mem_singleton.mp hd ▸ hxd)))⟩
      compAsc := List.forall_mem_append.mpr
        ⟨inv.compAsc, List.forall_mem_singleton.mpr ⟨hCs, List.ne_nil_of_mem ((hC u).mpr (Or.inr rfl))⟩⟩
      sorted := h4
      grayStack := p0.inv.grayStack
      blackOut := L.blackOut
      grayReach := fun z hz y hy =>
        inv.grayReach z (List.mem_cons_of_mem _ hz) y ((hmem y).mpr (Or.inr hy))
      toGray := fun y hy => by
        obtain ⟨z, hz, hle, hr⟩ := inv.toGray y ((hmem y).mpr (Or.inr hy))
        rcases List.mem_cons.mp hz with rfl | hzg
        · exact absurd hle (Nat.not_le.mpr (h2 y hy))
        · exact ⟨z, hzg, hle, hr⟩
      sccs := List.forall_mem_append.mpr
        ⟨inv.sccs, List.forall_mem_singleton.mpr (root_scc p0 L hroot ext hext C hC)⟩ }

theorem root_post {g : VGraph} {gray : List Nat} {u : Nat} {s0 s : St} (p0 : Pre g gray u s0)
    (L : Loop g gray u s0 s (g.out u)) (hroot : s.lw u = s0.i)
    (ext : List Nat) (hext : s.stack = ext ++ u :: s0.stack) (on' C : List Nat)
    (hon : ∀ x, x ∈ on' ↔ (x ∈ s.onStack ∧ x ∉ ext ∧ x ≠ u))
    (hC : ∀ x, x ∈ C ↔ (x ∈ ext ∨ x = u)) (hCs : C.Pairwise (· < ·)) :
    Post g gray u s0 { s with stack := s0.stack, onStack := on', comps := s.comps ++ [C] } := by
  have e := L.ext
  obtain ⟨new, hnew⟩ := e.comps
  refine ⟨root_inv p0 L hroot ext hext on' C hon hC hCs,
    ⟨⟨[], rfl⟩, ⟨new ++ [C], ?_⟩, e.index, e.low, e.newIdx, e.i⟩, L.idxU, Nat.le_of_eq hroot,
    Or.inl ⟨p0.not_stack, rfl, hroot⟩, fun x hx hnx => absurd hx hnx⟩
  show s.comps ++ [C] = s0.comps ++ (new ++ [C])
  rw [hnew, List.append_assoc]

theorem finish_post {g : VGraph} {gray : List Nat} {u : Nat} {s0 s : St} (p0 : Pre g gray u s0)
    (L : Loop g gray u s0 s (g.out u)) : Post g gray u s0 (finish u s) := by
  have hlu := mget_low_eq L.inv (St.indexed_of_some L.idxU)
  by_cases hroot : s0.i = s.lw u
  · rw [finish_root L.inv.nofault (by rw [L.idxU, hlu, hroot])]
    obtain ⟨ext, hext⟩ := L.stack
    obtain ⟨hp1, hp2, hp3, hp4⟩ := popTo_spec u s0.stack ext s.onStack [] (L.above p0 hext).2.2.1
    rw [← hext] at hp1 hp2 hp3 hp4
    rw [hp1]
    exact root_post p0 L hroot.symm ext hext _ _ hp2 (by intro x; rw [hp3 x]; simp) (hp4 List.Pairwise.nil)
  · rw [finish_nonroot L.inv.nofault (by rw [L.idxU, hlu]; exact fun h => hroot (Option.some.inj h))]
    exact nonroot_post L (Nat.lt_of_le_of_ne L.lowLe fun h => hroot h.symm)

end GraafVerif.Tarjan
