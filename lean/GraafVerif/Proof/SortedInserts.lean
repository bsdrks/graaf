import GraafVerif.Model.Tarjan
import GraafVerif.Model.OpsGen
import GraafVerif.Proof.ReprSorted
/-!
# Every ascending insert of the model files is `Repr.sinsert`

`Spec/Graph.lean`, `Model/Tarjan.lean` and the generated `Model/OpsGen.lean` each carry their own copy of
`BTreeSet<usize>::insert` on ascending lists, so that they import nothing (`Chk.DG.insertSorted` of
`Model/ChkOutcome.lean`, which only the driver runs, is a fifth).  Each is `sinsert`: what
`Proof/ReprSorted.lean` says of `sinsert`, and of a fold of it (`mem_foldl_insert`), holds of them after
rewriting with `insertAsc_eq_sinsert`.  Likewise `insertAscW` of `Spec/Graph.lean` is `mupsert`.
-/
namespace GraafVerif
open GraafVerif.Repr

theorem insertAsc_eq_sinsert : insertAsc = sinsert := funext fun x => funext fun l => by
  induction l with
  | nil => rfl
  | cons y ys ih => simp only [insertAsc, sinsert, ih]

theorem mem_insertAsc {x y : Nat} {l : List Nat} : y ∈ insertAsc x l ↔ y = x ∨ y ∈ l :=
  insertAsc_eq_sinsert ▸ mem_sinsert

theorem sorted_insertAsc {x : Nat} {l : List Nat} (h : SortedS l) : SortedS (insertAsc x l) :=
  insertAsc_eq_sinsert ▸ sorted_sinsert h

theorem insertAscW_eq_mupsert (x : Nat) (w : Int) (l : List (Nat × Int)) :
    insertAscW x w l = mupsert x w (fun _ => w) l := by
  induction l with
  | nil => rfl
  | cons p ps ih => simp only [insertAscW, mupsert, ih]

namespace Tarjan

theorem insertAsc_eq_sinsert : insertAsc = sinsert := funext fun x => funext fun l => by
  induction l with
  | nil => rfl
  | cons y ys ih => simp only [insertAsc, sinsert, ih]

theorem mem_insertAsc {x y : Nat} {l : List Nat} : y ∈ insertAsc x l ↔ y = x ∨ y ∈ l :=
  insertAsc_eq_sinsert ▸ mem_sinsert

theorem sorted_insertAsc {x : Nat} {l : List Nat} (h : SortedS l) : SortedS (insertAsc x l) :=
  insertAsc_eq_sinsert ▸ sorted_sinsert h

end Tarjan

theorem OpsGen.insertAsc_eq_sinsert : OpsGen.insertAsc = sinsert := funext fun x => funext fun l => by
  induction l with
  | nil => rfl
  | cons y ys ih => simp only [OpsGen.insertAsc, sinsert, ih]

end GraafVerif
