import GraafVerif.Proof.AlgoGenRt
import GraafVerif.Proof.ChkHoare
/-!
# A safety calculus for `Blk` / `Res` (C13 on the source-regenerated definitions)

In `Model/AlgoGen*.lean`, generated from `/repo/src` by `tools/translate_algo.py`, every `*ptr.add(i)` /
`get_unchecked(i)` / `ptr::read` / `ptr::write` of the source is a CHECKED `rd` / `wr` with the distinct outcome
`Fault.ub site` (the convention of `Model/Chk.lean`).  `Safe` / `RSafe`: a block / a whole call does not end in `ub`, and its
exits satisfy postconditions; `NoUB` is the first half alone.  There is one rule per construct of `Model/AlgoGenRt.lean`:
`pure`, bind, `if`, `brk`, `ret`, `panic`, `call`, `fnBody`, the five loops (their rules go through `onExit` of
`Proof/AlgoGenRt.lean`, one round of any loop), and `assert`, `rd`, `wr`, `idx`.  These four are `liftChk` of the primitives of
`Model/Chk.lean`, so a `Chk.Sat` rule of `Proof/ChkHoare.lean` is a rule here (`safe_liftChk`); those of `assert`, `rd`, `wr` are
taken from there.  The rules for the later runtime parts are at the head of `Proof/ChkGen5.lean`.  A proof of `Proof/ChkGen*.lean` walks through a generated body with them, and what is left to it
is the index arithmetic.  Last, the states a generated iterator can reach (`Reachable`) and the invariant rule for them
(`reach_inv`, `iterSafe_of`).
-/
namespace GraafVerif.AlgoGenThm
open GraafVerif.AlgoGen

/-- `C13Gen.NoUB` under the name by which `Thm/AlgoGen.lean` states C13 of the traversals (`C13Gen.noUB_iff`). -/
def NoUB {α : Type} (r : Res α) : Prop := ∀ site, r ≠ .error (.fault (.ub site))

end GraafVerif.AlgoGenThm

namespace GraafVerif.C13Gen
open GraafVerif.AlgoGen
open GraafVerif.Chk (Fault)

variable {α β γ ρ σ ι τ β' : Type}

def NoUB (r : Res α) : Prop := ∀ site, r ≠ .error (.fault (.ub site))

theorem noUB_iff {r : Res α} : AlgoGenThm.NoUB r ↔ NoUB r := Iff.rfl

def RSafe (r : Res α) (Q : α → Prop) : Prop :=
  match r with
  | .ok a => Q a
  | .error (.fault (.ub _)) => False
  | .error _ => True

/-- The block does not end in `ub`; normal exit `Q`, `break` exit `B`, `return` exit `R`. -/
def Safe (x : Blk β ρ α) (Q : α → Prop) (B : β → Prop) (R : ρ → Prop) : Prop :=
  match x with
  | .ok a => Q a
  | .error (.brk b) => B b
  | .error (.ret r) => R r
  | .error (.err (.fault (.ub _))) => False
  | .error (.err _) => True

variable {B : β → Prop} {R : ρ → Prop}

def Benign : Err → Prop
  | .fault (.ub _) => False
  | _ => True

theorem rsafe_error {e : Err} {Q : α → Prop} : RSafe (.error e) Q ↔ Benign e := by
  cases e with
  | div => exact Iff.rfl
  | fault f => cases f <;> exact Iff.rfl

theorem safe_err {e : Err} {Q : α → Prop} :
    Safe (.error (.err e) : Blk β ρ α) Q B R ↔ Benign e := by
  cases e with
  | div => exact Iff.rfl
  | fault f => cases f <;> exact Iff.rfl

theorem RSafe.noUB {r : Res α} {Q : α → Prop} (h : RSafe r Q) : NoUB r := by
  intro site e; rw [e] at h; exact h

theorem RSafe.ok {r : Res α} {Q : α → Prop} {a : α} (h : RSafe r Q) (e : r = .ok a) : Q a := by
  rw [e] at h; exact h

theorem RSafe.bind {r : Res α} {f : α → Res γ} {Q' : α → Prop} {Q : γ → Prop} (h : RSafe r Q')
    (hf : ∀ a, Q' a → RSafe (f a) Q) : RSafe (r >>= f) Q := by
  cases r with
  | ok a => exact hf a h
  | error e => exact rsafe_error.2 (rsafe_error.1 h)

theorem RSafe.mono {r : Res α} {Q Q' : α → Prop} (h : RSafe r Q) (hq : ∀ a, Q a → Q' a) : RSafe r Q' := by
  cases r with
  | ok a => exact hq a h
  | error e => exact rsafe_error.2 (rsafe_error.1 h)

theorem RSafe.map {r : Res α} {Q : γ → Prop} (f : α → γ) (h : RSafe r (fun a => Q (f a))) : RSafe (Except.map f r) Q := by
  cases r with
  | ok a => exact h
  | error e => exact rsafe_error.2 (rsafe_error.1 h)

theorem noUB_ok (a : α) : NoUB (.ok a : Res α) := fun _ h => nomatch h
theorem noUB_panic : NoUB (.error (.fault .panic) : Res α) := fun _ h => nomatch h
theorem noUB_div : NoUB (.error .div : Res α) := fun _ h => nomatch h

theorem noUB_map {r : Res α} (f : α → γ) (h : NoUB r) : NoUB (Except.map f r) := by
  intro site e
  cases r with
  | ok a => cases e
  | error x =>
    have hx : x = .fault (.ub site) := Except.error.inj e
    exact h site (hx ▸ rfl)

theorem noUB_of_map {r : Res α} (f : α → γ) (h : NoUB (Except.map f r)) : NoUB r := by
  intro site e; exact h site (e ▸ rfl)

theorem noUB_ite {c : Prop} [Decidable c] {x y : Res α} (hx : NoUB x) (hy : NoUB y) : NoUB (if c then x else y) := by
  split
  · exact hx
  · exact hy

theorem safe_pure {Q : α → Prop} {a : α} (h : Q a) : Safe (pure a : Blk β ρ α) Q B R := h

theorem safe_bind {x : Blk β ρ α} {f : α → Blk β ρ γ} {Q' : α → Prop} {Q : γ → Prop}
    (hx : Safe x Q' B R) (hf : ∀ a, Q' a → Safe (f a) Q B R) : Safe (x >>= f) Q B R := by
  cases x with
  | ok a => exact hf a hx
  | error e =>
    cases e with
    | brk b => exact hx
    | ret r => exact hx
    | err e => exact safe_err.2 (safe_err.1 hx)

theorem safe_ite {c : Prop} [Decidable c] {x y : Blk β ρ α} {Q : α → Prop}
    (hx : c → Safe x Q B R) (hy : ¬c → Safe y Q B R) : Safe (if c then x else y) Q B R := by
  split
  · exact hx ‹c›
  · exact hy ‹¬c›

theorem safe_brk {Q : α → Prop} {b : β} (h : B b) : Safe (brk b : Blk β ρ α) Q B R := h
theorem safe_ret {Q : α → Prop} {r : ρ} (h : R r) : Safe (ret r : Blk β ρ α) Q B R := h
theorem safe_panic {Q : α → Prop} {B : β → Prop} {R : ρ → Prop} : Safe (panic : Blk β ρ α) Q B R := trivial

theorem safe_liftChk {c : Chk.Chk α} {Q : α → Prop} (h : Chk.Sat c Q) : Safe (liftChk c : Blk β ρ α) Q B R := by
  cases c with
  | ok a => exact h.2 a rfl
  | error f =>
    cases f with
    | panic => trivial
    | ub site => exact h.1 site rfl

theorem safe_assert {p : Prop} [Decidable p] :
    Safe (assert (decide p) : Blk β ρ Unit) (fun _ => p) B R :=
  safe_liftChk Chk.Sat.assert

theorem safe_rd (site : String) (l : List α) (i : Nat) (h : i < l.length) :
    Safe (rd site l i : Blk β ρ α) (fun a => a ∈ l) B R :=
  safe_liftChk ((Chk.Sat.rd h).mono fun _ => List.mem_of_getElem?)

theorem safe_wr_len (site : String) (l : List α) (i : Nat) (v : α) (n : Nat)
    (hl : l.length = n) (hi : i < n) : Safe (wr site l i v : Blk β ρ (List α)) (fun l' => l'.length = n) B R :=
  safe_liftChk (Chk.Sat.wrLen hl hi)

theorem safe_idx {B : β → Prop} {R : ρ → Prop} (l : List α) (i : Nat) :
    Safe (idx l i : Blk β ρ α) (fun a => a ∈ l ∧ l[i]? = some a) B R := by
  unfold idx Chk.rdChecked liftChk
  cases h : l[i]? with
  | none => trivial
  | some a => exact ⟨List.mem_of_getElem? h, rfl⟩

theorem safe_call {r : Res α} {Q : α → Prop} (h : RSafe r Q) :
    Safe (call r : Blk β ρ α) Q B R := by
  cases r with
  | ok a => exact h
  | error e => exact safe_err.2 (rsafe_error.1 h)

theorem safe_fnBody {x : Blk Empty ρ ρ} {Q : ρ → Prop} (h : Safe x Q (fun _ => True) Q) : RSafe (fnBody x) Q := by
  cases x with
  | ok a => exact h
  | error e =>
    cases e with
    | brk b => exact b.elim
    | ret r => exact h
    | err e => exact rsafe_error.2 (safe_err.1 h)

theorem safe_onExit {x : Blk β' ρ σ} {k : σ → Blk β ρ γ} {g : β' → γ} {I : σ → Prop} {P : β' → Prop}
    {Q : γ → Prop}
    (hx : Safe x I P R) (hk : ∀ s, I s → Safe (k s) Q B R) (hg : ∀ b, P b → Q (g b)) : Safe (onExit x k g) Q B R := by
  cases x with
  | ok s => exact hk s hx
  | error e =>
    cases e with
    | brk b => exact hg b hx
    | ret r => exact hx
    | err e => exact safe_err.2 (safe_err.1 hx)

theorem safe_foldlM {body : σ → α → Blk σ ρ σ} (I : σ → Prop) (l : List α) :
    ∀ s, I s → (∀ s a, a ∈ l → I s → Safe (body s a) I I R) → Safe (l.foldlM body s) I I R := by
  induction l with
  | nil => exact fun s hs _ => hs
  | cons a l ih =>
    intro s hs hstep
    rw [List.foldlM_cons]
    exact safe_bind (hstep s a List.mem_cons_self hs)
      (fun s' hs' => ih s' hs' (fun s a ha => hstep s a (List.mem_cons_of_mem _ ha)))

theorem safe_forLoop {body : σ → α → Blk σ ρ σ} {l : List α} {s : σ} (I : σ → Prop)
    (h0 : I s) (hstep : ∀ s a, a ∈ l → I s → Safe (body s a) I I R) : Safe (forLoop body l s : Blk β ρ σ) I B R := by
  rw [forLoop_round]
  exact safe_onExit (safe_foldlM I l s h0 hstep) (fun _ h => safe_pure h) (fun _ h => h)

theorem safe_whileLoop {step : σ → Blk σ ρ σ} (I : σ → Prop)
    (hstep : ∀ s, I s → Safe (step s) I I R) (fuel : Nat) :
    ∀ s, I s → Safe (whileLoop step fuel s : Blk β ρ σ) I B R := by
  induction fuel with
  | zero => exact fun _ hs => hs
  | succ fuel ih =>
    intro s hs
    rw [whileLoop_round]
    exact safe_onExit (hstep s hs) ih (fun _ h => h)

theorem safe_loopLoop {step : σ → Blk (γ × σ) ρ σ} (I : σ → Prop) {P : γ × σ → Prop}
    (hstep : ∀ s, I s → Safe (step s) I P R) (fuel : Nat) :
    ∀ s, I s → Safe (loopLoop step fuel s : Blk β ρ (γ × σ)) P B R := by
  induction fuel with
  | zero => exact fun _ _ => trivial
  | succ fuel ih =>
    intro s hs
    rw [loopLoop_round]
    exact safe_onExit (hstep s hs) ih (fun _ h => h)

theorem safe_iterLoopS {next : τ → Res (Option ι × τ)} {body : τ → σ → ι → Blk σ ρ σ}
    (J : τ → Prop) (P : ι → Prop) (I : σ → Prop)
    (hnext : ∀ t, J t → RSafe (next t) (fun r => J r.2 ∧ ∀ x, r.1 = some x → P x))
    (hbody : ∀ t s x, J t → I s → P x → Safe (body t s x) I I R) (fuel : Nat) :
    ∀ t s, J t → I s → Safe (iterLoopS next body fuel t s : Blk β ρ (σ × τ)) (fun r => I r.1 ∧ J r.2) B R := by
  induction fuel with
  | zero => exact fun _ _ ht hs => ⟨hs, ht⟩
  | succ fuel ih =>
    intro t s ht hs
    rw [iterLoopS_round]
    refine safe_bind (safe_call (hnext t ht)) (fun r hr => ?_)
    obtain ⟨o, t'⟩ := r
    cases o with
    | none => exact ⟨hs, hr.1⟩
    | some x =>
      exact safe_onExit (hbody t' s x hr.1 hs (hr.2 x rfl)) (fun s' hs' => ih t' s' hr.1 hs') (fun _ hb => ⟨hb, hr.1⟩)

theorem safe_iterLoop {next : τ → Res (Option ι × τ)} {body : σ → ι → Blk σ ρ σ}
    (J : τ → Prop) (P : ι → Prop) (I : σ → Prop)
    (hnext : ∀ t, J t → RSafe (next t) (fun r => J r.2 ∧ ∀ x, r.1 = some x → P x))
    (hbody : ∀ s x, I s → P x → Safe (body s x) I I R) (fuel : Nat) (t : τ) (s : σ) (ht : J t) (hs : I s) :
    Safe (iterLoop next body fuel t s : Blk β ρ (σ × τ)) (fun r => I r.1 ∧ J r.2) B R := by
  rw [iterLoop_eq_iterLoopS]
  exact safe_iterLoopS J P I hnext (fun _ s x _ => hbody s x) fuel t s ht hs

/-! ## Iterators: `new`, then any number of `next` -/

/-- States a generated iterator can be in: produced by `new`, then any number of `next` calls. -/
inductive Reachable {σ ι : Type} (new : Res σ) (next : σ → Res (Option ι × σ)) : σ → Prop
  | init {st} : new = .ok st → Reachable new next st
  | step {st o st'} : Reachable new next st → next st = .ok (o, st') → Reachable new next st'

/-- constructor + `next` in every reachable state never end in `ub` -/
def IterSafe {σ ι : Type} (new : Res σ) (next : σ → Res (Option ι × σ)) : Prop :=
  NoUB new ∧ ∀ st, Reachable new next st → NoUB (next st)

theorem reach_inv {σ ι : Type} {new : Res σ} {next : σ → Res (Option ι × σ)} (I : σ → Prop) {P : Option ι × σ → Prop}
    (hnew : RSafe new I) (hnext : ∀ s, I s → RSafe (next s) (fun r => I r.2 ∧ P r)) :
    ∀ st, Reachable new next st → I st := by
  intro st h
  induction h with
  | init e => exact hnew.ok e
  | step _ e ih => exact ((hnext _ ih).ok e).1

theorem iterSafe_of {σ ι : Type} {new : Res σ} {next : σ → Res (Option ι × σ)} (I : σ → Prop) {P : Option ι × σ → Prop}
    (hnew : RSafe new I) (hnext : ∀ s, I s → RSafe (next s) (fun r => I r.2 ∧ P r)) : IterSafe new next :=
  ⟨hnew.noUB, fun st h => (hnext st (reach_inv I hnew hnext st h)).noUB⟩

end GraafVerif.C13Gen
