import GraafVerif.Model.FwFast
import GraafVerif.Proof.FoldLemmas
/-!
# The `Array` twin of the model computes the same lists (C08 driver ↔ proved model)
-/
namespace GraafVerif.Fw
open GraafVerif

theorem getA_toList (n : Nat) (m : MatA) (u v : Nat) : getA n m u v = get n m.toList u v := by
  rw [getA, get, Array.getElem?_toList]

theorem putA_toList (n : Nat) (m : MatA) (u v : Nat) (x : Option Int) :
    (putA n m u v x).toList = put n m.toList u v x :=
  Array.toList_setIfInBounds ..

theorem setArcsA_toList (n : Nat) (m : MatA) (arcs : List (Nat × Nat × Int)) :
    (setArcsA n m arcs).toList = setArcs n m.toList arcs :=
  Fold.foldl_sim Array.toList _ _ (fun m a => putA_toList n m a.1 a.2.1 _) arcs m

theorem zeroDiagA_toList (n : Nat) (m : MatA) : (zeroDiagA n m).toList = zeroDiag n m.toList :=
  Fold.foldl_sim Array.toList _ _ (fun m i => putA_toList n m i i _) _ m

theorem cellA_toList (n i j : Nat) (a : Int) (m : MatA) (k : Nat) :
    (cellA n i j a m k).toList = cell n i j a m.toList k := by
  unfold cellA cell
  rw [getA_toList, getA_toList]
  cases get n m.toList i k with
  | none => rfl
  | some b =>
    simp only
    cases get n m.toList j k with
    | none => exact putA_toList ..
    | some c =>
      simp only
      split
      · exact putA_toList ..
      · rfl

theorem rowJA_toList (n i : Nat) (m : MatA) (j : Nat) : (rowJA n i m j).toList = rowJ n i m.toList j := by
  unfold rowJA rowJ
  rw [getA_toList]
  cases get n m.toList j i with
  | none => rfl
  | some a => exact Fold.foldl_sim Array.toList _ _ (cellA_toList n i j a) _ m

theorem iterIA_toList (n : Nat) (m : MatA) (i : Nat) : (iterIA n m i).toList = iterI n m.toList i :=
  Fold.foldl_sim Array.toList _ _ (rowJA_toList n i) _ m

theorem loopToA_toList (n : Nat) (m : MatA) (K : Nat) : (loopToA n m K).toList = loopTo n m.toList K :=
  Fold.foldl_sim Array.toList _ _ (iterIA_toList n) _ m

theorem callA_toList (g : WGraph) (m : MatA) : (callA g m).toList = call g m.toList := by
  rw [callA, call, loopToA_toList, zeroDiagA_toList, setArcsA_toList]

theorem distancesA_toList (g : WGraph) : (distancesA g).toList = distances g := by
  rw [distancesA, callA_toList]; simp [call, distances, init]

theorem distances2A_toList (g : WGraph) : (distances2A g).toList = distances2 g := by
  rw [distances2A, callA_toList, distancesA_toList, distances2]

end GraafVerif.Fw
