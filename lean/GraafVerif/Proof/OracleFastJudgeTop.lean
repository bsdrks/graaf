import GraafVerif.Proof.OracleFastJudge
/-!
# `forestJudgeRec` accepts exactly the complete, correctly annotated depth-first preorders

For a well-formed `g` with `IsForest g S par`: `forestJudgeRec g S par xs depths preds tree = none` iff
`annotate g S xs = some ann` for some `ann` whose depths / parents / forest are the reported ones (where
reported) and `xs` is exactly the reachable set, each vertex once (`Dfs.Exact`).
-/
namespace GraafVerif.OracleFastProof
open GraafVerif GraafVerif.OracleFast GraafVerif.Dfs GraafVerif.OracleProof

/-- "If reported, equal to": the shape of the driver's optional comparisons. -/
def OptEq {β : Type} (o : Option β) (b : β) : Prop := ∀ t, o = some t → t = b

theorem optEq_none {β : Type} (b : β) : OptEq (none : Option β) b := fun _ h => nomatch h

theorem optEq_some {β : Type} {a b : β} : OptEq (some a) b ↔ a = b :=
  ⟨fun h => h a rfl, fun h t ht => by cases ht; exact h⟩

theorem popCheck_iff {α : Type} [BEq α] [LawfulBEq α] (ds : Option (List α)) (w : α) (l : List α) :
    OptEq ds (w :: l) ↔ ∃ ds', popCheck ds w = some ds' ∧ OptEq ds' l := by
  cases ds with
  | none => exact ⟨fun _ => ⟨none, rfl, optEq_none l⟩, fun _ => optEq_none _⟩
  | some d =>
    rw [optEq_some]
    cases d with
    | nil =>
      constructor
      · intro h; cases h
      · rintro ⟨_, h, _⟩; cases h
    | cons a r =>
      rw [popCheck]
      by_cases haw : a = w
      · subst haw
        rw [beq_self_eq_true, if_pos rfl]
        constructor
        · intro h; exact ⟨some r, rfl, optEq_some.mpr (List.cons.inj h).2⟩
        · rintro ⟨_, h, h2⟩; cases h; rw [optEq_some.mp h2]
      · rw [if_neg (fun h => haw (eq_of_beq h))]
        constructor
        · intro h; exact absurd (List.cons.inj h).1 haw
        · rintro ⟨_, h, _⟩; cases h

theorem leftover_iff {α : Type} (ds : Option (List α)) : leftover ds = false ↔ OptEq ds [] := by
  cases ds with
  | none => exact ⟨fun _ => optEq_none _, fun _ => rfl⟩
  | some d =>
    rw [optEq_some]
    cases d with
    | nil => exact ⟨fun _ => rfl, fun _ => rfl⟩
    | cons a r => exact ⟨fun h => (nomatch h), fun h => (nomatch h)⟩

section loop
variable {g : Graph} {S : List Nat} {par : Array (Option Nat)} {reach : Array Bool}

def fjRun (st : FjState) (ann : List Ann) : FjState := ann.foldl (fun st a => fjNext st a.1 a.2) st

theorem fjLoop_nil_ok {st st' : FjState} {ds : Option (List Nat)} {ps : Option (List (Option Nat))} :
    fjLoop g S par reach st [] ds ps = .ok st' ↔ leftover ds = false ∧ leftover ps = false ∧ st' = st := by
  unfold fjLoop
  rw [err_or_ok, Bool.or_eq_true, not_or, Bool.not_eq_true, Bool.not_eq_true]
  exact ⟨fun h => ⟨h.1.1, h.1.2, (Except.ok.inj h.2).symm⟩, fun h => ⟨⟨h.1, h.2.1⟩, h.2.2 ▸ rfl⟩⟩

theorem fjLoop_cons_ok {st st' : FjState} {x : Nat} {xs : List Nat} {ds : Option (List Nat)}
    {ps : Option (List (Option Nat))} :
    fjLoop g S par reach st (x :: xs) ds ps = .ok st' ↔
      ∃ st1 wp wd ds' ps', fjStep g S par reach st x = .ok (st1, wp, wd) ∧ popCheck ds wd = some ds' ∧
        popCheck ps wp = some ps' ∧ fjLoop g S par reach st1 xs ds' ps' = .ok st' := by
  rw [fjLoop]
  constructor
  · intro h
    cases hstep : fjStep g S par reach st x with
    | error e => rw [hstep] at h; cases h
    | ok r =>
      obtain ⟨st1, wp, wd⟩ := r
      rw [hstep] at h
      simp only [] at h
      cases hd : popCheck ds wd with
      | none => rw [hd] at h; cases h
      | some ds' =>
        rw [hd] at h
        simp only [] at h
        cases hp : popCheck ps wp with
        | none => rw [hp] at h; cases h
        | some ps' => rw [hp] at h; exact ⟨st1, wp, wd, ds', ps', rfl, hd, hp, h⟩
  · rintro ⟨st1, wp, wd, ds', ps', hstep, hd, hp, h⟩
    rw [hstep]
    simp only []
    rw [hd]
    simp only []
    rw [hp]
    exact h

theorem fjLoop_iff (hF : IsForest g S par) : ∀ (xs : List Nat) (st : FjState) (s : Search)
    (ds : Option (List Nat)) (ps : Option (List (Option Nat))) (st' : FjState), FjInv g par st s →
    (fjLoop g S par reach st xs ds ps = .ok st' ↔
      ∃ ann, annotateFrom g S s xs = some ann ∧ OptEq ds (ann.map (·.2.2)) ∧ OptEq ps (ann.map (·.2.1)) ∧
        (∀ x ∈ xs, x < g.n ∧ reach.getD x false = true) ∧ st' = fjRun st ann) := by
  intro xs
  induction xs with
  | nil =>
    intro st s ds ps st' _
    refine fjLoop_nil_ok.trans ⟨?_, ?_⟩
    · intro h
      exact ⟨[], rfl, (leftover_iff ds).mp h.1, (leftover_iff ps).mp h.2.1, fun _ hx => (nomatch hx), h.2.2⟩
    · rintro ⟨ann, hann, hds, hps, -, e⟩
      cases (Option.some.inj hann : [] = ann)
      exact ⟨(leftover_iff ds).mpr hds, (leftover_iff ps).mpr hps, e⟩
  | cons x rest ih =>
    intro st s ds ps st' hinv
    refine fjLoop_cons_ok.trans ⟨?_, ?_⟩
    · rintro ⟨st1, wp, wd, ds', ps', hstep, hd, hp, h⟩
      obtain ⟨hx, hr, a, he, e⟩ := (fjStep_iff hF hinv).mp hstep
      cases e
      obtain ⟨ann', hann, hds, hps, hall, rfl⟩ := (ih _ _ ds' ps' st' (fjNext_inv hF hinv hx he).1).mp h
      exact ⟨(x, a) :: ann', annotateFrom_cons_iff.mpr ⟨a, ann', he, hann, rfl⟩,
        (popCheck_iff ds a.2 _).mpr ⟨ds', hd, hds⟩, (popCheck_iff ps a.1 _).mpr ⟨ps', hp, hps⟩,
        fun y hy => (List.mem_cons.mp hy).elim (fun e => e ▸ ⟨hx, hr⟩) (hall y), rfl⟩
    · rintro ⟨ann, hann, hds, hps, hall, rfl⟩
      obtain ⟨a, ann', he, hr, rfl⟩ := annotateFrom_cons_iff.mp hann
      obtain ⟨hx, hrx⟩ := hall x List.mem_cons_self
      obtain ⟨ds', hd, hds'⟩ := (popCheck_iff ds a.2 _).mp hds
      obtain ⟨ps', hp, hps'⟩ := (popCheck_iff ps a.1 _).mp hps
      exact ⟨_, _, _, ds', ps', (fjStep_iff hF hinv).mpr ⟨hx, hrx, a, he, rfl⟩, hd, hp,
        (ih _ _ ds' ps' _ (fjNext_inv hF hinv hx he).1).mpr
          ⟨ann', hr, hds', hps', fun y hy => hall y (List.mem_cons_of_mem _ hy), rfl⟩⟩

theorem fjRun_inv (hF : IsForest g S par) : ∀ (xs : List Nat) (st : FjState) (s : Search) (ann : List Ann),
    FjInv g par st s → annotateFrom g S s xs = some ann → (∀ x ∈ xs, x < g.n) →
    ∃ s', FjInv g par (fjRun st ann) s' ∧ s'.yielded = s.yielded ++ xs ∧ ∀ a ∈ ann, a.2.1 = par.getD a.1 none := by
  intro xs
  induction xs with
  | nil =>
    intro st s ann hinv h _
    cases h
    exact ⟨s, hinv, (List.append_nil _).symm, fun _ ha => (nomatch ha)⟩
  | cons x rest ih =>
    intro st s ann hinv h hall
    obtain ⟨a, ann', he, hr, rfl⟩ := annotateFrom_cons_iff.mp h
    obtain ⟨hinv1, hpar⟩ := fjNext_inv hF hinv (hall x List.mem_cons_self) he
    obtain ⟨s', hinv', hy, hpar'⟩ := ih _ _ ann' hinv1 hr (fun y hy => hall y (List.mem_cons_of_mem _ hy))
    refine ⟨s', hinv', by rw [hy, List.append_cons]; rfl, fun b hb => ?_⟩
    rcases List.mem_cons.mp hb with rfl | hb
    · exact hpar
    · exact hpar' b hb

end loop

theorem subset_of_length_le {l₁ l₂ : List Nat} (hnd : l₁.Nodup) (hsub : l₁ ⊆ l₂) (hlen : l₂.length ≤ l₁.length) :
    l₂ ⊆ l₁ := by
  intro v hv
  apply Classical.byContradiction
  intro hn
  have hsub' : l₁ ⊆ l₂.erase v := by
    intro x hx
    have hxv : x ≠ v := fun h => hn (h ▸ hx)
    exact (List.mem_erase_of_ne hxv).mpr (hsub hx)
  have h1 := hnd.length_le_of_subset hsub'
  have h2 : (l₂.erase v).length = l₂.length - 1 := by rw [List.length_erase]; simp [hv]
  have h3 := List.length_pos_of_mem hv
  omega

theorem length_eq_iff_subset {l₁ l₂ : List Nat} (h1 : l₁.Nodup) (h2 : l₂.Nodup) (hsub : l₁ ⊆ l₂) :
    l₂.length = l₁.length ↔ l₂ ⊆ l₁ :=
  ⟨fun h => subset_of_length_le h1 hsub (Nat.le_of_eq h),
   fun h => Nat.le_antisymm (h2.length_le_of_subset h) (h1.length_le_of_subset hsub)⟩

theorem forestOf_eq (n : Nat) (ann : List Ann) (par : Array (Option Nat))
    (hpar : ∀ a ∈ ann, a.2.1 = par.getD a.1 none) (seen : Nat → Bool)
    (hseen : ∀ v, seen v = true ↔ v ∈ ann.map (·.1)) :
    forestOf n ann = (List.range n).map (fun v => if seen v then par.getD v none else none) := by
  unfold forestOf
  apply List.map_congr_left
  intro v _
  cases hf : ann.find? (fun a => a.1 == v) with
  | none =>
    have hnot : ¬ seen v = true := by
      rw [hseen v, List.mem_map]
      rintro ⟨a, ha, hav⟩
      have := List.find?_eq_none.mp hf a ha
      simp [hav] at this
    simp only []
    rw [if_neg hnot]
  | some a =>
    have ha := List.mem_of_find?_eq_some hf
    have hav : a.1 = v := by simpa using List.find?_some hf
    have : seen v = true := (hseen v).mpr (List.mem_map.mpr ⟨a, ha, hav⟩)
    simp only []
    rw [if_pos this, hpar a ha, hav]

/-- The reachable vertices as the judge counts them. -/
def reachList (g : Graph) (S : List Nat) : List Nat :=
  (List.range g.n).filter (fun v => (reachFast g S).toArray.getD v false)

theorem complaint_or_none {α : Type} {c : Prop} [Decidable c] {e : α} {t : Option α} :
    (if c then some e else t) = none ↔ ¬ c ∧ t = none := by
  split
  · exact ⟨fun h => (nomatch h), fun h => absurd ‹c› h.1⟩
  · exact ⟨fun h => ⟨‹¬ c›, h⟩, fun h => h.2⟩

theorem none_or_complaint {α : Type} {c : Prop} [Decidable c] {e : α} : (if c then none else some e) = none ↔ c := by
  split
  · exact ⟨fun _ => ‹c›, fun _ => rfl⟩
  · exact ⟨fun h => (nomatch h), fun h => absurd h ‹¬ c›⟩

theorem forestJudgeRec_none_iff (g : Graph) (S : List Nat) (par : Array (Option Nat)) (xs : List Nat)
    (depths : Option (List Nat)) (preds tree : Option (List (Option Nat))) :
    forestJudgeRec g S par xs depths preds tree = none ↔
      ∃ st, fjLoop g S par (reachFast g S).toArray (fjInit g) xs depths preds = .ok st ∧
        (reachList g S).length = xs.length ∧
        OptEq tree ((List.range g.n).map (fun v => if st.seen.getD v false then par.getD v none else none)) := by
  unfold forestJudgeRec
  dsimp only
  cases fjLoop g S par (reachFast g S).toArray (fjInit g) xs depths preds with
  | error e =>
    constructor
    · intro h; cases h
    · rintro ⟨_, h, _⟩; cases h
  | ok st =>
    refine complaint_or_none.trans (Iff.trans (and_congr ((not_congr bne_iff_ne).trans Classical.not_not) ?tree)
      ⟨fun h => ⟨st, rfl, h⟩, ?back⟩)
    case back => rintro ⟨_, e, h⟩; cases e; exact h
    cases tree with
    | none => exact ⟨fun _ => optEq_none _, fun _ => rfl⟩
    | some t => exact (none_or_complaint.trans beq_iff_eq).trans optEq_some.symm

section reach
variable {g : Graph} (hwf : g.WF) {S : List Nat} (hS : ∀ s ∈ S, s < g.n)
include hwf hS

theorem reachFast_getD (v : Nat) : (reachFast g S).toArray.getD v false = true ↔ ReachFrom g S v := by
  rw [← reachSetB_spec hwf hS v, reachFast_eq hwf hS]
  simp [Array.getD_eq_getD_getElem?]

theorem mem_reachList (v : Nat) : v ∈ reachList g S ↔ ReachFrom g S v := by
  unfold reachList
  rw [List.mem_filter, List.mem_range, reachFast_getD hwf hS]
  refine ⟨fun h => h.2, fun h => ⟨?_, h⟩⟩
  have := getD_lt ((reachFast_getD hwf hS v).mpr h) (by decide)
  rwa [List.size_toArray, reachFast_eq hwf hS, reachSetB_length hwf S] at this

end reach

theorem forestJudgeRec_iff {g : Graph} (hwf : g.WF) {S : List Nat} {par : Array (Option Nat)}
    (hF : IsForest g S par) (xs : List Nat) (depths : Option (List Nat)) (preds : Option (List (Option Nat)))
    (tree : Option (List (Option Nat))) :
    forestJudgeRec g S par xs depths preds tree = none ↔
    ∃ ann, annotate g S xs = some ann ∧ OptEq depths (ann.map (·.2.2)) ∧ OptEq preds (ann.map (·.2.1)) ∧
      OptEq tree (forestOf g.n ann) ∧ Exact g S xs := by
  have hL := mem_reachList hwf hF.srcLt
  have hLnd : (reachList g S).Nodup := (List.nodup_range).sublist List.filter_sublist
  -- for a valid sequence of reachable in-range vertices: the count test is exactness, the forest
  -- the judge compares with is `forestOf`
  have key : ∀ ann, annotate g S xs = some ann →
      (∀ x ∈ xs, x < g.n ∧ (reachFast g S).toArray.getD x false = true) →
      ((reachList g S).length = xs.length ↔ Exact g S xs) ∧
      (List.range g.n).map (fun v => if (fjRun (fjInit g) ann).seen.getD v false then par.getD v none else none)
        = forestOf g.n ann := by
    intro ann hann hall
    have hnd : xs.Nodup := List.nil_append xs ▸ annotateFrom_nodup xs ⟨[], []⟩ ann hann List.nodup_nil
    have hsub : xs ⊆ reachList g S := fun x hx => (hL x).mpr ((reachFast_getD hwf hF.srcLt x).mp (hall x hx).2)
    obtain ⟨s', hinv', hy, hpar⟩ := fjRun_inv hF xs _ _ ann (initInv g par) hann (fun x hx => (hall x hx).1)
    refine ⟨?_, (forestOf_eq g.n ann par hpar _ (fun v => by
      rw [hinv'.seen v, hy, annotateFrom_fst _ _ _ hann]; rfl)).symm⟩
    rw [length_eq_iff_subset hnd hLnd hsub]
    exact ⟨fun h => ⟨hnd, fun v => ⟨fun hv => (hL v).mp (hsub hv), fun hv => h ((hL v).mpr hv)⟩⟩,
      fun h v hv => (h.2 v).mpr ((hL v).mp hv)⟩
  rw [forestJudgeRec_none_iff]
  constructor
  · rintro ⟨st, hloop, hcnt, htree⟩
    obtain ⟨ann, hann, hds, hps, hall, rfl⟩ := (fjLoop_iff hF xs _ _ depths preds st (initInv g par)).mp hloop
    obtain ⟨hex, hfo⟩ := key ann hann hall
    exact ⟨ann, hann, hds, hps, hfo ▸ htree, hex.mp hcnt⟩
  · rintro ⟨ann, hann, hds, hps, htree, hex⟩
    have hall : ∀ x ∈ xs, x < g.n ∧ (reachFast g S).toArray.getD x false = true := by
      intro x hx
      have := (hL x).mpr ((hex.2 x).mp hx)
      exact ⟨List.mem_range.mp (List.mem_filter.mp this).1, (List.mem_filter.mp this).2⟩
    obtain ⟨hex', hfo⟩ := key ann hann hall
    exact ⟨_, (fjLoop_iff hF xs _ _ depths preds _ (initInv g par)).mpr ⟨ann, hann, hds, hps, hall, rfl⟩,
      hex'.mpr hex, hfo ▸ htree⟩

/-! ## In the vocabulary of `Spec/Dfs.lean` (`DfsOK`, `DfsDistOK`, `DfsPredOK`) -/

theorem unzip_eq {α β γ : Type} (f : γ → α) (h : γ → β) : ∀ (l : List (α × β)) (m : List γ),
    l.map Prod.fst = m.map f → l.map Prod.snd = m.map h → l = m.map (fun a => (f a, h a)) := by
  intro l
  induction l with
  | nil =>
    intro m h1 _
    cases m with
    | nil => rfl
    | cons a r => cases h1
  | cons x rest ih =>
    intro m h1 h2
    cases m with
    | nil => cases h1
    | cons a r =>
      simp only [List.map_cons, List.cons.injEq] at h1 h2 ⊢
      exact ⟨Prod.ext h1.1 h2.1, ih r h1.2 h2.2⟩

section vocab
variable {g : Graph} {S : List Nat} {par : Array (Option Nat)}

theorem forestJudgeRec_dfs (hwf : g.WF) (hF : IsForest g S par) (xs : List Nat) :
    forestJudgeRec g S par xs none none none = none ↔ DfsOK g S xs := by
  rw [forestJudgeRec_iff hwf hF]
  unfold DfsOK ValidDfsPreorder
  constructor
  · rintro ⟨ann, hann, _, _, _, hex⟩
    exact ⟨hex, by rw [hann]; rfl⟩
  · rintro ⟨hex, hv⟩
    cases hann : annotate g S xs with
    | none => rw [hann] at hv; cases hv
    | some ann => exact ⟨ann, rfl, optEq_none _, optEq_none _, optEq_none _, hex⟩

theorem forestJudgeRec_dist (hwf : g.WF) (hF : IsForest g S par) (items : List (Nat × Nat)) :
    forestJudgeRec g S par (items.map (·.1)) (some (items.map (·.2))) none none = none ↔ DfsDistOK g S items := by
  rw [forestJudgeRec_iff hwf hF]
  unfold DfsDistOK
  constructor
  · rintro ⟨ann, hann, hds, _, _, hex⟩
    refine ⟨hex, ann, hann, ?_⟩
    exact unzip_eq (fun a : Ann => a.1) (fun a : Ann => a.2.2) items ann (annotateFrom_fst _ _ _ hann).symm
      (optEq_some.mp hds)
  · rintro ⟨hex, ann, hann, hitems⟩
    refine ⟨ann, hann, optEq_some.mpr ?_, optEq_none _, optEq_none _, hex⟩
    rw [hitems]; simp

theorem forestJudgeRec_pred (hwf : g.WF) (hF : IsForest g S par) (items : List (Nat × Option Nat))
    (tree : List (Option Nat)) :
    forestJudgeRec g S par (items.map (·.1)) none (some (items.map (·.2))) (some tree) = none ↔
      DfsPredOK g S items tree := by
  rw [forestJudgeRec_iff hwf hF]
  unfold DfsPredOK
  constructor
  · rintro ⟨ann, hann, _, hps, ht, hex⟩
    refine ⟨hex, ann, hann, ?_, optEq_some.mp ht⟩
    exact unzip_eq (fun a : Ann => a.1) (fun a : Ann => a.2.1) items ann (annotateFrom_fst _ _ _ hann).symm
      (optEq_some.mp hps)
  · rintro ⟨hex, ann, hann, hitems, ht⟩
    refine ⟨ann, hann, optEq_none _, optEq_some.mpr ?_, optEq_some.mpr ht, hex⟩
    rw [hitems]; simp

end vocab

end GraafVerif.OracleFastProof
