import GraafVerif.Model.AlgoGenRt
/-!
# Equations of the translator runtime (`Model/AlgoGenRt.lean`)

How the primitives reduce when their precondition is known, one-step unfoldings of the loop
combinators, one round of any loop as `onExit` (what the rules for the loops induct over), and
`for x in self` as a fold over the items the iterator yields (`collect`).
-/
namespace GraafVerif.AlgoGen
open GraafVerif.Chk (Fault)

variable {α β γ ρ σ ι : Type}

@[simp] theorem ok_bind (a : α) (f : α → Blk β ρ γ) : ((Except.ok a : Blk β ρ α) >>= f) = f a := rfl
@[simp] theorem pure_bind' (a : α) (f : α → Blk β ρ γ) : ((pure a : Blk β ρ α) >>= f) = f a := rfl
@[simp] theorem error_bind (e : Exit β ρ) (f : α → Blk β ρ γ) : ((Except.error e : Blk β ρ α) >>= f) = .error e := rfl
@[simp] theorem pure_eq_ok (a : α) : (pure a : Blk β ρ α) = .ok a := rfl

@[simp] theorem assert_true : (assert true : Blk β ρ Unit) = .ok () := rfl
@[simp] theorem assert_false : (assert false : Blk β ρ Unit) = .error (.err (.fault .panic)) := rfl
theorem assert_pos {p : Prop} [Decidable p] (h : p) : (assert (decide p) : Blk β ρ Unit) = .ok () := by
  simp [h, assert_true]
theorem assert_neg {p : Prop} [Decidable p] (h : ¬p) :
    (assert (decide p) : Blk β ρ Unit) = .error (.err (.fault .panic)) := by
  simp [h, assert_false]
theorem assert_bind {p : Prop} [Decidable p] (k : Unit → Blk β ρ γ) :
    (assert (decide p) >>= k) = if p then k () else .error (.err (.fault .panic)) := by
  by_cases h : p
  · rw [if_pos h, assert_pos h]
    rfl
  · rw [if_neg h, assert_neg h]
    rfl

theorem rd_some (site : String) (l : List α) (i : Nat) (a : α) (h : l[i]? = some a) :
    (rd site l i : Blk β ρ α) = .ok a := by
  unfold rd Chk.rd
  rw [h]
  rfl
theorem rd_lt (site : String) (l : List α) (i : Nat) (h : i < l.length) :
    (rd site l i : Blk β ρ α) = .ok l[i] :=
  rd_some site l i l[i] (List.getElem?_eq_getElem h)
theorem rd_ge (site : String) (l : List α) (i : Nat) (h : l.length ≤ i) :
    (rd site l i : Blk β ρ α) = .error (.err (.fault (.ub site))) := by
  unfold rd Chk.rd
  rw [List.getElem?_eq_none h]
  rfl
theorem wr_lt (site : String) (l : List α) (i : Nat) (v : α) (h : i < l.length) :
    (wr site l i v : Blk β ρ (List α)) = .ok (l.set i v) := by
  unfold wr Chk.wr
  rw [if_pos h]
  rfl
theorem wr_ge (site : String) (l : List α) (i : Nat) (v : α) (h : l.length ≤ i) :
    (wr site l i v : Blk β ρ (List α)) = .error (.err (.fault (.ub site))) := by
  unfold wr Chk.wr
  rw [if_neg (Nat.not_lt.2 h)]
  rfl
/-- `*p.add(i) = f(*p.add(i))` inside the vector -/
theorem rd_wr_lt (site : String) (l : List α) (i : Nat) (f : α → α) (d : α) (h : i < l.length) :
    (rd site l i >>= fun t => wr site l i (f t) >>= pure : Blk β ρ (List α)) = .ok (l.set i (f (l[i]?.getD d))) := by
  rw [rd_lt _ _ _ h, ok_bind, wr_lt _ _ _ _ h, List.getElem?_eq_getElem h]
  rfl
theorem idx_some (l : List α) (i : Nat) (a : α) (h : l[i]? = some a) : (idx l i : Blk β ρ α) = .ok a := by
  unfold idx Chk.rdChecked
  rw [h]
  rfl
theorem idx_lt (l : List α) (i : Nat) (h : i < l.length) : (idx l i : Blk β ρ α) = .ok l[i] :=
  idx_some l i l[i] (List.getElem?_eq_getElem h)
theorem idx_ge (l : List α) (i : Nat) (h : l.length ≤ i) :
    (idx l i : Blk β ρ α) = .error (.err (.fault .panic)) := by
  unfold idx Chk.rdChecked
  rw [List.getElem?_eq_none h]
  rfl

@[simp] theorem forLoop_nil (body : σ → α → Blk σ ρ σ) (s : σ) :
    (forLoop body [] s : Blk β ρ σ) = .ok s := rfl

theorem forLoop_cons (body : σ → α → Blk σ ρ σ) (a : α) (l : List α) (s : σ) :
    (forLoop body (a :: l) s : Blk β ρ σ) =
      match body s a with
      | .ok s' => forLoop body l s'
      | .error (.brk s') => .ok s'
      | .error (.ret r) => .error (.ret r)
      | .error (.err e) => .error (.err e) := by
  unfold forLoop
  rw [List.foldlM_cons]
  cases h : body s a with
  | ok s' => rfl
  | error e => cases e <;> rfl

theorem forLoop_cons_ok (body : σ → α → Blk σ ρ σ) (a : α) (l : List α) (s s' : σ)
    (h : body s a = .ok s') : (forLoop body (a :: l) s : Blk β ρ σ) = forLoop body l s' := by
  rw [forLoop_cons, h]
theorem forLoop_cons_err (body : σ → α → Blk σ ρ σ) (a : α) (l : List α) (s : σ) (e : Err)
    (h : body s a = .error (.err e)) : (forLoop body (a :: l) s : Blk β ρ σ) = .error (.err e) := by
  rw [forLoop_cons, h]
theorem forLoop_cons_brk (body : σ → α → Blk σ ρ σ) (a : α) (l : List α) (s s' : σ)
    (h : body s a = .error (.brk s')) : (forLoop body (a :: l) s : Blk β ρ σ) = .ok s' := by
  rw [forLoop_cons, h]
theorem forLoop_cons_ret (body : σ → α → Blk σ ρ σ) (a : α) (l : List α) (s : σ) (r : ρ)
    (h : body s a = .error (.ret r)) : (forLoop body (a :: l) s : Blk β ρ σ) = .error (.ret r) := by
  rw [forLoop_cons, h]

/-- `for x in l.iter().map(g)` -/
theorem forLoop_map (g : γ → α) (body : σ → α → Blk σ ρ σ) (l : List γ) (s : σ) :
    (forLoop body (l.map g) s : Blk β ρ σ) = forLoop (fun s c => body s (g c)) l s :=
  congrArg catchBrk (List.foldlM_map ..)

@[simp] theorem whileLoop_zero (step : σ → Blk σ ρ σ) (s : σ) : (whileLoop step 0 s : Blk β ρ σ) = .ok s := rfl
theorem whileLoop_succ (step : σ → Blk σ ρ σ) (fuel : Nat) (s : σ) :
    (whileLoop step (fuel + 1) s : Blk β ρ σ) =
      match step s with
      | .ok s' => whileLoop step fuel s'
      | .error (.brk s') => .ok s'
      | .error (.ret r) => .error (.ret r)
      | .error (.err e) => .error (.err e) := rfl
theorem loopLoop_zero (step : σ → Blk (γ × σ) ρ σ) (s : σ) :
    (loopLoop step 0 s : Blk β ρ (γ × σ)) = .error (.err .div) := rfl
theorem loopLoop_succ (step : σ → Blk (γ × σ) ρ σ) (fuel : Nat) (s : σ) :
    (loopLoop step (fuel + 1) s : Blk β ρ (γ × σ)) =
      match step s with
      | .ok s' => loopLoop step fuel s'
      | .error (.brk b) => .ok b
      | .error (.ret r) => .error (.ret r)
      | .error (.err e) => .error (.err e) := rfl

theorem iterLoopS_zero {τ : Type} (next : τ → Res (Option ι × τ)) (body : τ → σ → ι → Blk σ ρ σ) (self : τ) (s : σ) :
    (iterLoopS next body 0 self s : Blk β ρ (σ × τ)) = .ok (s, self) := rfl
theorem iterLoopS_succ_none {τ : Type} (next : τ → Res (Option ι × τ)) (body : τ → σ → ι → Blk σ ρ σ) (fuel : Nat)
    (self self' : τ) (s : σ) (h : next self = .ok (none, self')) :
    (iterLoopS next body (fuel + 1) self s : Blk β ρ (σ × τ)) = .ok (s, self') := by
  rw [iterLoopS, h]
theorem iterLoopS_succ_error {τ : Type} (next : τ → Res (Option ι × τ)) (body : τ → σ → ι → Blk σ ρ σ) (fuel : Nat)
    (self : τ) (s : σ) (e : Err) (h : next self = .error e) :
    (iterLoopS next body (fuel + 1) self s : Blk β ρ (σ × τ)) = .error (.err e) := by
  rw [iterLoopS, h]
theorem iterLoopS_succ_some {τ : Type} (next : τ → Res (Option ι × τ)) (body : τ → σ → ι → Blk σ ρ σ) (fuel : Nat)
    (self self' : τ) (s : σ) (x : ι) (h : next self = .ok (some x, self')) :
    (iterLoopS next body (fuel + 1) self s : Blk β ρ (σ × τ)) =
      match body self' s x with
      | .ok s' => iterLoopS next body fuel self' s'
      | .error (.brk s') => .ok (s', self')
      | .error (.ret r) => .error (.ret r)
      | .error (.err e) => .error (.err e) := by
  rw [iterLoopS, h]
  rfl

/-! ## One round of a loop -/

variable {β' τ : Type}

/-- One round `x` of any of the loop forms: the normal exit goes on with `k`, `break` leaves the loop normally
with `g b`, `return` and failure pass through. -/
def onExit (x : Blk β' ρ σ) (k : σ → Blk β ρ γ) (g : β' → γ) : Blk β ρ γ :=
  match x with
  | .ok s => k s
  | .error (.brk b) => .ok (g b)
  | .error (.ret r) => .error (.ret r)
  | .error (.err e) => .error (.err e)

theorem forLoop_round (body : σ → α → Blk σ ρ σ) (l : List α) (s : σ) :
    (forLoop body l s : Blk β ρ σ) = onExit (l.foldlM body s) pure id := by
  unfold forLoop catchBrk
  rcases l.foldlM body s with (_ | _ | _) | _ <;> rfl

theorem whileLoop_round (step : σ → Blk σ ρ σ) (fuel : Nat) (s : σ) :
    (whileLoop step (fuel + 1) s : Blk β ρ σ) = onExit (step s) (whileLoop step fuel) id := by
  rw [whileLoop]
  rcases step s with (_ | _ | _) | _ <;> rfl

theorem loopLoop_round (step : σ → Blk (γ × σ) ρ σ) (fuel : Nat) (s : σ) :
    (loopLoop step (fuel + 1) s : Blk β ρ (γ × σ)) = onExit (step s) (loopLoop step fuel) id := by
  rw [loopLoop]
  rcases step s with (_ | _ | _) | _ <;> rfl

theorem iterLoopS_round (next : τ → Res (Option ι × τ)) (body : τ → σ → ι → Blk σ ρ σ) (fuel : Nat) (t : τ) (s : σ) :
    (iterLoopS next body (fuel + 1) t s : Blk β ρ (σ × τ)) = call (next t) >>= fun r =>
      match r.1 with
      | none => pure (s, r.2)
      | some x => onExit (body r.2 s x) (iterLoopS next body fuel r.2) (fun s' => (s', r.2)) := by
  rw [iterLoopS]
  rcases next t with _ | ⟨_ | x, t'⟩
  · rfl
  · rfl
  · show _ = onExit (body t' s x) _ _
    dsimp only
    rcases body t' s x with (_ | _ | _) | _ <;> rfl

theorem iterLoop_eq_iterLoopS (next : τ → Res (Option ι × τ)) (body : σ → ι → Blk σ ρ σ) (fuel : Nat) :
    (iterLoop next body fuel : τ → σ → Blk β ρ (σ × τ)) = iterLoopS next (fun _ => body) fuel := by
  induction fuel with
  | zero => rfl
  | succ fuel ih => funext t s; rw [iterLoop, iterLoopS, ih]

@[simp] theorem popFront_nil : popFront ([] : List α) = none := rfl
@[simp] theorem popFront_cons (a : α) (l : List α) : popFront (a :: l) = some (a, l) := rfl

@[simp] theorem vecPop_nil : vecPop ([] : List α) = none := rfl
@[simp] theorem vecPop_snoc (l : List α) (a : α) : vecPop (l ++ [a]) = some (a, l) := by
  simp [vecPop]

@[simp] theorem fnBody_ok (r : ρ) : fnBody (.ok r : Blk Empty ρ ρ) = .ok r := rfl
@[simp] theorem fnBody_ret (r : ρ) : fnBody (.error (.ret r) : Blk Empty ρ ρ) = .ok r := rfl
@[simp] theorem fnBody_err (e : Err) : fnBody (.error (.err e) : Blk Empty ρ ρ) = .error e := rfl
@[simp] theorem fnBody_ret' (r : ρ) : fnBody (ret r : Blk Empty ρ ρ) = .ok r := rfl
@[simp] theorem fnBody_panic : fnBody (panic : Blk Empty ρ ρ) = .error (.fault .panic) := rfl
@[simp] theorem ret_bind (r : ρ) (f : α → Blk β ρ γ) : ((ret r : Blk β ρ α) >>= f) = ret r := rfl
@[simp] theorem brk_bind (b : β) (f : α → Blk β ρ γ) : ((brk b : Blk β ρ α) >>= f) = brk b := rfl
@[simp] theorem panic_bind (f : α → Blk β ρ γ) : ((panic : Blk β ρ α) >>= f) = panic := rfl
theorem ret_def (r : ρ) : (ret r : Blk β ρ α) = .error (.ret r) := rfl
theorem brk_def (b : β) : (brk b : Blk β ρ α) = .error (.brk b) := rfl
theorem panic_def : (panic : Blk β ρ α) = .error (.err (.fault .panic)) := rfl
@[simp] theorem call_ok (a : α) : (call (.ok a) : Blk β ρ α) = .ok a := rfl
@[simp] theorem call_error (e : Err) : (call (.error e : Res α) : Blk β ρ α) = .error (.err e) := rfl

/-- Drive `next` until it answers `None` (at most `fuel` items): the items and the final state. -/
def collect {τ : Type} (next : τ → Res (Option ι × τ)) : Nat → τ → Res (List ι × τ)
  | 0, s => .ok ([], s)
  | fuel + 1, s =>
    match next s with
    | .error e => .error e
    | .ok (none, s') => .ok ([], s')
    | .ok (some x, s') =>
      match collect next fuel s' with
      | .error e => .error e
      | .ok (xs, s'') => .ok (x :: xs, s'')

/-- `for x in self { acc = f acc x }` when the body cannot fail on the items the iterator yields
from states satisfying the invariant `P` (`R`: what the body needs of the accumulator). -/
theorem iterLoop_eq_collect {τ : Type} (next : τ → Res (Option ι × τ)) (body : σ → ι → Blk σ ρ σ)
    (f : σ → ι → σ) (P : τ → Prop) (R : σ → Prop)
    (hnext : ∀ s x s', P s → next s = .ok (some x, s') → P s' ∧ ∀ acc, R acc → body acc x = .ok (f acc x) ∧ R (f acc x)) :
    ∀ (fuel : Nat) (s : τ) (acc : σ), P s → R acc →
      (iterLoop next body fuel s acc : Blk β ρ (σ × τ)) =
        match collect next fuel s with
        | .error e => .error (.err e)
        | .ok (xs, s') => .ok (xs.foldl f acc, s') := by
  intro fuel
  induction fuel with
  | zero => intro s acc _ _; rfl
  | succ fuel ih =>
    intro s acc hP hR
    unfold iterLoop collect
    cases hn : next s with
    | error e => rfl
    | ok r =>
      obtain ⟨o, s'⟩ := r
      cases o with
      | none => rfl
      | some x =>
        obtain ⟨hP', hb⟩ := hnext s x s' hP hn
        obtain ⟨hb1, hb2⟩ := hb acc hR
        simp only [hb1]
        rw [ih s' (f acc x) hP' hb2]
        cases collect next fuel s' with
        | error e => rfl
        | ok r => rfl

theorem map_fst_collect_succ {τ : Type} (next : τ → Res (Option ι × τ)) (fuel : Nat) (s s' : τ) (x : ι)
    (h : next s = .ok (some x, s')) :
    Except.map Prod.fst (collect next (fuel + 1) s) =
      Except.map (fun xs => x :: xs) (Except.map Prod.fst (collect next fuel s')) := by
  rw [collect, h]
  show Except.map Prod.fst (match collect next fuel s' with
    | .error e => .error e
    | .ok (xs, s'') => .ok (x :: xs, s'')) = _
  cases collect next fuel s' <;> rfl

/-- A function that ends with `for x in self { acc = f acc x }` and returns `(acc, self)`, seen
through a projection `k` of the accumulator: `k` of the fold over the items the iterator yields. -/
theorem map_fst_iterLoop {τ : Type} (next : τ → Res (Option ι × τ)) (body : σ → ι → Blk σ (σ × τ) σ)
    (f : σ → ι → σ) (P : τ → Prop) (R : σ → Prop)
    (hnext : ∀ s x s', P s → next s = .ok (some x, s') → P s' ∧ ∀ acc, R acc → body acc x = .ok (f acc x) ∧ R (f acc x))
    (fuel : Nat) (s : τ) (acc : σ) (hP : P s) (hR : R acc) (k : σ → γ) :
    Except.map (fun r => k r.1) (fnBody (iterLoop next body fuel s acc >>= fun t => pure (t.1, t.2))) =
      Except.map (fun xs => k (xs.foldl f acc)) (Except.map Prod.fst (collect next fuel s)) := by
  rw [iterLoop_eq_collect next body f P R hnext fuel s acc hP hR]
  cases collect next fuel s <;> rfl

end GraafVerif.AlgoGen
