import GraafVerif.Spec.Graph
import GraafVerif.Proof.FoldLemmas
/-!
# Graph basics: `Reach`, `ReachFrom`, `ReachIn`, `IsHopDist`, `IsWalk` of `Spec/Graph.lean`

`Reach` is generated by the arcs (`reach_of_arc`, `reach_trans`), grows with them (`reach_mono`, `reach_congr`)
and, in a well-formed digraph, stays in range at either end (`reach_lt`, `reach_src_lt`).
A hop distance exists exactly at the reachable vertices and is unique; levels are reached one arc at a
time; hop distances are `< n` because a shortest walk has one vertex per level, all distinct.
Then walks as vertex lists (`IsWalk`): how they split and join (`isWalk_append`), a reachable vertex is
the end of a duplicate-free one (`reach_simple`), and closed walks read from any of their vertices
(`IsCyc.rotate`).  At the end `Cross2.StronglyConnected` and `Cross2.Acyclic`.  Walks with weights are in
`Proof/WWalk.lean`; `Proof/Cross.lean` translates between `Graph` and `WGraph` (`toGraph`, `unitWeights`).
-/
namespace GraafVerif.OracleProof

theorem reach_of_arc {g : Graph} {u v : Nat} (a : g.A u v) : Reach g u v := Reach.step (Reach.refl u) a

theorem reach_trans {g : Graph} {u v w : Nat} (h₁ : Reach g u v) (h₂ : Reach g v w) : Reach g u w := by
  induction h₂ with
  | refl => exact h₁
  | step _ a ih => exact Reach.step ih a

theorem reach_mono {g g' : Graph} (h : ∀ u v, g.A u v → g'.A u v) {u v : Nat} (r : Reach g u v) :
    Reach g' u v := by
  induction r with
  | refl => exact Reach.refl _
  | step _ a ih => exact Reach.step ih (h _ _ a)

theorem reach_congr {g g' : Graph} (h : g.out = g'.out) {u v : Nat} : Reach g u v ↔ Reach g' u v :=
  ⟨reach_mono fun u v (a : v ∈ g.out u) => show v ∈ g'.out u from h ▸ a,
   reach_mono fun u v (a : v ∈ g'.out u) => show v ∈ g.out u from h ▸ a⟩

theorem reachFrom_single_iff {g : Graph} {u v : Nat} : ReachFrom g [u] v ↔ Reach g u v := by
  constructor
  · rintro ⟨s, hs, hr⟩; cases List.mem_singleton.mp hs; exact hr
  · intro h; exact ⟨u, List.mem_singleton.mpr rfl, h⟩

/-- What holds at `s` and is kept along arcs holds wherever `s` reaches: how "the marked set contains
every reachable vertex" is concluded for a search that has come to rest. -/
theorem reach_closed {g : Graph} {D : Nat → Prop} {s v : Nat} (h : Reach g s v) (hs : D s)
    (hc : ∀ x y, D x → g.A x y → D y) : D v := by
  induction h with
  | refl => exact hs
  | step _ ha ih => exact hc _ _ ih ha

theorem reach_lt {g : Graph} (hg : g.WF) {u v : Nat} (h : Reach g u v) (hu : u < g.n) : v < g.n := by
  cases h with
  | refl => exact hu
  | step _ a => exact (hg _ _ a).2

theorem reachIn_reach {g : Graph} {k s v : Nat} (h : ReachIn g k s v) : Reach g s v := by
  induction h with
  | zero => exact Reach.refl _
  | succ _ ha ih => exact Reach.step ih ha

theorem reach_reachIn {g : Graph} {s v : Nat} (h : Reach g s v) : ∃ k, ReachIn g k s v := by
  induction h with
  | refl => exact ⟨0, ReachIn.zero _⟩
  | step _ ha ih => obtain ⟨k, hk⟩ := ih; exact ⟨k+1, ReachIn.succ hk ha⟩

theorem reachIn_src_lt {g : Graph} (hwf : g.WF) {k s v : Nat} (h : ReachIn g k s v) (hv : v < g.n) :
    s < g.n := by
  induction h with
  | zero => exact hv
  | succ _ ha ih => exact ih (hwf _ _ ha).1

theorem reach_src_lt {g : Graph} (hwf : g.WF) {s v : Nat} (h : Reach g s v) (hv : v < g.n) :
    s < g.n := by
  obtain ⟨k, hk⟩ := reach_reachIn h
  exact reachIn_src_lt hwf hk hv

theorem reachIn_zero {g : Graph} {s v : Nat} (h : ReachIn g 0 s v) : v = s := by
  cases h; rfl

theorem reachIn_succ {g : Graph} {k s v : Nat} (h : ReachIn g (k+1) s v) :
    ∃ u, ReachIn g k s u ∧ g.A u v := by
  cases h with
  | succ h ha => exact ⟨_, h, ha⟩

theorem hop_unique {g : Graph} {S : List Nat} {v d d' : Nat}
    (h : IsHopDist g S v d) (h' : IsHopDist g S v d') : d = d' :=
  least_unique (P := fun k => ∃ s ∈ S, ReachIn g k s v) h h'

theorem hop_src {g : Graph} {S : List Nat} {s : Nat} (hs : s ∈ S) : IsHopDist g S s 0 :=
  ⟨⟨s, hs, ReachIn.zero s⟩, fun _ hk => absurd hk (Nat.not_lt_zero _)⟩

theorem hop_exists {g : Graph} {S : List Nat} {v : Nat} (j : Nat) (h : ∃ s ∈ S, ReachIn g j s v) :
    ∃ j', j' ≤ j ∧ IsHopDist g S v j' :=
  exists_least_le (fun k => ∃ s ∈ S, ReachIn g k s v) j h

theorem hop_reach {g : Graph} {S : List Nat} {v d : Nat} (h : IsHopDist g S v d) : ReachFrom g S v := by
  obtain ⟨⟨s, hs, hr⟩, _⟩ := h
  exact ⟨s, hs, reachIn_reach hr⟩

theorem reach_hop {g : Graph} {S : List Nat} {v : Nat} (h : ReachFrom g S v) : ∃ d, IsHopDist g S v d := by
  obtain ⟨s, hs, hr⟩ := h
  obtain ⟨k, hk⟩ := reach_reachIn hr
  obtain ⟨j, _, hj⟩ := hop_exists k ⟨s, hs, hk⟩
  exact ⟨j, hj⟩

theorem hop_succ_of_arc {g : Graph} {S : List Nat} {u v k : Nat} (hu : IsHopDist g S u k) (ha : g.A u v)
    (hno : ∀ j, j ≤ k → ¬ IsHopDist g S v j) : IsHopDist g S v (k+1) := by
  obtain ⟨⟨s, hs, hr⟩, _⟩ := hu
  refine ⟨⟨s, hs, ReachIn.succ hr ha⟩, ?_⟩
  intro j hj hex
  obtain ⟨j', hj', hd⟩ := hop_exists j hex
  exact hno j' (Nat.le_of_lt_succ (Nat.lt_of_le_of_lt hj' hj)) hd

theorem hop_pred {g : Graph} {S : List Nat} {v k : Nat} (h : IsHopDist g S v (k+1)) :
    ∃ u, IsHopDist g S u k ∧ g.A u v := by
  obtain ⟨⟨s, hs, hr⟩, hmin⟩ := h
  obtain ⟨u, hu, ha⟩ := reachIn_succ hr
  refine ⟨u, ⟨⟨s, hs, hu⟩, ?_⟩, ha⟩
  rintro j hj ⟨s', hs', hr'⟩
  exact hmin (j+1) (Nat.succ_lt_succ hj) ⟨s', hs', ReachIn.succ hr' ha⟩

theorem hop_lt_n {g : Graph} (hwf : g.WF) {S : List Nat} (hS : ∀ s ∈ S, s < g.n) {v d : Nat}
    (h : IsHopDist g S v d) : v < g.n := by
  cases d with
  | zero =>
    obtain ⟨⟨s, hs, hr⟩, _⟩ := h
    rw [reachIn_zero hr]; exact hS s hs
  | succ k =>
    obtain ⟨u, _, ha⟩ := hop_pred h
    exact (hwf u v ha).2

theorem hop_levels {g : Graph} (hwf : g.WF) {S : List Nat} (hS : ∀ s ∈ S, s < g.n) :
    ∀ d v, IsHopDist g S v d →
      ∃ l : List Nat, l.length = d + 1 ∧ l.Nodup ∧ ∀ x ∈ l, x < g.n ∧ ∃ i, i ≤ d ∧ IsHopDist g S x i := by
  intro d
  induction d with
  | zero =>
    intro v h
    exact ⟨[v], rfl, by simp, fun x hx => by
      rw [List.mem_singleton.mp hx]; exact ⟨hop_lt_n hwf hS h, 0, Nat.le_refl _, h⟩⟩
  | succ k ih =>
    intro v h
    obtain ⟨u, hu, _⟩ := hop_pred h
    obtain ⟨l, hlen, hnd, hall⟩ := ih u hu
    refine ⟨v :: l, by simp [hlen], ?_, ?_⟩
    · rw [List.nodup_cons]
      refine ⟨fun hv => ?_, hnd⟩
      obtain ⟨_, i, hi, hd⟩ := hall v hv
      cases hop_unique hd h
      exact Nat.not_succ_le_self k hi
    · intro x hx
      rcases List.mem_cons.mp hx with rfl | hx
      · exact ⟨hop_lt_n hwf hS h, k+1, Nat.le_refl _, h⟩
      · obtain ⟨hlt, i, hi, hd⟩ := hall x hx
        exact ⟨hlt, i, Nat.le_succ_of_le hi, hd⟩

theorem hop_bound {g : Graph} (hwf : g.WF) {S : List Nat} (hS : ∀ s ∈ S, s < g.n) {v d : Nat}
    (h : IsHopDist g S v d) : d < g.n := by
  obtain ⟨l, hlen, hnd, hall⟩ := hop_levels hwf hS d v h
  have := length_le_of_nodup_lt hnd fun x hx => (hall x hx).1
  rwa [hlen] at this

theorem hop_down {g : Graph} {S : List Nat} : ∀ (x : Nat) (v : Nat), IsHopDist g S v x →
    ∀ j, j ≤ x → ∃ u, IsHopDist g S u j := by
  intro x
  induction x with
  | zero =>
    intro v h j hj
    exact Nat.le_zero.mp hj ▸ ⟨v, h⟩
  | succ x ih =>
    intro v h j hj
    rcases Nat.le_or_eq_of_le_succ hj with hle | rfl
    · obtain ⟨u, hu, _⟩ := hop_pred h
      exact ih u hu j hle
    · exact ⟨v, h⟩

/-- The last vertex of `p` has an arc to the first vertex of `q` (nothing to say if one is empty). -/
def Link (g : Graph) (p q : List Nat) : Prop :=
  ∀ x y, p.getLast? = some x → q.head? = some y → g.A x y

/-- Splitting, joining, prefixes, tails and appending one vertex are instances. -/
theorem isWalk_append {g : Graph} {q : List Nat} (p : List Nat) :
    IsWalk g (p ++ q) ↔ IsWalk g p ∧ IsWalk g q ∧ Link g p q := by
  induction p with
  | nil => simp [IsWalk, Link]
  | cons a p ih =>
    cases p with
    | nil => cases q <;> simp [IsWalk, Link, and_comm]
    | cons b p =>
      show g.A a b ∧ IsWalk g (b :: p ++ q) ↔
        (g.A a b ∧ IsWalk g (b :: p)) ∧ IsWalk g q ∧ Link g (a :: b :: p) q
      rw [ih, and_assoc]
      simp only [Link, List.getLast?_cons_cons]

theorem isWalk_snoc {g : Graph} {l : List Nat} {x : Nat} :
    IsWalk g (l ++ [x]) ↔ IsWalk g l ∧ ∀ y, l.getLast? = some y → g.A y x := by
  rw [isWalk_append]
  simp [IsWalk, Link]

theorem isWalk_reach {g : Graph} : ∀ {l : List Nat} {x : Nat}, IsWalk g (x :: l) → ∀ y ∈ l, Reach g x y
  | [], _, _, _, hy => by cases hy
  | z :: l, x, h, y, hy => by
    rcases List.mem_cons.mp hy with rfl | hy'
    · exact reach_of_arc h.1
    · exact reach_trans (reach_of_arc h.1) (isWalk_reach h.2 y hy')

/-- A reachable vertex is the end of a duplicate-free walk: extend the walk arc by arc, and when
the new vertex is already on it cut it back to there. -/
theorem reach_simple {g : Graph} {u v : Nat} (h : Reach g u v) :
    ∃ p, p.head? = some u ∧ p.getLast? = some v ∧ IsWalk g p ∧ p.Nodup := by
  induction h with
  | refl => exact ⟨[u], rfl, rfl, trivial, List.pairwise_singleton _ _⟩
  | @step v w _ a ih =>
    obtain ⟨p, hh, hl, hw, hnd⟩ := ih
    by_cases hm : w ∈ p
    · obtain ⟨q, r, rfl⟩ := List.append_of_mem hm
      obtain ⟨wq, _, lk⟩ := (isWalk_append q).mp hw
      refine ⟨q ++ [w], ?_, List.getLast?_concat, (isWalk_append q).mpr ⟨wq, trivial, lk⟩, ?_⟩
      · rw [List.head?_append] at hh ⊢
        exact hh
      · exact hnd.sublist ((List.singleton_sublist.mpr List.mem_cons_self).append_left q)
    · refine ⟨p ++ [w], ?_, List.getLast?_concat, isWalk_snoc.mpr ⟨hw, fun y hy => ?_⟩, nodup_snoc hnd hm⟩
      · rw [List.head?_append, hh]
        rfl
      · cases hl.symm.trans hy
        exact a

theorem isWalk_imp {g g' : Graph} : ∀ (c : List Nat), IsWalk g c →
    (∀ u ∈ c, ∀ v ∈ c, g.A u v → g'.A u v) → IsWalk g' c
  | [], _, _ => trivial
  | [_], _, _ => trivial
  | a :: b :: t, hw, h =>
    ⟨h a List.mem_cons_self b (List.mem_cons_of_mem _ List.mem_cons_self) hw.1,
      isWalk_imp (b :: t) hw.2 fun u hu v hv => h u (List.mem_cons_of_mem _ hu) v (List.mem_cons_of_mem _ hv)⟩

/-- `c` read cyclically is a closed walk: consecutive vertices are arcs and the last vertex has
an arc back to the first. -/
def IsCyc (g : Graph) (c : List Nat) : Prop := IsWalk g c ∧ Link g c c

theorem link_append {g : Graph} {p q p' q' : List Nat} (hq : q ≠ []) (hp' : p' ≠ []) :
    Link g (p ++ q) (p' ++ q') ↔ Link g q p' := by
  simp only [Link, List.getLast?_append, List.head?_append, List.getLast?_eq_some_getLast hq,
    List.head?_eq_some_head hp', Option.some_or]

theorem IsCyc.rotate {g : Graph} {a q : List Nat} (hq : q ≠ []) (h : IsCyc g (a ++ q)) :
    IsCyc g (q ++ a) := by
  cases a with
  | nil => simpa using h
  | cons a₀ a =>
    have ha : a₀ :: a ≠ [] := List.cons_ne_nil _ _
    obtain ⟨wa, wq, laq⟩ := (isWalk_append _).mp h.1
    exact ⟨(isWalk_append q).mpr ⟨wq, wa, (link_append hq ha).mp h.2⟩, (link_append ha hq).mpr laq⟩

theorem isCyc_cons {g : Graph} {s : Nat} {rest : List Nat} :
    IsCyc g (s :: rest) ↔
      IsWalk g (s :: rest) ∧ g.A ((s :: rest).getLast (List.cons_ne_nil _ _)) s := by
  simp only [IsCyc, Link, List.getLast?_eq_some_getLast (List.cons_ne_nil s rest), List.head?_cons,
    Option.some.injEq]
  exact and_congr_right fun _ => ⟨fun h => h _ _ rfl rfl, fun h _ _ hx hy => hx ▸ hy ▸ h⟩

end GraafVerif.OracleProof

/-! In the namespace of `Proof/Cross2*.lean`: the two properties of a digraph that the statements of
`Thm/Cross2.lean` speak of, and two instances of `isWalk_append` under the names by which `docs/Cross2.md`
lists the walk lemmas of that property. -/
namespace GraafVerif.Cross2
open GraafVerif.OracleProof

def StronglyConnected (g : Graph) : Prop := ∀ u v, u < g.n → v < g.n → Reach g u v

/-- No closed walk: no arc `u → v` with `v` reaching `u` back. -/
def Acyclic (g : Graph) : Prop := ∀ u v, g.A u v → ¬ Reach g v u

theorem isWalk_tail {g : Graph} {x : Nat} {l : List Nat} (h : IsWalk g (x :: l)) : IsWalk g l :=
  ((isWalk_append [x]).mp h).2.1

theorem isWalk_prefix {g : Graph} {p q : List Nat} (h : IsWalk g (p ++ q)) : IsWalk g p :=
  ((isWalk_append p).mp h).1

end GraafVerif.Cross2
