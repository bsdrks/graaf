import GraafVerif.Spec.OracleFast
import GraafVerif.Proof.OracleWDist
/-!
# `wdistFast` (`H03.fastDist`) equals the proved naive oracle `wdistB`

`wdistFast` / `wdistFastPair` / `wdistFastFlag` run the rounds of `wdistB` on an `Array`, with early
exit.  Under `Array.toList` the array steps ARE the list steps (`wfRound_sim`, by `foldl_sim`), and
the early-exit loop returns an iterate that is a fixpoint of the round, hence the `n`-th iterate.
-/
namespace GraafVerif.OracleFastProof
open GraafVerif GraafVerif.OracleFast GraafVerif.OracleProof

/-- An array state seen as a list state. -/
def toL {α : Type} (a : Array (Option α) × Bool) : List (Option α) × Bool := (a.1.toList, a.2)

theorem wfIn_sim (du : Int) (a : Array (Option Int) × Bool) (vw : Nat × Int) :
    toL (wfIn du a vw) = wIn du (toL a) vw := by
  obtain ⟨ar, c⟩ := a
  simp only [wfIn, wIn, toL, ← toList_getD]
  cases ar.toList[vw.1]?.getD none with
  | none => simp
  | some dv =>
    by_cases h : du + vw.2 < dv
    · simp [h]
    · simp [h]

theorem wfOut_sim (g : WGraph) (a : Array (Option Int) × Bool) (u : Nat) :
    toL (wfOut g a u) = wOut g (toL a) u := by
  obtain ⟨ar, c⟩ := a
  simp only [wfOut, wOut, toL, ← toList_getD]
  cases ar.toList[u]?.getD none with
  | none => rfl
  | some du => exact Fold.foldl_sim toL (wfIn du) (wIn du) (wfIn_sim du) _ _

theorem wfRound_sim (g : WGraph) (d : Array (Option Int)) : toL (wfRound g d) = wRound g d.toList :=
  Fold.foldl_sim toL (wfOut g) (wOut g) (wfOut_sim g) _ _

theorem wfInit_toList (g : WGraph) (S : List Nat) : (wfInit g.n S).toList = wInit g S := by
  unfold wfInit wInit
  rw [toList_marks, Array.toList_replicate]

theorem wfGoF_spec {g : WGraph} {S : List Nat} (hR : RelaxRound g S (wRound g)) : ∀ (fuel : Nat) (d : Array (Option Int)),
    (wfGoF g (fuel+1) d).2 = (wRound g (iter (wRound g) fuel d.toList)).2 ∧
    ((wfGoF g (fuel+1) d).2 = false → (wfGoF g (fuel+1) d).1.toList = iter (wRound g) fuel d.toList) := by
  refine exitLoop_spec (abs := Array.toList) (x := fun d => (wfRound g d).1) (go := fun f => wfGoF g (f+1))
    (wfRound_sim g) (fun d h => iter_fix hR (hR.noupd d h).2) (fun d h => ?_) (fun d => ?_) (fun f d => ?_)
  -- a quiet round's output reads as its input; then the two equations of the loop
  · have hs := wfRound_sim g d
    exact (congrArg Prod.fst hs).trans (hR.noupd _ ((congrArg Prod.snd hs).symm.trans h)).1
  · unfold wfGoF
    rcases wfRound g d with ⟨d', _ | _⟩ <;> rfl
  · show wfGoF g (f+1+1) d = _
    rw [wfGoF]
    rcases wfRound g d with ⟨d', _ | _⟩ <;> rfl

theorem wfGoF_fst (g : WGraph) : ∀ (fuel : Nat) (d : Array (Option Int)), (wfGoF g fuel d).1 = wfGo g fuel d := by
  intro fuel
  induction fuel with
  | zero => intro d; rfl
  | succ f ih =>
    intro d
    unfold wfGoF wfGo
    split <;> rename_i d' heq
    · exact ih d'
    · rfl

theorem wdistFastPair_fst (g : WGraph) (S : List Nat) : (wdistFastPair g S).1 = wdistFast g S := by
  unfold wdistFastPair wdistFast
  rw [← wfGoF_fst]

theorem wdistFastFlag_eq {g : WGraph} (hwf : g.WF) (S : List Nat) : wdistFastFlag g S = (wdistB g S).2 := by
  show (wfGoF g (g.n + 1) (wfInit g.n S)).2 = _
  rw [(wfGoF_spec (wRound_relax hwf S) g.n _).1, wfInit_toList, wdistB_eq]

theorem wdistFast_eq {g : WGraph} (hwf : g.WF) (S : List Nat) (hf : (wdistB g S).2 = false) :
    wdistFast g S = (wdistB g S).1 := by
  rw [← wdistFastFlag_eq hwf S] at hf
  rw [← wdistFastPair_fst, wdistB_eq, ← wfInit_toList]
  exact (wfGoF_spec (wRound_relax hwf S) g.n _).2 hf

end GraafVerif.OracleFastProof
