import GraafVerif.Proof.Conv
import GraafVerif.Proof.GenAddArcMX
import GraafVerif.Proof.GenAddArcMap
import GraafVerif.Proof.GenSets
/-!
# C16: `From<rows>` and `From<arcs>` — exactly the given rows / arcs, or a panic
-/
namespace GraafVerif.Conv
open GraafVerif.Repr GraafVerif.Gen

/-- the rows describe a digraph: at least one row, no self-loop, every head `< number of rows` -/
def RowsValid (rows : List (List Nat)) : Prop :=
  rows ≠ [] ∧ ∀ (u : Nat) (row : List Nat), rows[u]? = some row → ∀ v ∈ row, v ≠ u ∧ v < rows.length

theorem arcsValid_iff {n : Nat} {arcs : List (Nat × Nat)} :
    arcsValid n arcs = true ↔ ∀ a ∈ arcs, a.2 ≠ a.1 ∧ a.2 < n := by
  rw [arcsValid, List.all_eq_true]
  exact forall₂_congr fun a _ => by rw [Bool.and_eq_true, bne_iff_ne, decide_eq_true_eq, ne_comm]

/-- All three `From<rows>` bodies: "collect into `d`, assert `order > 0`, validate every arc". -/
theorem collected_spec {T : Type} {P : Prop} {o : Nat} {b : Bool} (d : T) (hP : P ↔ o ≠ 0 ∧ b = true) :
    (P → (if o = 0 then none else if b = true then some d else none) = some d) ∧
    (¬ P → (if o = 0 then none else if b = true then some d else none) = none) := by
  constructor
  · intro h
    rw [if_neg (hP.mp h).1, if_pos (hP.mp h).2]
  · intro h
    by_cases h0 : o = 0
    · rw [if_pos h0]
    · rw [if_neg h0, if_neg fun hb => h (hP.mpr ⟨h0, hb⟩)]

theorem forall_flatRows {β : Type} {rows : List (List β)} {Q : Nat → β → Prop} :
    (∀ a ∈ flatRows 0 rows, Q a.1 a.2) ↔ ∀ u row, rows[u]? = some row → ∀ b ∈ row, Q u b :=
  ⟨fun h u row hrow b hb => h (u, b) (mem_flatRows_zero.mpr ⟨row, hrow, hb⟩),
   fun h a ha => let ⟨row, hrow, hb⟩ := mem_flatRows_zero.mp (show (a.1, a.2) ∈ flatRows 0 rows from ha)
     h a.1 row hrow a.2 hb⟩

theorem AL.rowsValid_iff {rows : List (List Nat)} :
    RowsValid rows ↔ (⟨rows⟩ : AdjList).order ≠ 0 ∧
      arcsValid (⟨rows⟩ : AdjList).order (⟨rows⟩ : AdjList).arcs = true := by
  rw [arcsValid_iff]
  exact and_congr (not_congr List.length_eq_zero_iff.symm) forall_flatRows.symm

/-- `AdjacencyList::from(rows)`: exactly the given rows when they are valid, a panic otherwise. -/
theorem AL.fromRows_spec (rows : List (List Nat)) :
    (RowsValid rows → AL.fromRows rows = some ⟨rows⟩) ∧ (¬ RowsValid rows → AL.fromRows rows = none) :=
  collected_spec _ AL.rowsValid_iff

/-- … and the result is a well-formed digraph (the rows are `BTreeSet`s: strictly ascending). -/
theorem AL.fromRows_wf {rows : List (List Nat)} (hs : ∀ row ∈ rows, SortedS row) (hv : RowsValid rows) :
    (⟨rows⟩ : AdjList).WF :=
  rowsWF_of_valid (key := id) hv.1 hv.2 hs

def RowsValidW (rows : List (List (Nat × Int))) : Prop :=
  rows ≠ [] ∧ ∀ (u : Nat) (row : List (Nat × Int)), rows[u]? = some row → ∀ p ∈ row, p.1 ≠ u ∧ p.1 < rows.length

theorem WL.rowsValid_iff {rows : List (List (Nat × Int))} :
    RowsValidW rows ↔ (⟨rows⟩ : AdjListW).order ≠ 0 ∧
      arcsValid (⟨rows⟩ : AdjListW).order (⟨rows⟩ : AdjListW).arcs = true := by
  rw [arcsValid_iff, AdjListW.arcs, List.forall_mem_map]
  exact and_congr (not_congr List.length_eq_zero_iff.symm)
    (forall_flatRows (Q := fun u (p : Nat × Int) => p.1 ≠ u ∧ p.1 < rows.length)).symm

theorem WL.fromRows_spec (rows : List (List (Nat × Int))) :
    (RowsValidW rows → WL.fromRows rows = some ⟨rows⟩) ∧ (¬ RowsValidW rows → WL.fromRows rows = none) :=
  collected_spec _ WL.rowsValid_iff

theorem WL.fromRows_wf {rows : List (List (Nat × Int))} (hs : ∀ row ∈ rows, SortedK row)
    (hv : RowsValidW rows) : (⟨rows⟩ : AdjListW).WF :=
  rowsWF_of_valid (key := Prod.fst) hv.1 hv.2 hs

/-! ## `AdjacencyMap::from(rows)`: keys `0..len` by `enumerate()` -/

/-- `rows.enumerate()` as key/row pairs -/
def enumRows (rows : List (List Nat)) : List (Nat × List Nat) := rows.zipIdx.map (fun p => (p.2, p.1))

theorem mem_enumRows {rows : List (List Nat)} {u : Nat} {row : List Nat} :
    (u, row) ∈ enumRows rows ↔ rows[u]? = some row := by
  rw [enumRows, List.mem_map]
  exact ⟨fun ⟨_, hm, he⟩ => by cases he; exact List.mem_zipIdx_iff_getElem?.mp hm,
    fun h => ⟨(row, u), List.mem_zipIdx_iff_getElem?.mpr h, rfl⟩⟩

theorem keys_enumRows (rows : List (List Nat)) : (enumRows rows).map (·.1) = List.range rows.length := by
  rw [enumRows, List.map_map]
  exact List.zipIdx_map_snd 0 rows ▸ List.range_eq_range' ▸ rfl

theorem sortedK_enumRows (rows : List (List Nat)) : SortedK (enumRows rows) :=
  sortedK_of_keys (keys_enumRows rows)

theorem length_enumRows (rows : List (List Nat)) : (enumRows rows).length = rows.length := by
  rw [enumRows, List.length_map, List.length_zipIdx]

theorem mget_enumRows (rows : List (List Nat)) (u : Nat) : mget u (enumRows rows) = rows[u]? :=
  Option.ext fun _ => (mget_eq_some_iff (sortedK_enumRows rows)).trans mem_enumRows

theorem mget_enumRows_isSome (rows : List (List Nat)) (v : Nat) :
    (mget v (enumRows rows)).isSome ↔ v < rows.length := by
  rw [mget_isSome_iff (sortedK_enumRows rows), keys_enumRows, List.mem_range]

theorem AM.forall_arcs {d : AdjMap} {Q : Nat → Nat → Prop} :
    (∀ a ∈ d.arcs, Q a.1 a.2) ↔ ∀ u row, (u, row) ∈ d.rows → ∀ v ∈ row, Q u v :=
  ⟨fun h u row hrow v hv => h (u, v) (mem_rowArcs.mpr ⟨row, hrow, hv⟩),
   fun h a ha => let ⟨row, hrow, hv⟩ := mem_rowArcs.mp (show (a.1, a.2) ∈ d.arcs from ha)
     h a.1 row hrow a.2 hv⟩

theorem AM.rowsValid_iff {rows : List (List Nat)} :
    RowsValid rows ↔ (⟨enumRows rows⟩ : AdjMap).order ≠ 0 ∧
      (⟨enumRows rows⟩ : AdjMap).arcs.all
        (fun a => a.1 != a.2 && (mget a.2 (⟨enumRows rows⟩ : AdjMap).rows).isSome) = true := by
  have hlen : (⟨enumRows rows⟩ : AdjMap).order = rows.length := length_enumRows rows
  rw [List.all_eq_true,
    AM.forall_arcs (Q := fun u v => (u != v && (mget v (enumRows rows)).isSome) = true), hlen]
  refine and_congr (not_congr List.length_eq_zero_iff.symm) (forall₂_congr fun u row => ?_)
  rw [mem_enumRows]
  exact imp_congr_right fun _ => forall₂_congr fun v _ => by
    rw [Bool.and_eq_true, bne_iff_ne, mget_enumRows_isSome, ne_comm]

/-- `AdjacencyMap::from(rows)`: keys `0..len` with exactly the given rows, or a panic. -/
theorem AM.fromRows_spec (rows : List (List Nat)) :
    (RowsValid rows → AM.fromRows rows = some ⟨enumRows rows⟩) ∧
    (¬ RowsValid rows → AM.fromRows rows = none) :=
  collected_spec _ AM.rowsValid_iff

theorem AM.fromRows_wf {rows : List (List Nat)} (hs : ∀ row ∈ rows, SortedS row) (hv : RowsValid rows) :
    (⟨enumRows rows⟩ : AdjMap).WF ∧ Gen.AM.Contiguous ⟨enumRows rows⟩ := by
  refine ⟨⟨sortedK_enumRows rows, fun u row hrow => ?_⟩, ?_⟩
  · have hr := mem_enumRows.mp hrow
    exact ⟨hs row (List.mem_of_getElem? hr), fun v hvr =>
      ⟨(hv.2 u row hr v hvr).1, (mget_enumRows_isSome rows v).mpr (hv.2 u row hr v hvr).2⟩⟩
  · show (enumRows rows).map (·.1) = List.range (enumRows rows).length
    rw [keys_enumRows, length_enumRows]

/-! ## arcs: `order = largest id + 1` -/

theorem le_maxId {arcs : List (Nat × Nat)} {a : Nat × Nat} (ha : a ∈ arcs) :
    a.1 ≤ maxId arcs ∧ a.2 ≤ maxId arcs :=
  (Fold.foldl_establish (fun _ => True) (fun (b : Nat × Nat) o => b.1 ≤ o ∧ b.2 ≤ o) _ arcs
    (fun o b _ _ =>
      have hm : o ≤ max (max o b.1) b.2 := Nat.le_trans (Nat.le_max_left o b.1) (Nat.le_max_left _ b.2)
      ⟨trivial, ⟨Nat.le_trans (Nat.le_max_right o b.1) (Nat.le_max_left _ b.2), Nat.le_max_right _ b.2⟩,
        fun _ hc => ⟨Nat.le_trans hc.1 hm, Nat.le_trans hc.2 hm⟩⟩) 0 trivial).2 a ha

theorem max3_attained (o a b : Nat) :
    max (max o a) b = o ∨ a = max (max o a) b ∨ b = max (max o a) b := by
  rcases Nat.le_total (max o a) b with h | h
  · exact .inr (.inr (Nat.max_eq_right h).symm)
  · rw [Nat.max_eq_left h]
    rcases Nat.le_total o a with h' | h'
    · exact .inr (.inl (Nat.max_eq_right h').symm)
    · exact .inl (Nat.max_eq_left h')

theorem maxId_attained {arcs : List (Nat × Nat)} (hne : arcs ≠ []) :
    ∃ a ∈ arcs, a.1 = maxId arcs ∨ a.2 = maxId arcs := by
  have h : maxId arcs = 0 ∨ ∃ a ∈ arcs, a.1 = maxId arcs ∨ a.2 = maxId arcs :=
    Fold.foldl_inv (fun o => o = 0 ∨ ∃ a ∈ arcs, a.1 = o ∨ a.2 = o)
      (fun o b hb ho => (max3_attained o b.1 b.2).elim (fun e => e.symm ▸ ho) fun h => .inr ⟨b, hb, h⟩) 0 (.inl rfl)
  refine h.elim (fun h0 => ?_) id
  -- the maximum is 0: every id is 0, in particular those of the first arc
  obtain ⟨x, xs, rfl⟩ := List.exists_cons_of_ne_nil hne
  exact ⟨x, List.mem_cons_self, .inl (Nat.le_antisymm (le_maxId List.mem_cons_self).1 (h0 ▸ Nat.zero_le _))⟩

theorem noLoop_iff {arcs : List (Nat × Nat)} :
    arcs.any (fun a => a.1 == a.2) = false ↔ ∀ a ∈ arcs, a.1 ≠ a.2 := by
  simp only [List.any_eq_false, beq_iff_eq, ne_eq]

theorem arcsValid_maxId {arcs : List (Nat × Nat)} (hnl : ∀ a ∈ arcs, a.1 ≠ a.2) : ArcsValid (maxId arcs + 1) arcs :=
  fun a ha => ⟨hnl a ha, Nat.lt_succ_of_le (le_maxId ha).1, Nat.lt_succ_of_le (le_maxId ha).2⟩

/-- `AdjacencyMatrix::from(arcs)`: non-empty, loop-free arcs give order `max id + 1` and
exactly those arcs (duplicates collapse: the statement is about membership). -/
theorem MX.fromArcs_spec {arcs : List (Nat × Nat)} (hne : arcs ≠ []) (hnl : ∀ a ∈ arcs, a.1 ≠ a.2)
    (hfit : (maxId arcs + 1) * (maxId arcs + 1) < 2 ^ 64) :
    ∃ d, MX.fromArcs arcs = some d ∧ d.WF ∧ d.order = maxId arcs + 1 ∧
      ∀ u v, (u, v) ∈ d.arcs ↔ (u, v) ∈ arcs := by
  have hempty : arcs.isEmpty = false := by
    cases arcs with
    | nil => exact absurd rfl hne
    | cons _ _ => rfl
  rw [MX.fromArcs, noLoop_iff.mpr hnl, hempty]
  exact Gen.MX.repr.yields_build (Nat.le_add_left 1 _) hfit (arcsValid_maxId hnl)

/-- `EdgeList::from(arcs)`: loop-free arcs (possibly none) give order `max id + 1` (1 for no arc)
and exactly those arcs. -/
theorem EL.fromArcs_spec {arcs : List (Nat × Nat)} (hnl : ∀ a ∈ arcs, a.1 ≠ a.2) :
    ∃ d, EL.fromArcs arcs = some d ∧ d.WF ∧ d.order = maxId arcs + 1 ∧
      ∀ u v, (u, v) ∈ d.arcs ↔ (u, v) ∈ arcs := by
  have hmem : ∀ a, a ∈ arcs.foldl (fun s a => pinsert a s) [] ↔ a ∈ arcs := fun _ =>
    mem_foldl_insert_nil mem_pinsert arcs
  refine ⟨⟨arcs.foldl (fun s a => pinsert a s) [], maxId arcs + 1⟩, ?_,
    ⟨Nat.succ_pos _, sorted_foldl_pinsert arcs [] List.Pairwise.nil, fun a ha => ?_⟩, rfl, fun u v => hmem (u, v)⟩
  · rw [EL.fromArcs, noLoop_iff.mpr hnl]; rfl
  · have ha' := (hmem a).mp ha
    exact ⟨Nat.lt_succ_of_le (le_maxId ha').1, Nat.lt_succ_of_le (le_maxId ha').2, hnl a ha'⟩

end GraafVerif.Conv
