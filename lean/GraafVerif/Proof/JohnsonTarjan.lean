import GraafVerif.Model.JohnsonTarjan
import GraafVerif.Proof.SccBasics
import GraafVerif.Proof.SortedInserts
/-!
# The compact Tarjan of `Model/JohnsonTarjan.lean` on its input shapes

`insertAsc` is `Repr.sinsert` (`Proof/SortedInserts.lean`); `popUntil`, `connectStep` and `connect`
on the shapes of their arguments.  What the model computes is said in `Proof/JohnsonTarjanSim.lean`.

An `AM` is read as a digraph in two ways: `a.vg`, the `VGraph` of C09 with the same two fields, and `a.gr`, the
`Graph` that `IsWalk` and `closingPaths` speak of; `a.gr` is `a.vg.toGraph` (`AM.vreach_vg`).  Of the input
`AM.ofGraph g` they are `Cross2.vgOf g` and `g` (`AM.vg_ofGraph`, `AM.gr_ofGraph`).
-/
namespace GraafVerif.Johnson
open GraafVerif

def Asc (l : List Nat) : Prop := List.Pairwise (· < ·) l

/-- `Asc` is the `SortedS` of `Model/Repr.lean`: the lemmas of `Proof/ReprSorted.lean` apply. -/
theorem asc_iff_sortedS (l : List Nat) : Asc l ↔ Repr.SortedS l := Iff.rfl

/-- The C09 digraph that `a` denotes; `a.vg.Closed`: every out-neighbour of a vertex is a vertex. -/
def AM.vg (a : AM) : Tarjan.VGraph := ⟨a.verts, a.out⟩

def AM.gr (a : AM) : Graph := ⟨a.verts.length, a.out⟩

/-- `a.gr` is `a.vg.toGraph`, so reachability in `a.vg` is reachability in `a.gr`. -/
theorem AM.vreach_vg {a : AM} {u v : Nat} : Tarjan.VReach a.vg u v ↔ Reach a.gr u v := Iff.rfl

/-- The input digraph as Tarjan sees it: the `vgOf_*` lemmas of `Proof/SccBasics.lean` speak of it. -/
theorem AM.vg_ofGraph (g : Graph) : (AM.ofGraph g).vg = Cross2.vgOf g := rfl

theorem AM.gr_ofGraph (g : Graph) : (AM.ofGraph g).gr = g :=
  congrArg (Graph.mk · g.out) List.length_range

theorem asc_head_le {l : List Nat} (h : Asc l) {a : Nat} (ha : l.head? = some a) : ∀ x ∈ l, a ≤ x := by
  cases l with
  | nil => simp at ha
  | cons y ys =>
    simp at ha; subst ha
    intro x hx
    rcases List.mem_cons.1 hx with rfl | hx
    · exact Nat.le_refl _
    · exact Nat.le_of_lt ((List.pairwise_cons.1 h).1 x hx)

theorem popUntil_cons (u v : Nat) (rest on comp : List Nat) :
    popUntil u (v :: rest) on comp =
      if u = v then (insertAsc v comp, rest, on.filter (· != v))
      else popUntil u rest (on.filter (· != v)) (insertAsc v comp) := rfl

theorem connectStep_onStack {rec : TState → Nat → TState} {u v w : Nat} {st : TState}
    (hi : st.index.lookup v = some w) (hon : st.onStack.contains v = true) :
    connectStep rec u st v = { st with low := (u, min (st.lowOf u) w) :: st.low } := by
  simp only [connectStep, hi, hon, if_true]

theorem connectStep_offStack {rec : TState → Nat → TState} {u v w : Nat} {st : TState}
    (hi : st.index.lookup v = some w) (hon : st.onStack.contains v = false) :
    connectStep rec u st v = st := by
  simp only [connectStep, hi, hon, Bool.false_eq_true, if_false]

theorem connectStep_fresh {rec : TState → Nat → TState} {u v : Nat} {st : TState}
    (hi : st.index.lookup v = none) :
    connectStep rec u st v =
      { rec st v with low := (u, min ((rec st v).lowOf u) ((rec st v).lowOf v)) :: (rec st v).low } := by
  simp only [connectStep, hi]

/-- The state after the first five statements of `connect(u)`. -/
def TState.push (st : TState) (u : Nat) : TState :=
  { st with index := (u, st.i) :: st.index, low := (u, st.i) :: st.low,
            onStack := u :: st.onStack, stack := u :: st.stack, i := st.i + 1 }

theorem connect_succ (a : AM) (fuel : Nat) (st : TState) (u : Nat) :
    connect a (fuel+1) st u =
      connectFinish u ((a.out u).foldl (connectStep (connect a fuel) u) (st.push u)) := rfl

theorem lookup_cons_eq (x k v : Nat) (l : List (Nat × Nat)) :
    List.lookup x ((k, v) :: l) = if x = k then some v else List.lookup x l := by
  by_cases h : x = k
  · subst h; simp
  · have : (x == k) = false := by simp [h]
    simp [List.lookup_cons, this, h]

end GraafVerif.Johnson
