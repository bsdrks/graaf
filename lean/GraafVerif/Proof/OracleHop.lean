import GraafVerif.Proof.OracleFold
import GraafVerif.Proof.OracleHopDist
import GraafVerif.Proof.WWalk
/-!
# The naive hop-distance oracle `hopDistB` is exact

Round `k` of `hopDistB` is a level expansion (`expand`): every still unlabelled out-neighbour of a vertex
labelled `k` gets `k+1`, nothing else changes.  The fast oracle `hopDistFastA` runs the same expansion
over an explicit frontier list (`Proof/OracleFastHop.lean`), so the invariant `HInv` and what it
delivers after the last level (`HDone`) serve both.  For `g.WF` and sources in range.
-/
namespace GraafVerif.OracleProof

def hIn (k : Nat) (a : List (Option Nat)) (v : Nat) : List (Option Nat) :=
  if (lk a v).isNone then a.set v (some (k+1)) else a

def expand (g : Graph) (k : Nat) (front : List Nat) (d : List (Option Nat)) : List (Option Nat) :=
  front.foldl (fun acc u => (g.out u).foldl (hIn k) acc) d

theorem hIn_length (k : Nat) (a : List (Option Nat)) (v : Nat) : (hIn k a v).length = a.length := by
  unfold hIn
  split
  · exact List.length_set
  · rfl

theorem lk_hIn (k : Nat) (a : List (Option Nat)) (b v : Nat) :
    lk (hIn k a b) v = if lk a v = none ∧ b = v ∧ v < a.length then some (k+1) else lk a v := by
  unfold hIn
  by_cases hb : b = v
  · subst hb
    cases h : lk a b with
    | none => simp [lk_set, h]
    | some x => simp [h]
  · have hne : ¬ (lk a v = none ∧ b = v ∧ v < a.length) := fun h => hb h.2.1
    rw [if_neg hne]
    split
    · rw [lk_set, if_neg (fun h => hb h.1)]
    · rfl

/-- First write wins. -/
theorem lk_foldl_mark {α β : Type} (c : α) (n : Nat) (f : List (Option α) → β → List (Option α))
    (P : β → Nat → Prop) [∀ b v, Decidable (P b v)]
    (hlen : ∀ a b, (f a b).length = a.length)
    (hf : ∀ a b v, a.length = n → lk (f a b) v = if lk a v = none ∧ P b v then some c else lk a v) :
    ∀ (l : List β) (a : List (Option α)) (v : Nat), a.length = n →
      lk (l.foldl f a) v = if lk a v = none ∧ ∃ b ∈ l, P b v then some c else lk a v := by
  intro l
  induction l with
  | nil => intro a v _; simp
  | cons b rest ih =>
    intro a v ha
    rw [List.foldl_cons, ih _ v (by rw [hlen, ha]), hf a b v ha]
    cases h0 : lk a v with
    | some y => simp
    | none =>
      by_cases hb : P b v
      · simp [hb]
      · simp [hb]

theorem hRow_length (k : Nat) (row : List Nat) (a : List (Option Nat)) : (row.foldl (hIn k) a).length = a.length :=
  Fold.foldl_inv (fun b : List (Option Nat) => b.length = a.length)
    (fun b v _ hb => (hIn_length k b v).trans hb) a rfl

theorem expand_length (g : Graph) (k : Nat) (front : List Nat) (d : List (Option Nat)) :
    (expand g k front d).length = d.length :=
  Fold.foldl_inv (fun a : List (Option Nat) => a.length = d.length)
    (fun a u _ h => (hRow_length k (g.out u) a).trans h) d rfl

theorem lk_hRow (k n : Nat) (row : List Nat) (a : List (Option Nat)) (v : Nat) (ha : a.length = n) :
    lk (row.foldl (hIn k) a) v = if lk a v = none ∧ (v ∈ row ∧ v < n) then some (k+1) else lk a v := by
  rw [lk_foldl_mark (k+1) n (hIn k) (fun b v => b = v ∧ v < n) (hIn_length k)
    (fun a b v ha => by rw [lk_hIn, ha]) row a v ha]
  have e : (∃ b ∈ row, b = v ∧ v < n) ↔ (v ∈ row ∧ v < n) := by
    constructor
    · rintro ⟨b, hb, rfl, hv⟩; exact ⟨hb, hv⟩
    · rintro ⟨hm, hv⟩; exact ⟨v, hm, rfl, hv⟩
  simp only [e]

theorem lk_expand (g : Graph) (k : Nat) (front : List Nat) (d : List (Option Nat)) (v : Nat) :
    lk (expand g k front d) v
      = if lk d v = none ∧ ∃ u ∈ front, v ∈ g.out u ∧ v < d.length then some (k+1) else lk d v :=
  lk_foldl_mark (k+1) d.length _ (fun u v => v ∈ g.out u ∧ v < d.length)
    (fun a u => hRow_length k (g.out u) a)
    (fun a u v ha => lk_hRow k d.length (g.out u) a v ha) front d v rfl

/-- Before level `k`: labels are hop distances, every vertex of hop distance `≤ k` is labelled. -/
structure HInv (g : Graph) (S : List Nat) (k : Nat) (d : List (Option Nat)) : Prop where
  len : d.length = g.n
  sound : ∀ v x, lk d v = some x → IsHopDist g S v x
  compl : ∀ v x, x ≤ k → IsHopDist g S v x → lk d v = some x

theorem hInv_expand {g : Graph} (hwf : g.WF) {S : List Nat} {k : Nat} {front : List Nat}
    {d : List (Option Nat)} (h : HInv g S k d) (hfront : ∀ u, u ∈ front ↔ lk d u = some k) :
    HInv g S (k+1) (expand g k front d) := by
  refine ⟨by rw [expand_length, h.len], ?_, ?_⟩
  · intro v x hx
    rw [lk_expand] at hx
    split at hx
    · rename_i hc
      obtain ⟨hnone, u, hu, ha, _⟩ := hc
      cases hx
      refine hop_succ_of_arc (h.sound u k ((hfront u).mp hu)) ha ?_
      intro j hj hd
      rw [h.compl v j hj hd] at hnone; cases hnone
    · exact h.sound v x hx
  · intro v x hx hd
    rw [lk_expand]
    cases hv : lk d v with
    | some y => cases hop_unique (h.sound v y hv) hd; simp
    | none =>
      have hxk : x = k + 1 := Nat.le_antisymm hx (Nat.le_of_not_lt fun hlt => by
        rw [h.compl v x (Nat.le_of_lt_succ hlt) hd] at hv; cases hv)
      subst hxk
      obtain ⟨u, hu, ha⟩ := hop_pred hd
      exact if_pos ⟨rfl, u, (hfront u).mpr (h.compl u k (Nat.le_refl _) hu), ha, h.len ▸ (hwf u v ha).2⟩

/-- What both hop-distance oracles deliver. -/
structure HDone (g : Graph) (S : List Nat) (d : List (Option Nat)) : Prop where
  len : d.length = g.n
  sound : ∀ v x, lk d v = some x → IsHopDist g S v x
  compl : ∀ v x, IsHopDist g S v x → lk d v = some x

theorem HInv.done {g : Graph} (hwf : g.WF) {S : List Nat} (hS : ∀ s ∈ S, s < g.n) {k : Nat}
    {d : List (Option Nat)} (h : HInv g S k d) (hk : g.n ≤ k + 1) : HDone g S d :=
  ⟨h.len, h.sound, fun v x hd => h.compl v x (Nat.le_of_lt_succ (Nat.lt_of_lt_of_le (hop_bound hwf hS hd) hk)) hd⟩

theorem HInv.done_of_empty {g : Graph} {S : List Nat} {k : Nat} {d : List (Option Nat)} (h : HInv g S k d)
    (hk : ∀ u, lk d u ≠ some k) : HDone g S d := by
  refine ⟨h.len, h.sound, fun v x hd => ?_⟩
  rcases Nat.lt_or_ge x k with hlt | hge
  · exact h.compl v x (Nat.le_of_lt hlt) hd
  · obtain ⟨u, hu⟩ := hop_down x v hd k hge
    exact absurd (h.compl u k (Nat.le_refl _) hu) (hk u)

theorem HDone.none_iff {g : Graph} {S : List Nat} {d : List (Option Nat)} (h : HDone g S d) (v : Nat) :
    lk d v = none ↔ ¬ ReachFrom g S v := by
  constructor
  · intro hn hr
    obtain ⟨x, hx⟩ := reach_hop hr
    rw [h.compl v x hx] at hn; cases hn
  · intro hnr
    cases hx : lk d v with
    | none => rfl
    | some x => exact absurd (hop_reach (h.sound v x hx)) hnr

theorem HDone.tab {g : Graph} {S : List Nat} {d : List (Option Nat)} (h : HDone g S d) :
    Tab g.n (IsHopDist g S) d :=
  ⟨h.len, fun v _ x => ⟨h.sound v x, h.compl v x⟩⟩

theorem HDone.unique {g : Graph} {S : List Nat} {d d' : List (Option Nat)} (h : HDone g S d)
    (h' : HDone g S d') : d = d' :=
  h.tab.unique h'.tab

def hInit (g : Graph) (S : List Nat) : List (Option Nat) :=
  S.foldl (fun d s => d.set s (some 0)) (List.replicate g.n none)

def level (n : Nat) (d : List (Option Nat)) (k : Nat) : List Nat :=
  (List.range n).filter (fun u => d[u]?.getD none == some k)

theorem hopDistB_eq (g : Graph) (S : List Nat) :
    hopDistB g S = (List.range g.n).foldl (fun d k => expand g k (level g.n d k) d) (hInit g S) := by
  unfold hopDistB expand level
  simp only [List.foldl_filter]
  rfl

theorem mem_level {n : Nat} {d : List (Option Nat)} (hlen : d.length = n) (k u : Nat) :
    u ∈ level n d k ↔ lk d u = some k := by
  unfold level
  rw [List.mem_filter, List.mem_range, beq_iff_eq]
  exact ⟨fun h => h.2, fun h => ⟨hlen ▸ lk_lt h, h⟩⟩

theorem hInit_length (g : Graph) (S : List Nat) : (hInit g S).length = g.n := by
  unfold hInit
  rw [Vec.length_foldl_set, List.length_replicate]

theorem hInv_init (g : Graph) {S : List Nat} (hS : ∀ s ∈ S, s < g.n) : HInv g S 0 (hInit g S) := by
  refine ⟨hInit_length g S, ?_, ?_⟩
  · intro v x hx
    obtain ⟨rfl, hv, _⟩ := (lk_marks_some 0 g.n v S x).mp hx
    exact hop_src hv
  · intro v x hx hd
    cases Nat.le_zero.mp hx
    obtain ⟨⟨s, hs, hr⟩, _⟩ := hd
    cases reachIn_zero hr
    exact (lk_marks_some 0 g.n v S 0).mpr ⟨rfl, hs, hS v hs⟩

theorem hInv_rounds {g : Graph} (hwf : g.WF) {S : List Nat} (hS : ∀ s ∈ S, s < g.n) :
    ∀ m, HInv g S m ((List.range m).foldl (fun d k => expand g k (level g.n d k) d) (hInit g S)) := by
  intro m
  induction m with
  | zero => exact hInv_init g hS
  | succ m ih =>
    rw [List.range_succ, List.foldl_append]
    exact hInv_expand hwf ih (mem_level ih.len m)

theorem hopDistB_done {g : Graph} (hwf : g.WF) {S : List Nat} (hS : ∀ s ∈ S, s < g.n) :
    HDone g S (hopDistB g S) := by
  rw [hopDistB_eq]; exact (hInv_rounds hwf hS g.n).done hwf hS (Nat.le_succ _)

theorem hopDistB_spec {g : Graph} (hwf : g.WF) {S : List Nat} (hS : ∀ s ∈ S, s < g.n) (v d : Nat) :
    (hopDistB g S)[v]?.getD none = some d ↔ IsHopDist g S v d :=
  ⟨(hopDistB_done hwf hS).sound v d, (hopDistB_done hwf hS).compl v d⟩

theorem hopDistB_none {g : Graph} (hwf : g.WF) {S : List Nat} (hS : ∀ s ∈ S, s < g.n) (v : Nat) :
    (hopDistB g S)[v]?.getD none = none ↔ ¬ ReachFrom g S v :=
  (hopDistB_done hwf hS).none_iff v

theorem hopDistB_length (g : Graph) (S : List Nat) : (hopDistB g S).length = g.n := by
  rw [hopDistB_eq]
  exact Fold.foldl_inv (fun d : List (Option Nat) => d.length = g.n)
    (fun d k _ h => (expand_length g k _ d).trans h) _ (hInit_length g S)

end GraafVerif.OracleProof
