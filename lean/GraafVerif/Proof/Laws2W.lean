import GraafVerif.Thm.C20
/-!
# Laws2 — algebraic laws over mutation HISTORIES (C01 / C20), incl. `add_arc_weighted` overwrite

The equations between spec-level histories (`spec_add_add`, `spec_add_comm`, `spec_rem_rem` of `Proof/ReprCmp.lean`:
re-adding an arc with another weight = adding it once with the last weight; adds of different arcs commute) lifted to
the models (`AdjacencyListWeighted`, and the unweighted shadows `AdjacencyList`, `EdgeList`) through C20's `Converges`.
-/
namespace GraafVerif.Laws2
open GraafVerif.Repr GraafVerif.ReprSpec

theorem adjListW_add_overwrite (d : AdjListW) (h : d.WF) (u v : Nat) (w1 w2 : Int) :
    (run AdjListW.step d [.add u v w1, .add u v w2]).1 = (run AdjListW.step d [.add u v w2]).1 :=
  C20.adjListW_converges d d h h _ _ (spec_add_add _ u v w1 w2)

theorem adjListW_overwrite_reads (d : AdjListW) (h : d.WF) (u v : Nat) (w1 w2 : Int)
    (hok : rejected .fixed d.abs u v = false) :
    ((run AdjListW.step d [.add u v w1, .add u v w2]).1).arcWeight u v = some w2 ∧
    ((run AdjListW.step d [.add u v w1, .add u v w2]).1).WF := by
  have hr := AdjListW.run_refines [.add u v w1, .add u v w2] d h
  refine ⟨?_, hr.1⟩
  show ((run AdjListW.step d [.add u v w1, .add u v w2]).1).abs.W u v = some w2
  rw [hr.2.1, spec_add_add]
  show (specStep .fixed d.abs (.add u v w2)).1.W u v = some w2
  rw [specStep_add_ok w2 hok]
  exact if_pos ⟨rfl, rfl⟩

theorem adjListW_add_comm (d : AdjListW) (h : d.WF) (u v x y : Nat) (w w' : Int) (hne : ¬ (u = x ∧ v = y)) :
    (run AdjListW.step d [.add u v w, .add x y w']).1 = (run AdjListW.step d [.add x y w', .add u v w]).1 :=
  C20.adjListW_converges d d h h _ _ (spec_add_comm _ u v x y w w' hne)

theorem adjListW_rem_rem (d : AdjListW) (h : d.WF) (u v : Nat) :
    (run AdjListW.step d [.rem u v, .rem u v]).1 = (run AdjListW.step d [.rem u v]).1 :=
  C20.adjListW_converges d d h h _ _ (spec_rem_rem _ u v)

/-! ## the unweighted shadows: `add_arc` is idempotent, adds commute -/

theorem adjList_add_idem (d : AdjList) (h : d.WF) (u v : Nat) :
    (run AdjList.step d [.add u v (), .add u v ()]).1 = (run AdjList.step d [.add u v ()]).1 :=
  C20.adjList_converges d d h h _ _ (spec_add_add _ u v () ())
theorem adjList_add_comm (d : AdjList) (h : d.WF) (u v x y : Nat) (hne : ¬ (u = x ∧ v = y)) :
    (run AdjList.step d [.add u v (), .add x y ()]).1 = (run AdjList.step d [.add x y (), .add u v ()]).1 :=
  C20.adjList_converges d d h h _ _ (spec_add_comm _ u v x y () () hne)
theorem edgeList_add_idem (d : EdgeList) (h : d.WF) (u v : Nat) :
    (run EdgeList.step d [.add u v (), .add u v ()]).1 = (run EdgeList.step d [.add u v ()]).1 :=
  C20.edgeList_converges d d h h _ _ (spec_add_add _ u v () ())
theorem edgeList_add_comm (d : EdgeList) (h : d.WF) (u v x y : Nat) (hne : ¬ (u = x ∧ v = y)) :
    (run EdgeList.step d [.add u v (), .add x y ()]).1 = (run EdgeList.step d [.add x y (), .add u v ()]).1 :=
  C20.edgeList_converges d d h h _ _ (spec_add_comm _ u v x y () () hne)

end GraafVerif.Laws2
