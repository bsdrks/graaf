import GraafVerif.Model.Par
/-! `chunks_tile`: the per-thread ranges are disjoint, ascending and cover `0..n`, for every thread count.
`ranges_closed`: they are the `⌈n / chunk⌉` ranges `(i * chunk, min n (i * chunk + chunk))`.
`flatMap_slices`: the slices of a list at ranges that tile its positions concatenate to the list; `range'_tile`: the
ranges between non-decreasing cut points tile. -/
namespace GraafVerif.Par

theorem ranges_go_succ (n chunk fuel id : Nat) :
    ranges.go n chunk (fuel + 1) id =
      if id * chunk ≥ min n (id * chunk + chunk) then []
      else (id * chunk, min n (id * chunk + chunk)) :: ranges.go n chunk fuel (id + 1) := rfl

theorem expand_cons (r : Nat × Nat) (rs : List (Nat × Nat)) :
    expand (r :: rs) = List.range' r.1 (r.2 - r.1) ++ expand rs := rfl

theorem range'_chunk_append (s chunk n : Nat) :
    List.range' s (min n (s + chunk) - s) ++ List.range' (s + chunk) (n - (s + chunk)) = List.range' s (n - s) := by
  by_cases hfull : s + chunk ≤ n
  · rw [Nat.min_eq_right hfull, Nat.add_sub_cancel_left, List.range'_append_1, Nat.sub_add_eq,
      Nat.add_sub_cancel' (Nat.le_sub_of_add_le' hfull)]
  · rw [Nat.min_eq_left (Nat.le_of_not_le hfull), Nat.sub_eq_zero_of_le (Nat.le_of_not_le hfull)]
    exact List.append_nil _

theorem go_mem_lt (n chunk : Nat) : ∀ (fuel id : Nat) (r : Nat × Nat), r ∈ ranges.go n chunk fuel id → r.1 < r.2 ∧ r.2 ≤ n := by
  intro fuel
  induction fuel with
  | zero => intro id r h; cases h
  | succ fuel ih =>
    intro id r h
    rw [ranges_go_succ] at h
    split at h
    · cases h
    · rename_i hge
      rcases List.mem_cons.mp h with rfl | h
      · exact ⟨Nat.lt_of_not_le hge, Nat.min_le_left _ _⟩
      · exact ih _ r h

theorem expand_go (n chunk : Nat) (hc : 0 < chunk) :
    ∀ fuel id, n ≤ (id + fuel) * chunk →
      expand (ranges.go n chunk fuel id) = List.range' (id * chunk) (n - id * chunk) := by
  intro fuel
  induction fuel with
  | zero =>
    intro id h
    rw [Nat.sub_eq_zero_of_le (Nat.add_zero id ▸ h)]
    rfl
  | succ fuel ih =>
    intro id h
    have ih' := ih (id + 1) (by rw [Nat.add_right_comm]; exact h)
    rw [Nat.succ_mul] at ih'
    rw [ranges_go_succ]
    by_cases hlt : id * chunk < n
    · rw [if_neg (Nat.not_le_of_lt (Nat.lt_min.mpr ⟨hlt, Nat.lt_add_of_pos_right hc⟩)), expand_cons, ih']
      exact range'_chunk_append _ _ _
    · have hns : n ≤ id * chunk := Nat.le_of_not_lt hlt
      rw [if_pos (Nat.le_trans (Nat.min_le_left _ _) hns), Nat.sub_eq_zero_of_le hns]
      rfl

theorem go_spec (n chunk : Nat) (hc : 0 < chunk) :
    ∀ fuel id, id * chunk ≤ n → n ≤ (id + fuel) * chunk →
      expand (ranges.go n chunk fuel id) = List.range' (id * chunk) (n - id * chunk) :=
  fun fuel id _ h => expand_go n chunk hc fuel id h

theorem divCeil_pos {n t : Nat} (hn : 0 < n) (ht : 0 < t) : 0 < (n + t - 1) / t :=
  Nat.div_pos (Nat.le_sub_of_add_le (Nat.add_comm 1 t ▸ Nat.add_le_add_right hn t)) ht

/-- `⌈n / chunk⌉ ≤ id` exactly when `id` chunks reach `n`. -/
theorem divCeil_le_iff (n id : Nat) {chunk : Nat} (hc : 0 < chunk) : (n + chunk - 1) / chunk ≤ id ↔ n ≤ id * chunk := by
  rw [← Nat.lt_succ_iff, Nat.div_lt_iff_lt_mul hc, Nat.succ_mul]
  omega

/-- `t` chunks of size `n.div_ceil(t)` reach `n`. -/
theorem le_mul_divCeil (n : Nat) {t : Nat} (ht : 0 < t) : n ≤ t * ((n + t - 1) / t) :=
  Nat.mul_comm _ t ▸ (divCeil_le_iff n _ ht).1 (Nat.le_refl _)

theorem chunks_tile (n t : Nat) (ht : 0 < t) (hn : 0 < n) : expand (ranges n t) = List.range n := by
  have := expand_go n ((n + t - 1) / t) (divCeil_pos hn ht) t 0
    (by rw [Nat.zero_add]; exact le_mul_divCeil n ht)
  rwa [Nat.zero_mul, Nat.sub_zero, ← List.range_eq_range'] at this

/-- No more workers than positions: the tiling at `min n t` workers. -/
theorem chunks_tile_min (n t : Nat) (ht : 0 < t) (hn : 0 < n) : expand (ranges n (min n t)) = List.range n :=
  chunks_tile n (min n t) (Nat.lt_min.mpr ⟨hn, ht⟩) hn

/-! ## From positions to slices: what tiles `0..l.length` cuts `l` into slices that concatenate to `l` -/

/-- A slice is the list read at a range of positions. -/
theorem slice_eq {α : Type} (l : List α) (s k : Nat) :
    (l.drop s).take k = (List.range' s k).filterMap (fun i => l[i]?) := by
  induction k with
  | zero => rfl
  | succ k ih =>
    rw [List.take_add_one, ih, List.range'_concat, List.filterMap_append, List.getElem?_drop, Nat.one_mul,
      List.filterMap_cons, List.filterMap_nil]
    cases l[s + k]? <;> rfl

/-- Slices of `l` cut at ranges of positions that tile `0..l.length` concatenate to `l`. -/
theorem flatMap_slices {α ι : Type} (l : List α) (ks : List ι) (lo hi : ι → Nat)
    (ht : ks.flatMap (fun k => List.range' (lo k) (hi k - lo k)) = List.range l.length) :
    ks.flatMap (fun k => (l.drop (lo k)).take (hi k - lo k)) = l := by
  have : ks.flatMap (fun k => (l.drop (lo k)).take (hi k - lo k)) =
      (ks.flatMap (fun k => List.range' (lo k) (hi k - lo k))).filterMap (fun i => l[i]?) := by
    rw [List.filterMap_flatMap]
    exact congrArg (fun f => ks.flatMap f) (funext fun k => slice_eq l (lo k) (hi k - lo k))
  rw [this, ht, List.range_eq_range', ← slice_eq l 0 l.length, List.drop_zero, List.take_length]

/-- The ranges between non-decreasing cut points `i 0 ≤ … ≤ i t` tile the range from the first to the last. -/
theorem range'_tile (i : Nat → Nat) (t : Nat) (hmono : ∀ k, k < t → i k ≤ i (k + 1)) :
    i 0 ≤ i t ∧
      (List.range t).flatMap (fun k => List.range' (i k) (i (k + 1) - i k)) = List.range' (i 0) (i t - i 0) := by
  induction t with
  | zero => exact ⟨Nat.le_refl _, by rw [Nat.sub_self]; rfl⟩
  | succ t ih =>
    obtain ⟨h0, ih⟩ := ih fun k hk => hmono k (Nat.lt_succ_of_lt hk)
    have h1 := hmono t (Nat.lt_succ_self t)
    refine ⟨Nat.le_trans h0 h1, ?_⟩
    rw [List.range_succ, List.flatMap_append, ih, List.flatMap_singleton,
      ← Nat.sub_add_sub_cancel h1 h0, Nat.add_comm (i (t + 1) - i t), ← List.range'_append_1,
      Nat.add_sub_cancel' h0]

/-- Cut points from `0` to `l.length` (monotone or not) leave no element of `l` outside every slice. -/
theorem exists_slice_of_mem {α : Type} {l : List α} (i : Nat → Nat) {t : Nat} (h0 : i 0 = 0)
    (ht : i t = l.length) {e : α} (he : e ∈ l) : ∃ k, k < t ∧ e ∈ (l.drop (i k)).take (i (k + 1) - i k) := by
  obtain ⟨p, hp, rfl⟩ := List.mem_iff_getElem.mp he
  -- the last cut at or below `p` is followed by one above `p`
  have cover : ∀ t, p < i t → ∃ k, k < t ∧ i k ≤ p ∧ p < i (k + 1) := by
    intro t
    induction t with
    | zero => intro h; rw [h0] at h; cases h
    | succ t ih =>
      intro h
      by_cases hpt : p < i t
      · obtain ⟨k, hk, h3⟩ := ih hpt
        exact ⟨k, Nat.lt_succ_of_lt hk, h3⟩
      · exact ⟨t, Nat.lt_succ_self t, Nat.le_of_not_lt hpt, h⟩
  obtain ⟨k, hk, h1, h2⟩ := cover t (ht ▸ hp)
  refine ⟨k, hk, List.mem_iff_getElem?.mpr ⟨p - i k, ?_⟩⟩
  rw [List.getElem?_take_of_lt (Nat.sub_lt_sub_right h1 h2), List.getElem?_drop, Nat.add_sub_cancel' h1]
  exact List.getElem?_eq_getElem hp

theorem mem_of_mem_slice {α : Type} {l : List α} {a n : Nat} {e : α} (h : e ∈ (l.drop a).take n) : e ∈ l :=
  List.mem_of_mem_drop (List.mem_of_mem_take h)

end GraafVerif.Par

namespace GraafVerif.Par

/-- the `break` test of the spawn loop: the range that would start at `start` is empty -/
theorem chunk_done_iff (n chunk start : Nat) (hc : 0 < chunk) : start ≥ min n (start + chunk) ↔ n ≤ start := by
  omega

/-- `t` workers suffice: with `chunk = ⌈n / t⌉` there are at most `t` ranges -/
theorem chunkCount_le (n t : Nat) (ht : 0 < t) (hn : 0 < n) :
    0 < (n + t - 1) / t ∧ (n + (n + t - 1) / t - 1) / ((n + t - 1) / t) ≤ t := by
  have hc := divCeil_pos hn ht
  exact ⟨hc, (divCeil_le_iff n t hc).2 (le_mul_divCeil n ht)⟩

end GraafVerif.Par

namespace GraafVerif.AlgoGenThm
open GraafVerif.Par

theorem ceil_le_iff (n chunk id : Nat) (hc : 0 < chunk) : (n + chunk - 1) / chunk ≤ id ↔ n ≤ id * chunk :=
  Par.divCeil_le_iff n id hc

theorem go_closed (n chunk : Nat) (hc : 0 < chunk) : ∀ (fuel id : Nat), (n + chunk - 1) / chunk ≤ id + fuel →
    Par.ranges.go n chunk fuel id =
      (List.range' id ((n + chunk - 1) / chunk - id)).map fun i => (i * chunk, min n (i * chunk + chunk)) := by
  intro fuel
  induction fuel with
  | zero =>
    intro id h
    rw [Nat.sub_eq_zero_of_le (Nat.add_zero id ▸ h)]
    rfl
  | succ fuel ih =>
    intro id h
    unfold Par.ranges.go
    dsimp only
    by_cases hn : n ≤ id * chunk
    · rw [if_pos ((chunk_done_iff n chunk _ hc).2 hn), Nat.sub_eq_zero_of_le ((ceil_le_iff n chunk id hc).2 hn)]
      rfl
    · have hK : ¬ (n + chunk - 1) / chunk ≤ id := fun h' => hn ((ceil_le_iff n chunk id hc).1 h')
      rw [if_neg (fun h' => hn ((chunk_done_iff n chunk _ hc).1 h')), ih (id + 1) (by rw [Nat.add_right_comm]; exact h),
        ← Nat.succ_pred_eq_of_pos (Nat.sub_pos_of_lt (Nat.lt_of_not_le hK)), List.range'_succ, List.map_cons]
      rfl

theorem ranges_closed (n t : Nat) (ht : 0 < t) (hn : 0 < n) :
    Par.ranges n t = (List.range ((n + (n + t - 1) / t - 1) / ((n + t - 1) / t))).map
      fun i => (i * ((n + t - 1) / t), min n (i * ((n + t - 1) / t) + (n + t - 1) / t)) := by
  obtain ⟨hc, hK⟩ := chunkCount_le n t ht hn
  rw [List.range_eq_range']
  exact go_closed n ((n + t - 1) / t) hc t 0 (by omega)

theorem ranges_length_le (n t : Nat) (ht : 0 < t) (hn : 0 < n) : (Par.ranges n t).length ≤ t := by
  rw [ranges_closed n t ht hn, List.length_map, List.length_range]
  exact (chunkCount_le n t ht hn).2

end GraafVerif.AlgoGenThm
