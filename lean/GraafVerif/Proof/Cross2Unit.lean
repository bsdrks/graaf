import GraafVerif.Proof.Cross2Models
/-!
# `DistanceMatrix` metrics of the Floyd-Warshall matrix on unit weights = hop-distance notions

On `unitWeights g` the cell `(u, v)` of Floyd-Warshall is the hop distance from `u` to `v`
(`unit_fw_exact`), so row maxima are hop eccentricities.  `infB` is BFS's sentinel (`usize::MAX`),
`inf` the matrix's `infinity` (`isize::MAX`); both only have to be at least the order.
-/
namespace GraafVerif.Cross2
open GraafVerif GraafVerif.Cross GraafVerif.Johnson GraafVerif.Tarjan

/-- `e` is the hop eccentricity of `u`: the largest hop distance from `u` to a vertex. -/
def IsHopEcc (g : Graph) (u e : Nat) : Prop :=
  (∃ v, v < g.n ∧ IsHopDist g [u] v e) ∧ ∀ v k, v < g.n → IsHopDist g [u] v k → k ≤ e

theorem isHopEcc_unique {g : Graph} {u e e' : Nat} (h : IsHopEcc g u e) (h' : IsHopEcc g u e') :
    e = e' := by
  obtain ⟨⟨v, hv, hd⟩, hmax⟩ := h
  obtain ⟨⟨v', hv', hd'⟩, hmax'⟩ := h'
  exact Nat.le_antisymm (hmax' v e hv hd) (hmax v' e' hv' hd')

theorem sc_hopDist {g : Graph} (hsc : StronglyConnected g) {u v : Nat} (hu : u < g.n) (hv : v < g.n) :
    ∃ k, IsHopDist g [u] v k :=
  OracleProof.reach_hop (OracleProof.reachFrom_single_iff.mpr (hsc u v hu hv))

section unit
variable {g : Graph} (hg : g.WF)
include hg

/-- C08 on unit weights, in hop terms: a cell is the hop distance, the sentinel iff unreachable. -/
theorem unit_fw_exact {u v : Nat} (hu : u < g.n) (hv : v < g.n) :
    (∀ k : Nat, Fw.get g.n (Fw.distances (unitWeights g)) u v = some (k : Int) ↔ IsHopDist g [u] v k) ∧
    (Fw.get g.n (Fw.distances (unitWeights g)) u v = none ↔ ¬ Reach g u v) := by
  obtain ⟨h₁, h₂⟩ := C08.fw_exact (unitWeights g) (unitWeights_wf hg) (unitWeights_functional g)
    (unitWeights_nonneg g).noNegCycle hu hv
  exact ⟨fun k => (h₁ k).trans isHopDist_iff_isMinDist.symm,
    h₂.trans (not_congr (reachFrom_iff_wreachFrom.symm.trans OracleProof.reachFrom_single_iff))⟩

/-- `Cross.bfs_bfm_fw_agree` read cell by cell. -/
theorem unit_cell {infB : Nat} (hinfB : g.n ≤ infB) (inf : Int) {u : Nat} (hu : u < g.n) :
    ∃ d, Bfs.distances g [u] infB = .ok d ∧ d.length = g.n ∧
      ∀ v, v < g.n → ∃ k, d[v]? = some k ∧ (k = infB ↔ ¬ Reach g u v) ∧
        (Fw.get g.n (Fw.distances (unitWeights g)) u v).getD inf = (hopToOpt infB k).getD inf := by
  obtain ⟨d, hd, _, hrow⟩ := bfs_bfm_fw_agree g hg u hu infB hinfB
  have hsp := bfs_distances_spec hg (single_lt hu) (List.pairwise_singleton _ u) hinfB hd
  refine ⟨d, hd, hsp.len, fun v hv => ?_⟩
  obtain ⟨k, hk⟩ := exists_getElem? d v (hsp.len ▸ hv)
  have hcell : (Fw.row g.n _ u)[v]? = (d.map (hopToOpt infB))[v]? := congrArg (·[v]?) hrow
  rw [Fw.row_getElem? _ _ _ hv, List.getElem?_map, hk] at hcell
  refine ⟨k, hk, ?_, congrArg (·.getD inf) (Option.some.inj hcell)⟩
  rw [← OracleProof.reachFrom_single_iff, ← hsp.inf_iff v hv, hk, Option.some.injEq]

variable {inf : Int} (hinf : (g.n : Int) ≤ inf)
include hinf

theorem unit_fits : DistFits inf (unitWeights g) := by
  intro u v d hu _ hmin
  obtain ⟨k, rfl, hk⟩ := isMinDist_unit_nat hmin
  exact Int.lt_of_lt_of_le
    (Int.ofNat_lt.mpr (OracleProof.hop_bound hg (single_lt hu) hk)) hinf

variable (hn : 0 < g.n)
include hn

theorem unit_wf : DistMatrix.WF (fwDM inf (unitWeights g)) :=
  fwDM_wf (unitWeights_wf hg) (unitWeights_functional g) (unitWeights_nonneg g).noNegCycle
    (unit_fits hg hinf) hn

theorem unit_ecc_max {u : Nat} (hu : u < g.n) :
    ∃ e, (DistMatrix.ecc (fwDM inf (unitWeights g)))[u]? = some e ∧
      (∃ v, v < g.n ∧ e = (Fw.get g.n (Fw.distances (unitWeights g)) u v).getD inf) ∧
      ∀ v, v < g.n → (Fw.get g.n (Fw.distances (unitWeights g)) u v).getD inf ≤ e :=
  fw_ecc_max (unitWeights_wf hg) (unitWeights_functional g) (unitWeights_nonneg g).noNegCycle
    (unit_fits hg hinf) hn hu

variable (hsc : StronglyConnected g)
include hsc

theorem unit_ecc_isHopEcc {u : Nat} (hu : u < g.n) :
    ∃ e : Nat, (DistMatrix.ecc (fwDM inf (unitWeights g)))[u]? = some (e : Int) ∧ IsHopEcc g u e := by
  have hcell : ∀ {v k}, v < g.n → IsHopDist g [u] v k →
      (Fw.get g.n (Fw.distances (unitWeights g)) u v).getD inf = (k : Int) := fun hv hk => by
    rw [((unit_fw_exact hg hu hv).1 _).mpr hk]
    rfl
  obtain ⟨e, he, ⟨v₀, hv₀, rfl⟩, hle⟩ := unit_ecc_max hg hinf hn hu
  obtain ⟨k₀, hk₀⟩ := sc_hopDist hsc hu hv₀
  rw [hcell hv₀ hk₀] at he hle
  refine ⟨k₀, he, ⟨v₀, hv₀, hk₀⟩, fun v k hv hk => ?_⟩
  exact Int.ofNat_le.mp (hcell hv hk ▸ hle v hv)

theorem unit_diameter :
    ∃ D : Nat, DistMatrix.diameter (fwDM inf (unitWeights g)) = (D : Int) ∧
      (∃ u, u < g.n ∧ IsHopEcc g u D) ∧ ∀ u e, u < g.n → IsHopEcc g u e → e ≤ D := by
  obtain ⟨⟨u₀, hu₀, hat⟩, hmax⟩ := C18.diameter_spec _ (unit_wf hg hinf hn)
  obtain ⟨e₀, he₀, hE₀⟩ := unit_ecc_isHopEcc hg hinf hn hsc (u := u₀) hu₀
  have hD := Option.some.inj (hat.symm.trans he₀)
  refine ⟨e₀, hD, ⟨u₀, hu₀, hE₀⟩, fun u e hu hE => ?_⟩
  obtain ⟨e', he', hE'⟩ := unit_ecc_isHopEcc hg hinf hn hsc hu
  rw [isHopEcc_unique hE hE']
  exact Int.ofNat_le.mp (hD ▸ hmax (e' : Int) (List.mem_of_getElem? he'))

theorem unit_center_iff {u : Nat} (hu : u < g.n) :
    u ∈ DistMatrix.center (fwDM inf (unitWeights g)) ↔
      ∃ e, IsHopEcc g u e ∧ ∀ u' e', u' < g.n → IsHopEcc g u' e' → e ≤ e' := by
  have hw := unit_wf hg hinf hn
  have hecc := fun {x : Nat} (hx : x < g.n) => unit_ecc_isHopEcc hg hinf hn hsc hx
  obtain ⟨eu, heu, hEu⟩ := hecc hu
  rw [(C18.center_spec _ hw).2 u, heu]
  constructor
  · rintro ⟨_, ⟨⟩, hmin⟩
    refine ⟨eu, hEu, fun u' e' hu' hE' => ?_⟩
    obtain ⟨e'', he'', hE''⟩ := hecc hu'
    rw [isHopEcc_unique hE' hE'']
    exact Int.ofNat_le.mp (hmin (e'' : Int) (List.mem_of_getElem? he''))
  · rintro ⟨e, hE, hmin⟩
    cases isHopEcc_unique hE hEu
    refine ⟨_, rfl, fun x hx => ?_⟩
    obtain ⟨i, hi, rfl⟩ := List.getElem_of_mem hx
    have hi' : i < g.n := Nat.lt_of_lt_of_eq hi (C18.ecc_spec _ hw).1
    obtain ⟨ei, hei, hEi⟩ := hecc hi'
    rw [Option.some.inj ((List.getElem?_eq_getElem hi).symm.trans hei)]
    exact Int.ofNat_le.mpr (hmin i ei hi' hEi)

end unit

end GraafVerif.Cross2
