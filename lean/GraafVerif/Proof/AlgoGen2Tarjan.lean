import GraafVerif.Model.AlgoGen2
import GraafVerif.Proof.AlgoGenRt
import GraafVerif.Proof.TarjanBasic
/-!
# Generated `Tarjan::{new, connect, components}` (`Model/AlgoGen2.lean`) = hand-written `Model/Tarjan.lean`

The hand-written model is written in "state with a fault field" style (`St.fault`: once set, every
later step is the identity) and keeps the `Vec` used as stack with the top at the head; the
generated definitions are `Res`-valued (`panic` / `div` abort) and keep the vector in index order.
`ofH` converts a hand-written state (maps, `on_stack`, components are the same lists; the stack is
reversed), `liftT` reads the fault field: `none ↦ ok`, `panic ↦ panic`, `fuel ↦ div`.  Every
generated state is `ofH` of a fault-free hand-written state (`ofH_toH`).  All equalities are
UNCONDITIONAL: every digraph (closed or not), every fault-free state, every vertex, every fuel.
-/
namespace GraafVerif.AlgoGenThm
open GraafVerif GraafVerif.AlgoGen

/-- `m[&k]` on a `BTreeMap<usize, usize>` -/
theorem mapIdx_some {β ρ : Type} {m : AlgoGen.NatMap} {k v : Nat} (h : mapGet m k = some v) :
    (mapIdx m k : Blk β ρ Nat) = .ok v := by
  unfold mapIdx
  rw [h]
theorem mapIdx_none {β ρ : Type} {m : AlgoGen.NatMap} {k : Nat} (h : mapGet m k = none) :
    (mapIdx m k : Blk β ρ Nat) = .error (.err (.fault .panic)) := by
  unfold mapIdx
  rw [h]
  rfl

namespace Tarjan
open GraafVerif.Tarjan (St mget mset enter visit popTo finish unindexed topWith)

def ofH (st : St) : AlgoGen.Tarjan := ⟨st.i, st.stack.reverse, st.onStack, st.index, st.low, st.comps⟩
def toH (s : AlgoGen.Tarjan) : St :=
  { i := s.i, stack := s.stack.reverse, onStack := s.on_stack, index := s.index, low := s.low_link,
    comps := s.components, fault := none }

theorem ofH_toH (s : AlgoGen.Tarjan) : ofH (toH s) = s := by
  cases s; simp [ofH, toH]
theorem toH_fault (s : AlgoGen.Tarjan) : (toH s).fault = none := rfl

def liftT {α : Type} (f : St → α) (st : St) : Res α :=
  match st.fault with
  | none => .ok (f st)
  | some .panic => .error (.fault .panic)
  | some .fuel => .error .div

def liftTB {β ρ : Type} (st : St) : Blk β ρ AlgoGen.Tarjan :=
  match st.fault with
  | none => .ok (ofH st)
  | some .panic => .error (.err (.fault .panic))
  | some .fuel => .error (.err .div)

theorem liftT_ok {α : Type} (f : St → α) {st : St} (h : st.fault = none) : liftT f st = .ok (f st) := by
  unfold liftT; rw [h]
theorem liftT_panic {α : Type} (f : St → α) {st : St} (h : st.fault = some .panic) :
    liftT f st = .error (.fault .panic) := by
  unfold liftT; rw [h]
theorem liftT_fuel {α : Type} (f : St → α) {st : St} (h : st.fault = some .fuel) : liftT f st = .error .div := by
  unfold liftT; rw [h]
theorem liftTB_ok {β ρ : Type} {st : St} (h : st.fault = none) : (liftTB st : Blk β ρ _) = .ok (ofH st) := by
  unfold liftTB; rw [h]
theorem liftTB_panic {β ρ : Type} {st : St} (h : st.fault = some .panic) :
    (liftTB st : Blk β ρ _) = .error (.err (.fault .panic)) := by
  unfold liftTB; rw [h]
theorem liftTB_fuel {β ρ : Type} {st : St} (h : st.fault = some .fuel) :
    (liftTB st : Blk β ρ _) = .error (.err .div) := by
  unfold liftTB; rw [h]

/-- A loop over hand-written states (`ofH`) whose body is a lifted step that ignores faulted states =
the lifted fold: once the fault field is set the fold stays where it is and the loop has left. -/
theorem forLoop_liftTB {α ρ : Type} (body : AlgoGen.Tarjan → α → Blk AlgoGen.Tarjan ρ AlgoGen.Tarjan) (step : St → α → St)
    (hbody : ∀ s a, s.fault = none → body (ofH s) a = liftTB (step s a))
    (hstep : ∀ s a f, s.fault = some f → step s a = s) : ∀ (l : List α) (s : St), s.fault = none →
    (forLoop body l (ofH s) : Blk Empty ρ _) = liftTB (l.foldl step s) := by
  intro l
  induction l with
  | nil => intro s hs; exact (liftTB_ok hs).symm
  | cons a l ih =>
    intro s hs
    rw [List.foldl_cons]
    cases hf : (step s a).fault with
    | none => rw [forLoop_cons_ok _ _ _ _ _ ((hbody s a hs).trans (liftTB_ok hf))]; exact ih _ hf
    | some f =>
      rw [Fold.foldl_fixed step _ l (fun b _ => hstep _ b f hf)]
      cases f
      · rw [liftTB_fuel hf]; exact forLoop_cons_err _ _ _ _ _ ((hbody s a hs).trans (liftTB_fuel hf))
      · rw [liftTB_panic hf]; exact forLoop_cons_err _ _ _ _ _ ((hbody s a hs).trans (liftTB_panic hf))

theorem insertAsc_eq (x : Nat) (l : List Nat) : GraafVerif.insertAsc x l = GraafVerif.Tarjan.insertAsc x l := by
  rw [insertAsc_eq_sinsert, GraafVerif.Tarjan.insertAsc_eq_sinsert]

theorem new_eq : AlgoGen.Tarjan.new = .ok (ofH {}) := rfl

theorem connect_while0_snoc (u i : Nat) (idx low : AlgoGen.NatMap) (comps : List (List Nat)) (st on c : List Nat) (v : Nat) :
    AlgoGen.Tarjan.connect_while0 u (⟨i, st ++ [v], on, idx, low, comps⟩, c) =
      if u = v then brk (⟨i, st, on.filter (· != v), idx, low, comps⟩, GraafVerif.Tarjan.insertAsc v c)
      else .ok (⟨i, st, on.filter (· != v), idx, low, comps⟩, GraafVerif.Tarjan.insertAsc v c) := by
  unfold AlgoGen.Tarjan.connect_while0
  simp only [vecPop_snoc, setRemove, setInsertA, insertAsc_eq]
  rfl

/-- `while let Some(v) = self.stack.pop() { on_stack.remove(v); component.insert(v); if u == v { break } }`
= the hand-written `popTo`, for every fuel that is at least the stack height. -/
theorem connect_while0_eq {β : Type} (u i : Nat) (idx low : AlgoGen.NatMap) (comps : List (List Nat)) :
    ∀ (stk on c : List Nat) (k : Nat), stk.length ≤ k →
      (whileLoop (AlgoGen.Tarjan.connect_while0 u) k (⟨i, stk.reverse, on, idx, low, comps⟩, c) :
          Blk β (Unit × AlgoGen.Tarjan) _) =
        .ok (⟨i, (popTo u stk on c).1.reverse, (popTo u stk on c).2.1, idx, low, comps⟩, (popTo u stk on c).2.2) := by
  intro stk
  induction stk with
  | nil =>
    intro on c k _
    cases k with
    | zero => rfl
    | succ k => rw [whileLoop_succ]; rfl
  | cons v st ih =>
    intro on c k hk
    obtain ⟨k, rfl⟩ := Nat.exists_eq_add_one_of_ne_zero (Nat.ne_of_gt (Nat.lt_of_lt_of_le (Nat.succ_pos _) hk))
    rw [whileLoop_succ, List.reverse_cons, connect_while0_snoc, popTo]
    by_cases huv : u = v
    · rw [if_pos huv, if_pos huv]
      rfl
    · rw [if_neg huv, if_neg huv]
      exact ih _ _ k (Nat.le_of_succ_le_succ hk)

theorem foldl_visit_fault (rec : Nat → St → St) (u : Nat) : ∀ (vs : List Nat) (s : St), s.fault.isSome = true →
    vs.foldl (visit rec u) s = s := by
  intro vs s h
  obtain ⟨f, hf⟩ := Option.isSome_iff_exists.1 h
  exact GraafVerif.Tarjan.foldl_visit_fault rec u vs s f hf

theorem liftTB_fault {β ρ : Type} (s : St) (h : s.fault.isSome = true) :
    ∃ e, (liftTB s : Blk β ρ AlgoGen.Tarjan) = .error (.err e) := by
  unfold liftTB
  cases hf : s.fault with
  | none => rw [hf] at h; cases h
  | some f => cases f <;> exact ⟨_, rfl⟩

theorem connect_for0_step (recf : AlgoGen.Tarjan → Nat → Res (Unit × AlgoGen.Tarjan)) (rec : Nat → St → St)
    (hrec : ∀ (st : St) (x : Nat), st.fault = none → recf (ofH st) x = liftT (fun st' => ((), ofH st')) (rec x st))
    (u : Nat) (s : St) (hs : s.fault = none) (v : Nat) :
    (AlgoGen.Tarjan.connect_for0 recf u (ofH s) v : Blk AlgoGen.Tarjan (Unit × AlgoGen.Tarjan) _) =
      liftTB (visit rec u s v) := by
  unfold AlgoGen.Tarjan.connect_for0 visit
  rw [hs, hrec s v hs]
  simp only [Option.isSome_none, Bool.false_eq_true, if_false, ofH, mapGet, mapSet]
  symm
  cases hv : mget s.index v with
  | some w =>
    dsimp only
    by_cases hon : s.onStack.contains v = true
    · simp only [hon, if_true]
      cases hl : mget s.low u with
      | none => rw [mapIdx_none hl]; exact liftTB_panic rfl
      | some lu => rw [mapIdx_some hl]; exact liftTB_ok rfl
    · simp only [hon]
      exact liftTB_ok hs
  | none =>
    dsimp only
    cases hf : (rec v s).fault with
    | some f =>
      simp only [Option.isSome_some, if_true]
      cases f
      · rw [liftT_fuel _ hf]; exact liftTB_fuel hf
      · rw [liftT_panic _ hf]; exact liftTB_panic hf
    | none =>
      rw [liftT_ok _ hf]
      simp only [Option.isSome_none, Bool.false_eq_true, if_false, call_ok, ok_bind]
      cases hl : mget (rec v s).low u with
      | none => rw [mapIdx_none hl]; exact liftTB_panic rfl
      | some lu =>
        rw [mapIdx_some hl]
        cases hl2 : mget (rec v s).low v with
        | none => rw [mapIdx_none hl2]; exact liftTB_panic rfl
        | some lv => rw [mapIdx_some hl2]; exact liftTB_ok rfl

theorem connect_for0_eq (recf : AlgoGen.Tarjan → Nat → Res (Unit × AlgoGen.Tarjan)) (rec : Nat → St → St)
    (hrec : ∀ (st : St) (x : Nat), st.fault = none → recf (ofH st) x = liftT (fun st' => ((), ofH st')) (rec x st))
    (u : Nat) : ∀ (vs : List Nat) (s : St), s.fault = none →
      (forLoop (AlgoGen.Tarjan.connect_for0 recf u) vs (ofH s) : Blk Empty (Unit × AlgoGen.Tarjan) _) =
        liftTB (vs.foldl (visit rec u) s) :=
  forLoop_liftTB _ _ (fun s v hs => connect_for0_step recf rec hrec u s hs v) (GraafVerif.Tarjan.visit_fault rec u)

/-- `Tarjan::connect` = the hand-written `Tarjan.connect`, for every digraph, fuel, fault-free
state and vertex (fuel exhausted ↦ `div`, `low_link[&x]` on a missing key / `out_neighbors` of a
non-vertex ↦ `panic`). -/
theorem connect_eq (g : AlgoGen.VGraph) : ∀ (fuel : Nat) (s : St) (u : Nat), s.fault = none →
    AlgoGen.Tarjan.connect g fuel (ofH s) u = liftT (fun st' => ((), ofH st')) (GraafVerif.Tarjan.connect g fuel u s) := by
  intro fuel
  induction fuel with
  | zero => intro s u _; rfl
  | succ fuel ih =>
    intro s u hs
    unfold AlgoGen.Tarjan.connect GraafVerif.Tarjan.connect
    have henter : (⟨s.i + 1, s.stack.reverse ++ [u], u :: s.onStack, mset s.index u s.i, mset s.low u s.i, s.comps⟩ :
        AlgoGen.Tarjan) = ofH (enter u s) := by simp [ofH, enter]
    have hef : (enter u s).fault = none := hs
    simp only [ofH, mapSet, setInsertL]
    rw [henter]
    by_cases hu' : u ∈ g.verts
    · have hu : g.verts.contains u = true := List.contains_iff_mem.2 hu'
      simp only [hu, assert_true, ok_bind, if_true]
      rw [connect_for0_eq _ (GraafVerif.Tarjan.connect g fuel) (fun st x h => ih st x h) u (g.out u) _ hef]
      generalize (g.out u).foldl (visit (GraafVerif.Tarjan.connect g fuel) u) (enter u s) = s2
      cases hf : s2.fault with
      | some f =>
        have h2 : finish u s2 = s2 := by unfold finish; rw [if_pos (hf ▸ rfl)]
        rw [h2]
        cases f
        · rw [liftTB_fuel hf, liftT_fuel _ hf]; rfl
        · rw [liftTB_panic hf, liftT_panic _ hf]; rfl
      | none =>
        rw [liftTB_ok hf, ok_bind, liftT_ok _ ((GraafVerif.Tarjan.finish_fault u s2).trans hf)]
        by_cases he : mapGet (ofH s2).index u = mapGet (ofH s2).low_link u
        · rw [GraafVerif.Tarjan.finish_root hf he, if_pos he]
          have hw := connect_while0_eq (β := Empty) u s2.i s2.index s2.low s2.comps s2.stack s2.onStack []
            s2.stack.reverse.length (Nat.le_of_eq List.length_reverse.symm)
          show fnBody ((whileLoop (AlgoGen.Tarjan.connect_while0 u) s2.stack.reverse.length
            (⟨s2.i, s2.stack.reverse, s2.onStack, s2.index, s2.low, s2.comps⟩, []) >>= _) >>= _) = _
          rw [hw]
          rfl
        · rw [GraafVerif.Tarjan.finish_nonroot hf he, if_neg he]
          rfl
    · have hu : g.verts.contains u = false := by simpa using hu'
      rw [hu, liftT_panic _ rfl]
      rfl

theorem topWith_fault (g : AlgoGen.VGraph) (fuelOf : St → Nat) (s : St) (v : Nat) (f : GraafVerif.Tarjan.Fault)
    (h : s.fault = some f) : topWith g fuelOf s v = s := by
  unfold topWith; rw [if_pos (h ▸ rfl)]

theorem foldl_topWith_fault (g : AlgoGen.VGraph) (fuelOf : St → Nat) : ∀ (vs : List Nat) (s : St),
    s.fault.isSome = true → vs.foldl (topWith g fuelOf) s = s := by
  intro vs s h
  obtain ⟨f, hf⟩ := Option.isSome_iff_exists.1 h
  exact Fold.foldl_fixed _ s vs (fun v _ => topWith_fault g fuelOf s v f hf)

theorem componentsCall_for0_step (g : AlgoGen.VGraph) (fuel : Nat) (s : St) (hs : s.fault = none) (v : Nat) :
    (AlgoGen.Tarjan.componentsCall_for0 g fuel (ofH s) v : Blk AlgoGen.Tarjan (List (List Nat) × AlgoGen.Tarjan) _) =
      liftTB (topWith g (fun _ => fuel) s v) := by
  unfold AlgoGen.Tarjan.componentsCall_for0 topWith
  rw [hs, connect_eq g fuel s v hs]
  simp only [Option.isSome_none, Bool.false_eq_true, if_false, mapGet]
  have hidx : (ofH s).index = s.index := rfl
  rw [hidx]
  cases mget s.index v with
  | some w => exact (liftTB_ok hs).symm
  | none =>
    simp only [Option.isSome_none, if_true, Bool.false_eq_true, if_false]
    unfold liftT liftTB
    cases (GraafVerif.Tarjan.connect g fuel v s).fault with
    | none => rfl
    | some f => cases f <;> rfl

/-- `for u in vertices() { if !index.contains_key(&u) { self.connect(u) } }` = the fold of the
hand-written `topWith` with the constant fuel supply. -/
theorem componentsCall_for0_eq (g : AlgoGen.VGraph) (fuel : Nat) : ∀ (vs : List Nat) (s : St), s.fault = none →
    (forLoop (AlgoGen.Tarjan.componentsCall_for0 g fuel) vs (ofH s) :
        Blk Empty (List (List Nat) × AlgoGen.Tarjan) _) =
      liftTB (vs.foldl (topWith g (fun _ => fuel)) s) :=
  forLoop_liftTB _ _ (fun s v hs => componentsCall_for0_step g fuel s hs v)
    (topWith_fault g _)

/-- `Tarjan::components` on any fault-free state = the hand-written loop with the fuel supply
`fun _ => fuel`: the returned `&Vec<BTreeSet<usize>>` and the object afterwards. -/
theorem componentsCall_eq (g : AlgoGen.VGraph) (fuel : Nat) (s : St) (hs : s.fault = none) :
    AlgoGen.Tarjan.componentsCall g fuel (ofH s) =
      liftT (fun st => (st.comps, ofH st)) (g.verts.foldl (topWith g (fun _ => fuel)) s) := by
  unfold AlgoGen.Tarjan.componentsCall
  rw [componentsCall_for0_eq g fuel g.verts s hs]
  unfold liftTB liftT
  cases (g.verts.foldl (topWith g (fun _ => fuel)) s).fault with
  | none => rfl
  | some f => cases f <;> rfl

/-- `Tarjan::new(&g).components()` = the hand-written `runWith` with a constant fuel supply. -/
theorem new_componentsCall_eq (g : AlgoGen.VGraph) (fuel : Nat) :
    (AlgoGen.Tarjan.new >>= fun s => Except.map Prod.fst (AlgoGen.Tarjan.componentsCall g fuel s)) =
      liftT (fun st => st.comps) (GraafVerif.Tarjan.runWith g (fun _ => fuel)) := by
  rw [new_eq]
  show Except.map Prod.fst (AlgoGen.Tarjan.componentsCall g fuel (ofH {})) = _
  rw [componentsCall_eq g fuel {} rfl]
  unfold liftT GraafVerif.Tarjan.runWith
  cases (g.verts.foldl (topWith g (fun _ => fuel)) {}).fault with
  | none => rfl
  | some f => cases f <;> rfl

end Tarjan

end GraafVerif.AlgoGenThm
