import GraafVerif.Proof.ChkGenRt
import GraafVerif.Proof.AlgoGen5Walk
/-!
# C13 on the regenerated definitions of set 5 (`Model/AlgoGen5.lean`)

The unsafe-bearing functions of set 5: `AdjacencyMatrix::{toggle, add_arc}` and its `ArcsIterator`,
`AdjacencyList::{add_arc, out_neighbors, has_walk, is_tournament}` and its two iterators,
`AdjacencyMap::{out_neighbors, has_walk}`, `DistanceMatrix::{new, IndexMut}`.

First the calculus of `Proof/ChkGenRt.lean` on the later parts of the runtime.  `optR`, `optU` (`Proof/AlgoGenCall.lean`), the
images of the hand-written `Option` results in `Res`, have no `ub` value: a generated function that is proved equal to one of
them is safe (sets 3–5 in `Thm/C13Gen.lean`).  For the generated texts that are walked through instead, the checked arithmetic
`subP`, `divP` (`Model/AlgoGenRt4.lean`) and `modP` (`Model/AlgoGenRt3.lean`) has a rule each.  The other primitives of
`Model/AlgoGenRt{2,3,4,5}.lean` (`mapIdx`, `unwrapO`, `optP`, `unwrapU`, `divCeilP`, `chunksP`, `stepByP`, `mulP`, `setLenU`,
`bufFreeze`, `idxPos`) have none: no generated text that contains one is walked through.

The three iterator `next` functions are proved DIRECTLY (calculus of `Proof/ChkGenRt.lean`): the two `ArcsIterator`s for
EVERY iterator state, `InNeighborsIterator` for every state whose `len` is at most the length of its slice
(`InNeighborsIterator.Inv`: `in_neighbors` establishes it and `next` keeps it; outside it `next` does answer `ub`, example in
`Thm/AlgoGen5.lean`) — so also for every re-poll after `None`, which the equality theorems of `Proof/AlgoGen5Iter.lean`
(stated under the fuel invariant of a fresh iteration) do not cover.  The other functions are transported through the `_eq`
theorems of `Proof/AlgoGen5{Repr,Walk}.lean` (in `Thm/C13Gen.lean`; their right-hand sides `optR` / `optU` and
`DistanceMatrix.ofRes` have no `ub` value: `noUB_optR`, `noUB_optU`, `noUB_ofRes`).
-/
namespace GraafVerif.C13Gen
open GraafVerif GraafVerif.AlgoGen GraafVerif.AlgoGenThm GraafVerif.Repr

theorem noUB_optR {α : Type} (o : Option α) : NoUB (optR o) := by
  cases o with
  | none => exact noUB_panic
  | some a => exact noUB_ok a

theorem noUB_optU {α : Type} (o : Option α) : NoUB (optU o) := by
  cases o with
  | none => exact noUB_panic
  | some a => exact noUB_ok _

section
variable {β ρ : Type} {B : β → Prop} {R : ρ → Prop}

theorem safe_divP (a b : Nat) : Safe (divP a b : Blk β ρ Nat) (fun _ => True) B R :=
  safe_ite (fun _ => safe_panic) (fun _ => trivial)
theorem safe_modP (a b : Nat) : Safe (modP a b : Blk β ρ Nat) (fun _ => True) B R :=
  safe_ite (fun _ => safe_panic) (fun _ => trivial)
theorem safe_subP (a b : Nat) : Safe (subP a b : Blk β ρ Nat) (fun _ => True) B R :=
  safe_ite (fun _ => trivial) (fun _ => safe_panic)

end

theorem noUB_ofRes (r : DistMatrix.Res DistMatrix.DM) : NoUB (DistanceMatrix.ofRes r) := by
  cases r with
  | panic => exact noUB_panic
  | ok m => exact noUB_ok _

namespace MxArcsIterator

/-- one round of the `while`: `blocks.get_unchecked(block_index)` is guarded by the loop condition -/
theorem next_while0_safe (s : AlgoGen.MxArcsIterator) :
    Safe (AlgoGen.MxArcsIterator.next_while0 s) (fun _ => True) (fun _ => True) (fun _ => True) := by
  unfold AlgoGen.MxArcsIterator.next_while0
  refine safe_ite (fun hc => ?_) (fun _ => safe_brk trivial)
  refine safe_bind (Q' := fun _ => True) (safe_ite (fun hz => ?_) (fun _ => safe_pure trivial)) (fun s1 _ => ?_)
  · have hlt : s.block_index < s.matrix.blocks.length := by
      simp only [hz, bne_self_eq_false, Bool.or_false, decide_eq_true_eq] at hc
      exact hc
    exact safe_bind (safe_rd _ _ _ hlt) (fun _ _ => safe_pure trivial)
  · refine safe_ite (fun _ => safe_ite (fun _ => ?_) (fun _ => safe_pure trivial)) (fun _ => safe_pure trivial)
    exact safe_bind (safe_divP _ _) (fun _ _ => safe_bind (safe_modP _ _) (fun _ _ => safe_ret trivial))

/-- `ArcsIterator::next` of `AdjacencyMatrix` for every matrix value and EVERY iterator state. -/
theorem next_safe_any (s : AlgoGen.MxArcsIterator) : RSafe (AlgoGen.MxArcsIterator.next s) (fun _ => True) := by
  unfold AlgoGen.MxArcsIterator.next
  refine safe_fnBody ?_
  exact safe_bind (safe_whileLoop (fun _ => True) (fun s' _ => next_while0_safe s') _ s trivial) (fun _ _ => safe_pure trivial)

end MxArcsIterator

namespace AlArcsIterator

theorem next_loop0_safe (s : AlgoGen.AlArcsIterator) :
    Safe (AlgoGen.AlArcsIterator.next_loop0 s) (fun _ => True) (fun _ => True) (fun _ => True) := by
  unfold AlgoGen.AlArcsIterator.next_loop0
  refine safe_bind (Q' := fun _ => True) ?_ (fun s1 _ => ?_)
  · cases s.inner with
    | none => exact safe_pure trivial
    | some inner =>
      refine safe_bind (Q' := fun _ => True) ?_ (fun _ _ => safe_pure trivial)
      cases popFront inner with
      | none => exact safe_pure trivial
      | some t2 => exact safe_bind (safe_subP _ _) (fun _ _ => safe_ret trivial)
  · refine safe_ite (fun _ => safe_ret trivial) (fun hge => ?_)
    exact safe_bind (safe_rd _ _ _ (Nat.lt_of_not_le hge)) (fun _ _ => safe_pure trivial)

/-- `ArcsIterator::next` of `AdjacencyList` in EVERY iterator state (`get_unchecked(self.u)` follows
`if self.u >= len { return None }`). -/
theorem next_safe_any (s : AlgoGen.AlArcsIterator) : RSafe (AlgoGen.AlArcsIterator.next s) (fun _ => True) := by
  unfold AlgoGen.AlArcsIterator.next
  refine safe_fnBody ?_
  exact safe_bind (safe_loopLoop (fun _ => True) (P := fun _ => True) (fun s' _ => next_loop0_safe s') _ s trivial)
    (fun _ _ => safe_pure trivial)

end AlArcsIterator

namespace InNeighborsIterator

/-- `len` does not exceed the length of the slice the pointer was taken from: all that `*ptr.add(i)` under `i < len` needs.
(`in_neighbors` establishes `len = ptr.length`; under that equality `InNeighborsIterator.collect_eq` of
`Proof/AlgoGen5Iter.lean` ties the iteration to the hand-written `Query.AL.inNeighbors`.) -/
def Inv (s : AlgoGen.InNeighborsIterator) : Prop := s.len ≤ s.ptr.length

theorem next_while0_safe (s : AlgoGen.InNeighborsIterator) (h : Inv s) :
    Safe (AlgoGen.InNeighborsIterator.next_while0 s) Inv Inv (fun (r : Option Nat × AlgoGen.InNeighborsIterator) => Inv r.2) := by
  unfold AlgoGen.InNeighborsIterator.next_while0
  refine safe_ite (fun hi => ?_) (fun _ => safe_brk h)
  refine safe_bind (safe_rd _ _ _ (Nat.lt_of_lt_of_le hi h)) (fun t0 _ => ?_)
  exact safe_ite (fun _ => safe_ret h) (fun _ => safe_pure h)

theorem next_safe (s : AlgoGen.InNeighborsIterator) (h : Inv s) :
    RSafe (AlgoGen.InNeighborsIterator.next s) (fun (r : Option Nat × AlgoGen.InNeighborsIterator) => Inv r.2) := by
  unfold AlgoGen.InNeighborsIterator.next
  refine safe_fnBody ?_
  exact safe_bind (safe_whileLoop Inv (fun s' hs' => next_while0_safe s' hs') _ s h) (fun s' hs' => safe_pure hs')

theorem new_safe (d : AdjList) (v : Nat) : RSafe (AlgoGen.AdjacencyList.inNeighborsIter d v) Inv := by
  unfold AlgoGen.AdjacencyList.inNeighborsIter
  exact safe_fnBody (safe_pure (Nat.le_refl _))

end InNeighborsIterator

end GraafVerif.C13Gen
