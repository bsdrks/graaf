import GraafVerif.Spec.Tarjan
import GraafVerif.Proof.OracleHopDist
/-!
# Strongly connected components of a `VGraph`, whatever computes them

`IsSCC g c`: the vertices of `c` reach each other, and `c` is maximal with that.  A list of such components
that is duplicate-free, pairwise disjoint and covers the vertex set is an `IsSCCPartition` of
`Spec/Tarjan.lean` (`IsSCCPartition.of_isSCC`); on a closed `g` every block of an `IsSCCPartition` is such a
component (`IsSCCPartition.isSCC`).  `Cross2.vgOf g` is the `VGraph` of a `Graph` with vertex set `0..n`.
-/
namespace GraafVerif.Tarjan
open GraafVerif

theorem vreach_trans {g : VGraph} {u v w : Nat} (h₁ : VReach g u v) (h₂ : VReach g v w) : VReach g u w :=
  OracleProof.reach_trans h₁ h₂

theorem vreach_of_arc {g : VGraph} {u v : Nat} (h : v ∈ g.out u) : VReach g u v := OracleProof.reach_of_arc h

theorem vreach_mem {g : VGraph} (hcl : g.Closed) {u v : Nat} (hu : u ∈ g.verts) (h : VReach g u v) :
    v ∈ g.verts :=
  OracleProof.reach_closed (D := (· ∈ g.verts)) h hu fun x y hx a => hcl x hx y a

/-- `c` is a strongly connected component: mutually reachable and maximal. -/
def IsSCC (g : VGraph) (c : List Nat) : Prop :=
  (∀ x ∈ c, ∀ y ∈ c, VReach g x y) ∧ (∀ x ∈ c, ∀ y, VReach g x y → VReach g y x → y ∈ c)

theorem IsSCCPartition.mem_verts {g : VGraph} {cs : List (List Nat)} (hp : IsSCCPartition g cs) {c : List Nat}
    (hc : c ∈ cs) {x : Nat} (hx : x ∈ c) : x ∈ g.verts := (hp.cover x).mpr ⟨c, hc, hx⟩

/-- Needs the disjointness of the blocks only, whatever they are blocks of. -/
theorem block_eq {cs : List (List Nat)} (hdis : cs.Pairwise (fun c d => ∀ x ∈ c, x ∉ d)) {c d : List Nat}
    (hc : c ∈ cs) (hd : d ∈ cs) {x : Nat} (hxc : x ∈ c) (hxd : x ∈ d) : c = d :=
  List.Pairwise.forall_of_forall_of_flip (R := fun c d => x ∈ c → x ∈ d → c = d)
    (fun _ _ _ _ => rfl) (hdis.imp fun h hc hd => absurd hd (h x hc))
    (hdis.imp fun h hd hc => absurd hd (h x hc)) hc hd hxc hxd

theorem IsSCCPartition.of_isSCC {g : VGraph} {cs : List (List Nat)} (hne : ∀ c ∈ cs, c ≠ [])
    (hdisj : cs.Pairwise (fun c d => ∀ x ∈ c, x ∉ d)) (hnd : ∀ c ∈ cs, c.Nodup)
    (hcov : ∀ v, v ∈ g.verts ↔ ∃ c ∈ cs, v ∈ c) (hscc : ∀ c ∈ cs, IsSCC g c) : IsSCCPartition g cs := by
  refine ⟨hne, hdisj, hnd, hcov, fun u hu v _ => ⟨?_, ?_⟩⟩
  · rintro ⟨c, hc, huc, hvc⟩
    exact ⟨(hscc c hc).1 u huc v hvc, (hscc c hc).1 v hvc u huc⟩
  · rintro ⟨huv, hvu⟩
    obtain ⟨c, hc, huc⟩ := (hcov u).mp hu
    exact ⟨c, hc, huc, (hscc c hc).2 u huc v huv hvu⟩

/-- Maximality needs `g.Closed`: `scc` speaks of vertices only, and what a vertex reaches is one. -/
theorem IsSCCPartition.isSCC {g : VGraph} {cs : List (List Nat)} (hp : IsSCCPartition g cs)
    (hcl : g.Closed) : ∀ c ∈ cs, IsSCC g c := by
  intro c hc
  have hv : ∀ x ∈ c, x ∈ g.verts := fun _ => hp.mem_verts hc
  refine ⟨fun x hx y hy => ((hp.scc x (hv x hx) y (hv y hy)).mp ⟨c, hc, hx, hy⟩).1, fun x hx y hxy hyx => ?_⟩
  obtain ⟨d, hd, hxd, hyd⟩ := (hp.scc x (hv x hx) y (vreach_mem hcl (hv x hx) hxy)).mpr ⟨hxy, hyx⟩
  rw [block_eq hp.disjoint hc hd hx hxd]
  exact hyd

end GraafVerif.Tarjan

namespace GraafVerif.Cross2
open GraafVerif GraafVerif.Tarjan

/-- What `Tarjan::new(&g)` sees of a digraph with vertex set `0..n`: the ids `0..n` in
iteration order and the same out-neighbour function (the `vg` of `Compose`'s `ViewIs`). -/
def vgOf (g : Graph) : VGraph := ⟨List.range g.n, g.out⟩

theorem vgOf_closed {g : Graph} (hg : g.WF) : (vgOf g).Closed := by
  intro u _ v hv
  exact List.mem_range.mpr (hg u v hv).2

theorem vgOf_mem {g : Graph} {v : Nat} : v ∈ (vgOf g).verts ↔ v < g.n := List.mem_range

theorem vreach_vgOf {g : Graph} {u v : Nat} : VReach (vgOf g) u v ↔ Reach g u v :=
  OracleProof.reach_congr (g := (vgOf g).toGraph) (g' := g) rfl

end GraafVerif.Cross2
