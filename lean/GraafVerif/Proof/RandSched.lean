import GraafVerif.Model.Rand
import GraafVerif.Proof.ReprSorted
/-! Schedule independence of the threaded `AdjacencyMap::random_tournament`: every interleaving of the
workers' locked inserts ends with the same rows.  A step moves one insert from the front of a worker's
program to the shared rows, so "inserts done, then the programs in join order" is permuted, and a fold
of a right-commutative step does not see the order (`List.Perm.foldl_eq'`). -/
namespace GraafVerif.Rand
open GraafVerif.Repr

@[simp] theorem rowInsert_length (rows : List (List Nat)) (a : Nat × Nat) : (rowInsert rows a).length = rows.length :=
  List.length_set

theorem foldl_rowInsert_length (arcs : List (Nat × Nat)) (rows : List (List Nat)) :
    (arcs.foldl rowInsert rows).length = rows.length := by
  induction arcs generalizing rows with
  | nil => rfl
  | cons a as ih => rw [List.foldl_cons, ih, rowInsert_length]

/-- locked inserts into the shared rows commute; the rows of an arbitrary `TState` need not be
ascending, and `sinsert_sinsert_comm` asks for nothing -/
theorem rowInsert_comm (rows : List (List Nat)) (a b : Nat × Nat) :
    rowInsert (rowInsert rows a) b = rowInsert (rowInsert rows b) a := by
  unfold rowInsert
  by_cases h : a.1 = b.1
  · rw [h]
    by_cases hb : b.1 < rows.length
    · rw [List.getElem?_set_self hb, List.getElem?_set_self hb, List.set_set, List.set_set, Option.getD_some,
        Option.getD_some, sinsert_sinsert_comm]
    · have hset : ∀ x, rows.set b.1 x = rows := fun x => List.set_eq_of_length_le (Nat.le_of_not_lt hb)
      rw [hset, hset, hset]
  · rw [List.getElem?_set_ne h, List.getElem?_set_ne (Ne.symm h), List.set_comm _ _ h]

theorem flatten_set_perm {α : Type} (progs : List (List α)) (k : Nat) (a : α) (rest : List α)
    (h : progs[k]? = some (a :: rest)) : progs.flatten.Perm (a :: (progs.set k rest).flatten) := by
  induction progs generalizing k with
  | nil => cases h
  | cons p ps ih =>
    cases k with
    | zero => cases (Option.some.inj h : p = a :: rest); exact .refl _
    | succ k => exact ((ih k h).append_left p).trans List.perm_middle

/-- what is still to be done, applied in join order to the current rows, never changes -/
theorem step_invariant (st st' : TState) (k : Nat) (h : st.step k = some st') :
    st'.progs.flatten.foldl rowInsert st'.rows = st.progs.flatten.foldl rowInsert st.rows := by
  unfold TState.step at h
  split at h
  · rename_i a rest hk
    cases h
    exact ((flatten_set_perm st.progs k a rest hk).foldl_eq' (fun _ _ _ _ z => rowInsert_comm z _ _) st.rows).symm
  · cases h

theorem run_invariant (sched : List Nat) (st st' : TState) (h : st.run sched = some st') :
    st'.progs.flatten.foldl rowInsert st'.rows = st.progs.flatten.foldl rowInsert st.rows := by
  induction sched generalizing st with
  | nil => cases h; rfl
  | cons k ks ih =>
    unfold TState.run at h
    split at h
    · rename_i st1 hs
      rw [ih st1 h, step_invariant st st1 k hs]
    · cases h

theorem run_terminal_rows (sched : List Nat) (st st' : TState) (h : st.run sched = some st')
    (hterm : st'.terminal) : st'.rows = st.progs.flatten.foldl rowInsert st.rows := by
  have := run_invariant sched st st' h
  rwa [List.flatten_eq_nil_iff.2 hterm] at this

/-- non-vacuity / progress: from every state some schedule completes all workers -/
theorem exists_complete_schedule (st : TState) : ∃ sched st', st.run sched = some st' ∧ st'.terminal := by
  generalize hm : st.progs.flatten.length = m
  induction m generalizing st with
  | zero => exact ⟨[], st, rfl, List.flatten_eq_nil_iff.1 (List.eq_nil_of_length_eq_zero hm)⟩
  | succ m ih =>
    -- some worker still has an insert `a` to do: let it run
    obtain ⟨p, hp, hpne⟩ := List.flatten_ne_nil_iff.1 (List.ne_nil_of_length_eq_add_one hm)
    obtain ⟨k, hk⟩ := List.mem_iff_getElem?.1 hp
    obtain ⟨a, rest, rfl⟩ := List.exists_cons_of_ne_nil hpne
    have hstep : st.step k = some ⟨rowInsert st.rows a, st.progs.set k rest⟩ := by
      rw [TState.step, hk]
    obtain ⟨sched, st', hr, ht⟩ := ih ⟨rowInsert st.rows a, st.progs.set k rest⟩
      (Nat.succ.inj (((flatten_set_perm st.progs k a rest hk).length_eq.symm.trans hm)))
    exact ⟨k :: sched, st', by rw [TState.run, hstep]; exact hr, ht⟩

end GraafVerif.Rand
