import GraafVerif.Model.ChkJohnson
import GraafVerif.Proof.ChkHoare
/-! `Johnson75`: every index into the B-lists is a vertex below `b.len()` — C13, P1 -/
namespace GraafVerif.Chk

def JInv (n : Nat) (st : JSt) : Prop := st.b.length = n ∧ ∀ row ∈ st.b, ∀ x ∈ row, x < n

/-- The other fields play no role. -/
theorem JInv.set {n : Nat} {st : JSt} (h : JInv n st) {b' : List (List Nat)} {u : Nat} {r : List Nat}
    (hb : b' = st.b.set u r) (hr : ∀ x ∈ r, x < n) {bl sk : List Nat} {res : List (List Nat)} :
    JInv n ⟨b', bl, sk, res⟩ := by
  subst hb
  refine ⟨(List.length_set ..).trans h.1, fun row hrow x hx => ?_⟩
  rcases List.mem_or_eq_of_mem_set hrow with hrow | rfl
  · exact h.2 row hrow x hx
  · exact hr x hx

theorem jUnblock_spec (n : Nat) :
    ∀ (fuel : Nat) (drain : Bool) (st : JSt) (u : Nat), u < n → JInv n st → Sat (jUnblock fuel drain st u) (JInv n) := by
  intro fuel
  induction fuel with
  | zero => intro drain st u _ hinv; exact Sat.pure hinv
  | succ fuel ih =>
    intro drain st u hu hinv
    cases drain with
    | false =>
      unfold jUnblock
      exact Sat.ite (fun _ => ih true _ u hu hinv) fun _ => Sat.pure hinv
    | true =>
      unfold jUnblock
      have hul : u < st.b.length := hinv.1 ▸ hu
      refine (Sat.rd hul).bind fun bu hbu => ?_
      have hrow := hinv.2 bu (List.mem_of_getElem? hbu)
      cases bu with
      | nil => exact Sat.pure hinv
      | cons v rest =>
        refine (Sat.wr hul).bind fun b' hb' => ?_
        exact (ih false _ v (hrow v List.mem_cons_self) (hinv.set hb' (List.forall_mem_cons.mp hrow).2)).bind
          fun st' hst' => ih true st' u hu hst'

theorem jBlockOn_spec (n v : Nat) (hv : v < n) (st : JSt) (w : Nat) (hw : w < n) (hinv : JInv n st) :
    Sat (jBlockOn v st w) (JInv n) := by
  unfold jBlockOn
  have hwl : w < st.b.length := hinv.1 ▸ hw
  refine (Sat.rd hwl).bind fun row hrow => (Sat.wr hwl).bind fun b' hb' => Sat.pure (hinv.set hb' fun x hx => ?_)
  rcases mem_setInsert hx with rfl | hx
  · exact hv
  · exact hinv.2 row (List.mem_of_getElem? hrow) x hx

theorem jCircuit_spec (n : Nat) (out : Nat → Option (List Nat)) (s uf : Nat)
    (hout : ∀ x ws, out x = some ws → ∀ w ∈ ws, w < n) :
    ∀ (fuel : Nat) (st : JSt) (v : Nat), v < n → JInv n st →
      Sat (jCircuit out s uf fuel st v) (fun r => JInv n r.1) := by
  intro fuel
  induction fuel with
  | zero => intro st v _ hinv; exact Sat.pure hinv
  | succ fuel ih =>
    intro st v hv hinv
    unfold jCircuit
    cases ho : out v with
    | none => exact Sat.panic
    | some ws =>
      have hws := hout v ws ho
      dsimp only
      refine (Sat.foldlM (I := fun (acc : JSt × Bool) => JInv n acc.1) (fun acc w hw hacc => ?_) hinv).bind fun r hr => ?_
      · refine Sat.ite (fun _ => Sat.pure hacc) fun _ => Sat.ite (fun _ => ?_) fun _ => Sat.pure hacc
        exact (ih acc.1 w (hws w hw) hacc).bind fun _ hr => Sat.pure hr
      · refine Sat.bind (Q := JInv n) (Sat.ite (fun _ => jUnblock_spec n uf false r.1 v hv hr) fun _ => ?_)
          fun _ hst3 => Sat.pure hst3
        exact Sat.foldlM (fun st' w hw hst' => jBlockOn_spec n v hv st' w (hws w hw) hst') hr

theorem jReset_spec (n : Nat) (st : JSt) (vertex : Nat) (hv : vertex < n) (hinv : JInv n st) :
    Sat (jReset st vertex) (JInv n) := by
  unfold jReset
  have hl : vertex < st.b.length := hinv.1 ▸ hv
  exact (Sat.rd hl).bind fun _ _ => (Sat.wr hl).bind fun b' hb' => Sat.pure (hinv.set hb' fun _ hx => nomatch hx)

/-- A component is made of vertices of `a` and closed under its own `out_neighbors`. -/
def JCompOK (verts : List Nat) (c : JComp) : Prop :=
  (∀ x ∈ c.cs, x ∈ verts) ∧ c.start ∈ c.cs ∧ ∀ x ws, c.out x = some ws → ∀ w ∈ ws, w ∈ c.cs

end GraafVerif.Chk
