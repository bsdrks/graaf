import GraafVerif.Proof.DfsSearch
import GraafVerif.Proof.OracleFastForest
/-!
# `forestJudgeRec`: one step of the judge is one step of `Spec/Dfs.lean`

The judge keeps, instead of the yielded LIST of `Spec/Dfs.lean`, a Boolean array, a counter of unyielded
out-neighbours per vertex and the search path with depths; `FjInv` ties this state to the `Search` state
of the specification.  Under `IsForest` the judge accepts `x` exactly when `x` is in range, reachable and
`expect` allows it, with the same (parent, depth) (`fjStep_iff`), and `FjInv` is kept for `advance`
(`fjNext_inv`).
-/
namespace GraafVerif.OracleFastProof
open GraafVerif GraafVerif.OracleFast GraafVerif.Dfs GraafVerif.OracleProof

theorem fresh_false_iff (g : Graph) (ys : List Nat) (u : Nat) :
    hasFresh g ys u = false ↔ ((g.out u).filter (fun w => !ys.contains w)).length = 0 := by
  unfold hasFresh
  rw [List.length_eq_zero_iff, List.filter_eq_nil_iff, List.any_eq_false]

theorem filter_ne_length (x : Nat) (m : List Nat) (hnd : m.Nodup) :
    (m.filter (fun w => w != x)).length + (if x ∈ m then 1 else 0) = m.length := by
  rw [← List.countP_eq_length_filter, ← hnd.count, List.count_eq_countP, Nat.add_comm,
    List.length_eq_countP_add_countP (· == x)]
  congr 2
  funext w
  show (!(w == x)) = _
  cases w == x <;> rfl

/-- Yielding `x` removes `x` (once) from the unyielded out-neighbours. -/
theorem count_snoc (ys : List Nat) (x : Nat) (hx : x ∉ ys) (l : List Nat) (hnd : l.Nodup) :
    (l.filter (fun w => !(ys ++ [x]).contains w)).length + (if x ∈ l then 1 else 0) =
    (l.filter (fun w => !ys.contains w)).length := by
  have e : (fun w => !(ys ++ [x]).contains w) = (fun w => (w != x) && !ys.contains w) := by
    funext w
    by_cases hw : w = x
    · subst hw; simp
    · by_cases hy : w ∈ ys
      · simp [hw, hy]
      · simp [hw, hy]
  rw [e, ← List.filter_filter]
  have hm : (x ∈ l.filter (fun w => !ys.contains w)) ↔ x ∈ l := by
    rw [List.mem_filter]; simp [hx]
  have := filter_ne_length x (l.filter (fun w => !ys.contains w)) (hnd.sublist List.filter_sublist)
  by_cases hxl : x ∈ l
  · rw [if_pos (hm.mpr hxl)] at this; rw [if_pos hxl]; exact this
  · rw [if_neg (fun h => hxl (hm.mp h))] at this; rw [if_neg hxl]; exact this

theorem dropWhile_map_fst (p : Nat → Bool) (q : Nat × Nat → Bool) : ∀ (l : List (Nat × Nat)),
    (∀ d ∈ l, q d = p d.1) → (l.dropWhile q).map Prod.fst = (l.map Prod.fst).dropWhile p := by
  intro l
  induction l with
  | nil => intro _; rfl
  | cons a r ih =>
    intro h
    have ha := h a List.mem_cons_self
    rw [List.map_cons, List.dropWhile_cons, List.dropWhile_cons, ha]
    by_cases hp : p a.1 = true
    · rw [if_pos hp, if_pos hp]
      exact ih (fun d hd => h d (List.mem_cons_of_mem _ hd))
    · rw [if_neg hp, if_neg hp]; rfl

/-- Depths along the path: the entry above `rest` has depth `rest.length`. -/
def PathDepth : List (Nat × Nat) → Prop
  | [] => True
  | (_, k) :: rest => k = rest.length ∧ PathDepth rest

theorem pathDepth_dropWhile (q : Nat × Nat → Bool) : ∀ (l : List (Nat × Nat)), PathDepth l → PathDepth (l.dropWhile q) := by
  intro l
  induction l with
  | nil => intro h; exact h
  | cons a r ih =>
    intro h
    rw [List.dropWhile_cons]
    split
    · exact ih h.2
    · exact h

structure FjInv (g : Graph) (par : Array (Option Nat)) (st : FjState) (s : Search) : Prop where
  seenSize : st.seen.size = g.n
  seen : ∀ v, st.seen.getD v false = true ↔ v ∈ s.yielded
  remSize : st.remaining.size = g.n
  rem : ∀ u, u < g.n → st.remaining.getD u 0 = ((g.out u).filter (fun w => !s.yielded.contains w)).length
  path : st.path.map Prod.fst = s.path
  depth : PathDepth st.path
  pathY : ∀ d ∈ s.path, d ∈ s.yielded
  offPath : ∀ y ∈ s.yielded, y ∉ s.path → hasFresh g s.yielded y = false
  parentY : ∀ y ∈ s.yielded, ∀ p, par.getD y none = some p → p ∈ s.yielded

theorem FjInv.ok {g : Graph} {par : Array (Option Nat)} {st : FjState} {s : Search} (h : FjInv g par st s) :
    Search.OK g s := ⟨h.pathY, h.offPath⟩

theorem FjInv.lt {g : Graph} {par : Array (Option Nat)} {st : FjState} {s : Search} (h : FjInv g par st s)
    {v : Nat} (hv : v ∈ s.yielded) : v < g.n := by
  have := (h.seen v).mpr hv
  rw [← h.seenSize]
  exact getD_lt this (by simp)

/-- The judge's cut-back path. -/
def cut (st : FjState) : List (Nat × Nat) := st.path.dropWhile (fun d => st.remaining.getD d.1 0 == 0)

theorem FjInv.active {g : Graph} {par : Array (Option Nat)} {st : FjState} {s : Search} (h : FjInv g par st s) :
    (st.path.dropWhile (fun d => st.remaining.getD d.1 0 == 0)).map Prod.fst = active g s := by
  unfold Dfs.active
  rw [← h.path]
  apply dropWhile_map_fst (fun d => !hasFresh g s.yielded d)
  intro d hd
  have hdy : d.1 ∈ s.yielded := h.pathY d.1 (by rw [← h.path]; exact List.mem_map_of_mem hd)
  rw [h.rem d.1 (h.lt hdy)]
  cases hf : hasFresh g s.yielded d.1 with
  | false => rw [(fresh_false_iff g s.yielded d.1).mp hf]; rfl
  | true =>
    have : ((g.out d.1).filter (fun w => !s.yielded.contains w)).length ≠ 0 := by
      intro h0
      rw [(fresh_false_iff g s.yielded d.1).mpr h0] at hf; cases hf
    show (_ == 0) = false
    exact beq_eq_false_iff_ne.mpr this

theorem initInv (g : Graph) (par : Array (Option Nat)) : FjInv g par (fjInit g) ⟨[], []⟩ where
  seenSize := by simp [fjInit]
  seen := fun v => by
    show (Array.replicate g.n false).getD v false = true ↔ _
    rw [getD_replicate]; simp
  remSize := by simp [fjInit]
  rem := fun u hu => by
    have : (g.out u).filter (fun w => !([] : List Nat).contains w) = g.out u :=
      List.filter_eq_self.mpr (by simp)
    show _ = ((g.out u).filter (fun w => !([] : List Nat).contains w)).length
    rw [this]
    simp [fjInit, Array.getD_eq_getD_getElem?, hu]
  path := rfl
  depth := trivial
  pathY := fun d hd => by cases hd
  offPath := fun y hy => by cases hy
  parentY := fun y hy => by cases hy

/-- The invariant after a step: `seen' = seen[x := true]`, `rem'` has one less at the vertex whose
row contains `x` (none for a root), path `= (x, k) :: cut-back path`. -/
theorem FjInv.advance {g : Graph} {S : List Nat} {par : Array (Option Nat)} (hF : IsForest g S par)
    {st : FjState} {s : Search} (h : FjInv g par st s) {x : Nat} (hx : x < g.n) (hxy : x ∉ s.yielded)
    {rem' : Array Nat} {path' : List (Nat × Nat)} {k : Nat}
    (hsz : rem'.size = g.n)
    (hrem : ∀ u, u < g.n → rem'.getD u 0 + (if x ∈ g.out u then 1 else 0) = st.remaining.getD u 0)
    (hpath : path' = st.path.dropWhile (fun d => st.remaining.getD d.1 0 == 0))
    (hk : k = path'.length)
    (hpar : ∀ p, par.getD x none = some p → p ∈ s.yielded) :
    FjInv g par ⟨st.seen.setIfInBounds x true, rem', (x, k) :: path'⟩ (Dfs.advance g s x) where
  seenSize := Array.size_setIfInBounds.trans h.seenSize
  seen := fun v => by
    show (st.seen.setIfInBounds x true).getD v false = true ↔ v ∈ s.yielded ++ [x]
    rw [getD_set_true (h.seenSize ▸ hx), h.seen v, List.mem_append, List.mem_singleton]
  remSize := hsz
  rem := fun u hu =>
    Nat.add_right_cancel (((hrem u hu).trans (h.rem u hu)).trans
      (count_snoc s.yielded x hxy (g.out u) (hF.nodup u hu)).symm)
  path := by
    show ((x, k) :: path').map Prod.fst = x :: Dfs.active g s
    rw [List.map_cons, hpath, h.active]
  depth := ⟨hk, by rw [hpath]; exact pathDepth_dropWhile _ _ h.depth⟩
  pathY := (h.ok.advance x).sub
  offPath := (h.ok.advance x).off
  parentY := fun y hy p hp => by
    show p ∈ s.yielded ++ [x]
    have hy' : y ∈ s.yielded ++ [x] := hy
    rcases List.mem_append.mp hy' with hy1 | hy1
    · exact List.mem_append_left _ (h.parentY y hy1 p hp)
    · rw [List.mem_singleton.mp hy1] at hp
      exact List.mem_append_left _ (hpar p hp)

/-! ## One step

`fjStep` is: three guards, then the annotation `judgeExpect` read off the cut-back path, then the new
state `fjNext`. -/

/-- The (parent, depth) the judge prescribes for `x`. -/
def judgeExpect (S : List Nat) (par : Array (Option Nat)) (st : FjState) (x : Nat) : Option (Option Nat × Nat) :=
  match cut st with
  | [] => if S.contains x then some (none, 0) else none
  | (p, dp) :: _ => if par.getD x none == some p then some (some p, dp + 1) else none

/-- The judge's state after `x` was yielded with annotation `a`. -/
def fjNext (st : FjState) (x : Nat) (a : Option Nat × Nat) : FjState :=
  ⟨st.seen.setIfInBounds x true,
   match a.1 with
   | none => st.remaining
   | some p => st.remaining.modify p (· - 1),
   (x, a.2) :: cut st⟩

theorem judgeExpect_root {S : List Nat} {par : Array (Option Nat)} {st : FjState} (x : Nat) (hcut : cut st = []) :
    judgeExpect S par st x = if S.contains x then some (none, 0) else none := by
  unfold judgeExpect
  rw [hcut]

theorem judgeExpect_child {S : List Nat} {par : Array (Option Nat)} {st : FjState} (x : Nat) {p dp : Nat}
    {rest : List (Nat × Nat)} (hcut : cut st = (p, dp) :: rest) :
    judgeExpect S par st x = if par.getD x none == some p then some (some p, dp + 1) else none := by
  unfold judgeExpect
  rw [hcut]

theorem judgeExpect_cases {S : List Nat} {par : Array (Option Nat)} {st : FjState} {x : Nat} {a : Option Nat × Nat}
    (h : judgeExpect S par st x = some a) :
    (cut st = [] ∧ x ∈ S ∧ a = (none, 0)) ∨
    ∃ p dp rest, cut st = (p, dp) :: rest ∧ par.getD x none = some p ∧ a = (some p, dp + 1) := by
  cases hcut : cut st with
  | nil =>
    rw [judgeExpect_root x hcut] at h
    obtain ⟨hS, rfl⟩ := Option.ite_some_none_eq_some.mp h
    exact .inl ⟨rfl, List.contains_iff_mem.mp hS, rfl⟩
  | cons pd rest =>
    rw [judgeExpect_child x hcut] at h
    obtain ⟨hp, rfl⟩ := Option.ite_some_none_eq_some.mp h
    exact .inr ⟨_, _, _, rfl, beq_iff_eq.mp hp, rfl⟩

theorem err_or_ok {ε α : Type} {c : Prop} [Decidable c] {e : ε} {t : Except ε α} {r : α} :
    (if c then Except.error e else t) = .ok r ↔ ¬ c ∧ t = .ok r := by
  split
  · exact ⟨fun h => (nomatch h), fun h => absurd ‹c› h.1⟩
  · exact ⟨fun h => ⟨‹¬ c›, h⟩, fun h => h.2⟩

/-- A last guard `!b` before `.ok a`, where `b` is also the test under which `o` is `some a'`. -/
theorem check_ok {ε α β : Type} {b : Bool} {e : ε} {a r : α} {o : Option β} {a' : β} {f : β → α}
    (ho : o = if b then some a' else none) (ha : a = f a') :
    (if !b then Except.error e else .ok a) = .ok r ↔ ∃ a', o = some a' ∧ r = f a' := by
  subst ho ha
  cases b
  · constructor
    · intro h; cases h
    · rintro ⟨_, h, _⟩; cases h
  · constructor
    · intro h; exact ⟨a', rfl, (Except.ok.inj h).symm⟩
    · rintro ⟨_, h, e⟩; cases h; rw [e]; rfl

theorem fjStep_ok_iff {g : Graph} {S : List Nat} {par : Array (Option Nat)} {reach : Array Bool} {st : FjState}
    {x : Nat} {r : FjState × Option Nat × Nat} :
    fjStep g S par reach st x = .ok r ↔
      x < g.n ∧ reach.getD x false = true ∧ st.seen.getD x false = false ∧
      ∃ a, judgeExpect S par st x = some a ∧ r = (fjNext st x a, a.1, a.2) := by
  refine err_or_ok.trans (and_congr Nat.not_le (err_or_ok.trans (and_congr (by simp) (err_or_ok.trans
    (and_congr (Bool.not_eq_true _).to_iff ?_)))))
  -- the goal is matched against the lemmas, not rewritten: `rw`/`split` under the error strings is slow
  generalize hcut : st.path.dropWhile _ = c
  cases c with
  | nil =>
    exact check_ok (f := fun a => (fjNext st x a, a.1, a.2)) (judgeExpect_root x hcut)
      (by rw [fjNext, show cut st = [] from hcut])
  | cons pd rest =>
    exact check_ok (f := fun a => (fjNext st x a, a.1, a.2)) (judgeExpect_child x hcut)
      (by rw [fjNext, show cut st = _ from hcut])

section step
variable {g : Graph} {S : List Nat} {par : Array (Option Nat)} (hF : IsForest g S par) {st : FjState} {s : Search}
  (h : FjInv g par st s)
include h

theorem FjInv.cut_head {p dp : Nat} {rest : List (Nat × Nat)} (hcut : cut st = (p, dp) :: rest) :
    p ∈ s.yielded ∧ p < g.n ∧ dp = rest.length := by
  have hm : (p, dp) ∈ cut st := hcut ▸ List.mem_cons_self
  have hy := h.pathY p (h.path ▸ List.mem_map_of_mem (f := Prod.fst) ((List.dropWhile_sublist _).subset hm))
  have hpd : PathDepth (cut st) := pathDepth_dropWhile _ _ h.depth
  rw [hcut] at hpd
  exact ⟨hy, h.lt hy, hpd.1⟩

include hF

theorem judgeExpect_eq {x : Nat} (hxy : x ∉ s.yielded) : judgeExpect S par st x = expect g S s x := by
  refine Option.ext fun a => ?_
  have hact : (cut st).map Prod.fst = active g s := h.active
  rw [expect_eq_some, and_iff_right hxy, ← hact]
  cases hcut : cut st with
  | nil =>
    rw [hcut] at hact
    rw [judgeExpect_root x hcut, Option.ite_none_right_eq_some, List.contains_iff_mem, Option.some_inj]
    exact and_congr_right fun _ => ⟨fun e => ⟨h.ok.all_quiet hact.symm, e.symm⟩, fun e => e.2.symm⟩
  | cons pd rest =>
    obtain ⟨p, dp⟩ := pd
    obtain ⟨_, hp, hdp⟩ := h.cut_head hcut
    rw [judgeExpect_child x hcut, Option.ite_none_right_eq_some, beq_iff_eq, Option.some_inj, ← hF.arcs p x hp, hdp,
      ← List.length_map (f := Prod.fst)]
    exact and_congr_right fun _ => eq_comm

theorem fjNext_root {x : Nat} (hx : x < g.n) (hxy : x ∉ s.yielded) (hcut : cut st = []) (hS : x ∈ S) :
    FjInv g par (fjNext st x (none, 0)) (advance g s x) := by
  have hroot := hF.srcRoot x hS
  refine h.advance hF hx hxy (rem' := st.remaining) (path' := cut st) (k := 0) h.remSize ?_ rfl
    (by rw [hcut]; rfl) ?_
  · intro u hu
    have : x ∉ g.out u := fun hm => by rw [(hF.arcs u x hu).mp hm] at hroot; cases hroot
    rw [if_neg this]; rfl
  · intro p hp; rw [hroot] at hp; cases hp

/-- The invariant after a child of the head `p` of the cut-back path was yielded: exactly the counter
of `p` goes down, since `x` has no other in-arc. -/
theorem fjNext_child {x p dp : Nat} {rest : List (Nat × Nat)} (hx : x < g.n) (hxy : x ∉ s.yielded)
    (hcut : cut st = (p, dp) :: rest) (hpx : par.getD x none = some p) :
    FjInv g par (fjNext st x (some p, dp + 1)) (advance g s x) := by
  obtain ⟨hpY, hp, hdp⟩ := h.cut_head hcut
  have hxp : x ∈ g.out p := (hF.arcs p x hp).mpr hpx
  refine h.advance hF hx hxy (rem' := st.remaining.modify p (· - 1)) (path' := cut st) (k := dp + 1)
    (Array.size_modify.trans h.remSize) ?_ rfl (by rw [hcut, hdp]; rfl) ?_
  · intro u hu
    rw [getD_modify_if _ _ _ _ _ fun _ => by rw [h.remSize]; exact hu]
    by_cases hpu : p = u
    · subst hpu
      rw [if_pos rfl, if_pos hxp, h.rem p hp]
      exact Nat.sub_add_cancel (List.length_pos_of_mem (List.mem_filter.mpr
        ⟨hxp, (Bool.not_eq_true' _).mpr (Bool.eq_false_iff.mpr fun h => hxy (List.contains_iff_mem.mp h))⟩))
    · have : x ∉ g.out u := fun hm => by
        have := (hF.arcs u x hu).mp hm
        rw [hpx] at this
        exact hpu (Option.some.inj this)
      rw [if_neg hpu, if_neg this]; rfl
  · intro p' hp'
    rw [hpx] at hp'
    cases hp'
    exact hpY

theorem fjNext_inv {x : Nat} (hx : x < g.n) {a : Option Nat × Nat} (he : expect g S s x = some a) :
    FjInv g par (fjNext st x a) (advance g s x) ∧ a.1 = par.getD x none := by
  have hxy := (expect_eq_some.mp he).1
  rw [← judgeExpect_eq hF h hxy] at he
  rcases judgeExpect_cases he with ⟨hcut, hS, rfl⟩ | ⟨p, dp, rest, hcut, hpx, rfl⟩
  · exact ⟨fjNext_root hF h hx hxy hcut hS, (hF.srcRoot x hS).symm⟩
  · exact ⟨fjNext_child hF h hx hxy hcut hpx, hpx.symm⟩

theorem fjStep_iff {reach : Array Bool} {x : Nat} {r : FjState × Option Nat × Nat} :
    fjStep g S par reach st x = .ok r ↔
      x < g.n ∧ reach.getD x false = true ∧ ∃ a, expect g S s x = some a ∧ r = (fjNext st x a, a.1, a.2) := by
  rw [fjStep_ok_iff]
  constructor
  · rintro ⟨hx, hr, hs, a, ha, rfl⟩
    have hxy : x ∉ s.yielded := fun hm => by rw [(h.seen x).mpr hm] at hs; cases hs
    exact ⟨hx, hr, a, judgeExpect_eq hF h hxy ▸ ha, rfl⟩
  · rintro ⟨hx, hr, a, ha, rfl⟩
    have hxy := (expect_eq_some.mp ha).1
    refine ⟨hx, hr, ?_, a, (judgeExpect_eq hF h hxy).symm ▸ ha, rfl⟩
    cases hs : st.seen.getD x false with
    | false => rfl
    | true => exact absurd ((h.seen x).mp hs) hxy

end step

end GraafVerif.OracleFastProof
