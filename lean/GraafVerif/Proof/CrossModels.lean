import GraafVerif.Proof.Cross
import GraafVerif.Proof.OracleFold
import GraafVerif.Thm.C03
import GraafVerif.Thm.C04
import GraafVerif.Thm.C07
import GraafVerif.Thm.C08
/-!
# The four models compute THE distance vector (tag `Cross`)

Each of C03 / C04 / C07 / C08 proved its model exact in its own vocabulary; here each result is
brought into the form `IsDistVec g S d` (`C03.distances_spec` and `C08.fw_row_isDistVec` have it as
they stand), so that the equalities between the models are instances of `isDistVec_unique`.
-/
namespace GraafVerif.Cross
open GraafVerif

export GraafVerif.OracleProof (single_lt)

theorem hyp_single {g : WGraph} (hwf : g.WF) (hnn : g.NonNeg) {s : Nat} (hs : s < g.n) :
    Dijkstra.Hyp g [s] :=
  ⟨hwf, hnn, single_lt hs, List.pairwise_singleton _ s⟩

theorem bfm_isDistVec {g : WGraph} (hwf : g.WF) {s : Nat} {d : Bfm.Dist}
    (h : Bfm.distances g s = .ret (some d)) : IsDistVec g [s] d :=
  isDistVec_of_exact (C07.bfm_some_exact g hwf s d h)

theorem fw_row_bfm_agree (g : WGraph) (hwf : g.WF) (hfun : g.Functional) (hnc : g.NoNegCycle)
    (s : Nat) (hs : s < g.n) :
    Bfm.distances g s = .ret (some (Fw.row g.n (Fw.distances g) s)) := by
  obtain ⟨d, hd⟩ := C07.bfm_no_negcycle_some g hwf s hs (hnc.not_negReachable s)
  rw [hd, isDistVec_unique (bfm_isDistVec hwf hd) (C08.fw_row_isDistVec g hwf hfun hnc hs)]

section bfs
variable {g : Graph} (hg : g.WF) {S : List Nat} (hS : ∀ s ∈ S, s < g.n) (hnd : S.Nodup)
include hg hS hnd

theorem bfs_distances_spec {inf : Nat} (hinf : g.n ≤ inf) {d : List Nat}
    (h : Bfs.distances g S inf = .ok d) : Bfs.DistancesSpec g S inf d := by
  obtain ⟨d', hd', hsp⟩ := C04.distances_correct g hg S hS hnd inf hinf
  cases hd'.symm.trans h
  exact hsp

theorem bfs_spec {out : List Nat} (h : Bfs.bfs g S = .ok out) : Bfs.BfsSpec g S out := by
  obtain ⟨out', ho', hsp⟩ := C04.bfs_correct g hg S hS hnd
  cases ho'.symm.trans h
  exact hsp

end bfs

theorem distances_entry {g : Graph} {S : List Nat} {inf : Nat} {d : List Nat}
    (hsp : Bfs.DistancesSpec g S inf d) {v k : Nat} (hv : v < g.n) (hk : d[v]? = some k) :
    (k = inf ∧ ¬ ReachFrom g S v) ∨ (k ≠ inf ∧ IsHopDist g S v k) := by
  by_cases hr : ReachFrom g S v
  · obtain ⟨k', hk'⟩ := OracleProof.reach_hop hr
    cases Option.some.inj (hk.symm.trans (hsp.dist v k' hk'))
    exact Or.inr ⟨fun hki => (hsp.inf_iff v hv).mp (hki ▸ hk) hr, hk'⟩
  · exact Or.inl ⟨Option.some.inj (hk.symm.trans ((hsp.inf_iff v hv).mpr hr)), hr⟩

/-- `usize` hop distance → entry of a weighted distance vector: `usize::MAX` ↦ the sentinel. -/
def hopToOpt (inf : Nat) (k : Nat) : Option Int := if k = inf then none else some (k : Int)

theorem hopToOpt_inf (inf : Nat) : hopToOpt inf inf = none := if_pos rfl

theorem hopToOpt_of_ne {inf k : Nat} (h : k ≠ inf) : hopToOpt inf k = some (k : Int) := if_neg h

theorem bfs_isDistVec (g : Graph) (hg : g.WF) (S : List Nat) (hS : ∀ s ∈ S, s < g.n) (hnd : S.Nodup)
    (inf : Nat) (hinf : g.n ≤ inf) :
    ∃ d, Bfs.distances g S inf = .ok d ∧ IsDistVec (unitWeights g) S (d.map (hopToOpt inf)) := by
  obtain ⟨d, hd, hsp⟩ := C04.distances_correct g hg S hS hnd inf hinf
  have entry : ∀ {v o}, (d.map (hopToOpt inf))[v]? = some o → ∃ k, hopToOpt inf k = o ∧
      ((k = inf ∧ ¬ ReachFrom g S v) ∨ (k ≠ inf ∧ IsHopDist g S v k)) := fun {v o} ho => by
    obtain ⟨k, hk, hko⟩ := Option.map_eq_some_iff.mp (List.getElem?_map ▸ ho)
    exact ⟨k, hko, distances_entry hsp (hsp.len ▸ (List.getElem?_eq_some_iff.mp hk).1) hk⟩
  refine ⟨d, hd, isDistVec_of_sound (by rw [List.length_map, hsp.len, unitWeights_n])
    (fun v x hx => ?_) fun v hx => ?_⟩
  · obtain ⟨k, hk, ⟨rfl, _⟩ | ⟨hne, hop⟩⟩ := entry hx
    · cases (hopToOpt_inf k).symm.trans hk
    · cases (hopToOpt_of_ne hne).symm.trans hk
      exact isHopDist_iff_isMinDist.mp hop
  · obtain ⟨k, hk, ⟨rfl, hnr⟩ | ⟨hne, _⟩⟩ := entry hx
    · exact fun h => hnr (reachFrom_iff_wreachFrom.mpr h)
    · cases (hopToOpt_of_ne hne).symm.trans hk

/-- BFS from one source = BFM = row `s` of Floyd-Warshall over unit weights. -/
theorem bfs_bfm_fw_agree (g : Graph) (hg : g.WF) (s : Nat) (hs : s < g.n) (inf : Nat) (hinf : g.n ≤ inf) :
    ∃ d, Bfs.distances g [s] inf = .ok d ∧
      Bfm.distances (unitWeights g) s = .ret (some (d.map (hopToOpt inf))) ∧
      Fw.row g.n (Fw.distances (unitWeights g)) s = d.map (hopToOpt inf) := by
  obtain ⟨d, hd, hv⟩ := bfs_isDistVec g hg [s] (single_lt hs) (List.pairwise_singleton _ s) inf hinf
  have hwf := unitWeights_wf hg
  have hnc := (unitWeights_nonneg g).noNegCycle
  have hrow := isDistVec_unique (C08.fw_row_isDistVec _ hwf (unitWeights_functional g) hnc (s := s) hs) hv
  refine ⟨d, hd, ?_, hrow⟩
  rw [← hrow]
  exact fw_row_bfm_agree _ hwf (unitWeights_functional g) hnc s hs

end GraafVerif.Cross
