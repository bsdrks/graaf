import GraafVerif.Model.ChkPredTree
import GraafVerif.Model.ChkTraversal
/-! `search_by`: no UB for every predecessor vector; the `Chk` model is the C19 model. -/
namespace GraafVerif.Chk
open GraafVerif.PredTree

theorem sbLoop_eq (pred : Pred) (isT : Nat → Option Nat → Bool) :
    ∀ (fuel s : Nat) (vis : List Bool) (path : List Nat),
      sbLoop pred isT fuel s vis path = .ok (PredTree.loop pred isT fuel s vis path) := by
  intro fuel
  induction fuel with
  | zero => intro s vis path; rfl
  | succ fuel ih =>
    intro s vis path
    unfold sbLoop PredTree.loop
    cases pred[s]? with
    | none => rfl
    | some v =>
      dsimp only
      cases isT s v with
      | true => rfl
      | false =>
        cases v with
        | none => rfl
        | some v' =>
          dsimp only
          cases vis[v']? with
          | none => rfl
          | some b =>
            cases b with
            | true => rfl
            | false => exact ih _ _ _

/-- `f_ok` form: the `Chk` model agrees with the functional model used by C19. -/
theorem searchByChk_eq (pred : Pred) (s : Nat) (isT : Nat → Option Nat → Bool) :
    searchByChk pred s isT = liftRes (PredTree.searchBy pred s isT) := by
  unfold searchByChk PredTree.searchBy PredTree.searchByFuel rdChecked
  rw [sbLoop_eq]
  cases pred[s]? with
  | none => rfl
  | some ps =>
    show (if isT s ps = true then _ else _) = liftRes (if isT s ps = true then _ else _)
    cases isT s ps with
    | true => rfl
    | false => rfl

theorem noUB_liftRes (r : PredTree.Res) : NoUB (liftRes r) := by
  cases r with
  | panic => exact noUB_panic
  | ret p => exact noUB_ok _

end GraafVerif.Chk
