import GraafVerif.Model.AlgoGen
import GraafVerif.Proof.AlgoGenRt
import GraafVerif.Proof.AlgoGenSentinel
import GraafVerif.Model.Bfm
import GraafVerif.Proof.Bfm
/-!
# Generated `BellmanFordMoore::{new, distances}` (`Model/AlgoGen.lean`) = hand-written `Model/Bfm.lean`

The hand-written model keeps `dist : Vec<isize>` as `List (Option Int)` (`none` = `isize::MAX`); the
generated definitions keep the numbers with the sentinel `inf` (`encD inf`, `DInv`, `FoldOk` of
`Proof/AlgoGenSentinel.lean`).  `new` is equal unconditionally.  `distances` (the four times unrolled `while` inside
`for _ in 1..order`, then the negative-circuit scan) is equal to the hand-written `distancesFrom`
on every state with `dist.len() = order` whose finite entries differ from the sentinel, for a
digraph whose arcs are in range, PROVIDED no relaxation sum `dist[u] + w` computed along the
hand-written execution reaches the sentinel (`RoundsOk` / `ScanOk`: the "path sums fit" of the
property, which the hand-written model builds in by using `Option`).
-/
namespace GraafVerif.AlgoGenThm
open GraafVerif GraafVerif.AlgoGen
open GraafVerif.Bfm (Arc Dist relax relaxAt roundLoop round rounds stillRelaxable finalScan gtInf)

namespace BellmanFordMoore

/-- `BellmanFordMoore::new`: `assert!(s < order)`, `vec![isize::MAX; order]`, `dist[s] = 0`. -/
theorem new_eq (g : WGraph) (inf : Int) (s : Nat) :
    AlgoGen.BellmanFordMoore.new g inf s =
      if s < g.n then .ok ⟨encD inf (GraafVerif.Bfm.init g.n s)⟩ else .error (.fault .panic) := by
  unfold AlgoGen.BellmanFordMoore.new GraafVerif.Bfm.init
  by_cases hs : s < g.n
  · have h1 : s < (encD inf (List.replicate g.n none)).length := by simpa using hs
    simp only [hs, decide_true, assert_true, ok_bind, ← encD_replicate, wr_lt _ _ _ _ h1, encD_set, pure_eq_ok,
      fnBody_ok, if_true]
  · simp [hs]

/-- One relaxation block of the source (it occurs four times in the `while` body) with its
continuation `k`. -/
def blockK {β ρ γ : Type} (inf : Int) (arcs : List (Nat × Nat × Int)) (i : Nat) (self : AlgoGen.BellmanFordMoore)
    (updated : Bool) (k : AlgoGen.BellmanFordMoore → Bool → Blk β ρ γ) : Blk β ρ γ := do
  let t0 ← rd "bellman_ford_moore.rs:distances:arcs_ptr.add(i)" arcs i
  let t1 ← rd "bellman_ford_moore.rs:distances:dist_ptr.add(u)" self.dist t0.1
  let t2 ← (if t1 ≠ inf then do
      let t3 ← rd "bellman_ford_moore.rs:distances:dist_ptr.add(v)" self.dist t0.2.1
      let t4 ← (if t3 > t1 + t0.2.2 then do
          let t5 ← wr "bellman_ford_moore.rs:distances:dist_ptr.add(v)" self.dist t0.2.1 (t1 + t0.2.2)
          pure (({ self with dist := t5 } : AlgoGen.BellmanFordMoore), true)
        else pure (self, updated))
      pure (t4.1, t4.2)
    else pure (self, updated))
  k t2.1 t2.2

/-- `if i < arcs_len { block }` -/
def ifBlock {β ρ : Type} (inf : Int) (arcs : List (Nat × Nat × Int)) (n i : Nat) (self : AlgoGen.BellmanFordMoore)
    (updated : Bool) : Blk β ρ (AlgoGen.BellmanFordMoore × Bool) :=
  if i < n then blockK inf arcs i self updated (fun s u => pure (s, u)) else pure (self, updated)

/-- The body of the `while`, factored into its four blocks (definitional). -/
theorem distances_while0_unfold (inf : Int) (arcs : List (Nat × Nat × Int)) (n : Nat)
    (self : AlgoGen.BellmanFordMoore) (updated : Bool) (i : Nat) :
    AlgoGen.BellmanFordMoore.distances_while0 inf arcs n (self, updated, i) =
      if i < n then
        blockK inf arcs i self updated (fun self updated => do
          let t6 ← ifBlock inf arcs n (i + 1) self updated
          let t13 ← ifBlock inf arcs n (i + 1 + 1) t6.1 t6.2
          let t20 ← ifBlock inf arcs n (i + 1 + 1 + 1) t13.1 t13.2
          pure (t20.1, t20.2, i + 1 + 1 + 1 + 1))
      else brk (self, updated, i) := rfl

/-- The sum computed by a relaxation of arc `a` in state `st` stays below the sentinel. -/
def RelaxOk (inf : Int) (st : Dist × Bool) (a : Arc) : Prop :=
  ∀ du, st.1[a.1]?.getD none = some du → du + a.2.2 < inf

theorem relax_dinv (inf : Int) (n : Nat) (st : Dist × Bool) (a : Arc) (h : DInv inf n st.1) (hok : RelaxOk inf st a) :
    DInv inf n (relax st a).1 := by
  unfold relax
  cases hdu : st.1[a.1]?.getD none with
  | none => exact h
  | some du =>
    dsimp only
    split
    · exact h.set _ (Int.ne_of_lt (hok du hdu))
    · exact h

theorem rd_enc {β ρ : Type} (site : String) (inf : Int) (d : Dist) (v : Nat) (hv : v < d.length) :
    (rd site (encD inf d) v : Blk β ρ Int) = .ok ((d[v]?.getD none).getD inf) :=
  encD_rd site inf d v hv

/-- the test `dist[v] > w` through the encoding, for a sum below the sentinel -/
theorem gtInf_enc (inf : Int) (o : Option Int) (w : Int) (h : w < inf) :
    (o.getD inf > w) = (gtInf o w = true) :=
  propext ((improves_iff_enc inf o w h).trans (by cases o <;> exact Iff.rfl))

theorem blockK_eval {β ρ γ : Type} (inf : Int) (n : Nat) (arcs : List Arc) (i : Nat) (hi : i < arcs.length)
    (d : Dist) (upd : Bool) (k : AlgoGen.BellmanFordMoore → Bool → Blk β ρ γ)
    (hd : DInv inf n d) (hu : arcs[i].1 < n) (hv : arcs[i].2.1 < n) (hok : RelaxOk inf (d, upd) arcs[i]) :
    blockK inf arcs i ⟨encD inf d⟩ upd k = k ⟨encD inf (relax (d, upd) arcs[i]).1⟩ (relax (d, upd) arcs[i]).2 := by
  have hv' : arcs[i].2.1 < d.length := hd.len ▸ hv
  unfold blockK relax
  rw [rd_lt _ _ _ hi, ok_bind, rd_enc _ inf d _ (hd.len ▸ hu), ok_bind]
  dsimp only
  cases hdu : d[arcs[i].1]?.getD none with
  | none => simp
  | some du =>
    simp only [Option.getD_some, ne_eq, hd.ne_inf hdu, not_false_eq_true, if_true, rd_enc _ inf d _ hv', ok_bind,
      gtInf_enc inf _ _ (hok du hdu)]
    split
    · rw [wr_lt _ _ _ _ ((encD_length inf d).symm ▸ hv'), encD_set]
      rfl
    · rfl

def ArcsWF (n : Nat) (arcs : List Arc) : Prop := ∀ a ∈ arcs, a.1 < n ∧ a.2.1 < n

theorem relaxAt_ok (inf : Int) (n : Nat) (arcs : List Arc) (j : Nat) (st : Dist × Bool) (hd : DInv inf n st.1)
    (hok : FoldOk (RelaxOk inf) relax (arcs.drop j) st) :
    DInv inf n (relaxAt arcs j st).1 ∧ FoldOk (RelaxOk inf) relax (arcs.drop (j + 1)) (relaxAt arcs j st) := by
  unfold relaxAt
  by_cases hj : j < arcs.length
  · rw [List.drop_eq_getElem_cons hj] at hok
    rw [dif_pos hj]
    exact ⟨relax_dinv inf n st _ hd hok.1, hok.2⟩
  · rw [dif_neg hj, List.drop_eq_nil_of_le (Nat.le_succ_of_le (Nat.le_of_not_lt hj))]
    exact ⟨hd, trivial⟩

theorem ifBlock_eval {β ρ : Type} (inf : Int) (n : Nat) (arcs : List Arc) (hwf : ArcsWF n arcs) (j : Nat)
    (st : Dist × Bool) (hd : DInv inf n st.1) (hok : FoldOk (RelaxOk inf) relax (arcs.drop j) st) :
    (ifBlock inf arcs arcs.length j ⟨encD inf st.1⟩ st.2 : Blk β ρ _) =
        .ok (⟨encD inf (relaxAt arcs j st).1⟩, (relaxAt arcs j st).2) ∧
      DInv inf n (relaxAt arcs j st).1 ∧
      FoldOk (RelaxOk inf) relax (arcs.drop (j + 1)) (relaxAt arcs j st) := by
  refine ⟨?_, relaxAt_ok inf n arcs j st hd hok⟩
  unfold ifBlock relaxAt
  by_cases hj : j < arcs.length
  · rw [List.drop_eq_getElem_cons hj] at hok
    have hm := hwf arcs[j] (List.getElem_mem hj)
    rw [if_pos hj, dif_pos hj]
    exact blockK_eval inf n arcs j hj st.1 st.2 _ hd hm.1 hm.2 hok.1
  · rw [if_neg hj, dif_neg hj]
    rfl

/-- One round of the `while`: four `relaxAt`, `i += 4`. -/
theorem distances_while0_step (inf : Int) (n : Nat) (arcs : List Arc) (hwf : ArcsWF n arcs) (i : Nat)
    (d : Dist) (upd : Bool) (hd : DInv inf n d) (hok : FoldOk (RelaxOk inf) relax (arcs.drop i) (d, upd)) :
    let st4 := relaxAt arcs (i + 1 + 1 + 1) (relaxAt arcs (i + 1 + 1) (relaxAt arcs (i + 1) (relaxAt arcs i (d, upd))))
    (AlgoGen.BellmanFordMoore.distances_while0 inf arcs arcs.length (⟨encD inf d⟩, upd, i) :
        Blk _ (Option (List Int) × AlgoGen.BellmanFordMoore) _) =
      (if i < arcs.length then .ok (⟨encD inf st4.1⟩, st4.2, i + 1 + 1 + 1 + 1) else brk (⟨encD inf d⟩, upd, i)) ∧
    DInv inf n st4.1 ∧ FoldOk (RelaxOk inf) relax (arcs.drop (i + 1 + 1 + 1 + 1)) st4 := by
  intro st4
  rw [distances_while0_unfold]
  obtain ⟨d1, o1⟩ := relaxAt_ok inf n arcs i (d, upd) hd hok
  obtain ⟨e2, d2, o2⟩ := ifBlock_eval (β := AlgoGen.BellmanFordMoore × Bool × Nat)
    (ρ := Option (List Int) × AlgoGen.BellmanFordMoore) inf n arcs hwf (i + 1) (relaxAt arcs i (d, upd)) d1 o1
  obtain ⟨e3, d3, o3⟩ := ifBlock_eval (β := AlgoGen.BellmanFordMoore × Bool × Nat)
    (ρ := Option (List Int) × AlgoGen.BellmanFordMoore) inf n arcs hwf (i + 1 + 1) _ d2 o2
  obtain ⟨e4, d4, o4⟩ := ifBlock_eval (β := AlgoGen.BellmanFordMoore × Bool × Nat)
    (ρ := Option (List Int) × AlgoGen.BellmanFordMoore) inf n arcs hwf (i + 1 + 1 + 1) _ d3 o3
  refine ⟨?_, d4, o4⟩
  by_cases hi : i < arcs.length
  · rw [List.drop_eq_getElem_cons hi] at hok
    have hm := hwf arcs[i] (List.getElem_mem hi)
    simp only [hi, if_true]
    rw [blockK_eval inf n arcs i hi d upd _ hd hm.1 hm.2 hok.1]
    have hr : relax (d, upd) arcs[i] = relaxAt arcs i (d, upd) := by simp [relaxAt, hi]
    rw [hr, e2]
    simp only [ok_bind, e3, e4, pure_eq_ok]
    rfl
  · simp only [hi, if_false]

theorem distances_while0_eq (inf : Int) (n : Nat) (arcs : List Arc) (hwf : ArcsWF n arcs) :
    ∀ (fuel i : Nat) (d : Dist) (upd : Bool), DInv inf n d → FoldOk (RelaxOk inf) relax (arcs.drop i) (d, upd) →
      (∃ i', (whileLoop (AlgoGen.BellmanFordMoore.distances_while0 inf arcs arcs.length) fuel (⟨encD inf d⟩, upd, i) :
          Blk (AlgoGen.BellmanFordMoore) (Option (List Int) × AlgoGen.BellmanFordMoore) _) =
        .ok (⟨encD inf (roundLoop arcs fuel i (d, upd)).1⟩, (roundLoop arcs fuel i (d, upd)).2, i')) ∧
      DInv inf n (roundLoop arcs fuel i (d, upd)).1 := by
  intro fuel
  induction fuel with
  | zero => intro i d upd hd _; exact ⟨⟨i, rfl⟩, hd⟩
  | succ fuel ih =>
    intro i d upd hd hok
    obtain ⟨hs, d4, o4⟩ := distances_while0_step inf n arcs hwf i d upd hd hok
    rw [whileLoop_succ, hs]
    unfold roundLoop
    by_cases hi : i < arcs.length
    · simp only [hi, if_true]
      exact ih _ _ _ d4 o4
    · simp only [hi, if_false]
      exact ⟨⟨i, rfl⟩, hd⟩

/-- No relaxation sum reaches the sentinel during `k` rounds of the hand-written execution. -/
def RoundsOk (inf : Int) (arcs : List Arc) : Nat → Dist → Prop
  | 0, _ => True
  | k + 1, d => FoldOk (RelaxOk inf) relax arcs (d, false) ∧ ((round arcs d).2 = true → RoundsOk inf arcs k (round arcs d).1)

/-- `for _ in 1..order { updated = false; i = 0; while ..; if !updated { break } }` = the
hand-written `rounds` (one iteration per list element). -/
theorem distances_for0_eq (inf : Int) (n : Nat) (arcs : List Arc) (hwf : ArcsWF n arcs) :
    ∀ (xs : List Nat) (d : Dist), DInv inf n d → RoundsOk inf arcs xs.length d →
      (forLoop (AlgoGen.BellmanFordMoore.distances_for0 inf arcs arcs.length) xs ⟨encD inf d⟩ :
          Blk Empty (Option (List Int) × AlgoGen.BellmanFordMoore) _) = .ok ⟨encD inf (rounds arcs xs.length d)⟩ ∧
      DInv inf n (rounds arcs xs.length d) := by
  intro xs
  induction xs with
  | nil => intro d hd _; exact ⟨rfl, hd⟩
  | cons x xs ih =>
    intro d hd hok
    obtain ⟨hok1, hok2⟩ := hok
    obtain ⟨⟨i', hw⟩, hd'⟩ := distances_while0_eq inf n arcs hwf arcs.length 0 d false hd (by simpa using hok1)
    have hbody : AlgoGen.BellmanFordMoore.distances_for0 inf arcs arcs.length ⟨encD inf d⟩ x =
        if (round arcs d).2 = true then .ok ⟨encD inf (round arcs d).1⟩ else brk ⟨encD inf (round arcs d).1⟩ := by
      unfold AlgoGen.BellmanFordMoore.distances_for0
      simp only [hw, ok_bind, round]
      by_cases hb : (roundLoop arcs arcs.length 0 (d, false)).2 = true
      · simp [hb]
      · simp [hb]
    simp only [List.length_cons, rounds]
    by_cases hu : (round arcs d).2 = true
    · rw [forLoop_cons_ok (h := by rw [hbody, if_pos hu])]
      simp only [hu, if_true]
      exact ih _ hd' (hok2 hu)
    · rw [forLoop_cons_brk (h := by rw [hbody, if_neg hu]; rfl)]
      simp only [hu, if_false, Bool.false_eq_true]
      exact ⟨trivial, hd'⟩

/-- No sum of the final scan reaches the sentinel. -/
def ScanOk (inf : Int) (d : Dist) (arcs : List Arc) : Prop := ∀ a ∈ arcs, RelaxOk inf (d, false) a

/-- One step of `for i in 0..arcs_len { if dist[u] != MAX && dist[v] > dist[u] + w { return None } }`. -/
theorem distances_for1_step (inf : Int) (n : Nat) (arcs : List Arc) (d : Dist) (i : Nat) (hi : i < arcs.length)
    (hd : DInv inf n d) (hu : arcs[i].1 < n) (hv : arcs[i].2.1 < n) (hok : RelaxOk inf (d, false) arcs[i]) :
    (AlgoGen.BellmanFordMoore.distances_for1 inf ⟨encD inf d⟩ arcs () i :
        Blk Unit (Option (List Int) × AlgoGen.BellmanFordMoore) Unit) =
      if stillRelaxable d arcs[i] = true then ret (none, ⟨encD inf d⟩) else .ok () := by
  unfold AlgoGen.BellmanFordMoore.distances_for1 stillRelaxable
  rw [rd_lt _ _ _ hi, ok_bind]
  dsimp only
  rw [rd_enc _ inf d _ (hd.len ▸ hu), ok_bind]
  cases hdu : d[arcs[i].1]?.getD none with
  | none => simp
  | some du =>
    simp only [Option.getD_some, ne_eq, hd.ne_inf hdu, not_false_eq_true, if_true,
      rd_enc _ inf d _ (hd.len ▸ hv), ok_bind, gtInf_enc inf _ _ (hok du hdu), pure_eq_ok, decide_eq_true_eq]

theorem distances_for1_eq (inf : Int) (n : Nat) (arcs : List Arc) (hwf : ArcsWF n arcs) (d : Dist)
    (hd : DInv inf n d) (hok : ScanOk inf d arcs) : ∀ (m i : Nat), m = arcs.length - i →
    (forLoop (AlgoGen.BellmanFordMoore.distances_for1 inf ⟨encD inf d⟩ arcs) (List.range' i m) () :
        Blk Empty (Option (List Int) × AlgoGen.BellmanFordMoore) Unit) =
      if finalScan d (arcs.drop i) = true then .error (.ret (none, ⟨encD inf d⟩)) else .ok () := by
  intro m
  induction m with
  | zero =>
    intro i hm
    rw [List.drop_eq_nil_of_le (Nat.le_of_sub_eq_zero hm.symm)]
    rfl
  | succ m ih =>
    intro i hm
    have hi : i < arcs.length := Nat.lt_of_sub_pos (hm ▸ Nat.succ_pos m)
    have hmem := List.getElem_mem hi
    rw [List.range'_succ, List.drop_eq_getElem_cons hi, forLoop_cons, finalScan,
      distances_for1_step inf n arcs d i hi hd (hwf _ hmem).1 (hwf _ hmem).2 (hok _ hmem)]
    by_cases hr : stillRelaxable d arcs[i] = true
    · rw [if_pos hr, if_pos hr]
      rfl
    · rw [if_neg hr, if_neg hr]
      exact ih (i + 1) (by rw [Nat.sub_succ, ← hm, Nat.pred_succ])

/-- `BellmanFordMoore::distances` (one call on an object whose vector is `d`) = the hand-written
`distancesFrom`: the returned `Option<&[isize]>` and the vector the object is left with. -/
theorem distances_eq (g : WGraph) (inf : Int) (d : Dist) (hwf : ArcsWF g.n (GraafVerif.Bfm.arcsOf g))
    (hd : DInv inf g.n d) (hr : RoundsOk inf (GraafVerif.Bfm.arcsOf g) (g.n - 1) d)
    (hs : ScanOk inf (rounds (GraafVerif.Bfm.arcsOf g) (g.n - 1) d) (GraafVerif.Bfm.arcsOf g)) :
    AlgoGen.BellmanFordMoore.distances g inf ⟨encD inf d⟩ =
      .ok ((GraafVerif.Bfm.distancesFrom g.n (GraafVerif.Bfm.arcsOf g) d).1.map (encD inf),
           ⟨encD inf (GraafVerif.Bfm.distancesFrom g.n (GraafVerif.Bfm.arcsOf g) d).2⟩) := by
  unfold AlgoGen.BellmanFordMoore.distances GraafVerif.Bfm.distancesFrom
  have harcs : arcsWeighted g = GraafVerif.Bfm.arcsOf g := rfl
  have hlen : (AlgoGen.range 1 g.n).length = g.n - 1 := by simp [AlgoGen.range]
  obtain ⟨h0, hd'⟩ := distances_for0_eq inf g.n _ hwf (AlgoGen.range 1 g.n) d hd (by rw [hlen]; exact hr)
  rw [hlen] at h0 hd'
  have h1 := distances_for1_eq inf g.n _ hwf _ hd' hs (GraafVerif.Bfm.arcsOf g).length 0 (Nat.sub_zero _).symm
  simp only [List.drop_zero] at h1
  simp only [harcs, h0, ok_bind, List.range_eq_range', h1]
  by_cases hf : finalScan (rounds (GraafVerif.Bfm.arcsOf g) (g.n - 1) d) (GraafVerif.Bfm.arcsOf g) = true
  · rw [if_pos hf, if_pos hf]
    rfl
  · rw [if_neg hf, if_neg hf]
    rfl

theorem arcsWF_of_wf (g : WGraph) (hwf : g.WF) : ArcsWF g.n (GraafVerif.Bfm.arcsOf g) :=
  fun _ ha => arcList_lt hwf ha

theorem init_dinv (inf : Int) (n s : Nat) (hinf : inf ≠ 0) : DInv inf n (GraafVerif.Bfm.init n s) := by
  exact DInv.set ⟨List.length_replicate, fun x hx => List.eq_of_mem_replicate hx ▸ nofun⟩ s (Ne.symm hinf)

/-- `BellmanFordMoore::new(&digraph, s).distances()` = the hand-written `Bfm.distances` (`none`
entries read as the sentinel), for every well-formed digraph and every `s`, provided no
relaxation sum of the hand-written execution reaches the sentinel. -/
theorem new_distances_eq (g : WGraph) (inf : Int) (s : Nat) (hwf : g.WF) (hinf : inf ≠ 0)
    (hr : RoundsOk inf (GraafVerif.Bfm.arcsOf g) (g.n - 1) (GraafVerif.Bfm.init g.n s))
    (hs : ScanOk inf (rounds (GraafVerif.Bfm.arcsOf g) (g.n - 1) (GraafVerif.Bfm.init g.n s)) (GraafVerif.Bfm.arcsOf g)) :
    (AlgoGen.BellmanFordMoore.new g inf s >>= fun b => Except.map Prod.fst (AlgoGen.BellmanFordMoore.distances g inf b)) =
      match GraafVerif.Bfm.distances g s with
      | .panic => .error (.fault .panic)
      | .ret r => .ok (r.map (encD inf)) := by
  rw [new_eq]
  by_cases hsn : s < g.n
  · rw [if_pos hsn, GraafVerif.Bfm.distances_eq g hsn]
    exact congrArg (Except.map Prod.fst) (distances_eq g inf _ (arcsWF_of_wf g hwf) (init_dinv inf g.n s hinf) hr hs)
  · rw [if_neg hsn, GraafVerif.Bfm.distances, GraafVerif.Bfm.distancesArcs, if_neg hsn]
    rfl

/-! ### A checkable sufficient condition for `RoundsOk` / `ScanOk`: bounded weights and a sentinel
above `((order - 1) * #arcs + 1) * (largest absolute weight)` -/

/-- every finite entry lies in `[-B, B]` -/
def Bnd (B : Int) (d : Dist) : Prop := ∀ x ∈ d, ∀ v, x = some v → -B ≤ v ∧ v ≤ B

theorem bnd_mono {B B' : Int} {d : Dist} (h : Bnd B d) (hB : B ≤ B') : Bnd B' d := by
  intro x hx v hv
  obtain ⟨h1, h2⟩ := h x hx v hv
  exact ⟨Int.le_trans (Int.neg_le_neg hB) h1, Int.le_trans h2 hB⟩

theorem bnd_get {B : Int} {d : Dist} (h : Bnd B d) {i : Nat} {v : Int} (hv : d[i]?.getD none = some v) :
    -B ≤ v ∧ v ≤ B := by
  cases hd : d[i]? with
  | none =>
    rw [hd] at hv
    cases hv
  | some o =>
    rw [hd] at hv
    exact h o (List.mem_of_getElem? hd) v hv

theorem nonneg_of_neg_le {W a : Int} (h1 : -W ≤ a) (h2 : a ≤ W) : 0 ≤ W :=
  Int.not_lt.1 fun hlt =>
    Int.lt_irrefl 0 (Int.lt_trans (Int.lt_of_lt_of_le (Int.neg_pos_of_neg hlt) (Int.le_trans h1 h2)) hlt)

theorem relax_bnd (B W : Int) (st : Dist × Bool) (a : Arc) (hw : -W ≤ a.2.2 ∧ a.2.2 ≤ W)
    (h : Bnd B st.1) : Bnd (B + W) (relax st a).1 := by
  have hW0 : 0 ≤ W := nonneg_of_neg_le hw.1 hw.2
  have hmono : Bnd (B + W) st.1 := bnd_mono h (Int.le_add_of_nonneg_right hW0)
  unfold relax
  cases hdu : st.1[a.1]?.getD none with
  | none => exact hmono
  | some du =>
    dsimp only
    split
    · intro x hx v hv
      rcases List.mem_or_eq_of_mem_set hx with h1 | h1
      · exact hmono x h1 v hv
      · cases h1.symm.trans hv
        obtain ⟨hb1, hb2⟩ := bnd_get h hdu
        exact ⟨Int.neg_add ▸ Int.add_le_add hb1 hw.1, Int.add_le_add hb2 hw.2⟩
    · exact hmono

theorem relaxOk_of_bnd (inf B W : Int) (st : Dist × Bool) (a : Arc) (hw : a.2.2 ≤ W) (h : Bnd B st.1)
    (hinf : B + W < inf) : RelaxOk inf st a :=
  fun _ hdu => Int.lt_of_le_of_lt (Int.add_le_add (bnd_get h hdu).2 hw) hinf

theorem succ_mul_cast (k : Nat) (C : Int) : ((k + 1 : Nat) : Int) * C = C + k * C := by
  rw [Int.natCast_succ, Int.add_mul, Int.one_mul, Int.add_comm]

theorem lt_of_add_nonneg {B X Y inf : Int} (hY : 0 ≤ Y) (h : B + (X + Y) < inf) : B + X < inf :=
  Int.lt_of_le_of_lt (Int.add_le_add_left (Int.le_add_of_nonneg_right hY) B) h

theorem foldOk_of_bnd (inf W : Int) (hW0 : 0 ≤ W) : ∀ (arcs : List Arc) (st : Dist × Bool) (B : Int),
    (∀ a ∈ arcs, -W ≤ a.2.2 ∧ a.2.2 ≤ W) → Bnd B st.1 → B + arcs.length * W < inf →
    FoldOk (RelaxOk inf) relax arcs st ∧ Bnd (B + arcs.length * W) (arcs.foldl relax st).1 := by
  intro arcs
  induction arcs with
  | nil =>
    intro st B _ h _
    exact ⟨trivial, bnd_mono h (Int.le_of_eq (by simp))⟩
  | cons a arcs ih =>
    intro st B hw h hinf
    have hwa := hw a List.mem_cons_self
    have hpos : 0 ≤ (arcs.length : Int) * W := Int.mul_nonneg (Int.natCast_nonneg _) hW0
    rw [List.length_cons, succ_mul_cast] at hinf ⊢
    obtain ⟨h1, h2⟩ := ih (relax st a) (B + W) (fun b hb => hw b (List.mem_cons_of_mem _ hb))
      (relax_bnd B W st a hwa h) (Int.add_assoc B W _ ▸ hinf)
    exact ⟨⟨relaxOk_of_bnd inf B W st a hwa.2 h (lt_of_add_nonneg hpos hinf), h1⟩, Int.add_assoc B W _ ▸ h2⟩

theorem roundsOk_of_bnd (inf W : Int) (hW0 : 0 ≤ W) (arcs : List Arc) (hw : ∀ a ∈ arcs, -W ≤ a.2.2 ∧ a.2.2 ≤ W) :
    ∀ (k : Nat) (d : Dist) (B : Int), Bnd B d → B + k * (arcs.length * W) < inf →
      RoundsOk inf arcs k d ∧ Bnd (B + k * (arcs.length * W)) (rounds arcs k d) := by
  intro k
  induction k with
  | zero =>
    intro d B h _
    exact ⟨trivial, bnd_mono h (Int.le_of_eq (by simp))⟩
  | succ k ih =>
    intro d B h hinf
    have hkpos : 0 ≤ (k : Int) * (arcs.length * W) :=
      Int.mul_nonneg (Int.natCast_nonneg _) (Int.mul_nonneg (Int.natCast_nonneg _) hW0)
    rw [succ_mul_cast] at hinf ⊢
    obtain ⟨f1, f2⟩ := foldOk_of_bnd inf W hW0 arcs (d, false) B hw h (lt_of_add_nonneg hkpos hinf)
    rw [← GraafVerif.Bfm.round_eq_foldl] at f2
    obtain ⟨r1, r2⟩ := ih (round arcs d).1 (B + arcs.length * W) f2 (Int.add_assoc B _ _ ▸ hinf)
    refine ⟨⟨f1, fun _ => r1⟩, ?_⟩
    rw [rounds]
    split
    · exact Int.add_assoc B _ _ ▸ r2
    · exact bnd_mono f2 (Int.add_le_add_left (Int.le_add_of_nonneg_right hkpos) B)

theorem init_bnd (n s : Nat) : Bnd 0 (GraafVerif.Bfm.init n s) := by
  intro x hx v hv
  unfold GraafVerif.Bfm.init at hx
  rcases List.mem_or_eq_of_mem_set hx with h | h
  · rw [List.eq_of_mem_replicate h] at hv; cases hv
  · cases h.symm.trans hv
    exact ⟨Int.le_refl _, Int.le_refl _⟩

/-- `BellmanFordMoore::new(&digraph, s).distances()` = the hand-written `Bfm.distances`, for every
well-formed digraph whose weights lie in `[-W, W]`, every `s`, and every sentinel above
`((order - 1) * #arcs + 1) * W`. -/
theorem new_distances_eq_of_bound (g : WGraph) (inf W : Int) (s : Nat) (hwf : g.WF) (hW0 : 0 ≤ W)
    (hw : ∀ u, ∀ vw ∈ g.out u, -W ≤ vw.2 ∧ vw.2 ≤ W)
    (hinf : ((g.n - 1 : Nat) : Int) * ((GraafVerif.Bfm.arcsOf g).length * W) + W < inf) (hinf0 : 0 < inf) :
    (AlgoGen.BellmanFordMoore.new g inf s >>= fun b => Except.map Prod.fst (AlgoGen.BellmanFordMoore.distances g inf b)) =
      match GraafVerif.Bfm.distances g s with
      | .panic => .error (.fault .panic)
      | .ret r => .ok (r.map (encD inf)) := by
  have hwa : ∀ a ∈ GraafVerif.Bfm.arcsOf g, -W ≤ a.2.2 ∧ a.2.2 ≤ W :=
    fun a ha => hw a.1 (a.2.1, a.2.2) (GraafVerif.Bfm.mem_arcsOf.mp ha).2
  rw [← Int.zero_add (_ * _)] at hinf
  obtain ⟨hr, hb⟩ := roundsOk_of_bnd inf W hW0 _ hwa (g.n - 1) (GraafVerif.Bfm.init g.n s) 0 (init_bnd g.n s)
    (Int.lt_of_le_of_lt (Int.le_add_of_nonneg_right hW0) hinf)
  exact new_distances_eq g inf s hwf (Int.ne_of_gt hinf0) hr
    (fun a ha => relaxOk_of_bnd inf _ W (_, false) a (hwa a ha).2 hb hinf)

end BellmanFordMoore

end GraafVerif.AlgoGenThm
