import GraafVerif.Proof.OpsAbs
import GraafVerif.Proof.OpsArc
import GraafVerif.Model.Ops
import GraafVerif.Proof.GenAddArcMX
/-!
# `AdjacencyMatrix::{complement, converse, union}` compute their set definitions

All three build their result by `add_arc`: `union` onto the operand of larger order, `converse` and `complement` onto
`empty(order)`.  They are the folds of `Proof/OpsArc.lean` at the matrix (`Gen.MX.repr`, whose `add_arc` and `empty` are
those of `Proof/GenAddArcMX.lean`); `complement`'s two loops are first written as one fold over the list of arcs they add.
-/
namespace GraafVerif.Ops
open GraafVerif.Repr GraafVerif.Gen

theorem and_mask_ne_zero (x : BitVec 64) (i : Nat) :
    ((x &&& AdjMatrix.mask i) != 0#64) = x.getLsbD (i % 64) :=
  AdjMatrix.and_mask_ne_zero x i

theorem absMX_V {d : AdjMatrix} {v : Nat} : (absMX d).V v ↔ v < d.order := List.mem_range

theorem absMX_valid {d : AdjMatrix} (h : d.WF) : (absMX d).Valid := h.simple

theorem canonMX {a b : AdjMatrix} (ha : a.WF) (hb : b.WF) (h : absMX a = absMX b) : a = b :=
  canon_of_ext AdjMatrix.WF_iff_simple AdjMatrix.ext ha hb h

theorem orderMX_of_abs {r : AdjMatrix} {S : DG} {n : Nat} (h : absMX r = S) (hS : ∀ v, S.V v ↔ v < n) :
    r.order = n :=
  eq_of_lt_iff_lt fun v => by rw [← absMX_V, h]; exact hS v

theorem absMX_A {d : AdjMatrix} {u v : Nat} : (absMX d).A u v ↔ (u, v) ∈ d.arcs :=
  (AdjMatrix.mem_arcs_iff d u v).symm

theorem _root_.GraafVerif.Repr.AdjMatrix.dgIs (d : AdjMatrix) : DGIs (absMX d) d.order (ofList d.arcs) :=
  ⟨fun _ => absMX_V, fun _ _ => absMX_A⟩

theorem unionMX_spec (a b : AdjMatrix) (ha : a.WF) (hb : b.WF) :
    ∃ r, unionMX a b = some r ∧ r.WF ∧ absMX r = specUnion (absMX a) (absMX b) :=
  MX.repr.union_spec AdjMatrix.dgIs (fun _ => absMX_valid) a b ha hb

theorem buildMX_spec {d : AdjMatrix} (h : d.WF) (hlt : d.order * d.order < 2 ^ 64) {S : DG} (hS : S.Valid)
    (hV : ∀ v, S.V v ↔ v < d.order) {arcs : List (Nat × Nat)} (hA : ∀ u v, (u, v) ∈ arcs ↔ S.A u v) :
    ∃ r, (AdjMatrix.empty d.order).bind (arcs.foldlM fun g x => g.addArc x.1 x.2) = some r ∧ r.WF ∧ absMX r = S := by
  obtain ⟨e, he, hwe, hoe, hne⟩ := MX.repr.empty_spec h.1 hlt
  rw [he]
  exact MX.repr.build_spec AdjMatrix.dgIs hwe hne hS (fun v => (hV v).trans (by rw [← hoe])) hA

theorem converseMX_spec (d : AdjMatrix) (h : d.WF) (hlt : d.order * d.order < 2 ^ 64) :
    ∃ r, converseMX d = some r ∧ r.WF ∧ absMX r = specConverse (absMX d) := by
  have := buildMX_spec h hlt (specConverse_valid (absMX_valid h)) (fun _ => absMX_V)
    (arcs := d.arcs.map fun a => (a.2, a.1)) fun u v => by
      rw [List.mem_map]
      exact ⟨fun ⟨⟨_, _⟩, hm, e⟩ => by cases e; exact absMX_A.mpr hm, fun hm => ⟨(v, u), absMX_A.mp hm, rfl⟩⟩
  simp only [List.foldlM_map] at this
  exact this

/-- The arcs `complement` adds, in the order of its two loops: for `u < v`, each arc between them that `d` lacks. -/
def missing (d : AdjMatrix) : List (Nat × Nat) :=
  (List.range d.order).flatMap fun u => (List.range' (u + 1) (d.order - (u + 1))).flatMap fun v =>
    (if !d.hasArc u v then [(u, v)] else []) ++ (if !d.hasArc v u then [(v, u)] else [])

theorem complementMX_eq (d : AdjMatrix) :
    complementMX d = (AdjMatrix.empty d.order).bind ((missing d).foldlM fun g x => g.addArc x.1 x.2) := by
  unfold complementMX missing
  refine congrArg (Option.bind _) (funext fun e => ?_)
  rw [Fold.foldlM_flatMap]
  refine congrArg (fun f => List.foldlM f e (List.range d.order)) (funext fun g => funext fun u => ?_)
  rw [Fold.foldlM_flatMap]
  refine congrArg (fun f => List.foldlM f g _) (funext fun g => funext fun v => ?_)
  rw [List.foldlM_append]
  cases d.hasArc u v <;> cases d.hasArc v u <;> simp [List.foldlM_cons]

theorem mem_ite_singleton {α : Type} {c : Prop} [Decidable c] {x y : α} :
    y ∈ (if c then [x] else []) ↔ c ∧ y = x := by
  split <;> simp [*]

theorem mem_missing {d : AdjMatrix} {a b : Nat} :
    (a, b) ∈ missing d ↔ a < d.order ∧ b < d.order ∧ a ≠ b ∧ ¬ d.hasArc a b = true := by
  simp only [missing, List.mem_flatMap, List.mem_range, List.mem_append, mem_ite_singleton, Bool.not_eq_true',
    Prod.mk.injEq, Bool.not_eq_true]
  constructor
  · rintro ⟨u, hu, v, hv, ⟨hn, rfl, rfl⟩ | ⟨hn, rfl, rfl⟩⟩ <;> have hv := mem_range'_sub.mp hv
    · exact ⟨hu, hv.2, Nat.ne_of_lt hv.1, hn⟩
    · exact ⟨hv.2, hu, Nat.ne_of_gt hv.1, hn⟩
  · rintro ⟨ha, hb, hne, hn⟩
    rcases Nat.lt_or_gt_of_ne hne with hab | hab
    · exact ⟨a, ha, b, mem_range'_sub.mpr ⟨hab, hb⟩, Or.inl ⟨hn, rfl, rfl⟩⟩
    · exact ⟨b, hb, a, mem_range'_sub.mpr ⟨hab, ha⟩, Or.inr ⟨hn, rfl, rfl⟩⟩

theorem complementMX_spec (d : AdjMatrix) (h : d.WF) (hlt : d.order * d.order < 2 ^ 64) :
    ∃ r, complementMX d = some r ∧ r.WF ∧ absMX r = specComplement (absMX d) := by
  rw [complementMX_eq]
  exact buildMX_spec h hlt (specComplement_valid (absMX d)) (fun _ => absMX_V) fun u v =>
    mem_missing.trans (and_congr absMX_V.symm (and_congr_left' absMX_V.symm))

end GraafVerif.Ops
