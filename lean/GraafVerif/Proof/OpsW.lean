import GraafVerif.Proof.OpsSorted
import GraafVerif.Proof.VecLemmas
import GraafVerif.Spec.Ops
import GraafVerif.Proof.ReprObs
/-!
# `AdjacencyListWeighted::converse` reverses every arc and carries its weight over

Row `v` of the result is the `BTreeMap` collected from the arcs into `v`, taken in iteration
order.  Their tails are strictly ascending (rows ascend, and a row has one entry per head), so
that map is the list of those arcs itself.
-/
namespace GraafVerif.Ops
open GraafVerif.Repr

abbrev WRow := List (Nat × Int)

theorem absW_V {d : AdjListW} {v : Nat} : (absW d).V v ↔ v < d.order := List.mem_range

theorem absW_A {d : AdjListW} {u v : Nat} {w : Int} :
    (absW d).A u v w ↔ mget v (d.rows[u]?.getD []) = some w := by
  rw [← AdjListW.arcWeight_eq]; rfl

theorem absW_A_iff_mem {d : AdjListW} (h : d.Shape) {u v : Nat} {w : Int} :
    (absW d).A u v w ↔ (v, w) ∈ d.rows[u]?.getD [] := (AdjListW.mem_row h).symm

theorem absW_valid {d : AdjListW} (h : d.WF) : (absW d).Valid :=
  ⟨fun u v _ ha => h.simple u v
      (by rw [AdjListW.hasArc_eq, show d.arcWeight u v = _ from ha]; rfl),
    fun _ _ _ _ h1 h2 => Option.some.inj ((show _ = _ from h1).symm.trans h2)⟩

theorem wfW_of_valid {r : AdjListW} (hs : r.Shape) (hv : (absW r).Valid) : r.WF :=
  (AdjListW.WF_iff_simple r).mpr ⟨hs, fun u v huv => by
    obtain ⟨w, hw⟩ := Option.isSome_iff_exists.mp ((AdjListW.hasArc_eq r u v).symm.trans huv)
    exact hv.1 u v w hw⟩

theorem canonW {a b : AdjListW} (ha : a.WF) (hb : b.WF) (h : absW a = absW b) : a = b :=
  AdjListW.ext ha.shape hb.shape (WDG.ext_iff'.mp h).1 fun u v =>
    Option.ext fun w => (WDG.ext_iff'.mp h).2 u v w

theorem mem_arcsWeighted {d : AdjListW} {u v : Nat} {w : Int} :
    (u, v, w) ∈ d.arcsWeighted ↔ (v, w) ∈ d.rows[u]?.getD [] := mem_flatRows_getD

theorem head_lt_of_mem_rowW {d : AdjListW} (h : d.WF) {u : Nat} {p : Nat × Int} (hp : p ∈ d.rows[u]?.getD []) :
    p.1 < d.order :=
  absW_V.mp ((absW_valid h).1 u p.1 p.2 ((absW_A_iff_mem h.shape).mpr hp)).2.1

theorem pairwise_zipIdx {β : Type} (l : List β) (k : Nat) : (l.zipIdx k).Pairwise (fun x y => x.2 < y.2) := by
  induction l generalizing k with
  | nil => exact List.Pairwise.nil
  | cons b l ih =>
    rw [List.zipIdx_cons, List.pairwise_cons]
    exact ⟨fun y hy => List.le_snd_of_mem_zipIdx hy, ih (k + 1)⟩

/-- The arcs into `v`, as `(tail, weight)` in iteration order. -/
def arcsInto (d : AdjListW) (v : Nat) : WRow :=
  (d.arcsWeighted.filter (fun a => a.2.1 == v)).map (fun a => (a.1, a.2.2))

theorem mem_arcsInto {d : AdjListW} {u v : Nat} {w : Int} :
    (u, w) ∈ arcsInto d v ↔ (v, w) ∈ d.rows[u]?.getD [] := by
  rw [← mem_arcsWeighted]
  simp only [arcsInto, List.mem_map, List.mem_filter, beq_iff_eq, Prod.mk.injEq]
  exact ⟨fun ⟨⟨_, _, _⟩, ⟨hm, rfl⟩, rfl, rfl⟩ => hm, fun hm => ⟨(u, v, w), ⟨hm, rfl⟩, rfl, rfl⟩⟩

theorem sortedK_arcsInto {d : AdjListW} (h : d.WF) (v : Nat) : SortedK (arcsInto d v) := by
  unfold SortedK arcsInto AdjListW.arcsWeighted
  rw [List.pairwise_map, List.pairwise_filter, List.pairwise_flatMap]
  constructor
  · rintro ⟨row, u⟩ hm
    -- within one row at most one entry has head `v`
    have hs : SortedK row := (h.2 u row (List.mem_zipIdx_iff_getElem?.mp hm)).1
    rw [List.pairwise_map]
    exact hs.imp fun {p q} hpq hp hq => absurd ((beq_iff_eq.mp hp).trans (beq_iff_eq.mp hq).symm)
      (Nat.ne_of_lt hpq)
  · refine (pairwise_zipIdx d.rows 0).imp fun {x y} hxy a ha b hb _ _ => ?_
    obtain ⟨_, _, rfl⟩ := List.mem_map.mp ha
    obtain ⟨_, _, rfl⟩ := List.mem_map.mp hb
    exact hxy

theorem converseW_rows {d : AdjListW} (h : d.WF) :
    ∃ r, converseW d = some r ∧ r.order = d.order ∧
      ∀ v, r.rows[v]?.getD [] = if v < d.order then arcsInto d v else [] := by
  have hidx : ∀ a ∈ d.arcsWeighted, a.2.1 < (List.replicate d.order ([] : WRow)).length := by
    rintro ⟨u, v, w⟩ ha
    rw [List.length_replicate]
    exact head_lt_of_mem_rowW h (mem_arcsWeighted.mp ha)
  refine ⟨_, by rw [converseW, Vec.foldlM_set [] (fun a : Nat × Nat × Int => a.2.1)
    (fun a r => minsert a.1 a.2.2 r) _ _ hidx]; rfl, (Vec.length_foldl_set _ _).trans List.length_replicate,
    fun v => ?_⟩
  rw [Vec.getD_foldl_set_replicate [] (fun a : Nat × Nat × Int => a.2.1) (fun a r => minsert a.1 a.2.2 r)]
  split
  · rw [← toMap_of_sorted (sortedK_arcsInto h v), toMap, arcsInto, List.foldl_map]
  · rfl

theorem converseW_spec (d : AdjListW) (h : d.WF) :
    ∃ r, converseW d = some r ∧ r.WF ∧ absW r = specConverseW (absW d) := by
  obtain ⟨r, hr, hord, hrow⟩ := converseW_rows h
  have hs : r.Shape := ⟨(hord ▸ h.1 : 0 < r.order), fun v => by
    rw [hrow]
    split
    · exact sortedK_arcsInto h v
    · exact List.Pairwise.nil⟩
  have habs : absW r = specConverseW (absW d) := by
    refine WDG.ext_iff'.mpr ⟨fun v => by rw [absW_V, hord]; exact absW_V.symm, fun v u w => ?_⟩
    show _ ↔ (absW d).A u v w
    rw [absW_A_iff_mem hs, absW_A_iff_mem h.shape, hrow]
    split
    · exact mem_arcsInto
    · rename_i hv
      exact ⟨fun hm => (nomatch hm), fun hm => absurd (head_lt_of_mem_rowW h hm) hv⟩
  exact ⟨r, hr, wfW_of_valid hs (habs ▸ specConverseW_valid (absW_valid h)), habs⟩

end GraafVerif.Ops
