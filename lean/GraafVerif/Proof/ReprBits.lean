import GraafVerif.Model.Repr
import GraafVerif.Proof.VecLemmas
/-!
# Bit addressing of `AdjacencyMatrix`

Arc `(u, v)` lives in cell `i = u * order + v`, block `i / 64` (`i >> 6`), bit `i % 64`
(`mask i = 1 << (i & 63)`); `cell d c` is bit `c` of the flat cell space.  Rewriting the block of one
cell by a bitwise operation with its mask acts on that cell alone (`cell_update`).
-/
namespace GraafVerif.Repr.AdjMatrix

theorem mask_eq_twoPow (i : Nat) : mask i = BitVec.twoPow 64 (i % 64) := (BitVec.twoPow_eq 64 _).symm

theorem getLsbD_mask (i k : Nat) : (mask i).getLsbD k = decide (k = i % 64) := by
  rw [mask_eq_twoPow, BitVec.getLsbD_twoPow, decide_eq_true (Nat.mod_lt i (by decide)), Bool.true_and]
  exact decide_eq_decide.mpr eq_comm

theorem mask_ne_zero (i : Nat) : mask i ≠ 0#64 := fun h => by
  have := getLsbD_mask i (i % 64)
  rw [h, BitVec.getLsbD_zero, decide_eq_true rfl] at this
  exact Bool.noConfusion this

theorem and_mask_ne_zero (x : BitVec 64) (i : Nat) : ((x &&& mask i) != 0#64) = x.getLsbD (i % 64) := by
  rw [mask_eq_twoPow, BitVec.and_twoPow, ← mask_eq_twoPow]
  cases x.getLsbD (i % 64)
  · rfl
  · exact (bne_iff_ne ..).mpr (mask_ne_zero i)

/-- `⌈m / 64⌉` blocks hold `m` cells. -/
theorem le_ceil64 (m : Nat) : m ≤ 64 * ((m + 63) / 64) := by omega

theorem mod_eq_iff_of_div_eq {c i : Nat} (h : c / 64 = i / 64) : c % 64 = i % 64 ↔ c = i :=
  ⟨fun h' => by rw [← Nat.div_add_mod c 64, ← Nat.div_add_mod i 64, h, h'], fun e => e ▸ rfl⟩

/-- The out-of-range test of `has_arc` / `remove_arc`. -/
theorem oob_eq (n u v : Nat) : (decide (u ≥ n) || decide (v ≥ n)) = !(decide (u < n) && decide (v < n)) := by
  rw [Bool.not_and, ← decide_not, ← decide_not]
  exact congr (congrArg _ (decide_eq_decide.mpr Nat.not_lt.symm)) (decide_eq_decide.mpr Nat.not_lt.symm)

theorem lt_of_not_oob {n u v : Nat} (h : ¬ (decide (u ≥ n) || decide (v ≥ n)) = true) : u < n ∧ v < n :=
  ⟨Nat.lt_of_not_le fun hu => h (by rw [decide_eq_true hu]; rfl),
   Nat.lt_of_not_le fun hv => h (by rw [decide_eq_true hv]; exact Bool.or_true _)⟩

theorem hasArc_eq (d : AdjMatrix) (u v : Nat) :
    d.hasArc u v = (decide (u < d.order) && decide (v < d.order) && d.cell (d.index u v)) := by
  unfold hasArc cell
  rw [and_mask_ne_zero, oob_eq]
  cases (decide (u < d.order) && decide (v < d.order)) <;> rfl

theorem hasArc_iff (d : AdjMatrix) (u v : Nat) :
    d.hasArc u v = true ↔ u < d.order ∧ v < d.order ∧ d.cell (d.index u v) = true := by
  rw [hasArc_eq, Bool.and_eq_true, Bool.and_eq_true, decide_eq_true_eq, decide_eq_true_eq, and_assoc]

theorem hasArc_of_not_lt (d : AdjMatrix) {u v : Nat} (h : ¬ (u < d.order ∧ v < d.order)) : d.hasArc u v = false :=
  Bool.eq_false_iff.mpr fun hc => h ⟨((hasArc_iff d u v).mp hc).1, ((hasArc_iff d u v).mp hc).2.1⟩

theorem hasArc_of_lt (d : AdjMatrix) {u v : Nat} (hu : u < d.order) (hv : v < d.order) :
    d.hasArc u v = d.cell (d.index u v) := by
  rw [hasArc_eq, decide_eq_true hu, decide_eq_true hv]; rfl

theorem cell_mul_add (d : AdjMatrix) (j : Nat) {k : Nat} (hk : k < 64) :
    d.cell (j * 64 + k) = (d.blocks[j]?.getD 0#64).getLsbD k := by
  unfold cell
  rw [Nat.mul_comm, Nat.mul_add_div (by decide), Nat.mul_add_mod, Nat.div_eq_of_lt hk, Nat.mod_eq_of_lt hk]; rfl

theorem cell_lt {d : AdjMatrix} {c : Nat} (h : d.cell c = true) : c < 64 * d.blocks.length := by
  refine Nat.lt_of_not_le fun hle => Bool.false_ne_true (Eq.trans ?_ h)
  have : d.blocks.length ≤ c / 64 := (Nat.le_div_iff_mul_le (by decide)).mpr (Nat.mul_comm 64 _ ▸ hle)
  rw [cell, List.getElem?_eq_none this]; exact BitVec.getLsbD_zero.symm

theorem cell_replicate (m n c : Nat) : (AdjMatrix.mk (List.replicate m 0#64) n).cell c = false := by
  unfold cell
  rw [List.getElem?_replicate]
  split <;> exact BitVec.getLsbD_zero

theorem block_lt {d : AdjMatrix} (hs : d.order * d.order ≤ 64 * d.blocks.length) {u v : Nat}
    (hu : u < d.order) (hv : v < d.order) : d.index u v / 64 < d.blocks.length :=
  Nat.div_lt_of_lt_mul (Nat.lt_of_lt_of_le (flatIdx_lt hu hv) hs)

theorem mem_arcs_iff_cell (d : AdjMatrix) (u v : Nat) :
    (u, v) ∈ d.arcs ↔ u < d.order ∧ v < d.order ∧ d.cell (d.index u v) = true := by
  unfold arcs
  rw [List.mem_map]
  constructor
  · rintro ⟨c, hc, e⟩
    obtain ⟨hcell, hlt⟩ := Bool.and_eq_true_iff.mp (List.mem_filter.mp hc).2
    obtain ⟨hu, hv, hi⟩ := flatIdx_decode (of_decide_eq_true hlt)
    cases e
    exact ⟨hu, hv, (congrArg d.cell hi).trans hcell⟩
  · rintro ⟨hu, hv, hcell⟩
    refine ⟨d.index u v, List.mem_filter.mpr ⟨List.mem_range.mpr (cell_lt hcell), ?_⟩, ?_⟩
    · exact Bool.and_eq_true_iff.mpr ⟨hcell, decide_eq_true (flatIdx_lt hu hv)⟩
    · exact congr (congrArg Prod.mk (flatIdx_div hv)) (flatIdx_mod hv)

@[simp] theorem setBlock_order (d : AdjMatrix) (i : Nat) (f : BitVec 64 → BitVec 64) :
    (d.setBlock i f).order = d.order := rfl

@[simp] theorem setBlock_length (d : AdjMatrix) (i : Nat) (f : BitVec 64 → BitVec 64) :
    (d.setBlock i f).blocks.length = d.blocks.length := List.length_set

theorem cell_setBlock (d : AdjMatrix) (i : Nat) (f : BitVec 64 → BitVec 64) (hi : i / 64 < d.blocks.length)
    (c : Nat) : (d.setBlock i f).cell c =
      if c / 64 = i / 64 then (f (d.blocks[i / 64]?.getD 0#64)).getLsbD (c % 64) else d.cell c := by
  unfold setBlock cell
  rw [List.getElem?_set]
  by_cases h : c / 64 = i / 64
  · rw [if_pos h, if_pos h.symm, if_pos hi]; rfl
  · rw [if_neg h, if_neg (fun e => h e.symm)]

/-- `|`, `^`, `& !` are `op` with `g` = or, xor, and-not. -/
theorem cell_update (d : AdjMatrix) {i : Nat} (hi : i / 64 < d.blocks.length)
    {op : BitVec 64 → BitVec 64 → BitVec 64} {g : Bool → Bool → Bool}
    (hop : ∀ x y k, k < 64 → (op x y).getLsbD k = g (x.getLsbD k) (y.getLsbD k)) (hg : ∀ b, g b false = b)
    (c : Nat) : (d.setBlock i (op · (mask i))).cell c = g (d.cell c) (decide (c = i)) := by
  rw [cell_setBlock d i _ hi]
  by_cases h : c / 64 = i / 64
  · rw [if_pos h, hop _ _ _ (Nat.mod_lt c (by decide)), getLsbD_mask,
      decide_eq_decide.mpr (mod_eq_iff_of_div_eq h), ← h]; rfl
  · rw [if_neg h, decide_eq_false (fun (e : c = i) => h (e ▸ rfl)), hg]

theorem andnot_bits (x y : BitVec 64) (k : Nat) (hk : k < 64) :
    (x &&& ~~~ y).getLsbD k = (x.getLsbD k && !y.getLsbD k) := by
  rw [BitVec.getLsbD_and, BitVec.getLsbD_not, decide_eq_true hk, Bool.true_and]

theorem andnot_mask_fix (x : BitVec 64) (i : Nat) (h : x.getLsbD (i % 64) = false) : x &&& ~~~ mask i = x := by
  apply BitVec.eq_of_getLsbD_eq
  intro k hk
  rw [andnot_bits x _ k hk, getLsbD_mask]
  by_cases hki : k = i % 64
  · rw [hki, h]; rfl
  · rw [decide_eq_false hki]; exact Bool.and_true _

theorem hasArc_update {d : AdjMatrix} (hs : d.order * d.order ≤ 64 * d.blocks.length) {u v : Nat}
    (hu : u < d.order) (hv : v < d.order) {op : BitVec 64 → BitVec 64 → BitVec 64} {g : Bool → Bool → Bool}
    (hop : ∀ x y k, k < 64 → (op x y).getLsbD k = g (x.getLsbD k) (y.getLsbD k)) (hg : ∀ b, g b false = b)
    (a b : Nat) : (d.setBlock (d.index u v) (op · (mask (d.index u v)))).hasArc a b =
      if a = u ∧ b = v then g (d.hasArc u v) true else d.hasArc a b := by
  rw [hasArc_eq, hasArc_eq d a b]
  show (decide (a < d.order) && decide (b < d.order) && (d.setBlock _ _).cell (d.index a b)) = _
  rw [cell_update d (block_lt hs hu hv) hop hg]
  by_cases hc : a = u ∧ b = v
  · rw [if_pos hc, hc.1, hc.2, hasArc_of_lt d hu hv, decide_eq_true hu, decide_eq_true hv, decide_eq_true rfl]; rfl
  · rw [if_neg hc]
    by_cases hb : b < d.order
    · rw [decide_eq_false (fun (e : d.index a b = d.index u v) => hc (flatIdx_inj hb hv e)), hg]
    · rw [decide_eq_false hb, Bool.and_false, Bool.false_and, Bool.false_and]

end GraafVerif.Repr.AdjMatrix
