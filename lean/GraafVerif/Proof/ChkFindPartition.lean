import GraafVerif.Model.ChkRepr
import GraafVerif.Proof.ChkHoare
import GraafVerif.Proof.OpsPartition
/-!
# `AdjacencyMap::find_partition` and the boundaries of `union` (C13, P1)

The binary search is the one of the functional model of `union` (`Ops.findPartition`, on entry vectors): for ARBITRARY
key vectors (sorted or not) and every diagonal `r` the `Chk` loop never reads out of range and returns the same point,
and `amBoundaries` returns `Ops.boundaries`.  What the search is known to satisfy — a point of `[0, n1] × [0, n2]` on
the diagonal whatever the keys, monotone in `r` for strictly ascending keys — is what `Proof/OpsPartition.lean` proves.
-/
namespace GraafVerif.Chk
open GraafVerif.Repr

/-- A key vector as the entry vector of the functional model of `union` (the sets play no role). -/
def entries (l : List Nat) : List Ops.Entry := l.map (fun k => (k, []))

theorem entries_length (l : List Nat) : (entries l).length = l.length := List.length_map _

theorem entries_key (l : List Nat) {m : Nat} (h : m < l.length) : ((entries l)[m]?.getD (0, [])).1 = l[m] := by
  rw [entries, List.getElem?_map, List.getElem?_eq_getElem h]
  rfl

theorem sortedK_entries {l : List Nat} (h : l.Pairwise (· < ·)) : SortedK (entries l) :=
  List.pairwise_map.mpr h

theorem fpProbe_eq (r : Nat) (lhs rhs : List Nat) (mid : Nat) (h : mid < lhs.length) :
    fpProbe r lhs rhs mid = .ok (decide (r - mid < (entries rhs).length) &&
      decide (((entries lhs)[mid]?.getD (0, [])).1 > ((entries rhs)[r - mid]?.getD (0, [])).1)) := by
  unfold fpProbe
  rw [entries_length, entries_key lhs h]
  split
  · rename_i hj
    rw [rd_of_lt _ h, rd_of_lt _ hj, entries_key rhs hj, decide_eq_true hj, Bool.true_and]
    rfl
  · rename_i hj
    rw [decide_eq_false hj, Bool.false_and]
    rfl

theorem findPartitionLoop_eq (r : Nat) (lhs rhs : List Nat) :
    ∀ (fuel lo hi : Nat), hi ≤ lhs.length →
      findPartitionLoop r lhs rhs fuel lo hi =
        .ok (Ops.findPartitionLoop r (entries lhs) (entries rhs) fuel lo hi,
          r - Ops.findPartitionLoop r (entries lhs) (entries rhs) fuel lo hi) := by
  intro fuel
  induction fuel with
  | zero => intro lo hi _; rfl
  | succ fuel ih =>
    intro lo hi hhi
    unfold findPartitionLoop Ops.findPartitionLoop
    by_cases hlt : lo < hi
    · have hmid := (mid_bounds hlt).2
      rw [if_pos hlt, if_pos hlt, Nat.shiftRight_eq_div_pow, Nat.pow_one]
      show (fpProbe r lhs rhs ((lo + hi) / 2) >>= _) = _
      rw [fpProbe_eq r lhs rhs _ (Nat.lt_of_lt_of_le hmid hhi), ok_bind]
      dsimp only
      split
      · exact ih lo _ (Nat.le_trans (Nat.le_of_lt hmid) hhi)
      · exact ih _ hi hhi
    · rw [if_neg hlt, if_neg hlt]
      rfl

/-- `find_partition` returns what the functional model of `union` returns: its fuel `lhs.len() + 1` covers the
search interval (`Ops.findPartitionLoop_of_fuel`). -/
theorem findPartition_eq (r : Nat) (lhs rhs : List Nat) :
    findPartition r lhs rhs = .ok (Ops.findPartition r (entries lhs) (entries rhs)) := by
  have hf := Ops.findPartitionLoop_of_fuel r (entries lhs) (entries rhs) (f := lhs.length + 1)
    (Nat.le_trans (Nat.sub_le _ _) (Nat.le_trans (Nat.min_le_right _ _) (Nat.le_succ_of_le (Nat.le_of_eq (entries_length lhs)))))
  rw [entries_length, entries_length] at hf
  unfold findPartition
  rw [Ops.searchHi_eq_min, findPartitionLoop_eq r lhs rhs _ _ _ (Nat.min_le_right _ _), hf]
  rfl

theorem findPartition_spec (r : Nat) (lhs rhs : List Nat) :
    Sat (findPartition r lhs rhs) (fun res => r ≤ lhs.length + rhs.length →
      res.1 ≤ lhs.length ∧ res.2 ≤ rhs.length ∧ res.1 + res.2 = r) := by
  rw [findPartition_eq]
  have := Ops.findPartition_box r (entries lhs) (entries rhs)
  rw [entries_length, entries_length] at this
  exact Sat.pure this

theorem amBoundaries_eq (lhs rhs : List Nat) (t : Nat) :
    amBoundaries lhs rhs t = .ok (Ops.boundaries (entries lhs) (entries rhs) t) := by
  rw [Ops.boundaries, entries_length, entries_length]
  exact mapM_ok fun _ _ => findPartition_eq _ lhs rhs

theorem amBoundaries_spec (lhs rhs : List Nat) (t : Nat) :
    Sat (amBoundaries lhs rhs t) (fun bs => bs.length = t + 1 ∧ ∀ b ∈ bs, b.1 ≤ lhs.length ∧ b.2 ≤ rhs.length) := by
  rw [amBoundaries_eq]
  have := Ops.boundaries_box (entries lhs) (entries rhs) t
  rw [entries_length, entries_length] at this
  exact Sat.pure ⟨Ops.boundaries_length .., this⟩

end GraafVerif.Chk
