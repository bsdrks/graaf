import GraafVerif.Model.Repr
import GraafVerif.Proof.FoldLemmas
/-!
# Laws of the sorted-list containers of `Model/Repr.lean`

`BTreeSet<usize>` (`sinsert / serase`) and `BTreeSet<(usize,usize)>` (`pinsert / perase`) are instances of one
ordered insert / erase over a `Bool`-valued strict total order (`oinsert / oerase`), where the set laws are proved;
`BTreeMap<usize, X>` (`mget / mupsert / merase`) is reduced to its key set (`keys_mupsert`, `keys_merase`).
-/
namespace GraafVerif.Repr

theorem pairwise_ext {α : Type} {R : α → α → Prop} (asymm : ∀ a b, R a b → R b a → False) {l₁ l₂ : List α}
    (h₁ : l₁.Pairwise R) (h₂ : l₂.Pairwise R) (h : ∀ a, a ∈ l₁ ↔ a ∈ l₂) : l₁ = l₂ :=
  have nodup : ∀ {l : List α}, l.Pairwise R → l.Nodup := fun hl =>
    hl.imp (S := (· ≠ ·)) fun hab e => asymm _ _ hab (e ▸ hab)
  List.Perm.eq_of_pairwise (fun a b _ _ hab hba => (asymm a b hab hba).elim) h₁ h₂
    ((List.perm_ext_iff_of_nodup (nodup h₁) (nodup h₂)).mpr h)

/-! `collect::<BTreeSet<_>>()` is a fold of `insert`, from the left or from the right: its members follow from the
membership law of the insert alone (that it stays ascending is `List.foldlRecOn` / `List.foldrRecOn`). -/

theorem mem_foldl_insert {α : Type} {ins : α → List α → List α} (h : ∀ {x a l}, a ∈ ins x l ↔ a = x ∨ a ∈ l)
    {a : α} (l acc : List α) : a ∈ l.foldl (fun s x => ins x s) acc ↔ a ∈ acc ∨ a ∈ l :=
  (Fold.foldl_accum (a ∈ ·) (a = ·) (fun _ _ => h.trans or_comm) l acc).trans
    (or_congr_right exists_eq_right')

theorem mem_foldl_insert_nil {α : Type} {ins : α → List α → List α} (h : ∀ {x a l}, a ∈ ins x l ↔ a = x ∨ a ∈ l)
    {a : α} (l : List α) : a ∈ l.foldl (fun s x => ins x s) [] ↔ a ∈ l :=
  (mem_foldl_insert h l []).trans (or_iff_right List.not_mem_nil)

theorem mem_foldr_insert_nil {α : Type} {ins : α → List α → List α} (h : ∀ {x a l}, a ∈ ins x l ↔ a = x ∨ a ∈ l)
    {a : α} (l : List α) : a ∈ l.foldr ins [] ↔ a ∈ l := by
  induction l with
  | nil => exact Iff.rfl
  | cons y ys ih => exact h.trans ((or_congr_right ih).trans List.mem_cons.symm)

section Generic
variable {α : Type} [DecidableEq α]

def oinsert (lt : α → α → Bool) (x : α) : List α → List α
  | [] => [x]
  | y :: ys => if lt x y then x :: y :: ys else if x = y then y :: ys else y :: oinsert lt x ys

def oerase (lt : α → α → Bool) (x : α) : List α → List α
  | [] => []
  | y :: ys => if x = y then ys else if lt x y then y :: ys else y :: oerase lt x ys

structure StrictOrder (lt : α → α → Bool) : Prop where
  irrefl : ∀ a, lt a a = false
  trans : ∀ a b c, lt a b = true → lt b c = true → lt a c = true

structure StrictTotal (lt : α → α → Bool) : Prop extends StrictOrder lt where
  tri : ∀ a b, lt a b = false → a ≠ b → lt b a = true

abbrev OSorted (lt : α → α → Bool) (l : List α) : Prop := l.Pairwise (fun a b => lt a b = true)

variable {lt : α → α → Bool}

theorem oinsert_cons (x y : α) (ys : List α) :
    oinsert lt x (y :: ys) = if lt x y then x :: y :: ys else if x = y then y :: ys else y :: oinsert lt x ys := rfl

theorem oerase_cons (x y : α) (ys : List α) :
    oerase lt x (y :: ys) = if x = y then ys else if lt x y then y :: ys else y :: oerase lt x ys := rfl

omit [DecidableEq α] in
theorem StrictOrder.asymm (st : StrictOrder lt) {a b : α} (h : lt a b = true) : lt b a = false :=
  Bool.eq_false_iff.mpr fun hba => Bool.false_ne_true ((st.irrefl a).symm.trans (st.trans a b a h hba))

omit [DecidableEq α] in
theorem StrictOrder.ne (st : StrictOrder lt) {a b : α} (h : lt a b = true) : a ≠ b :=
  fun e => Bool.false_ne_true ((st.irrefl b).symm.trans (e ▸ h))

omit [DecidableEq α] in
theorem StrictOrder.not_mem_of_lt_head (st : StrictOrder lt) {x y : α} {ys : List α} (h : OSorted lt (y :: ys))
    (hxy : lt x y = true) : x ∉ ys :=
  fun hm => Bool.false_ne_true ((st.asymm ((List.pairwise_cons.mp h).1 x hm)).symm.trans hxy)

theorem mem_oinsert {x a : α} {l : List α} : a ∈ oinsert lt x l ↔ a = x ∨ a ∈ l := by
  induction l with
  | nil => exact ⟨fun h => Or.inl (List.mem_singleton.mp h), fun h => h.elim (fun e => e ▸ List.mem_cons_self) (fun h => nomatch h)⟩
  | cons y ys ih =>
    rw [oinsert_cons]
    by_cases h1 : lt x y = true
    · rw [if_pos h1]; exact List.mem_cons
    · rw [if_neg h1]
      by_cases h2 : x = y
      · rw [if_pos h2, h2]
        exact ⟨Or.inr, fun h => h.elim (fun e => e ▸ List.mem_cons_self) id⟩
      · rw [if_neg h2, List.mem_cons, ih, List.mem_cons]
        exact or_left_comm

theorem osorted_oinsert (st : StrictTotal lt) {x : α} {l : List α} (h : OSorted lt l) :
    OSorted lt (oinsert lt x l) := by
  induction l with
  | nil => exact List.pairwise_singleton _ _
  | cons y ys ih =>
    have hy := List.pairwise_cons.mp h
    rw [oinsert_cons]
    by_cases h1 : lt x y = true
    · rw [if_pos h1]
      refine List.pairwise_cons.mpr ⟨fun a ha => ?_, h⟩
      rcases List.mem_cons.mp ha with rfl | ha
      · exact h1
      · exact st.trans _ _ _ h1 (hy.1 a ha)
    · rw [if_neg h1]
      by_cases h2 : x = y
      · rw [if_pos h2]; exact h
      · rw [if_neg h2]
        refine List.pairwise_cons.mpr ⟨fun a ha => ?_, ih hy.2⟩
        rcases mem_oinsert.mp ha with rfl | ha
        · exact st.tri _ _ (Bool.eq_false_iff.mpr h1) h2
        · exact hy.1 a ha

theorem oerase_sublist {x : α} {l : List α} : (oerase lt x l).Sublist l := by
  induction l with
  | nil => exact List.Sublist.refl _
  | cons y ys ih =>
    rw [oerase_cons]
    by_cases h1 : x = y
    · rw [if_pos h1]; exact List.sublist_cons_self _ _
    · rw [if_neg h1]
      by_cases h2 : lt x y = true
      · rw [if_pos h2]; exact List.Sublist.refl _
      · rw [if_neg h2]; exact List.Sublist.cons_cons _ ih

theorem osorted_oerase {x : α} {l : List α} (h : OSorted lt l) : OSorted lt (oerase lt x l) :=
  List.Pairwise.sublist oerase_sublist h

theorem mem_oerase (st : StrictTotal lt) {x a : α} {l : List α} (h : OSorted lt l) :
    a ∈ oerase lt x l ↔ a ∈ l ∧ a ≠ x := by
  induction l with
  | nil => exact ⟨fun ha => (nomatch ha), fun ha => (nomatch ha.1)⟩
  | cons y ys ih =>
    have hy := List.pairwise_cons.mp h
    rw [oerase_cons]
    by_cases h1 : x = y
    · -- `x` is the head: the tail is strictly above it
      rw [if_pos h1, h1, List.mem_cons]
      exact ⟨fun ha => ⟨Or.inr ha, (st.ne (hy.1 a ha)).symm⟩, fun ha => ha.1.resolve_left ha.2⟩
    · rw [if_neg h1]
      by_cases h2 : lt x y = true
      · -- `x` is below the head, so it does not occur at all
        rw [if_pos h2]
        refine ⟨fun ha => ⟨ha, ?_⟩, fun ha => ha.1⟩
        rintro rfl
        rcases List.mem_cons.mp ha with e | ha
        · exact h1 e
        · exact st.not_mem_of_lt_head h h2 ha
      · rw [if_neg h2, List.mem_cons, ih hy.2, List.mem_cons]
        constructor
        · rintro (rfl | ⟨ha, hax⟩)
          · exact ⟨Or.inl rfl, fun e => h1 e.symm⟩
          · exact ⟨Or.inr ha, hax⟩
        · rintro ⟨rfl | ha, hax⟩
          · exact Or.inl rfl
          · exact Or.inr ⟨ha, hax⟩

omit [DecidableEq α] in
theorem osorted_ext (st : StrictOrder lt) {l₁ l₂ : List α} (h₁ : OSorted lt l₁) (h₂ : OSorted lt l₂)
    (h : ∀ a, a ∈ l₁ ↔ a ∈ l₂) : l₁ = l₂ :=
  pairwise_ext (fun _ _ hab hba => Bool.false_ne_true ((st.asymm hab).symm.trans hba)) h₁ h₂ h

theorem oinsert_of_mem (st : StrictTotal lt) {x : α} {l : List α} (h : OSorted lt l) (hx : x ∈ l) :
    oinsert lt x l = l :=
  osorted_ext st.toStrictOrder (osorted_oinsert st h) h
    (fun a => mem_oinsert.trans ⟨fun ha => ha.elim (fun (e : a = x) => e ▸ hx) id, Or.inr⟩)

/-- Sorted or not: the scan passes every element. -/
theorem oerase_of_not_mem {x : α} {l : List α} (hx : x ∉ l) : oerase lt x l = l := by
  induction l with
  | nil => rfl
  | cons y ys ih =>
    rw [oerase_cons, if_neg (fun (e : x = y) => hx (e ▸ List.mem_cons_self)),
      ih (fun hm => hx (List.mem_cons_of_mem y hm))]
    exact ite_self _

theorem oerase_oinsert (st : StrictTotal lt) {x : α} {l : List α} (h : OSorted lt l) (hx : x ∉ l) :
    oerase lt x (oinsert lt x l) = l :=
  osorted_ext st.toStrictOrder (osorted_oerase (osorted_oinsert st h)) h (fun a => by
    rw [mem_oerase st (osorted_oinsert st h), mem_oinsert]
    exact ⟨fun ha => ha.1.resolve_left ha.2, fun ha => ⟨Or.inr ha, fun e => hx (e ▸ ha)⟩⟩)

theorem oinsert_comm (st : StrictTotal lt) {x y : α} {l : List α} (h : OSorted lt l) :
    oinsert lt x (oinsert lt y l) = oinsert lt y (oinsert lt x l) :=
  osorted_ext st.toStrictOrder (osorted_oinsert st (osorted_oinsert st h)) (osorted_oinsert st (osorted_oinsert st h))
    (fun a => by simp only [mem_oinsert]; exact or_left_comm)

omit [DecidableEq α] in
theorem osorted_nodup (st : StrictTotal lt) {l : List α} (h : OSorted lt l) : l.Nodup :=
  List.Pairwise.imp (fun hab => st.ne hab) h

theorem length_oinsert_of_not_mem {x : α} {l : List α} (hx : x ∉ l) :
    (oinsert lt x l).length = l.length + 1 := by
  induction l with
  | nil => rfl
  | cons y ys ih =>
    rw [oinsert_cons]
    by_cases h1 : lt x y = true
    · rw [if_pos h1]; rfl
    · rw [if_neg h1, if_neg (fun (e : x = y) => hx (e ▸ List.mem_cons_self))]
      exact congrArg (· + 1) (ih (fun hm => hx (List.mem_cons_of_mem _ hm)))

theorem length_oerase_of_mem (st : StrictTotal lt) {x : α} {l : List α} (h : OSorted lt l) (hx : x ∈ l) :
    (oerase lt x l).length + 1 = l.length := by
  induction l with
  | nil => nomatch hx
  | cons y ys ih =>
    rw [oerase_cons]
    by_cases h1 : x = y
    · rw [if_pos h1]; rfl
    · have hx' : x ∈ ys := (List.mem_cons.mp hx).resolve_left h1
      rw [if_neg h1, if_neg (fun h2 => st.not_mem_of_lt_head h h2 hx')]
      exact congrArg (· + 1) (ih (List.pairwise_cons.mp h).2 hx')

/-- Length after insertion, for any `Decidable (x ∈ l)` instance. -/
theorem length_oinsert (st : StrictTotal lt) {x : α} {l : List α} (h : OSorted lt l)
    [inst : Decidable (x ∈ l)] :
    (oinsert lt x l).length = if x ∈ l then l.length else l.length + 1 := by
  split
  · rename_i hx; rw [oinsert_of_mem st h hx]
  · rename_i hx; exact length_oinsert_of_not_mem hx

theorem length_oerase (st : StrictTotal lt) {x : α} {l : List α} (h : OSorted lt l)
    [inst : Decidable (x ∈ l)] :
    (oerase lt x l).length = if x ∈ l then l.length - 1 else l.length := by
  split
  · rename_i hx; exact Nat.eq_sub_of_add_eq (length_oerase_of_mem st h hx)
  · rename_i hx; rw [oerase_of_not_mem hx]

end Generic

/-! ## `BTreeSet<usize>` -/

def ltNat (a b : Nat) : Bool := decide (a < b)

theorem strictTotal_ltNat : StrictTotal ltNat where
  irrefl a := decide_eq_false (Nat.lt_irrefl a)
  trans _ _ _ h₁ h₂ := decide_eq_true (Nat.lt_trans (of_decide_eq_true h₁) (of_decide_eq_true h₂))
  tri _ _ h hne := decide_eq_true ((Nat.lt_or_gt_of_ne hne).resolve_left (of_decide_eq_false h))

theorem sinsert_eq (x : Nat) (l : List Nat) : sinsert x l = oinsert ltNat x l := by
  induction l with
  | nil => rfl
  | cons y ys ih => simp only [sinsert, oinsert, ltNat, decide_eq_true_eq, ih]

theorem serase_eq (x : Nat) (l : List Nat) : serase x l = oerase ltNat x l := by
  induction l with
  | nil => rfl
  | cons y ys ih => simp only [serase, oerase, ltNat, decide_eq_true_eq, ih]

theorem sinsert_of_lt {x y : Nat} (h : x < y) (ys : List Nat) : sinsert x (y :: ys) = x :: y :: ys := if_pos h

theorem sinsert_self (y : Nat) (ys : List Nat) : sinsert y (y :: ys) = y :: ys :=
  (if_neg (Nat.lt_irrefl y)).trans (if_pos rfl)

theorem sinsert_of_gt {x y : Nat} (h : y < x) (ys : List Nat) : sinsert x (y :: ys) = y :: sinsert x ys :=
  (if_neg (Nat.lt_asymm h)).trans (if_neg (Nat.ne_of_gt h))

theorem sortedS_iff (l : List Nat) : SortedS l ↔ OSorted ltNat l :=
  ⟨List.Pairwise.imp decide_eq_true, List.Pairwise.imp of_decide_eq_true⟩

theorem mem_sinsert {x a : Nat} {l : List Nat} : a ∈ sinsert x l ↔ a = x ∨ a ∈ l := by
  rw [sinsert_eq]; exact mem_oinsert

theorem sorted_sinsert {x : Nat} {l : List Nat} (h : SortedS l) : SortedS (sinsert x l) := by
  rw [sinsert_eq, sortedS_iff]; exact osorted_oinsert strictTotal_ltNat ((sortedS_iff l).mp h)

theorem sorted_foldl_sinsert (l acc : List Nat) (h : SortedS acc) :
    SortedS (l.foldl (fun s x => sinsert x s) acc) :=
  List.foldlRecOn l _ h fun _ hs _ _ => sorted_sinsert hs

theorem mem_serase {x a : Nat} {l : List Nat} (h : SortedS l) : a ∈ serase x l ↔ a ∈ l ∧ a ≠ x := by
  rw [serase_eq]; exact mem_oerase strictTotal_ltNat ((sortedS_iff l).mp h)

theorem sorted_serase {x : Nat} {l : List Nat} (h : SortedS l) : SortedS (serase x l) := by
  rw [serase_eq, sortedS_iff]; exact osorted_oerase ((sortedS_iff l).mp h)

theorem sortedS_ext {l₁ l₂ : List Nat} (h₁ : SortedS l₁) (h₂ : SortedS l₂) (h : ∀ a, a ∈ l₁ ↔ a ∈ l₂) :
    l₁ = l₂ :=
  osorted_ext strictTotal_ltNat.toStrictOrder ((sortedS_iff _).mp h₁) ((sortedS_iff _).mp h₂) h

theorem sinsert_of_mem {x : Nat} {l : List Nat} (h : SortedS l) (hx : x ∈ l) : sinsert x l = l := by
  rw [sinsert_eq]; exact oinsert_of_mem strictTotal_ltNat ((sortedS_iff l).mp h) hx

theorem serase_absent {x : Nat} {l : List Nat} (hx : x ∉ l) : serase x l = l := by
  rw [serase_eq]; exact oerase_of_not_mem hx

set_option linter.unusedVariables false in
theorem serase_of_not_mem {x : Nat} {l : List Nat} (h : SortedS l) (hx : x ∉ l) : serase x l = l :=
  serase_absent hx

theorem serase_sinsert {x : Nat} {l : List Nat} (h : SortedS l) (hx : x ∉ l) : serase x (sinsert x l) = l := by
  rw [sinsert_eq, serase_eq]; exact oerase_oinsert strictTotal_ltNat ((sortedS_iff l).mp h) hx

/-- Holds of any list, ascending or not. -/
theorem sinsert_sinsert_comm (a b : Nat) (l : List Nat) : sinsert a (sinsert b l) = sinsert b (sinsert a l) := by
  -- by symmetry it is enough to look at `a < b`
  have lt : ∀ a b : Nat, a < b → ∀ l, sinsert a (sinsert b l) = sinsert b (sinsert a l) := by
    intro a b h l
    induction l with
    | nil => exact (sinsert_of_lt h []).trans (sinsert_of_gt h []).symm
    | cons y ys ih =>
      rcases Nat.lt_trichotomy y a with hya | rfl | hay
      · rw [sinsert_of_gt (Nat.lt_trans hya h), sinsert_of_gt hya, sinsert_of_gt hya,
          sinsert_of_gt (Nat.lt_trans hya h), ih]
      · rw [sinsert_of_gt h, sinsert_self, sinsert_self, sinsert_of_gt h]
      · rw [sinsert_of_lt hay, sinsert_of_gt h]
        rcases Nat.lt_trichotomy y b with hyb | rfl | hby
        · rw [sinsert_of_gt hyb, sinsert_of_lt hay]
        · rw [sinsert_self, sinsert_of_lt hay]
        · rw [sinsert_of_lt hby, sinsert_of_lt h]
  rcases Nat.lt_trichotomy a b with h | rfl | h
  · exact lt a b h l
  · rfl
  · exact (lt b a h l).symm

set_option linter.unusedVariables false in
theorem sinsert_comm {x y : Nat} {l : List Nat} (h : SortedS l) :
    sinsert x (sinsert y l) = sinsert y (sinsert x l) :=
  sinsert_sinsert_comm x y l

theorem sortedS_nodup {l : List Nat} (h : SortedS l) : l.Nodup :=
  osorted_nodup strictTotal_ltNat ((sortedS_iff l).mp h)

theorem length_sinsert {x : Nat} {l : List Nat} (h : SortedS l) :
    (sinsert x l).length = if x ∈ l then l.length else l.length + 1 := by
  rw [sinsert_eq]; exact length_oinsert strictTotal_ltNat ((sortedS_iff l).mp h)

theorem length_serase {x : Nat} {l : List Nat} (h : SortedS l) :
    (serase x l).length = if x ∈ l then l.length - 1 else l.length := by
  rw [serase_eq]; exact length_oerase strictTotal_ltNat ((sortedS_iff l).mp h)

theorem contains_iff_mem {x : Nat} {l : List Nat} : l.contains x = true ↔ x ∈ l := by simp

/-! ## `BTreeSet<(usize, usize)>` -/

abbrev SortedP (l : List (Nat × Nat)) : Prop := OSorted pairLt l

theorem pairLt_iff (a b : Nat × Nat) : pairLt a b = true ↔ a.1 < b.1 ∨ (a.1 = b.1 ∧ a.2 < b.2) := by
  simp only [pairLt, Bool.or_eq_true, Bool.and_eq_true, decide_eq_true_eq, beq_iff_eq]

theorem strictTotal_pairLt : StrictTotal pairLt where
  irrefl a := Bool.eq_false_iff.mpr fun h =>
    ((pairLt_iff a a).mp h).elim (Nat.lt_irrefl _) (fun h => Nat.lt_irrefl _ h.2)
  trans a b c h₁ h₂ := by
    rw [pairLt_iff] at h₁ h₂ ⊢
    rcases h₁ with h₁ | ⟨e₁, h₁⟩
    · exact Or.inl (h₂.elim (Nat.lt_trans h₁) (fun h => h.1 ▸ h₁))
    · rw [e₁]
      exact h₂.imp_right (fun h => ⟨h.1, Nat.lt_trans h₁ h.2⟩)
  tri a b h hne := by
    have h' := fun e => Bool.eq_false_iff.mp h ((pairLt_iff a b).mpr e)
    rw [pairLt_iff]
    rcases Nat.lt_trichotomy a.1 b.1 with h1 | h1 | h1
    · exact absurd (Or.inl h1) h'
    · rcases Nat.lt_trichotomy a.2 b.2 with h2 | h2 | h2
      · exact absurd (Or.inr ⟨h1, h2⟩) h'
      · exact absurd (Prod.ext h1 h2) hne
      · exact Or.inr ⟨h1.symm, h2⟩
    · exact Or.inl h1

theorem pinsert_eq (x : Nat × Nat) (l : List (Nat × Nat)) : pinsert x l = oinsert pairLt x l := by
  induction l with
  | nil => rfl
  | cons y ys ih => simp only [pinsert, oinsert, ih]

theorem perase_eq (x : Nat × Nat) (l : List (Nat × Nat)) : perase x l = oerase pairLt x l := by
  induction l with
  | nil => rfl
  | cons y ys ih => simp only [perase, oerase, ih]

theorem mem_pinsert {x a : Nat × Nat} {l : List (Nat × Nat)} : a ∈ pinsert x l ↔ a = x ∨ a ∈ l := by
  rw [pinsert_eq]; exact mem_oinsert

theorem sorted_pinsert {x : Nat × Nat} {l : List (Nat × Nat)} (h : SortedP l) : SortedP (pinsert x l) := by
  rw [pinsert_eq]; exact osorted_oinsert strictTotal_pairLt h

theorem mem_perase {x a : Nat × Nat} {l : List (Nat × Nat)} (h : SortedP l) :
    a ∈ perase x l ↔ a ∈ l ∧ a ≠ x := by
  rw [perase_eq]; exact mem_oerase strictTotal_pairLt h

theorem sorted_perase {x : Nat × Nat} {l : List (Nat × Nat)} (h : SortedP l) : SortedP (perase x l) := by
  rw [perase_eq]; exact osorted_oerase h

theorem sorted_foldl_pinsert (l acc : List (Nat × Nat)) (h : SortedP acc) :
    SortedP (l.foldl (fun s x => pinsert x s) acc) :=
  List.foldlRecOn l _ h fun _ hs _ _ => sorted_pinsert hs

theorem sortedP_ext {l₁ l₂ : List (Nat × Nat)} (h₁ : SortedP l₁) (h₂ : SortedP l₂)
    (h : ∀ a, a ∈ l₁ ↔ a ∈ l₂) : l₁ = l₂ :=
  osorted_ext strictTotal_pairLt.toStrictOrder h₁ h₂ h

theorem pinsert_of_mem {x : Nat × Nat} {l : List (Nat × Nat)} (h : SortedP l) (hx : x ∈ l) : pinsert x l = l := by
  rw [pinsert_eq]; exact oinsert_of_mem strictTotal_pairLt h hx

theorem perase_absent {x : Nat × Nat} {l : List (Nat × Nat)} (hx : x ∉ l) : perase x l = l := by
  rw [perase_eq]; exact oerase_of_not_mem hx

set_option linter.unusedVariables false in
theorem perase_of_not_mem {x : Nat × Nat} {l : List (Nat × Nat)} (h : SortedP l) (hx : x ∉ l) : perase x l = l :=
  perase_absent hx

theorem perase_pinsert {x : Nat × Nat} {l : List (Nat × Nat)} (h : SortedP l) (hx : x ∉ l) :
    perase x (pinsert x l) = l := by
  rw [pinsert_eq, perase_eq]; exact oerase_oinsert strictTotal_pairLt h hx

theorem pinsert_comm {x y : Nat × Nat} {l : List (Nat × Nat)} (h : SortedP l) :
    pinsert x (pinsert y l) = pinsert y (pinsert x l) := by
  simp only [pinsert_eq]; exact oinsert_comm strictTotal_pairLt h

theorem sortedP_nodup {l : List (Nat × Nat)} (h : SortedP l) : l.Nodup := osorted_nodup strictTotal_pairLt h

theorem length_pinsert {x : Nat × Nat} {l : List (Nat × Nat)} (h : SortedP l) :
    (pinsert x l).length = if x ∈ l then l.length else l.length + 1 := by
  rw [pinsert_eq]; exact length_oinsert strictTotal_pairLt h

theorem length_perase {x : Nat × Nat} {l : List (Nat × Nat)} (h : SortedP l) :
    (perase x l).length = if x ∈ l then l.length - 1 else l.length := by
  rw [perase_eq]; exact length_oerase strictTotal_pairLt h

/-! ## `BTreeMap<usize, X>` -/

section Maps
variable {X : Type}
open AdjListW (merase)

theorem sortedK_iff_keys (l : List (Nat × X)) : SortedK l ↔ SortedS (l.map (·.1)) :=
  List.pairwise_map.symm

@[simp] theorem mget_nil (a : Nat) : mget a ([] : List (Nat × X)) = none := rfl

theorem mget_cons (a k : Nat) (x : X) (rest : List (Nat × X)) :
    mget a ((k, x) :: rest) = if a = k then some x else if a < k then none else mget a rest := rfl

theorem mget_cons_self (k : Nat) (x : X) (rest : List (Nat × X)) : mget k ((k, x) :: rest) = some x :=
  if_pos rfl

theorem mget_cons_of_lt {a k : Nat} (h : a < k) (x : X) (rest : List (Nat × X)) : mget a ((k, x) :: rest) = none :=
  (if_neg (Nat.ne_of_lt h)).trans (if_pos h)

theorem mget_cons_of_gt {a k : Nat} (h : k < a) (x : X) (rest : List (Nat × X)) :
    mget a ((k, x) :: rest) = mget a rest :=
  (if_neg (Nat.ne_of_gt h)).trans (if_neg (Nat.lt_asymm h))

theorem mupsert_cons (k : Nat) (d : X) (f : X → X) (k' : Nat) (x : X) (rest : List (Nat × X)) :
    mupsert k d f ((k', x) :: rest) =
      if k < k' then (k, f d) :: (k', x) :: rest
      else if k = k' then (k', f x) :: rest
      else (k', x) :: mupsert k d f rest := rfl

theorem merase_cons (k k' : Nat) (x : X) (rest : List (Nat × X)) :
    merase k ((k', x) :: rest) =
      if k = k' then rest else if k < k' then (k', x) :: rest else (k', x) :: merase k rest := rfl

theorem mget_none_of_lt {a : Nat} {l : List (Nat × X)} (h : ∀ p ∈ l, a < p.1) : mget a l = none := by
  cases l with
  | nil => rfl
  | cons p rest => exact mget_cons_of_lt (h p List.mem_cons_self) p.2 rest

theorem mget_tail_of_le {a k : Nat} {x : X} {rest : List (Nat × X)} (h : SortedK ((k, x) :: rest)) (ha : a ≤ k) :
    mget a rest = none :=
  mget_none_of_lt fun q hq => Nat.lt_of_le_of_lt ha ((List.pairwise_cons.mp h).1 q hq)

theorem keys_mupsert (k : Nat) (d : X) (f : X → X) (l : List (Nat × X)) :
    (mupsert k d f l).map (·.1) = sinsert k (l.map (·.1)) := by
  induction l with
  | nil => rfl
  | cons p rest ih =>
    rw [mupsert_cons, List.map_cons, sinsert]
    by_cases h1 : k < p.1
    · rw [if_pos h1, if_pos h1]; rfl
    · rw [if_neg h1, if_neg h1]
      by_cases h2 : k = p.1
      · rw [if_pos h2, if_pos h2]; rfl
      · rw [if_neg h2, if_neg h2, List.map_cons, ih]

theorem keys_merase (k : Nat) (l : List (Nat × X)) :
    (merase k l).map (·.1) = serase k (l.map (·.1)) := by
  induction l with
  | nil => rfl
  | cons p rest ih =>
    rw [merase_cons, List.map_cons, serase]
    by_cases h1 : k = p.1
    · rw [if_pos h1, if_pos h1]
    · rw [if_neg h1, if_neg h1]
      by_cases h2 : k < p.1
      · rw [if_pos h2, if_pos h2]; rfl
      · rw [if_neg h2, if_neg h2, List.map_cons, ih]

theorem sortedK_mupsert {k : Nat} {d : X} {f : X → X} {l : List (Nat × X)} (h : SortedK l) :
    SortedK (mupsert k d f l) := by
  rw [sortedK_iff_keys, keys_mupsert]; exact sorted_sinsert ((sortedK_iff_keys l).mp h)

theorem sortedK_merase {k : Nat} {l : List (Nat × X)} (h : SortedK l) : SortedK (merase k l) := by
  rw [sortedK_iff_keys, keys_merase]; exact sorted_serase ((sortedK_iff_keys l).mp h)

theorem mget_mupsert_self (k : Nat) (d : X) (f : X → X) (l : List (Nat × X)) :
    mget k (mupsert k d f l) = some (f ((mget k l).getD d)) := by
  induction l with
  | nil => exact mget_cons_self k _ _
  | cons p rest ih =>
    obtain ⟨k', x⟩ := p
    rw [mupsert_cons]
    rcases Nat.lt_trichotomy k k' with h | h | h
    · rw [if_pos h, mget_cons_self, mget_cons_of_lt h]; rfl
    · subst h
      rw [if_neg (Nat.lt_irrefl k), if_pos rfl, mget_cons_self, mget_cons_self]; rfl
    · rw [if_neg (Nat.lt_asymm h), if_neg (Nat.ne_of_gt h), mget_cons_of_gt h, mget_cons_of_gt h, ih]

theorem mget_mupsert_of_ne {k a : Nat} (ha : a ≠ k) (d : X) (f : X → X) (l : List (Nat × X)) :
    mget a (mupsert k d f l) = mget a l := by
  induction l with
  | nil => exact (mget_cons a k _ _).trans ((if_neg ha).trans (ite_self _))
  | cons p rest ih =>
    obtain ⟨k', x⟩ := p
    rw [mupsert_cons]
    rcases Nat.lt_trichotomy k k' with h | h | h
    · rw [if_pos h, mget_cons a k, if_neg ha]
      by_cases h2 : a < k
      · rw [if_pos h2, mget_cons_of_lt (Nat.lt_trans h2 h)]
      · rw [if_neg h2]
    · subst h
      rw [if_neg (Nat.lt_irrefl k), if_pos rfl, mget_cons, mget_cons, if_neg ha, if_neg ha]
    · rw [if_neg (Nat.lt_asymm h), if_neg (Nat.ne_of_gt h), mget_cons, mget_cons, ih]

/-- `mget` and `mupsert` stop at the same place, sorted or not. -/
theorem mget_mupsert_eq (k a : Nat) (d : X) (f : X → X) (l : List (Nat × X)) :
    mget a (mupsert k d f l) = if a = k then some (f ((mget k l).getD d)) else mget a l := by
  by_cases ha : a = k
  · rw [if_pos ha, ha]; exact mget_mupsert_self k d f l
  · rw [if_neg ha]; exact mget_mupsert_of_ne ha d f l

theorem mupsert_fix {k : Nat} {x dflt : X} {f : X → X} (hf : f x = x) {l : List (Nat × X)}
    (h : mget k l = some x) : mupsert k dflt f l = l := by
  induction l with
  | nil => nomatch h
  | cons p rest ih =>
    obtain ⟨k', x'⟩ := p
    rw [mupsert_cons]
    rcases Nat.lt_trichotomy k k' with hk | hk | hk
    · rw [mget_cons_of_lt hk] at h; nomatch h
    · subst hk
      rw [mget_cons_self] at h
      rw [if_neg (Nat.lt_irrefl k), if_pos rfl, Option.some.inj h, hf]
    · rw [mget_cons_of_gt hk] at h
      rw [if_neg (Nat.lt_asymm hk), if_neg (Nat.ne_of_gt hk), ih h]

theorem mget_merase {k a : Nat} {l : List (Nat × X)} (h : SortedK l) :
    mget a (merase k l) = if a = k then none else mget a l := by
  induction l with
  | nil => exact (ite_self _).symm
  | cons p rest ih =>
    obtain ⟨k', x⟩ := p
    rw [merase_cons]
    rcases Nat.lt_trichotomy k k' with h1 | h1 | h1
    · rw [if_neg (Nat.ne_of_lt h1), if_pos h1]
      by_cases ha : a = k
      · rw [if_pos ha, ha]; exact mget_cons_of_lt h1 x rest
      · rw [if_neg ha]
    · -- the entry is removed: what was looked up at or below `k` is not found in the tail
      subst h1
      rw [if_pos rfl]
      by_cases ha : a = k
      · rw [if_pos ha, ha]; exact mget_tail_of_le h (Nat.le_refl k)
      · rw [if_neg ha, mget_cons, if_neg ha]
        by_cases h2 : a < k
        · rw [if_pos h2]; exact mget_tail_of_le h (Nat.le_of_lt h2)
        · rw [if_neg h2]
    · rw [if_neg (Nat.ne_of_gt h1), if_neg (Nat.lt_asymm h1), mget_cons, ih (List.pairwise_cons.mp h).2]
      by_cases ha : a = k
      · rw [if_pos ha, if_pos ha, ha, if_neg (Nat.ne_of_gt h1), if_neg (Nat.lt_asymm h1)]
      · rw [if_neg ha, if_neg ha, mget_cons]

theorem merase_absent {k : Nat} {l : List (Nat × X)} (h : mget k l = none) : merase k l = l := by
  induction l with
  | nil => rfl
  | cons p rest ih =>
    obtain ⟨k', x⟩ := p
    rw [merase_cons]
    rcases Nat.lt_trichotomy k k' with hk | hk | hk
    · rw [if_neg (Nat.ne_of_lt hk), if_pos hk]
    · subst hk
      rw [mget_cons_self] at h; nomatch h
    · rw [if_neg (Nat.ne_of_gt hk), if_neg (Nat.lt_asymm hk), ih ((mget_cons_of_gt hk x rest).symm.trans h)]

theorem mem_of_mget_eq_some {k : Nat} {x : X} {l : List (Nat × X)} (h : mget k l = some x) : (k, x) ∈ l := by
  induction l with
  | nil => nomatch h
  | cons p rest ih =>
    obtain ⟨k', x'⟩ := p
    rw [mget_cons] at h
    by_cases h1 : k = k'
    · rw [if_pos h1] at h
      rw [h1, Option.some.inj h]; exact List.mem_cons_self
    · rw [if_neg h1] at h
      by_cases h2 : k < k'
      · rw [if_pos h2] at h; nomatch h
      · rw [if_neg h2] at h; exact List.mem_cons_of_mem _ (ih h)

theorem mget_eq_some_iff {k : Nat} {x : X} {l : List (Nat × X)} (h : SortedK l) :
    mget k l = some x ↔ (k, x) ∈ l := by
  refine ⟨mem_of_mget_eq_some, fun hm => ?_⟩
  induction l with
  | nil => nomatch hm
  | cons p rest ih =>
    obtain ⟨k', x'⟩ := p
    have hp := List.pairwise_cons.mp h
    rcases List.mem_cons.mp hm with e | hm
    · cases e; exact mget_cons_self k x rest
    · rw [mget_cons_of_gt (hp.1 _ hm)]; exact ih hp.2 hm

theorem sortedK_unique {l : List (Nat × X)} (h : SortedK l) {k : Nat} {x y : X}
    (hx : (k, x) ∈ l) (hy : (k, y) ∈ l) : x = y :=
  Option.some.inj (((mget_eq_some_iff h).mpr hx).symm.trans ((mget_eq_some_iff h).mpr hy))

theorem mget_isSome_iff {k : Nat} {l : List (Nat × X)} (h : SortedK l) :
    (mget k l).isSome = true ↔ k ∈ l.map (·.1) := by
  rw [Option.isSome_iff_exists]
  constructor
  · rintro ⟨x, hx⟩; exact List.mem_map.mpr ⟨(k, x), mem_of_mget_eq_some hx, rfl⟩
  · intro hk
    obtain ⟨⟨k', x⟩, hx, rfl⟩ := List.mem_map.mp hk
    exact ⟨x, (mget_eq_some_iff h).mpr hx⟩

theorem sortedK_ext_mem {l₁ l₂ : List (Nat × X)} (h₁ : SortedK l₁) (h₂ : SortedK l₂)
    (h : ∀ p, p ∈ l₁ ↔ p ∈ l₂) : l₁ = l₂ :=
  pairwise_ext (fun _ _ => Nat.lt_asymm) h₁ h₂ h

theorem sortedK_ext {l₁ l₂ : List (Nat × X)} (h₁ : SortedK l₁) (h₂ : SortedK l₂)
    (h : ∀ k, mget k l₁ = mget k l₂) : l₁ = l₂ :=
  sortedK_ext_mem h₁ h₂ fun p => by rw [← mget_eq_some_iff h₁, ← mget_eq_some_iff h₂, h]

theorem length_mupsert {k : Nat} {d : X} {f : X → X} {l : List (Nat × X)} (h : SortedK l) :
    (mupsert k d f l).length = if (mget k l).isSome then l.length else l.length + 1 := by
  have h1 := length_sinsert (x := k) ((sortedK_iff_keys l).mp h)
  rw [← keys_mupsert k d f, List.length_map, List.length_map] at h1
  simp only [h1, mget_isSome_iff h]

theorem length_merase {k : Nat} {l : List (Nat × X)} (h : SortedK l) :
    (merase k l).length = if (mget k l).isSome then l.length - 1 else l.length := by
  have h1 := length_serase (x := k) ((sortedK_iff_keys l).mp h)
  rw [← keys_merase k, List.length_map, List.length_map] at h1
  simp only [h1, mget_isSome_iff h]

theorem mupsert_of_lt_all {k : Nat} {d : X} {f : X → X} {m : List (Nat × X)}
    (h : ∀ e ∈ m, e.1 < k) : mupsert k d f m = m ++ [(k, f d)] := by
  induction m with
  | nil => rfl
  | cons e es ih =>
    have hy : e.1 < k := h e List.mem_cons_self
    rw [mupsert, if_neg (Nat.lt_asymm hy), if_neg (Nat.ne_of_gt hy),
      ih (fun z hz => h z (List.mem_cons_of_mem _ hz)), List.cons_append]

/-- `collect::<BTreeMap<_, _>>()`, one `insert` after the other, keeps key-ascending entries as they are -/
theorem foldl_mupsert_sorted (l acc : List (Nat × X)) (h : SortedK (acc ++ l)) :
    l.foldl (fun m e => mupsert e.1 e.2 (fun _ => e.2) m) acc = acc ++ l := by
  induction l generalizing acc with
  | nil => rw [List.foldl_nil, List.append_nil]
  | cons x xs ih =>
    have hx : ∀ y ∈ acc, y.1 < x.1 := fun y hy =>
      (List.pairwise_append.mp h).2.2 y hy x List.mem_cons_self
    rw [List.foldl_cons, mupsert_of_lt_all hx, ih _ (by rwa [List.append_assoc]), List.append_assoc]
    rfl

end Maps

end GraafVerif.Repr
