/-!
# Vectors indexed by vertices

Lists read with a default, `(l[x]?).getD d`, against `set` and `replicate` (the traversals keep a
`Vec<bool>` of marks read as `(vis[x]?).getD false`: this is what both `Bfs.isVis` and `Dfs.isVis`
unfold to), result vectors filled by `for it in items { vec[k(it)] = val(it) }`, tables of rows
(`Vec<BTreeSet<_>>`, `Vec<BTreeMap<_, _>>`) built by a fold of single-row updates `rows[idx a] := upd a rows[idx a]`
or defined row by row, and the flat index `u * n + v` of a square matrix.  The facts about them that do not
depend on a model.
-/
namespace GraafVerif.Vec

/-- A write past the end changes nothing. -/
theorem getD_set {α : Type} (l : List α) (v y : Nat) (x d : α) :
    ((l.set v x)[y]?).getD d = if v = y ∧ v < l.length then x else (l[y]?).getD d := by
  rw [List.getElem?_set]
  by_cases h : v = y
  · subst h
    by_cases h' : v < l.length
    · rw [if_pos rfl, if_pos h', if_pos ⟨rfl, h'⟩]; rfl
    · rw [if_pos rfl, if_neg h', if_neg fun hh => h' hh.2, List.getElem?_eq_none (Nat.le_of_not_lt h')]
  · rw [if_neg h, if_neg fun hh => h hh.1]

theorem getD_set_true (vis : List Bool) (v x : Nat) (hv : v < vis.length) :
    ((vis.set v true)[x]?).getD false = ((vis[x]?).getD false || decide (x = v)) := by
  by_cases h : x = v
  · subst h; simp [hv]
  · simp [List.getElem?_set_ne (Ne.symm h), h]

theorem getD_replicate {α : Type} (d : α) (n x : Nat) : ((List.replicate n d)[x]?).getD d = d := by
  rw [List.getElem?_replicate]; split <;> rfl

theorem lt_of_getD {α : Type} {l : List α} {x : Nat} {d a : α} (h : (l[x]?).getD d = a) (hne : a ≠ d) :
    x < l.length := by
  rcases Nat.lt_or_ge x l.length with h' | h'
  · exact h'
  · rw [List.getElem?_eq_none h'] at h
    exact absurd h.symm hne

theorem ext_getD {α : Type} (d : α) {l l' : List α} (hlen : l.length = l'.length)
    (h : ∀ v : Nat, l[v]?.getD d = l'[v]?.getD d) : l = l' :=
  List.ext_getElem hlen fun v h1 h2 => by
    have := h v
    rwa [List.getElem?_eq_getElem h1, List.getElem?_eq_getElem h2] at this

theorem length_foldl_set {β ε : Type} {k : β → Nat} {val : List ε → β → ε} (l : List β) (init : List ε) :
    (l.foldl (fun acc it => acc.set (k it) (val acc it)) init).length = init.length := by
  induction l generalizing init with
  | nil => rfl
  | cons a l ih => rw [List.foldl_cons, ih, List.length_set]

section foldl_set
variable {β ε : Type} (k : β → Nat) (val : β → ε)

theorem foldl_set_not_mem (l : List β) (init : List ε) (v : Nat) (hv : v ∉ l.map k) :
    (l.foldl (fun acc it => acc.set (k it) (val it)) init)[v]? = init[v]? := by
  induction l generalizing init with
  | nil => rfl
  | cons a l ih =>
    rw [List.map_cons, List.mem_cons, not_or] at hv
    rw [List.foldl_cons, ih _ hv.2, List.getElem?_set_ne (Ne.symm hv.1)]

theorem foldl_set_mem (l : List β) (init : List ε) (it : β) (hnd : (l.map k).Nodup) (hit : it ∈ l)
    (hlt : k it < init.length) :
    (l.foldl (fun acc it => acc.set (k it) (val it)) init)[k it]? = some (val it) := by
  induction l generalizing init with
  | nil => cases hit
  | cons a l ih =>
    rw [List.map_cons, List.nodup_cons] at hnd
    rw [List.foldl_cons]
    rcases List.mem_cons.mp hit with rfl | hit
    · rw [foldl_set_not_mem k val l _ _ hnd.1, List.getElem?_set_self hlt]
    · exact ih _ hnd.2 hit (by rwa [List.length_set])

/-- `vec![z; n]` after `vec[k it] = val it` for every item of `l`, in order: how `distances()` and the
`predecessors()` of the searches fill their result. -/
def written (z : ε) (n : Nat) (l : List β) : List ε :=
  l.foldl (fun acc it => acc.set (k it) (val it)) (List.replicate n z)

variable {k val}

theorem written_length (z : ε) (n : Nat) (l : List β) : (written k val z n l).length = n :=
  (length_foldl_set l _).trans List.length_replicate

theorem written_mem {z : ε} {n : Nat} {l : List β} (hnd : (l.map k).Nodup) {it : β} (hit : it ∈ l)
    (hlt : k it < n) : (written k val z n l)[k it]? = some (val it) :=
  foldl_set_mem k val l _ it hnd hit (List.length_replicate ▸ hlt)

theorem written_not_mem {z : ε} {n : Nat} {l : List β} {v : Nat} (hv : v < n) (hno : v ∉ l.map k) :
    (written k val z n l)[v]? = some z := by
  rw [written, foldl_set_not_mem k val l _ v hno, List.getElem?_replicate, if_pos hv]

end foldl_set

section foldl_update
variable {α ρ : Type} (dflt : ρ) (idx : α → Nat) (upd : α → ρ → ρ)

/-- A fold of single-row updates `rows[idx a] := upd a rows[idx a]`, seen from row `v`: only the
updates aimed at `v` matter, in their order. -/
theorem getD_foldl_set (as : List α) (rows : List ρ) {v : Nat} (hv : v < rows.length) :
    (as.foldl (fun rows a => rows.set (idx a) (upd a (rows[idx a]?.getD dflt))) rows)[v]?.getD dflt =
      (as.filter (fun a => idx a == v)).foldl (fun r a => upd a r) (rows[v]?.getD dflt) := by
  induction as generalizing rows with
  | nil => rfl
  | cons a as ih =>
    rw [List.foldl_cons, ih _ (by rw [List.length_set]; exact hv), List.getElem?_set, List.filter_cons]
    by_cases h : idx a = v
    · subst h
      rw [if_pos rfl, if_pos hv, if_pos (beq_self_eq_true _), List.foldl_cons]; rfl
    · rw [if_neg h, if_neg (by simpa using h)]

/-- The table built on `vec![dflt; n]`: the rows past the end read `dflt`. -/
theorem getD_foldl_set_replicate (as : List α) (n v : Nat) :
    (as.foldl (fun rows a => rows.set (idx a) (upd a (rows[idx a]?.getD dflt)))
        (List.replicate n dflt))[v]?.getD dflt =
      if v < n then (as.filter (fun a => idx a == v)).foldl (fun r a => upd a r) dflt else dflt := by
  split
  · next hv => rw [getD_foldl_set dflt idx upd as _ (List.length_replicate ▸ hv), getD_replicate]
  · next hv =>
    rw [List.getElem?_eq_none]
    · rfl
    · rw [length_foldl_set, List.length_replicate]; exact Nat.le_of_not_lt hv

/-- The bounds-checked form of the fold (`rows[idx a]` indexing panics when out of range) returns
normally when every update is in range. -/
theorem foldlM_set (as : List α) (rows : List ρ) (h : ∀ a ∈ as, idx a < rows.length) :
    as.foldlM (fun rows a =>
      if idx a < rows.length then some (rows.set (idx a) (upd a (rows[idx a]?.getD dflt))) else none) rows =
      some (as.foldl (fun rows a => rows.set (idx a) (upd a (rows[idx a]?.getD dflt))) rows) := by
  induction as generalizing rows with
  | nil => rfl
  | cons a as ih =>
    rw [List.foldlM_cons, if_pos (h a List.mem_cons_self), List.foldl_cons]
    exact ih _ fun x hx => by rw [List.length_set]; exact h x (List.mem_cons_of_mem _ hx)

end foldl_update

theorem getD_map_range {ρ : Type} (f : Nat → ρ) (dflt : ρ) (n u : Nat) :
    ((List.range n).map f)[u]?.getD dflt = if u < n then f u else dflt := by
  by_cases h : u < n
  · rw [if_pos h, List.getElem?_map, List.getElem?_range h]; rfl
  · rw [if_neg h, List.getElem?_eq_none (by rw [List.length_map, List.length_range]; exact Nat.le_of_not_lt h)]; rfl

theorem foldl_set_range_append {β : Type} (f : Nat → β) : ∀ (n : Nat) (l : List β), n ≤ l.length →
    (List.range n).foldl (fun acc u => acc.set u (f u)) l = (List.range n).map f ++ l.drop n := by
  intro n
  induction n with
  | zero => intro l _; rfl
  | succ n ih =>
    intro l hn
    have hlen : ((List.range n).map f).length = n := by rw [List.length_map, List.length_range]
    rw [List.range_succ, List.foldl_append, ih l (Nat.le_of_succ_le hn), List.foldl_cons, List.foldl_nil,
      List.set_append_right _ _ (Nat.le_of_eq hlen), hlen, Nat.sub_self,
      List.drop_eq_getElem_cons hn, List.set_cons_zero, List.map_append, List.append_assoc]
    rfl

theorem eq_of_map_nodup {α β : Type} (f : α → β) (l : List α) (h : (l.map f).Nodup) :
    ∀ a ∈ l, ∀ b ∈ l, f a = f b → a = b := by
  induction l with
  | nil => exact nofun
  | cons x l ih =>
    rw [List.map_cons, List.nodup_cons] at h
    intro a ha b hb hab
    rcases List.mem_cons.mp ha with hax | ha
    · rcases List.mem_cons.mp hb with hbx | hb
      · rw [hax, hbx]
      · exact absurd (List.mem_map.mpr ⟨b, hb, by rw [← hab, hax]⟩) h.1
    · rcases List.mem_cons.mp hb with hbx | hb
      · exact absurd (List.mem_map.mpr ⟨a, ha, by rw [hab, hbx]⟩) h.1
      · exact ih h.2 a ha b hb hab

theorem sum_filter_remove (f : Nat → Nat) (P Q : Nat → Bool) (u : Nat) (hPu : P u = true)
    (hQ : ∀ x, Q x = (P x && !(x == u))) (l : List Nat) :
    ((l.filter Q).map f).sum + l.count u * f u = ((l.filter P).map f).sum := by
  induction l with
  | nil => simp
  | cons a l ih =>
    by_cases hau : a = u
    · subst hau
      have hQa : Q a = false := by rw [hQ, hPu, beq_self_eq_true]; rfl
      rw [List.filter_cons_of_neg (by rw [hQa]; exact Bool.false_ne_true), List.filter_cons_of_pos hPu,
        List.count_cons_self, Nat.succ_mul, ← Nat.add_assoc, ih, List.map_cons, List.sum_cons, Nat.add_comm]
    · have hQa : Q a = P a := by rw [hQ, beq_false_of_ne hau, Bool.not_false, Bool.and_true]
      rw [List.count_cons_of_ne hau, List.filter_cons, List.filter_cons, hQa]
      split
      · rw [List.map_cons, List.sum_cons, List.map_cons, List.sum_cons, Nat.add_assoc, ih]
      · exact ih

/-- A Boolean product `f && l.all p` over `l.set k a'`: replacing `a` by `a'` and `f` by `f'` leaves it as it is when it leaves
`f && p a` as it is. -/
theorem and_all_set {α : Type} (p : α → Bool) {f f' : Bool} {a a' : α} (h : (f' && p a') = (f && p a)) (l : List α) :
    ∀ k, l[k]? = some a → (f' && (l.set k a').all p) = (f && l.all p) := by
  induction l with
  | nil => exact fun _ hk => nomatch hk
  | cons x l ih =>
    intro k hk
    cases k with
    | zero =>
      cases hk
      rw [List.set_cons_zero, List.all_cons, List.all_cons, ← Bool.and_assoc, h, Bool.and_assoc]
    | succ k =>
      rw [List.set_cons_succ, List.all_cons, List.all_cons, Bool.and_left_comm, ih k hk, Bool.and_left_comm]

end GraafVerif.Vec

namespace GraafVerif

theorem flatIdx_lt {n u v : Nat} (hu : u < n) (hv : v < n) : u * n + v < n * n :=
  Nat.lt_of_lt_of_le (Nat.add_lt_add_left hv _)
    (Nat.succ_mul u n ▸ Nat.mul_le_mul_right n hu)

theorem flatIdx_div {n u v : Nat} (hv : v < n) : (u * n + v) / n = u := by
  rw [Nat.mul_comm, Nat.mul_add_div (Nat.zero_lt_of_lt hv), Nat.div_eq_of_lt hv]; rfl

theorem flatIdx_mod {n u v : Nat} (hv : v < n) : (u * n + v) % n = v := by
  rw [Nat.mul_comm, Nat.mul_add_mod, Nat.mod_eq_of_lt hv]

theorem flatIdx_inj {n u v u' v' : Nat} (hv : v < n) (hv' : v' < n)
    (h : u * n + v = u' * n + v') : u = u' ∧ v = v' :=
  ⟨by rw [← flatIdx_div (u := u) hv, h, flatIdx_div hv'], by rw [← flatIdx_mod (u := u) hv, h, flatIdx_mod hv']⟩

theorem flatIdx_decode {n c : Nat} (hc : c < n * n) : c / n < n ∧ c % n < n ∧ c / n * n + c % n = c :=
  have hn : 0 < n := Nat.pos_of_ne_zero fun e => by rw [e] at hc; exact Nat.not_lt_zero _ hc
  ⟨(Nat.div_lt_iff_lt_mul hn).mpr hc, Nat.mod_lt _ hn, by rw [Nat.mul_comm]; exact Nat.div_add_mod c n⟩

end GraafVerif
