import GraafVerif.Proof.ChkTraversal
import GraafVerif.Proof.ChkPredTree
/-!
# The derived entry points (`distances`, `predecessors`, `shortest_path`, `cycles`) — C13, P1

They write `*ptr.add(u)` into a vector of `digraph.order()` elements for every `u` the iterator
yields: in range because the iterator only yields checked vertices (`QInv`/`HInv`/the DFS assert).
-/
namespace GraafVerif.Chk

theorem bfsPredNext_iterSpec (g : CGraph) : IterSpec (bfsPredNext g) (QInv (·.2 < g.order) g.order) (·.2 < g.order) := by
  unfold bfsPredNext
  exact bfsNextG_iterSpec (ι := Option Nat × Nat) (·.2) (fun _ _ => rfl) g g.order

theorem dijkstraPredStep_iterSpec (g : WCGraph) (n : Nat) :
    IterSpec (dijkstraPredStep g) (HInv (·.2.2) n) (·.2 < n) := by
  intro st hi
  unfold dijkstraPredStep dijkstraPredNext
  refine (dijNextG_iterSpec (ι := Nat × Option Nat × Nat) (·.2.2) (fun _ _ _ => rfl) g n st hi).bind fun r hr =>
    Sat.pure ⟨hr.1, fun it e => ?_⟩
  obtain ⟨x, hx, rfl⟩ := Option.map_eq_some_iff.mp e
  exact hr.2 x hx

/-- `for it in self { *ptr.add(vertex it) = … }` into a vector of `n` entries, for an iterator that only
yields vertices below `n`. -/
theorem forEach_wr_noUB {σ ι α : Type} {next : σ → Chk (Option ι × σ)} {I : σ → Prop} {vtx : ι → Nat} {n : Nat}
    (hnext : IterSpec next I (vtx · < n)) {site : String} {val : ι → α} (fuel : Nat) (st : σ) (hi : I st)
    {d : List α} (hd : d.length = n) :
    Sat (forEach next (fun d it => wr site d (vtx it) (val it)) fuel st d) (fun r => r.1.length = n ∧ I r.2) :=
  forEach_spec hnext (fun _ _ hj hq => Sat.wrLen hj hq) fuel st d hi hd

theorem predTreeNew_spec (order : Nat) : Sat (predTreeNew order) (fun p => p.length = order) := by
  unfold predTreeNew
  exact Sat.assert.bind fun _ _ => Sat.pure (List.length_replicate ..)

theorem predecessorsG_noUB {σ : Type} {site : String} {next : σ → Chk (Option (Option Nat × Nat) × σ)}
    {I : σ → Prop} {order : Nat} (hspec : IterSpec next I (·.2 < order)) (fuel : Nat) (st : σ) (hi : I st) :
    NoUB (predecessorsG site next order fuel st) := by
  unfold predecessorsG
  exact (predTreeNew_spec order).noUB_bind fun pred hp =>
    (forEach_wr_noUB hspec fuel st hi hp).noUB_bind fun _ _ => noUB_pure _

theorem bfsPredNew_spec (g : CGraph) (sources : List Nat) :
    Sat (bfsPredNew g.order sources) (QInv (·.2 < g.order) g.order) := by
  unfold bfsPredNew
  exact bfsNewG_spec (ι := Option Nat × Nat) (·.2 < g.order) g.order (fun _ hu => hu) sources

theorem dijkstraPredNew_spec (g : WCGraph) (sources : List Nat) :
    Sat (dijkstraPredNew g.order sources) (HInv (·.2.2) g.order) := by
  unfold dijkstraPredNew
  exact dijNewG_spec (ι := Nat × Option Nat × Nat) (·.2.2) (fun _ => rfl) g.order sources

theorem spLoop_noUB {σ : Type} {site : String} {next : σ → Chk (Option (Option Nat × Nat) × σ)} (isT : Nat → Bool)
    {I : σ → Prop} {order : Nat} (hspec : IterSpec next I (·.2 < order)) :
    ∀ (fuel : Nat) (st : σ) (pred : List (Option Nat)), I st → pred.length = order →
      NoUB (spLoop site next isT fuel st pred) := by
  intro fuel
  induction fuel with
  | zero => intro st pred _ _; exact noUB_pure _
  | succ fuel ih =>
    intro st pred hi hp
    unfold spLoop
    refine (hspec st hi).noUB_bind fun r hr => ?_
    obtain ⟨o, st'⟩ := r
    cases o with
    | none => exact noUB_pure _
    | some it =>
      refine (Sat.wrLen hp (hr.2 it rfl)).noUB_bind fun pred' hpred' => noUB_ite (fun _ => ?_) fun _ => ?_
      · exact noUB_bind (noUB_liftRes _) (fun _ _ => noUB_pure _)
      · exact ih st' pred' hr.1 hpred'

theorem shortestPathG_noUB {σ : Type} {site : String} {next : σ → Chk (Option (Option Nat × Nat) × σ)} (isT : Nat → Bool)
    {I : σ → Prop} {order : Nat} (hspec : IterSpec next I (·.2 < order)) (fuel : Nat) (st : σ) (hi : I st) :
    NoUB (shortestPathG site next order isT fuel st) := by
  unfold shortestPathG
  exact (predTreeNew_spec order).noUB_bind fun pred hp => spLoop_noUB isT hspec fuel st pred hi hp

theorem cyclesLoop_noUB (g : CGraph) :
    ∀ (fuel : Nat) (st : QSt (Option Nat × Nat)) (pred : List (Option Nat)) (acc : List (List Nat)),
      QInv (·.2 < g.order) g.order st → pred.length = g.order → NoUB (cyclesLoop g fuel st pred acc) := by
  intro fuel
  induction fuel with
  | zero => intro st pred acc _ _; exact noUB_pure _
  | succ fuel ih =>
    intro st pred acc hi hp
    unfold cyclesLoop
    refine (bfsPredNext_iterSpec g st hi).noUB_bind fun r hr => ?_
    obtain ⟨o, st'⟩ := r
    cases o with
    | none => exact noUB_pure _
    | some it =>
      refine (Sat.wrLen hp (hr.2 it rfl)).noUB_bind fun pred' hpred' => ?_
      cases g.out it.2 with
      | none => exact noUB_throw_panic
      | some xs =>
        refine noUB_bind (noUB_foldlM (fun _ _ _ => ?_) acc) fun acc' _ => ih st' pred' acc' hr.1 hpred'
        exact noUB_bind (noUB_liftRes _) (fun _ _ => noUB_pure _)

end GraafVerif.Chk
