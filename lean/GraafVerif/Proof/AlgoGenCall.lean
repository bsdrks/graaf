import GraafVerif.Proof.AlgoGenLoop
import GraafVerif.Proof.FoldLemmas
import GraafVerif.Model.AlgoGenRt5
/-!
# `Option ⊆ Res ⊆ Blk`: the image of `call`

The hand-written models answer in `Option` (`none` = the Rust code panics) or are pure, a generated function answers in
`Res`, its body and the bodies of its loops are blocks.  `optR : Option → Res` and `call : Res → Blk` are the inclusions
(`optP = call ∘ optR`).  A `for` loop whose body is a `call` is `call` of a `List.foldlM` in `Res` (`forLoop_call`,
`forLoop_ok` of `Proof/AlgoGenLoop.lean`); `foldlM_optR` and core's `foldlM_pure` bring it down to the monad the
hand-written model is written in (`forLoop_optP`, `forLoop_pure`), and two nested loops whose inner body neither breaks
nor returns (`NoBrk`) are one loop over the flattened list (`forLoop_flat`).

After that: how the checked arithmetic of the later runtime parts (`subP`, `divCeilP`, `idxPos`) reduces under its
precondition, `bufFreeze` of a buffer written in full, and the asserts that open every `add_arc`.

The modules of sets 2 to 6 import this module, and with it the loop rules of `Proof/AlgoGenLoop.lean`; `AlgoGen2Tarjan`,
`AlgoGen2Johnson` and `AlgoGen3Prng` do not: like set 1 they stand on `Proof/AlgoGenRt.lean`.
-/
namespace GraafVerif.AlgoGenThm
open GraafVerif GraafVerif.AlgoGen

/-- `none` of a hand-written conversion = the panic of the Rust code -/
def optR {α : Type} : Option α → Res α
  | some a => .ok a
  | none => .error (.fault .panic)

theorem optR_some {α : Type} {o : Option α} {t : α} (h : o = some t) : optR o = .ok t := by rw [h]; rfl
theorem optR_none {α : Type} {o : Option α} (h : o = none) : optR o = .error (.fault .panic) := by rw [h]; rfl

/-- what is proved of the value a hand-written function returns, read on a generated function equal to its `optR` -/
theorem ok_of_optR {α : Type} {r : Res α} {o : Option α} {P : α → Prop} (h : r = optR o) :
    (∃ t, o = some t ∧ P t) → ∃ t, r = .ok t ∧ P t
  | ⟨t, ho, hP⟩ => ⟨t, h.trans (optR_some ho), hP⟩

/-- `none` of a hand-written `&mut self` method = the panic of the Rust code; `some d'` = the updated value -/
def optU {α : Type} : Option α → Res (Unit × α)
  | some a => .ok ((), a)
  | none => .error (.fault .panic)

theorem optP_eq_call {α β ρ : Type} (o : Option α) : (optP o : Blk β ρ α) = call (optR o) := by cases o <;> rfl

theorem foldlM_optR {σ α : Type} (g : σ → α → Option σ) : ∀ (l : List α) (s : σ),
    l.foldlM (fun s a => optR (g s a)) s = optR (l.foldlM g s)
  | [], _ => rfl
  | a :: l, s => by
    rw [List.foldlM_cons, List.foldlM_cons]
    cases g s a with
    | none => rfl
    | some s' => exact foldlM_optR g l s'

theorem bind_pure_blk {σ β ρ : Type} (X : Blk β ρ σ) : (X >>= fun t => (pure t : Blk β ρ σ)) = X := by
  cases X <;> rfl

theorem bind_pair_eta {σ τ β ρ : Type} (X : Blk β ρ (σ × τ)) : (X >>= fun t => (Except.ok (t.1, t.2) : Blk β ρ (σ × τ))) = X := by
  cases X <;> rfl

theorem optP_optR {α : Type} (o : Option α) : fnBody (optP o : Blk Empty α α) = optR o := by
  cases o <;> rfl

theorem optP_bind {α γ β ρ : Type} (o : Option α) (F : α → Option γ) :
    (optP o >>= fun a => optP (F a) : Blk β ρ γ) = optP (o >>= F) := by
  cases o <;> rfl

theorem fnBody_optP_bind {α γ : Type} (o : Option α) (F : α → Option γ) :
    fnBody (optP o >>= fun a => optP (F a)) = optR (o >>= F) := by
  rw [optP_bind]
  exact optP_optR _

/-- `if !c { x = f(x)? }` -/
theorem optP_unless {α β ρ : Type} (c : Bool) (o : Option α) (a : α) :
    ((if c = false then optP o else pure a) : Blk β ρ α) = optP (if !c then o else pure a) := by
  cases c <;> rfl

theorem asserts2 {β ρ : Type} (b1 b2 : Bool) :
    ((do assert b1; assert b2; pure ()) : Blk β ρ Unit) = if (b1 && b2) = true then .ok () else .error (.err (.fault .panic)) := by
  cases b1 <;> cases b2 <;> rfl

/-! ## `for` loops whose body neither breaks nor returns -/

theorem forLoop_pure {σ α β ρ : Type} (body : σ → α → Blk σ ρ σ) (f : σ → α → σ)
    (h : ∀ s a, body s a = .ok (f s a)) : ∀ (l : List α) (s : σ),
    (forLoop body l s : Blk β ρ σ) = .ok (l.foldl f s)  :=
  fun _ _ => (forLoop_ok (I := fun _ => True) trivial fun s _ a _ => ⟨h s a, trivial⟩).1

theorem forLoop_pure_inv {σ α β ρ : Type} (P : σ → Prop) (body : σ → α → Blk σ ρ σ) (f : σ → α → σ) (l : List α)
    (h : ∀ s a, a ∈ l → P s → body s a = .ok (f s a) ∧ P (f s a)) :
    ∀ (l' : List α) (s : σ), (∀ a ∈ l', a ∈ l) → P s →
      (forLoop body l' s : Blk β ρ σ) = .ok (l'.foldl f s) ∧ P (l'.foldl f s)  :=
  fun _ _ hsub hs => forLoop_ok hs fun s hs a ha => h s a (hsub a ha) hs

theorem forLoop_optP {σ α β ρ : Type} (body : σ → α → Blk σ ρ σ) (f : σ → α → Option σ)
    (h : ∀ s a, body s a = optP (f s a)) : ∀ (l : List α) (s : σ),
    (forLoop body l s : Blk β ρ σ) = optP (l.foldlM f s)  := by
  intro l s
  rw [optP_eq_call, ← foldlM_optR]
  exact (forLoop_call (I := fun _ => True) trivial fun s _ a _ => ⟨(h s a).trans (optP_eq_call _), fun _ _ => trivial⟩).1

/-! A general rule of `forLoop`; its user is the `AdjacencyMap` generator of `Proof/AlgoGen4AM.lean`, and the audit lists
(`props/AlgoGen4.json`, `C17.json`) name it in that namespace. -/
namespace AdjacencyMap

theorem forLoop_filter {σ α β ρ : Type} (body : σ → α → Blk σ ρ σ) (q : α → Bool)
    (h : ∀ s a, q a = false → body s a = .ok s) : ∀ (l : List α) (s : σ),
    (forLoop body l s : Blk β ρ σ) = forLoop body (l.filter q) s  := by
  intro l s
  unfold forLoop
  rw [List.foldlM_filter]
  refine congrArg (fun b => catchBrk (l.foldlM b s)) (funext fun s => funext fun a => ?_)
  cases hq : q a
  · exact h s a hq
  · rfl

end AdjacencyMap

/-- `for u in us { for v in vs u { .. } }` = one loop over the flattened iteration list, when the inner
body only ever returns `ok` / `err` (no `break`, no `return`). -/
theorem forLoop_flat {σ α γ β ρ : Type} (outer : σ → α → Blk σ ρ σ) (inner : α → σ → γ → Blk σ ρ σ) (vs : α → List γ)
    (houter : ∀ s u, outer s u = forLoop (inner u) (vs u) s)
    (hinner : ∀ u s v, (∃ s', inner u s v = .ok s') ∨ (∃ e, inner u s v = .error (.err e))) :
    ∀ (us : List α) (s : σ),
      (forLoop outer us s : Blk β ρ σ) =
        forLoop (fun s (p : α × γ) => inner p.1 s p.2) (us.flatMap fun u => (vs u).map fun v => (u, v)) s  := by
  intro us s
  have hin : ∀ {β : Type} (u : α) (l : List γ) (s : σ), (forLoop (inner u) l s : Blk β ρ σ) =
      call (l.foldlM (fun s v => toRes (inner u s v)) s) := fun u l s =>
    (forLoop_call (I := fun _ => True) trivial fun s _ v _ => ⟨eq_call_toRes (hinner u s v), fun _ _ => trivial⟩).1
  rw [(forLoop_call (β := β) (g := fun s u => (vs u).foldlM (fun s v => toRes (inner u s v)) s) (I := fun _ => True) trivial
      fun s _ u _ => ⟨(houter s u).trans (hin u _ s), fun _ _ => trivial⟩).1,
    (forLoop_call (β := β) (g := fun s (p : α × γ) => toRes (inner p.1 s p.2)) (I := fun _ => True) trivial
      fun s _ p _ => ⟨eq_call_toRes (hinner p.1 s p.2), fun _ _ => trivial⟩).1,
    Fold.foldlM_flatMap]
  simp only [List.foldlM_map]

/-- a block that neither `break`s nor `return`s (the hypothesis of `forLoop_flat` on the inner body) -/
abbrev NoBrk {α β ρ : Type} (X : Blk β ρ α) : Prop := (∃ a, X = .ok a) ∨ ∃ e, X = .error (.err e)

theorem noBrk_ok {α β ρ : Type} (a : α) : NoBrk (.ok a : Blk β ρ α) := .inl ⟨a, rfl⟩

theorem noBrk_call {α β ρ : Type} (r : Res α) : NoBrk (call r : Blk β ρ α) := by
  cases r
  · exact .inr ⟨_, rfl⟩
  · exact .inl ⟨_, rfl⟩

/-- `rd`, `wr`, `idx`, `assert` -/
theorem noBrk_liftChk {α β ρ : Type} (c : Chk.Chk α) : NoBrk (liftChk c : Blk β ρ α) :=
  liftChk_eq_call c ▸ noBrk_call _

theorem noBrk_optP {α β ρ : Type} (o : Option α) : NoBrk (optP o : Blk β ρ α) :=
  optP_eq_call o ▸ noBrk_call _

theorem noBrk_bind {α γ β ρ : Type} {X : Blk β ρ α} {f : α → Blk β ρ γ} (hX : NoBrk X) (hf : ∀ a, NoBrk (f a)) :
    NoBrk (X >>= f) := by
  rcases hX with ⟨a, rfl⟩ | ⟨e, rfl⟩
  · exact hf a
  · exact .inr ⟨e, rfl⟩

theorem noBrk_ite {α β ρ : Type} {c : Prop} [Decidable c] {X Y : Blk β ρ α} (hX : NoBrk X) (hY : NoBrk Y) :
    NoBrk (if c then X else Y) := by
  split
  · exact hX
  · exact hY

/-! ## Checked arithmetic under its precondition; the guards of `add_arc` -/

theorem divCeilP_pos {β ρ : Type} (a b : Nat) (hb : 0 < b) : (divCeilP a b : Blk β ρ Nat) = .ok ((a + b - 1) / b) := by
  unfold divCeilP
  have : b ≠ 0 := by omega
  simp [this]

theorem divCeilP_zero {β ρ : Type} (a : Nat) : (divCeilP a 0 : Blk β ρ Nat) = panic := by simp [divCeilP]

theorem subP_le {β ρ : Type} (a b : Nat) (h : b ≤ a) : (subP a b : Blk β ρ Nat) = .ok (a - b) := by simp [subP, h]

theorem divP_pos {β ρ : Type} (a b : Nat) (hb : 0 < b) : (divP a b : Blk β ρ Nat) = .ok (a / b) := if_neg (Nat.ne_of_gt hb)

theorem divP_zero {β ρ : Type} (a : Nat) : (divP a 0 : Blk β ρ Nat) = panic := if_pos rfl

theorem modP_pos {β ρ : Type} (a b : Nat) (hb : 0 < b) : (modP a b : Blk β ρ Nat) = .ok (a % b) := if_neg (Nat.ne_of_gt hb)

/-- a raw buffer every slot of which has been written, taken as the vector -/
theorem bufFreeze_full {α β ρ : Type} (site : String) (n : Nat) (a : α) :
    (bufFreeze site (List.replicate n (some a)) n : Blk β ρ (List α)) = .ok (List.replicate n a) := by
  unfold bufFreeze
  rw [List.take_replicate, Nat.min_self, List.length_replicate, List.filterMap_replicate_of_some (f := id) (b := a) rfl, if_pos]
  exact ⟨Nat.le_refl n, List.all_eq_true.2 fun x hx => by rw [List.eq_of_mem_replicate hx]; rfl⟩

theorem decide_and_eq_false {p q : Prop} [Decidable p] [Decidable q] (h : ¬ (p ∧ q)) : (decide p && decide q) = false := by
  simpa using h

theorem mem_range_lt {n start stop u : Nat} (hstop : stop ≤ n) (hu : u ∈ AlgoGen.range start stop) : u < n := by
  obtain ⟨h1, h2⟩ := List.mem_range'_1.1 hu
  omega

/-- `&mut v[i]` handed back together with the receiver -/
theorem fnBody_idxPos {α τ : Type} (l : List α) (i : Nat) (x : τ) :
    (fnBody do
      let t0 ← idxPos l i
      pure (t0, x)) = if i < l.length then .ok (i, x) else .error (.fault .panic) := by
  unfold idxPos
  split <;> rfl

/-- the three asserts that open every `add_arc` on vertices `0..n` = the guards of the hand-written models; `k` is the
rest of the body, which has to be evaluated only for arguments that pass -/
theorem arcGuards {α : Type} (u v n : Nat) (k : Blk Empty (Unit × α) (Unit × α)) (a : α)
    (hk : u ≠ v → u < n → v < n → fnBody k = .ok ((), a)) :
    (fnBody do
      assert (u != v)
      assert (decide (u < n))
      assert (decide (v < n))
      k) = optU (if u = v then none else if ¬ u < n then none else if ¬ v < n then none else some a) := by
  by_cases h1 : u = v
  · subst h1
    rw [if_pos rfl, bne_self_eq_false]
    rfl
  · by_cases h2 : u < n
    · by_cases h3 : v < n
      · rw [if_neg h1, if_neg (not_not_intro h2), if_neg (not_not_intro h3), bne_iff_ne.2 h1, assert_pos h2, assert_pos h3]
        exact hk h1 h2 h3
      · rw [if_neg h1, if_neg (not_not_intro h2), if_pos h3, bne_iff_ne.2 h1, assert_pos h2, assert_neg h3]
        rfl
    · rw [if_neg h1, if_pos h2, bne_iff_ne.2 h1, assert_neg h2]
      rfl

end GraafVerif.AlgoGenThm
