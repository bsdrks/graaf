import GraafVerif.Proof.ReprEL
import GraafVerif.Proof.ReprAL
import GraafVerif.Proof.ReprW
import GraafVerif.Proof.ReprMX
/-!
# `WF` is exactly "reachable from `empty` by calls" (fixed-order representations)

Every call preserves `WF` and `empty n` is `WF` (C01), so every reachable digraph is `WF`.
Conversely every `WF` digraph `d` is *reached*: adding its own arcs, in listing order, to
`empty d.order` gives back the identical structure.  So the theorems of C01 / C20, which
quantify over `WF` digraphs, speak about exactly the digraphs a user can build with
`empty` + `add_arc(_weighted)`, and `WF` is not vacuous.
(`AdjacencyMap` is excluded: its vertex set can also shrink through `filter_vertices`, so
`empty` + calls do not reach every well-formed map.)
-/
namespace GraafVerif.Repr
open GraafVerif.ReprSpec

def addOps {ω : Type} (L : List (Nat × Nat × ω)) : List (Op ω) := L.map (fun x => .add x.1 x.2.1 x.2.2)

theorem run_adds {ω : Type} (L : List (Nat × Nat × ω)) (s : SpecState ω)
    (h : ∀ x ∈ L, rejected .fixed s x.1 x.2.1 = false) :
    (run (specStep .fixed) s (addOps L)).1 =
      ⟨s.V, L.foldl (fun W x => setW W x.1 x.2.1 (some x.2.2)) s.W⟩ := by
  induction L generalizing s with
  | nil => rfl
  | cons x L ih =>
    show (run (specStep .fixed) (specStep .fixed s (.add x.1 x.2.1 x.2.2)).1 (addOps L)).1 = _
    rw [specStep_add_ok x.2.2 (h x List.mem_cons_self)]
    -- `rejected` looks at the vertex set only, which a fixed-order `add` leaves alone
    exact ih ⟨s.V, _⟩ (fun y hy => h y (List.mem_cons_of_mem _ hy))

theorem foldl_setW_of_not_mem {ω : Type} {L : List (Nat × Nat × ω)} (W : Nat → Nat → Option ω) {a b : Nat}
    (h : ∀ x ∈ L, ¬ (a = x.1 ∧ b = x.2.1)) :
    L.foldl (fun W x => setW W x.1 x.2.1 (some x.2.2)) W a b = W a b := by
  induction L generalizing W with
  | nil => rfl
  | cons x L ih =>
    rw [List.foldl_cons, ih _ (fun y hy => h y (List.mem_cons_of_mem _ hy))]
    exact if_neg (h x List.mem_cons_self)

/-- A list taken from the graph of `T` writes `T` wherever it says something (the last entry for
`(a, b)` wins, and all entries for `(a, b)` carry `T a b`). -/
theorem foldl_setW_of_mem {ω : Type} {L : List (Nat × Nat × ω)} {T : Nat → Nat → Option ω}
    (hT : ∀ x ∈ L, T x.1 x.2.1 = some x.2.2) (W : Nat → Nat → Option ω) {a b : Nat}
    (h : ∃ x ∈ L, a = x.1 ∧ b = x.2.1) :
    L.foldl (fun W x => setW W x.1 x.2.1 (some x.2.2)) W a b = T a b := by
  induction L generalizing W with
  | nil => exact nomatch h.choose_spec.1
  | cons x L ih =>
    rw [List.foldl_cons]
    by_cases hL : ∃ y ∈ L, a = y.1 ∧ b = y.2.1
    · exact ih (fun y hy => hT y (List.mem_cons_of_mem _ hy)) _ hL
    · obtain ⟨y, hy, hk⟩ := h
      rcases List.mem_cons.mp hy with rfl | hy
      · rw [foldl_setW_of_not_mem _ (fun z hz hk' => hL ⟨z, hz, hk'⟩), hk.1, hk.2, ← hT y List.mem_cons_self]
        exact if_pos ⟨rfl, rfl⟩
      · exact absurd ⟨y, hy, hk⟩ hL

/-- Generic reachability: a well-formed state whose arc listing `L` determines its abstraction
is what `empty` + "add every arc of `L`" builds. -/
theorem reach_gen {σ ω : Type} (step : σ → Op ω → σ × Out) (WF : σ → Prop) (abs : σ → SpecState ω)
    (hrun : RunRefines WF abs step (specStep .fixed))
    (hinj : ∀ d₁ d₂, WF d₁ → WF d₂ → (abs d₁ = abs d₂ ↔ d₁ = d₂))
    (d e : σ) (n : Nat) (hd : WF d) (he : WF e) (heabs : abs e = emptySpec ω n)
    (hV : (abs d).V = fun x => decide (x < n))
    (L : List (Nat × Nat × ω))
    (hmem : ∀ a b w, (a, b, w) ∈ L ↔ (abs d).W a b = some w)
    (hvalid : (abs d).Valid) :
    (run step e (addOps L)).1 = d := by
  have hr := hrun (addOps L) e he
  apply (hinj _ _ hr.1 hd).mp
  rw [hr.2.1, heabs]
  -- every listed arc is a proper arc between vertices, so no `add` is rejected
  have hrej : ∀ x ∈ L, rejected .fixed (emptySpec ω n) x.1 x.2.1 = false := by
    intro x hx
    have hw := (hmem x.1 x.2.1 x.2.2).mp hx
    have hv := hvalid x.1 x.2.1 (by rw [SpecState.A, hw]; rfl)
    rw [hV] at hv
    exact (rejected_eq_false _ _ _ _).mpr ⟨hv.1, fun _ => hv.2⟩
  rw [run_adds L _ hrej]
  refine SpecState.ext (fun x => (congrFun hV x).symm) fun a b => ?_
  show L.foldl _ (fun _ _ => none) a b = (abs d).W a b
  by_cases h : ∃ x ∈ L, a = x.1 ∧ b = x.2.1
  · exact foldl_setW_of_mem (fun x hx => (hmem _ _ _).mp hx) _ h
  · rw [foldl_setW_of_not_mem _ (fun x hx hk => h ⟨x, hx, hk⟩)]
    cases hw : (abs d).W a b with
    | none => rfl
    | some w => exact absurd ⟨(a, b, w), (hmem a b w).mpr hw, rfl, rfl⟩ h

theorem AdjListW.reachable (d : AdjListW) (h : d.WF) :
    ∃ e, AdjListW.empty d.order = some e ∧ (run AdjListW.step e (addOps d.arcsWeighted)).1 = d := by
  have hn : d.order ≠ 0 := Nat.ne_of_gt h.1
  have he : AdjListW.empty d.order = some ⟨List.replicate d.order []⟩ := if_neg hn
  refine ⟨_, he, ?_⟩
  exact reach_gen AdjListW.step AdjListW.WF AdjListW.abs AdjListW.run_refines AdjListW.abs_injective d _ d.order h
    (AdjListW.empty_WF he) (AdjListW.abs_empty he) rfl d.arcsWeighted
    (fun a b w => AdjListW.mem_arcsWeighted d h a b w) (AdjListW.abs_valid d h)

def unitW (L : List (Nat × Nat)) : List (Nat × Nat × Unit) := L.map (fun a => (a.1, a.2, ()))

theorem unitW_mem {L : List (Nat × Nat)} {s : SpecState Unit} (h : ∀ u v, (u, v) ∈ L ↔ s.A u v = true)
    (a b : Nat) (w : Unit) : (a, b, w) ∈ unitW L ↔ s.W a b = some w := by
  rw [unitW, List.mem_map, ← Option.isSome_iff_exists.trans ⟨fun ⟨_, e⟩ => e, fun e => ⟨w, e⟩⟩]
  constructor
  · rintro ⟨p, hm, e⟩
    cases e
    exact (h p.1 p.2).mp hm
  · intro hw
    exact ⟨(a, b), (h a b).mpr hw, rfl⟩

theorem AdjList.reachable (d : AdjList) (h : d.WF) :
    ∃ e, AdjList.empty d.order = some e ∧ (run AdjList.step e (addOps (unitW d.arcs))).1 = d := by
  have hn : d.order ≠ 0 := Nat.ne_of_gt h.1
  have he : AdjList.empty d.order = some ⟨List.replicate d.order []⟩ := if_neg hn
  refine ⟨_, he, ?_⟩
  exact reach_gen AdjList.step AdjList.WF AdjList.abs AdjList.run_refines AdjList.abs_injective d _ d.order h
    (AdjList.empty_WF he) (AdjList.abs_empty he) rfl (unitW d.arcs)
    (unitW_mem (AdjList.mem_arcs d h)) (AdjList.abs_valid d h)

theorem EdgeList.reachable (d : EdgeList) (h : d.WF) :
    ∃ e, EdgeList.empty d.order = some e ∧ (run EdgeList.step e (addOps (unitW d.arcs))).1 = d := by
  have hn : d.order ≠ 0 := Nat.ne_of_gt h.1
  have he : EdgeList.empty d.order = some ⟨[], d.order⟩ := if_neg hn
  refine ⟨_, he, ?_⟩
  exact reach_gen EdgeList.step EdgeList.WF EdgeList.abs EdgeList.run_refines EdgeList.abs_injective d _ d.order h
    (EdgeList.empty_WF he) (EdgeList.abs_empty he) rfl (unitW d.arcs)
    (unitW_mem (EdgeList.mem_arcs d h)) (EdgeList.abs_valid d h)

/-! ### the matrix (its calls are `MxOp`) -/

def toMx : Op Unit → MxOp
  | .add u v _ => .add u v
  | .rem u v => .rem u v

theorem run_map {σ ο ο' : Type} (step : σ → ο' → σ × Out) (f : ο → ο') (s : σ) (ops : List ο) :
    run (fun d op => step d (f op)) s ops = run step s (ops.map f) := by
  induction ops generalizing s with
  | nil => rfl
  | cons op ops ih => simp only [run, List.map_cons, ih]

theorem specStepMx_toMx (s : SpecState Unit) (op : Op Unit) : specStepMx s (toMx op) = specStep .fixed s op := by
  cases op <;> rfl

theorem run_specStepMx_toMx (s : SpecState Unit) (ops : List (Op Unit)) :
    run specStepMx s (ops.map toMx) = run (specStep .fixed) s ops := by
  rw [← run_map]
  congr 1
  funext d op
  exact specStepMx_toMx d op

theorem AdjMatrix.reachable (d : AdjMatrix) (h : d.WF) (hfit : d.order * d.order < 2 ^ 64) :
    ∃ e, AdjMatrix.empty d.order = some e ∧
      (run AdjMatrix.step e ((addOps (unitW d.arcs)).map toMx)).1 = d := by
  have hn : d.order ≠ 0 := Nat.ne_of_gt h.1
  have he : AdjMatrix.empty d.order = some ⟨List.replicate ((d.order * d.order + 63) / 64) 0#64, d.order⟩ :=
    (if_neg hn).trans (if_neg (Nat.not_le.mpr hfit))
  refine ⟨_, he, ?_⟩
  rw [← run_map]
  refine reach_gen (fun d op => AdjMatrix.step d (toMx op)) AdjMatrix.WF AdjMatrix.abs ?_ AdjMatrix.abs_injective d _
    d.order h (AdjMatrix.empty_WF he) (AdjMatrix.abs_empty he) rfl (unitW d.arcs)
    (unitW_mem (AdjMatrix.mem_arcs d h)) (AdjMatrix.abs_valid d h)
  intro ops d' hd'
  rw [run_map, ← run_specStepMx_toMx]
  exact AdjMatrix.run_refines (ops.map toMx) d' hd'

end GraafVerif.Repr
