import GraafVerif.Proof.GenDefs
import GraafVerif.Proof.GenAddArc
/-!
# C14, EdgeList: the collected arc sequences realise the defining arc sets

`EL.realises_of_list`: a `BTreeSet` collected from an arc sequence `l` realises `P` as soon as
`(u, v) ∈ l ↔ P u v`.  `cycle` and `wheel` list the same out-neighbours as the AdjacencyList
generators and use the same row lemmas.
-/
namespace GraafVerif.Gen
open GraafVerif.Repr GraafVerif.GenSpec

namespace EL

theorem realises_of_list {l : List (Nat × Nat)} {n : Nat} {P : Nat → Nat → Prop} (hn : 0 < n)
    (hmem : ∀ u v, (u, v) ∈ l ↔ P u v) (hvalid : ValidOn n P) :
    Realises ⟨psetOf l, n⟩ n P :=
  ⟨⟨hn, sorted_psetOf l, fun a ha => hvalid a.1 a.2 ((hmem a.1 a.2).mp (mem_psetOf.mp ha))⟩, rfl,
    fun u v => mem_psetOf.trans (hmem u v)⟩

theorem empty_spec {n : Nat} (hn : 1 ≤ n) : ∃ d, empty n = some d ∧ Realises d n (EmptyDef n) :=
  repr.yields_empty hn True.intro fun _ _ => id

theorem biclique_spec {m n : Nat} (hm : 1 ≤ m) (hn : 1 ≤ n) :
    ∃ d, biclique m n = some d ∧ Realises d (m + n) (BicliqueDef m n) :=
  ⟨_, (if_neg (Nat.ne_of_gt hm)).trans (if_neg (Nat.ne_of_gt hn)),
    realises_of_list (Nat.add_pos_left hm n) (fun u v => by
      rw [List.mem_append, mem_flatMap_pair, mem_flatMap_pair, bicliqueDef_iff]
      exact or_congr_right and_comm) bicliqueDef_valid⟩

theorem claw_spec : ∃ d, claw = some d ∧ Realises d 4 (BicliqueDef 1 3) :=
  biclique_spec (Nat.le_refl 1) (by decide)
theorem utility_spec : ∃ d, utility = some d ∧ Realises d 6 (BicliqueDef 3 3) :=
  biclique_spec (by decide) (by decide)

theorem circuit_spec {n : Nat} (hn : 1 ≤ n) : ∃ d, circuit n = some d ∧ Realises d n (CircuitDef n) :=
  repr.yields_guard hn True.intro circuitDef_valid fun h2 =>
    ⟨_, rfl, realises_of_list hn (fun u v => by
      rw [mem_map_pair, mem_rangeFT_zero]; exact ⟨fun h => ⟨h2, h⟩, fun h => h.2⟩) circuitDef_valid⟩

theorem complete_spec {n : Nat} (hn : 1 ≤ n) : ∃ d, complete n = some d ∧ Realises d n (CompleteDef n) :=
  repr.yields_guard hn True.intro completeDef_valid fun _ =>
    ⟨_, rfl, realises_of_list hn (fun u v => by
      rw [mem_flatMap_pair, List.mem_append, mem_rangeFT_zero, mem_rangeFT_zero, mem_rangeFT]
      exact and_congr_right fun _ =>
        ⟨fun h => h.elim (fun h => ⟨Nat.lt_trans h ‹u < n›, Nat.ne_of_gt h⟩)
            fun h => ⟨h.2, Nat.ne_of_lt h.1⟩,
          fun h => (Nat.lt_or_gt_of_ne h.2).symm.imp id fun h' => ⟨h', h.1⟩⟩) completeDef_valid⟩

theorem cycle_spec {n : Nat} (hn : 1 ≤ n) : ∃ d, cycle n = some d ∧ Realises d n (CycleDef n) :=
  repr.yields_guard hn True.intro cycleDef_valid fun h2 =>
    ⟨_, rfl, realises_of_list hn (fun u v => by
      rw [mem_flatMap_pair, mem_rangeFT_zero]
      exact ⟨fun h => (cycle_row h2 h.1).mp h.2,
        fun h => have hu := (cycleDef_valid u v h).1; ⟨hu, (cycle_row h2 hu).mpr h⟩⟩) cycleDef_valid⟩

theorem path_spec {n : Nat} (hn : 1 ≤ n) : ∃ d, path n = some d ∧ Realises d n (PathDef n) :=
  repr.yields_guard hn True.intro pathDef_valid fun _ =>
    ⟨_, rfl, realises_of_list hn (fun _ _ => mem_map_pair.trans pathDef_iff.symm) pathDef_valid⟩

theorem star_spec {n : Nat} (hn : 1 ≤ n) : ∃ d, star n = some d ∧ Realises d n (StarDef n) :=
  repr.yields_guard hn True.intro starDef_valid fun _ =>
    ⟨_, rfl, realises_of_list hn (fun u v => by
      rw [List.mem_append, mem_map_pair', mem_map_pair, starDef_iff]
      exact or_congr and_comm and_comm) starDef_valid⟩

theorem wheel_spec {n : Nat} (hn : 4 ≤ n) : ∃ d, wheel n = some d ∧ Realises d n (WheelDef n) :=
  have h1 : 1 ≤ n := Nat.le_trans (by decide) hn
  have h3 : 3 ≤ n := Nat.le_of_succ_le hn
  ⟨_, if_neg (not_not_intro hn), realises_of_list h1 (fun u v => by
    rw [List.mem_append, mem_map_pair', mem_flatMap_pair]
    constructor
    · rintro (⟨hv, rfl⟩ | ⟨hu, hv⟩)
      · exact wheel_row_hub.mp hv
      · exact (wheel_row_rim h3 (mem_rangeFT.mp hu).1 (mem_rangeFT.mp hu).2).mp hv
    · intro h
      have hu := (wheelDef_valid h3 u v h).1
      cases u with
      | zero => exact Or.inl ⟨wheel_row_hub.mpr h, rfl⟩
      | succ k =>
        exact Or.inr ⟨mem_rangeFT.mpr ⟨Nat.succ_pos k, hu⟩, (wheel_row_rim h3 (Nat.succ_pos k) hu).mpr h⟩)
    (wheelDef_valid h3)⟩

end EL

end GraafVerif.Gen
