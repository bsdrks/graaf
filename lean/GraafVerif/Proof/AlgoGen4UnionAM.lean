import GraafVerif.Proof.AlgoGen4Merge
import GraafVerif.Proof.OpsAMUnion
/-!
# Generated `AdjacencyMap::union` (with `merge_two_sorted`, `union_sets_unsafe`, `find_partition` of the same file)
= the hand-written `Ops.unionAM a b ap`

The file's own copy of `merge_two_sorted` is a separate generated definition (other site strings): like the one of
`adjacency_list/mod.rs` it is an instance of `Proof/AlgoGen4Merge.lean`.
-/
namespace GraafVerif.AlgoGenThm
open GraafVerif GraafVerif.AlgoGen GraafVerif.Repr

namespace AdjacencyMap

theorem mergeRounds (l r : List Nat) : MergeRounds (ρ := List Nat) (AlgoGen.AdjacencyMap.mergeTwoSorted_while0 l r l.length r.length)
    (AlgoGen.AdjacencyMap.mergeTwoSorted_while1 l) (AlgoGen.AdjacencyMap.mergeTwoSorted_while2 r) l r :=
  .of_emitted (fun _ _ _ => rfl) (fun _ _ => rfl) (fun _ _ => rfl)

theorem mergeTwoSorted_while0_eq (l r : List Nat) (out : List Nat) (i j : Nat) (hi : i < l.length) (hj : j < r.length) :
    (AlgoGen.AdjacencyMap.mergeTwoSorted_while0 l r l.length r.length (out, i, j) : Blk _ (List Nat) _) =
      .ok (if l[i] < r[j] then (out ++ [l[i]], i + 1, j)
           else if l[i] > r[j] then (out ++ [r[j]], i, j + 1) else (out ++ [l[i]], i + 1, j + 1)) :=
  (mergeRounds l r).both out i j hi hj

theorem mergeTwoSorted_while0_exit (l r : List Nat) (out : List Nat) (i j : Nat) (h : ¬ (i < l.length ∧ j < r.length)) :
    (AlgoGen.AdjacencyMap.mergeTwoSorted_while0 l r l.length r.length (out, i, j) : Blk _ (List Nat) _) = brk (out, i, j) :=
  (mergeRounds l r).both_exit out i j h

theorem copy_rest (step : List Nat × Nat → Blk (List Nat × Nat) (List Nat) (List Nat × Nat)) (l : List Nat)
    (hstep : ∀ out i, (hi : i < l.length) → step (out, i) = .ok (out ++ [l[i]], i + 1))
    (hexit : ∀ out i, ¬ i < l.length → step (out, i) = brk (out, i)) :
    ∀ (m : Nat) (out : List Nat) (i F : Nat), l.length - i ≤ m → l.length - i ≤ F → ∃ i',
      (whileLoop step F (out, i) : Blk Empty (List Nat) _) = .ok (out ++ l.drop i, i') :=
  fun _ out i F _ hF => whileLoop_copy step l hstep hexit F out i hF

/-! The two copy loops each read one slice only: the other is put to `[]`. -/

theorem mergeTwoSorted_while1_eq (l : List Nat) (out : List Nat) (i : Nat) (hi : i < l.length) :
    (AlgoGen.AdjacencyMap.mergeTwoSorted_while1 l (out, i) : Blk _ (List Nat) _) = .ok (out ++ [l[i]], i + 1) :=
  (mergeRounds l []).left out i hi

theorem mergeTwoSorted_while2_eq (r : List Nat) (out : List Nat) (j : Nat) (hj : j < r.length) :
    (AlgoGen.AdjacencyMap.mergeTwoSorted_while2 r (out, j) : Blk _ (List Nat) _) = .ok (out ++ [r[j]], j + 1) :=
  (mergeRounds [] r).right out j hj

theorem while1_copy (l : List Nat) : ∀ (m : Nat) (out : List Nat) (i F : Nat), l.length - i ≤ m → l.length - i ≤ F → ∃ i',
    (whileLoop (AlgoGen.AdjacencyMap.mergeTwoSorted_while1 l) F (out, i) : Blk Empty (List Nat) _) = .ok (out ++ l.drop i, i') :=
  copy_rest _ l (mergeRounds l []).left (mergeRounds l []).left_exit

theorem while2_copy (r : List Nat) : ∀ (m : Nat) (out : List Nat) (j F : Nat), r.length - j ≤ m → r.length - j ≤ F → ∃ j',
    (whileLoop (AlgoGen.AdjacencyMap.mergeTwoSorted_while2 r) F (out, j) : Blk Empty (List Nat) _) = .ok (out ++ r.drop j, j') :=
  copy_rest _ r (mergeRounds [] r).right (mergeRounds [] r).right_exit

/-- the rest of the function after the first loop: both tails are appended (one of them is empty) -/
def mergeTail (l r : List Nat) (t : List Nat × Nat × Nat) : Blk Empty (List Nat) (List Nat) := do
  let t6 ← whileLoop (AlgoGen.AdjacencyMap.mergeTwoSorted_while1 l) l.length (t.1, t.2.1)
  let t8 ← whileLoop (AlgoGen.AdjacencyMap.mergeTwoSorted_while2 r) r.length (t6.1, t.2.2)
  pure t8.1

theorem mergeTail_eq (l r : List Nat) (out : List Nat) (i j : Nat) :
    mergeTail l r (out, i, j) = .ok (out ++ l.drop i ++ r.drop j) :=
  copy_tails (mergeRounds l r) out i j

theorem merge_loops (l r : List Nat) : ∀ (m : Nat) (out : List Nat) (i j F : Nat),
    (l.length - i) + (r.length - j) ≤ m → (l.length - i) + (r.length - j) ≤ F →
    ((whileLoop (AlgoGen.AdjacencyMap.mergeTwoSorted_while0 l r l.length r.length) F (out, i, j) : Blk Empty (List Nat) _) >>=
      mergeTail l r) = .ok (out ++ Ops.mergeTwoSorted (l.drop i) (r.drop j)) :=
  fun _ out i j F _ hF => merge_three_loops (mergeRounds l r) F out i j hF

/-- the generated `merge_two_sorted` = the hand-written `Ops.mergeTwoSorted`, for all slices (no unchecked read is
out of bounds) -/
theorem mergeTwoSorted_eq (l r : List Nat) : AlgoGen.AdjacencyMap.mergeTwoSorted l r = .ok (Ops.mergeTwoSorted l r) :=
  congrArg fnBody (merge_three_loops (mergeRounds l r) _ [] 0 0 (Nat.le_refl _))

theorem unionSets_eq (a b : List Nat) : AlgoGen.AdjacencyMap.unionSets a b = .ok (Ops.unionSets a b) := by
  unfold AlgoGen.AdjacencyMap.unionSets Ops.unionSets
  simp only [mergeTwoSorted_eq, call_ok, ok_bind, pure_eq_ok, fnBody_ok]

theorem findPartition_while0_eq (r : Nat) (lhs rhs : List (Nat × List Nat)) (lo hi : Nat) (h : lo < hi)
    (hr : hi ≤ r) (hl : hi ≤ lhs.length) :
    (AlgoGen.AdjacencyMap.findPartition_while0 r lhs rhs rhs.length (lo, hi) : Blk (Nat × Nat) (Nat × Nat) _) =
      .ok (if r - (lo + hi) / 2 < rhs.length ∧ (lhs[(lo + hi) / 2]?.getD (0, [])).1 > (rhs[r - (lo + hi) / 2]?.getD (0, [])).1
        then (lo, (lo + hi) / 2) else ((lo + hi) / 2 + 1, hi)) := by
  unfold AlgoGen.AdjacencyMap.findPartition_while0
  have hmid := (mid_bounds h).2
  have hmr : (lo + hi) / 2 ≤ r := Nat.le_trans (Nat.le_of_lt hmid) hr
  have hml : (lo + hi) / 2 < lhs.length := Nat.lt_of_lt_of_le hmid hl
  simp only [h, if_true, subP_le _ _ hmr, ok_bind]
  by_cases hj : r - (lo + hi) / 2 < rhs.length
  · simp only [hj, if_true, rd_lt _ _ _ hml, rd_lt _ _ _ hj, ok_bind, pure_eq_ok, true_and,
      List.getElem?_eq_getElem hml, List.getElem?_eq_getElem hj, Option.getD_some]
    by_cases hc : lhs[(lo + hi) / 2].1 > rhs[r - (lo + hi) / 2].1
    · simp only [hc, decide_true, if_true]; rfl
    · simp only [hc, decide_false, Bool.false_eq_true, if_false]; rfl
  · simp only [hj, if_false, pure_eq_ok, ok_bind, Bool.false_eq_true, false_and]

theorem findPartitionLoop_bounds (r : Nat) (lhs rhs : List (Nat × List Nat)) : ∀ (f lo hi : Nat),
    lo ≤ Ops.findPartitionLoop r lhs rhs f lo hi ∧ Ops.findPartitionLoop r lhs rhs f lo hi ≤ max lo hi :=
  fun f lo hi => Ops.findPartitionLoop_eq_bisect r lhs rhs f lo hi ▸ Ops.bisect_bounds _ f lo hi

theorem findPartition_loop (r : Nat) (lhs rhs : List (Nat × List Nat)) : ∀ (f F lo hi : Nat), hi - lo ≤ f → hi - lo ≤ F →
    hi ≤ r → hi ≤ lhs.length → ∃ hi',
    (whileLoop (AlgoGen.AdjacencyMap.findPartition_while0 r lhs rhs rhs.length) F (lo, hi) : Blk Empty (Nat × Nat) _) =
      .ok (Ops.findPartitionLoop r lhs rhs f lo hi, hi') := by
  intro f F lo hi hf hF hr hl
  obtain ⟨t, ht, hq⟩ := whileLoop_total (β := Empty) (AlgoGen.AdjacencyMap.findPartition_while0 r lhs rhs rhs.length)
    (fun s => s.2 - s.1) (fun s => s.2 ≤ r ∧ s.2 ≤ lhs.length)
    (fun s t => ∀ f, s.2 - s.1 ≤ f → t.1 = Ops.bisect (Ops.Past r lhs rhs) f s.1 s.2)
    (fun s hI => by
      by_cases h : s.1 < s.2
      · have hb := Ops.bisectStep_bounds (Ops.Past r lhs rhs) h
        refine Or.inr ⟨Ops.bisectStep (Ops.Past r lhs rhs) s.1 s.2, findPartition_while0_eq r lhs rhs s.1 s.2 h hI.1 hI.2,
          hb.2.2.2, ⟨Nat.le_trans hb.2.2.1 hI.1, Nat.le_trans hb.2.2.1 hI.2⟩, fun t ht f hf => ?_⟩
        obtain ⟨f', rfl⟩ := Nat.exists_eq_succ_of_ne_zero (Nat.ne_of_gt (Nat.lt_of_lt_of_le (Nat.sub_pos_of_lt h) hf))
        rw [Ops.bisect_step h]
        exact ht f' (Nat.le_of_lt_succ (Nat.lt_of_lt_of_le hb.2.2.2 hf))
      · refine Or.inl ⟨?_, fun f _ => (Ops.bisect_of_not_lt h f).symm⟩
        unfold AlgoGen.AdjacencyMap.findPartition_while0
        rw [if_neg h])
    F (lo, hi) ⟨hr, hl⟩ hF
  exact ⟨t.2, by rw [ht, Ops.findPartitionLoop_eq_bisect, ← hq f hf]⟩

/-- the first upper bound of the search, `min r lhs_len` as the code writes it -/
theorem searchHi_le (r n : Nat) : (if r < n then r else n) ≤ r ∧ (if r < n then r else n) ≤ n :=
  Ops.searchHi_eq_min r n ▸ ⟨Nat.min_le_left r n, Nat.min_le_right r n⟩

/-- the generated `find_partition` = the hand-written `Ops.findPartition`, for every `r` and all slices: no subtraction
underflows, no unchecked read is out of bounds -/
theorem findPartition_eq (r : Nat) (lhs rhs : List (Nat × List Nat)) :
    AlgoGen.AdjacencyMap.findPartition r lhs rhs = .ok (Ops.findPartition r lhs rhs) := by
  unfold AlgoGen.AdjacencyMap.findPartition Ops.findPartition
  dsimp only
  obtain ⟨hhi_r, hhi_l⟩ := searchHi_le r lhs.length
  generalize (if r < lhs.length then r else lhs.length) = hi at hhi_r hhi_l ⊢
  obtain ⟨hi', h⟩ := findPartition_loop r lhs rhs (hi - (r - rhs.length)) lhs.length (r - rhs.length) hi (Nat.le_refl _)
    (Nat.le_trans (Nat.sub_le _ _) hhi_l) hhi_r hhi_l
  have hle := (findPartitionLoop_bounds r lhs rhs (hi - (r - rhs.length)) (r - rhs.length) hi).2
  rw [h, ok_bind, subP_le _ _ (Nat.le_trans hle (Nat.max_le.2 ⟨Nat.sub_le _ _, hhi_r⟩))]
  rfl

def slice (l : List (Nat × List Nat)) (i e : Nat) : List (Nat × List Nat) := (l.drop i).take (e - i)

theorem slice_cons (l : List (Nat × List Nat)) (i e : Nat) (h : i < e) (he : e ≤ l.length) :
    slice l i e = l[i]'(by omega) :: slice l (i + 1) e := by
  unfold slice
  rw [List.drop_eq_getElem_cons (Nat.lt_of_lt_of_le h he), ← Nat.succ_pred_eq_of_pos (Nat.sub_pos_of_lt h), List.take_succ_cons]
  rfl

theorem slice_nil (l : List (Nat × List Nat)) (i e : Nat) (h : ¬ i < e) : slice l i e = [] := by
  unfold slice
  rw [Nat.sub_eq_zero_of_le (Nat.le_of_not_lt h), List.take_zero]

theorem mergeEntries_nil_left (r : List (Nat × List Nat)) : Ops.mergeEntries [] r = r :=
  Ops.isMerge_mergeEntriesFuel.full_nil_left r

theorem mergeEntries_nil_right (l : List (Nat × List Nat)) : Ops.mergeEntries l [] = l :=
  Ops.isMerge_mergeEntriesFuel.full_nil_right l

theorem mergeEntries_cons (a b : Nat × List Nat) (l r : List (Nat × List Nat)) :
    Ops.mergeEntries (a :: l) (b :: r) =
      if a.1 < b.1 then a :: Ops.mergeEntries l (b :: r)
      else if b.1 < a.1 then b :: Ops.mergeEntries (a :: l) r
      else (a.1, Ops.unionSets a.2 b.2) :: Ops.mergeEntries l r :=
  Ops.isMerge_mergeEntriesFuel.full_cons_cons a b l r

theorem union_while0_eq (lhs rhs : List (Nat × List Nat)) (ie je : Nat) (loc : List (Nat × List Nat)) (i j : Nat)
    (hi : i < ie) (hj : j < je) (hie : ie ≤ lhs.length) (hje : je ≤ rhs.length) :
    (AlgoGen.AdjacencyMap.union_while0 lhs rhs ie je (loc, i, j) : Blk _ AdjMap _) =
      .ok (if (lhs[i]'(by omega)).1 < (rhs[j]'(by omega)).1 then (loc ++ [lhs[i]'(by omega)], i + 1, j)
           else if (lhs[i]'(by omega)).1 > (rhs[j]'(by omega)).1 then (loc ++ [rhs[j]'(by omega)], i, j + 1)
           else (loc ++ [((lhs[i]'(by omega)).1, Ops.unionSets (lhs[i]'(by omega)).2 (rhs[j]'(by omega)).2)], i + 1, j + 1)) := by
  have hil : i < lhs.length := Nat.lt_of_lt_of_le hi hie
  have hjl : j < rhs.length := Nat.lt_of_lt_of_le hj hje
  unfold AlgoGen.AdjacencyMap.union_while0
  simp only [hi, hj, decide_true, Bool.or_self, Bool.and_self, if_true, rd_lt _ _ _ hil, rd_lt _ _ _ hjl, ok_bind]
  by_cases h1 : lhs[i].1 < rhs[j].1
  · simp only [h1, if_true, ok_bind, pure_eq_ok]
  · simp only [h1, if_false]
    by_cases h2 : lhs[i].1 > rhs[j].1
    · simp only [h2, if_true, ok_bind, pure_eq_ok]
    · simp only [h2, if_false, unionSets_eq, call_ok, ok_bind, pure_eq_ok]

theorem union_while0_left (lhs rhs : List (Nat × List Nat)) (ie je : Nat) (loc : List (Nat × List Nat)) (i j : Nat)
    (hi : i < ie) (hj : ¬ j < je) (hie : ie ≤ lhs.length) :
    (AlgoGen.AdjacencyMap.union_while0 lhs rhs ie je (loc, i, j) : Blk _ AdjMap _) = .ok (loc ++ [lhs[i]'(by omega)], i + 1, j) := by
  have hil : i < lhs.length := Nat.lt_of_lt_of_le hi hie
  unfold AlgoGen.AdjacencyMap.union_while0
  simp only [hi, hj, decide_true, decide_false, Bool.or_false, Bool.and_false, Bool.false_eq_true, if_true, if_false,
    rd_lt _ _ _ hil, ok_bind, pure_eq_ok]

theorem union_while0_right (lhs rhs : List (Nat × List Nat)) (ie je : Nat) (loc : List (Nat × List Nat)) (i j : Nat)
    (hi : ¬ i < ie) (hj : j < je) (hje : je ≤ rhs.length) :
    (AlgoGen.AdjacencyMap.union_while0 lhs rhs ie je (loc, i, j) : Blk _ AdjMap _) = .ok (loc ++ [rhs[j]'(by omega)], i, j + 1) := by
  have hjl : j < rhs.length := Nat.lt_of_lt_of_le hj hje
  unfold AlgoGen.AdjacencyMap.union_while0
  simp only [hi, hj, decide_true, decide_false, Bool.false_or, Bool.false_and, Bool.false_eq_true, if_true, if_false,
    rd_lt _ _ _ hjl, ok_bind, pure_eq_ok]

theorem union_while0_exit (lhs rhs : List (Nat × List Nat)) (ie je : Nat) (loc : List (Nat × List Nat)) (i j : Nat)
    (hi : ¬ i < ie) (hj : ¬ j < je) :
    (AlgoGen.AdjacencyMap.union_while0 lhs rhs ie je (loc, i, j) : Blk _ AdjMap _) = brk (loc, i, j) := by
  unfold AlgoGen.AdjacencyMap.union_while0
  simp only [hi, hj, decide_false, Bool.or_self, Bool.false_eq_true, if_false]

theorem union_merge_loop (lhs rhs : List (Nat × List Nat)) (ie je : Nat) (hie : ie ≤ lhs.length) (hje : je ≤ rhs.length) :
    ∀ (m : Nat) (loc : List (Nat × List Nat)) (i j F : Nat), (ie - i) + (je - j) ≤ m → (ie - i) + (je - j) ≤ F → ∃ i' j',
    (whileLoop (AlgoGen.AdjacencyMap.union_while0 lhs rhs ie je) F (loc, i, j) : Blk (List (List (Nat × List Nat))) AdjMap _) =
      .ok (loc ++ Ops.mergeEntries (slice lhs i ie) (slice rhs j je), i', j') := by
  intro _ loc i j F _ hF
  obtain ⟨t, ht, hq⟩ := whileLoop_total (β := List (List (Nat × List Nat))) (AlgoGen.AdjacencyMap.union_while0 lhs rhs ie je)
    (fun s => (ie - s.2.1) + (je - s.2.2)) (fun _ => True)
    (fun s t => t.1 = s.1 ++ Ops.mergeEntries (slice lhs s.2.1 ie) (slice rhs s.2.2 je))
    (fun s _ => by
      by_cases hi : s.2.1 < ie
      · by_cases hj : s.2.2 < je
        · obtain ⟨hμ, hq⟩ := Ops.merge_round (key := fun e : Nat × List Nat => e.1) mergeEntries_cons
            (L := fun i => slice lhs i ie) (R := fun j => slice rhs j je) (slice_cons lhs s.2.1 ie hi hie)
            (slice_cons rhs s.2.2 je hj hje) hi hj s.1 _ rfl
          exact Or.inr ⟨_, union_while0_eq lhs rhs ie je s.1 s.2.1 s.2.2 hi hj hie hje, hμ, trivial, fun t ht => ht.trans hq⟩
        · refine Or.inr ⟨_, union_while0_left lhs rhs ie je s.1 s.2.1 s.2.2 hi hj hie, Ops.cursor_lt_left hi, trivial,
            fun t ht => ht.trans ?_⟩
          rw [slice_nil rhs s.2.2 je hj, mergeEntries_nil_right, mergeEntries_nil_right, slice_cons lhs s.2.1 ie hi hie,
            List.append_assoc]
          rfl
      · by_cases hj : s.2.2 < je
        · refine Or.inr ⟨_, union_while0_right lhs rhs ie je s.1 s.2.1 s.2.2 hi hj hje, Ops.cursor_lt_right hj, trivial,
            fun t ht => ht.trans ?_⟩
          rw [slice_nil lhs s.2.1 ie hi, mergeEntries_nil_left, mergeEntries_nil_left, slice_cons rhs s.2.2 je hj hje,
            List.append_assoc]
          rfl
        · refine Or.inl ⟨union_while0_exit lhs rhs ie je s.1 s.2.1 s.2.2 hi hj, ?_⟩
          rw [slice_nil lhs s.2.1 ie hi, mergeEntries_nil_left, slice_nil rhs s.2.2 je hj, List.append_nil])
    F (loc, i, j) trivial hF
  exact ⟨t.2.1, t.2.2, by rw [ht, ← hq]⟩

theorem findPartition_bounds (r : Nat) (lhs rhs : List (Nat × List Nat)) (hr : r ≤ lhs.length + rhs.length) :
    (Ops.findPartition r lhs rhs).1 ≤ lhs.length ∧ (Ops.findPartition r lhs rhs).2 ≤ rhs.length :=
  ⟨(Ops.findPartition_box r lhs rhs hr).1, (Ops.findPartition_box r lhs rhs hr).2.1⟩

theorem union_for0_eq (order t : Nat) (ht : 0 < t) (ps : List Nat) (k : Nat) :
    (AlgoGen.AdjacencyMap.union_for0 order t ps k : Blk (List Nat) AdjMap _) = .ok (ps ++ [k * order / t]) := by
  unfold AlgoGen.AdjacencyMap.union_for0
  rw [divP_pos _ _ ht]
  rfl

theorem union_for1_eq (lhs rhs : List (Nat × List Nat)) (bs : List (Nat × Nat)) (r : Nat) :
    (AlgoGen.AdjacencyMap.union_for1 lhs rhs bs r : Blk (List (Nat × Nat)) AdjMap _) = .ok (bs ++ [Ops.findPartition r lhs rhs]) := by
  unfold AlgoGen.AdjacencyMap.union_for1
  simp only [findPartition_eq, call_ok, ok_bind, pure_eq_ok]

/-- worker `k` between two entries of a list `bs` of boundaries, the upper one inside the inputs -/
theorem union_worker (lhs rhs : List (Nat × List Nat)) (bs : List (Nat × Nat)) (handles : List (List (Nat × List Nat))) (k : Nat)
    (hk : k + 1 < bs.length) (h1 : bs[k + 1].1 ≤ lhs.length) (h2 : bs[k + 1].2 ≤ rhs.length) :
    (AlgoGen.AdjacencyMap.union_for2 (lhs.length + rhs.length) bs lhs rhs handles k :
        Blk (List (List (Nat × List Nat))) AdjMap _) = .ok (handles ++ [Ops.workerAM lhs rhs bs k]) := by
  have hk0 : k < bs.length := Nat.lt_of_succ_lt hk
  have hF : (bs[k + 1].1 - bs[k].1) + (bs[k + 1].2 - bs[k].2) ≤ lhs.length + rhs.length :=
    Nat.add_le_add (Nat.le_trans (Nat.sub_le _ _) h1) (Nat.le_trans (Nat.sub_le _ _) h2)
  obtain ⟨i', j', h⟩ := union_merge_loop lhs rhs bs[k + 1].1 bs[k + 1].2 h1 h2 _ [] bs[k].1 bs[k].2 _ hF hF
  unfold AlgoGen.AdjacencyMap.union_for2 Ops.workerAM
  simp only [rd_lt _ _ _ hk0, rd_lt _ _ _ hk, ok_bind, h, List.getElem?_eq_getElem hk0, List.getElem?_eq_getElem hk,
    Option.getD_some, List.nil_append]
  rfl

theorem union_for2_eq (lhs rhs : List (Nat × List Nat)) (t : Nat) (handles : List (List (Nat × List Nat))) (k : Nat) (hk : k < t)
    (ht : 0 < t) :
    (AlgoGen.AdjacencyMap.union_for2 (lhs.length + rhs.length) (Ops.boundaries lhs rhs t) lhs rhs handles k :
        Blk (List (List (Nat × List Nat))) AdjMap _) =
      .ok (handles ++ [Ops.workerAM lhs rhs (Ops.boundaries lhs rhs t) k]) := by
  have hk1 : k + 1 < (Ops.boundaries lhs rhs t).length := by
    rw [Ops.boundaries, List.length_map, List.length_range]
    exact Nat.succ_lt_succ hk
  have hbox := Ops.boundaries_box lhs rhs t _ (List.getElem_mem hk1)
  exact union_worker lhs rhs _ handles k hk1 hbox.1 hbox.2

theorem union_for3_eq (m : List (Nat × List Nat)) (h : List (Nat × List Nat)) :
    (AlgoGen.AdjacencyMap.union_for3 m h : Blk (List (Nat × List Nat)) AdjMap _) = .ok (m ++ h) := rfl

theorem union_for4_eq (acc : List (Nat × List Nat)) (cur e : Nat × List Nat) :
    (AlgoGen.AdjacencyMap.union_for4 (acc, cur) e : Blk _ AdjMap _) =
      .ok (if e.1 = cur.1 then (acc, (cur.1, Ops.unionSets cur.2 e.2)) else (acc ++ [cur], e)) := by
  unfold AlgoGen.AdjacencyMap.union_for4
  by_cases h : e.1 = cur.1
  · simp only [h, if_true, unionSets_eq, call_ok, ok_bind, pure_eq_ok]
  · simp only [h, if_false, ok_bind, pure_eq_ok]

theorem dup_fold {β : Type} : ∀ (es : List (Nat × List Nat)) (acc : List (Nat × List Nat)) (cur : Nat × List Nat), ∃ acc' cur',
    (forLoop AlgoGen.AdjacencyMap.union_for4 es (acc, cur) : Blk β AdjMap _) = .ok (acc', cur') ∧
      acc' ++ [cur'] = acc ++ Ops.foldDupGo cur es := by
  intro es
  induction es with
  | nil => intro acc cur; exact ⟨acc, cur, rfl, rfl⟩
  | cons e es ih =>
    intro acc cur
    rw [forLoop_cons_ok (h := union_for4_eq acc cur e)]
    unfold Ops.foldDupGo
    by_cases h : e.1 = cur.1
    · simp only [h, if_true]
      exact ih acc (cur.1, Ops.unionSets cur.2 e.2)
    · simp only [h, if_false]
      obtain ⟨acc', cur', h1, h2⟩ := ih (acc ++ [cur]) e
      exact ⟨acc', cur', h1, by rw [h2]; simp⟩

theorem map_pair_eta (l : List (Nat × List Nat)) : List.map (fun x : Nat × List Nat => let k := x.1; let v := x.2; (k, v)) l = l :=
  List.map_id' l

/-- `AdjacencyMap::union` with `available_parallelism() = ap` = the hand-written `Ops.unionAM a b ap`, for every pair of
maps and every `ap` (0 included: both panic with a division by zero); no subtraction underflows and no unchecked /
pointer read is out of bounds.  (`ptr::read` is read as the copy of the entry: that every entry is moved out exactly once
is the hand-written `unionAM_each_entry_once`, not a statement about this definition.) -/
theorem union_eq (ap : Nat) (a b : AdjMap) : AlgoGen.AdjacencyMap.union ap a b = optR (Ops.unionAM a b ap) := by
  unfold AlgoGen.AdjacencyMap.union Ops.unionAM
  dsimp only
  rw [map_pair_eta, map_pair_eta]
  by_cases h0 : a.rows.length + b.rows.length = 0
  · simp only [h0, if_true]
    rfl
  · simp only [h0, if_false]
    by_cases ht0 : min (a.rows.length + b.rows.length) ap = 0
    · simp only [ht0, if_true, Nat.zero_add]
      have : (forLoop (AlgoGen.AdjacencyMap.union_for0 (a.rows.length + b.rows.length) 0) (List.range 1) [] : Blk Empty AdjMap _) =
          .error (.err (.fault .panic)) := by
        rw [show List.range 1 = [0] from rfl]
        rw [forLoop_cons_err (e := .fault .panic) (h := by unfold AlgoGen.AdjacencyMap.union_for0; rw [divP_zero]; rfl)]
      rw [this]
      rfl
    · have ht : 0 < min (a.rows.length + b.rows.length) ap := Nat.pos_of_ne_zero ht0
      simp only [ht0, if_false]
      generalize min (a.rows.length + b.rows.length) ap = t at ht ⊢
      have hbs : List.map ((fun r => Ops.findPartition r a.rows b.rows) ∘ fun k => k * (a.rows.length + b.rows.length) / t)
          (List.range (t + 1)) = Ops.boundaries a.rows b.rows t := rfl
      have hworkers := forLoop_ok (β := Empty) (ρ := AdjMap) (I := fun _ : List (List (Nat × List Nat)) => True)
        (l := List.range t) (s := []) trivial fun hs _ k hk => ⟨union_for2_eq a.rows b.rows t hs k (List.mem_range.1 hk) ht, trivial⟩
      -- the loops in source order: `partitions`, `boundaries` (one `find_partition` each), the `t` workers, `extend` by their
      -- outputs, `sort_unstable_by_key`; the pass that unites entries of equal key is left for `dup_fold`
      rw [forLoop_pure (β := Empty) _ _ (fun ps k => union_for0_eq _ _ ht ps k), ok_bind, foldl_snoc_map, List.nil_append,
        forLoop_pure (β := Empty) _ _ (union_for1_eq a.rows b.rows), ok_bind, foldl_snoc_map, List.nil_append, List.map_map, hbs,
        hworkers.1, ok_bind, foldl_snoc_map, List.nil_append, forLoop_pure (β := Empty) _ _ union_for3_eq, ok_bind,
        foldl_append_flatten, List.nil_append, ← List.flatMap_def,
        show sortByKey1 ((List.range t).flatMap (Ops.workerAM a.rows b.rows (Ops.boundaries a.rows b.rows t))) =
          Ops.sortByKey (Ops.mergedAM a.rows b.rows t) from rfl]
      generalize Ops.sortByKey (Ops.mergedAM a.rows b.rows t) = sorted
      cases sorted with
      | nil => rfl
      | cons c es =>
        obtain ⟨acc', cur', h1, h2⟩ := dup_fold (β := Empty) es [] c
        rw [if_pos (show (c :: es).isEmpty = false from rfl), idx_lt (c :: es) 0 (Nat.zero_lt_succ _), ok_bind, List.drop_succ_cons, List.drop_zero, List.getElem_cons_zero,
          h1]
        exact congrArg (fun l => Except.ok (AdjMap.mk (Ops.toMap l))) h2

end AdjacencyMap
end GraafVerif.AlgoGenThm
