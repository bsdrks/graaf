import GraafVerif.Proof.LawsRep
/-!
# Laws — the four bundles

`alRep ap`, `amRep ap`, `mxRep`, `elRep : Rep …`.  The operations, predicates and generators of a bundle are the
models of C11, C12, C14; the fields that speak of them are theorems of C02 (`core_correct`, `abs_valid`), C11
(`statementAL/AM/MX/EL`, `canon*`), C12 (`al_unary` …), C14 (`al_family_spec` …).  Proved in place, in each bundle:
`nonempty` (`WF` has `0 < order`, and `dig d` has `order` vertices) and `real_ok` (what `Realises` says, read on
`dig d`: `WF`; the vertices `0..n` from `order = n`, for the map `Realises` states them; the arcs through `arcs_mem`
of C02); in `mxRep` also `fits_of` (`order² < 2^64` is part of its `WF`).  `ap` = `available_parallelism()` (it reaches
`AdjacencyList::{complement, union, is_semicomplete, complete}` and `AdjacencyMap::union`).
The abstract digraph of the bundle, `toDG (Query.X.abs d)`, is definitionally `Ops.absX d`.
-/
namespace GraafVerif.Laws
open GraafVerif.Repr GraafVerif.Ops GraafVerif.Query GraafVerif.Pred GraafVerif.GenSpec GraafVerif.Gen

theorem toDG_absAL (d : AdjList) : toDG (Query.AL.abs d) = absAL d := rfl
theorem toDG_absAM (d : AdjMap) : toDG (Query.AM.abs d) = absAM d := rfl
theorem toDG_absMX (d : AdjMatrix) : toDG (Query.MX.abs d) = absMX d := rfl
theorem toDG_absEL (d : EdgeList) : toDG (Query.EL.abs d) = absEL d := rfl

theorem range_iff_eq {a n : Nat} (h : ∀ v, v ∈ List.range a ↔ v < n) : a = n :=
  eq_of_lt_iff_lt fun v => List.mem_range.symm.trans (h v)

def alRep (ap : Nat) (hap : 0 < ap) : Rep AdjList where
  WF := AdjList.WF
  core := Query.AL.core
  dig := Query.AL.abs
  core_ok := fun _ h => Query.AL.core_correct h
  dig_valid := fun _ h => Query.AL.abs_valid h
  nonempty := fun d h => by
    intro e
    have : (Query.AL.abs d).verts.length = d.order := by simp [Query.AL.abs, AdjList.vertices]
    rw [e] at this; have := h.1; simp at *; omega
  canon := fun _ _ ha hb h => canonAL ha hb h
  compl := fun d => complementAL d ap
  conv := converseAL
  un := fun a b => unionAL a b ap
  compl_ok := fun d h => C11.statementAL.2.1 d ap hap h
  conv_ok := fun d h => C11.statementAL.2.2.1 d h
  un_ok := fun a b ha hb => C11.statementAL.2.2.2.1 a b ap hap ha hb
  isComplete := fun d => some (Pred.AL.isComplete d)
  isSemicomplete := fun d => some (Pred.AL.isSemicomplete d ap)
  isTournament := fun d => some (Pred.AL.isTournament d)
  isSimple := fun d => some (Pred.AL.isSimple d)
  unary := fun d h => C12.al_unary d h ap hap
  fits := fun _ => True
  fam := C14.alFamily ap
  Real := Gen.AL.Realises
  famSpec := C14.al_family_spec ap hap
  real_ok := fun d n P _ _ hr => by
    obtain ⟨hw, ho, ha⟩ := hr
    refine ⟨hw, by simp [Query.AL.abs, AdjList.vertices, ho], fun u v => ?_⟩
    rw [← ha u v]; exact ((Query.AL.core_correct hw).arcs_mem u v).symm
  fits_of := fun _ _ _ _ => trivial

theorem amStatement : C11.StatementAM := C11.statementAM

def amRep (ap : Nat) (hap : 0 < ap) : Rep AdjMap where
  WF := fun d => d.WF ∧ 0 < d.order
  core := Query.AM.core
  dig := Query.AM.abs
  core_ok := fun _ h => Query.AM.core_correct h.1
  dig_valid := fun _ h => Query.AM.abs_valid h.1
  nonempty := fun d h => by
    intro e
    have := Pred.AM.verts_length d
    rw [e] at this; have := h.2; simp at *; omega
  canon := fun _ _ ha hb h => canonAM ha.1 hb.1 h
  compl := fun d => some (complementAM d)
  conv := fun d => some (converseAM d)
  un := fun a b => unionAM a b ap
  compl_ok := fun d h => by
    obtain ⟨_, hc, _⟩ := amStatement
    exact hc d h
  conv_ok := fun d h => by
    obtain ⟨_, _, hv, _⟩ := amStatement
    exact hv d h
  un_ok := fun a b ha hb => by
    obtain ⟨_, _, _, hu, _⟩ := amStatement
    exact hu a b ap hap ha hb
  isComplete := fun d => some (Pred.AM.isComplete d)
  isSemicomplete := fun d => some (Pred.AM.isSemicomplete d)
  isTournament := fun d => some (Pred.AM.isTournament d)
  isSimple := fun d => some (Pred.AM.isSimple d)
  unary := fun d h => C12.am_unary d h.1 h.2
  fits := fun _ => True
  fam := C14.amFamily
  Real := Gen.AM.Realises
  famSpec := C14.am_family_spec
  real_ok := fun d n P hn _ hr => by
    obtain ⟨hw, ho, hv, ha⟩ := hr
    refine ⟨⟨hw, by omega⟩, hv, fun u v => ?_⟩
    rw [← ha u v]; exact ((Query.AM.core_correct hw).arcs_mem u v).symm
  fits_of := fun _ _ _ _ => trivial

theorem mxStatement : C11.StatementMX := C11.statementMX

def mxRep : Rep AdjMatrix where
  WF := fun d => d.WF ∧ d.order * d.order < 2 ^ 64
  core := Query.MX.core
  dig := Query.MX.abs
  core_ok := fun _ h => Query.MX.core_correct h.1
  dig_valid := fun _ h => Query.MX.abs_valid h.1
  nonempty := fun d h => by
    intro e
    have : (Query.MX.abs d).verts.length = d.order := by simp [Query.MX.abs, AdjMatrix.vertices]
    rw [e] at this; have := h.1.1; simp at *; omega
  canon := fun _ _ ha hb h => canonMX ha.1 hb.1 h
  compl := complementMX
  conv := converseMX
  un := unionMX
  compl_ok := fun d h => by
    obtain ⟨_, hc, _⟩ := mxStatement
    exact hc d h
  conv_ok := fun d h => by
    obtain ⟨_, _, hv, _⟩ := mxStatement
    exact hv d h
  un_ok := fun a b ha hb => by
    obtain ⟨_, _, _, hu, _⟩ := mxStatement
    exact hu a b ha hb
  isComplete := Pred.MX.isComplete
  isSemicomplete := fun d => some (Pred.MX.isSemicomplete d)
  isTournament := fun d => some (Pred.MX.isTournament d)
  isSimple := fun d => some (Pred.MX.isSimple d)
  unary := fun d h => C12.mx_unary d h.1 h.2
  fits := C14.mxFits
  fam := C14.mxFamily
  Real := Gen.MX.Realises
  famSpec := C14.mx_family_spec
  real_ok := fun d n P _ hf hr => by
    obtain ⟨hw, ho, ha⟩ := hr
    refine ⟨⟨hw, by rw [ho]; exact hf⟩, by simp [Query.MX.abs, AdjMatrix.vertices, ho], fun u v => ?_⟩
    rw [← ha u v]; exact ((Query.MX.core_correct hw).arcs_mem u v).symm
  fits_of := fun d n h hV => by
    have : d.order = n := range_iff_eq (a := d.order) hV
    show n * n < 2 ^ 64
    rw [← this]; exact h.2

def elRep : Rep EdgeList where
  WF := EdgeList.WF
  core := Query.EL.core
  dig := Query.EL.abs
  core_ok := fun _ h => Query.EL.core_correct h
  dig_valid := fun _ h => Query.EL.abs_valid h
  nonempty := fun d h => by
    intro e
    have : (Query.EL.abs d).verts.length = d.order := by simp [Query.EL.abs, EdgeList.vertices]
    rw [e] at this; have := h.1; simp at *; omega
  canon := fun _ _ ha hb h => canonEL ha hb h
  compl := fun d => some (complementEL d)
  conv := fun d => some (converseEL d)
  un := unionEL
  compl_ok := fun d h => C11.statementEL.2.1 d h
  conv_ok := fun d h => C11.statementEL.2.2.1 d h
  un_ok := fun a b ha hb => C11.statementEL.2.2.2.1 a b ha hb
  isComplete := Pred.EL.isComplete
  isSemicomplete := fun d => some (Pred.EL.isSemicomplete d)
  isTournament := fun d => some (Pred.EL.isTournament d)
  isSimple := fun d => some (Pred.EL.isSimple d)
  unary := fun d h => C12.el_unary d h
  fits := fun _ => True
  fam := C14.elFamily
  Real := Gen.EL.Realises
  famSpec := C14.el_family_spec
  real_ok := fun d n P _ _ hr => by
    obtain ⟨hw, ho, ha⟩ := hr
    refine ⟨hw, by simp [Query.EL.abs, EdgeList.vertices, ho], fun u v => ?_⟩
    rw [← ha u v]; exact ((Query.EL.core_correct hw).arcs_mem u v).symm
  fits_of := fun _ _ _ _ => trivial

/-! ## the fixed-order representations have vertex set `0..order` -/

theorem al_contig (ap : Nat) (hap : 0 < ap) (d : AdjList) : ∀ v, v ∈ (alRep ap hap).vertices d ↔ v < d.order :=
  fun _ => List.mem_range (n := d.order)
theorem mx_contig (d : AdjMatrix) : ∀ v, v ∈ mxRep.vertices d ↔ v < d.order :=
  fun _ => List.mem_range (n := d.order)
theorem el_contig (d : EdgeList) : ∀ v, v ∈ elRep.vertices d ↔ v < d.order :=
  fun _ => List.mem_range (n := d.order)

end GraafVerif.Laws
