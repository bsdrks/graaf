import GraafVerif.Proof.Query
import GraafVerif.Proof.ReprBits
/-!
# C02 — `AdjacencyMatrix`: bit addressing, the arc iterator, every core query (P0)
-/
namespace GraafVerif.Query
open GraafVerif.Repr

theorem and_mask_ne_zero (x : BitVec 64) (i : Nat) :
    ((x &&& AdjMatrix.mask i) != 0#64) = x.getLsbD (i % 64) :=
  AdjMatrix.and_mask_ne_zero x i

namespace MX

theorem oob_guard (d : AdjMatrix) {u v : Nat} (h : ¬ (u < d.order ∧ v < d.order)) :
    (u ≥ d.order || v ≥ d.order) = true := by
  rw [Bool.or_eq_true, decide_eq_true_eq, decide_eq_true_eq]
  exact (Decidable.not_and_iff_or_not.1 h).imp Nat.le_of_not_lt Nat.le_of_not_lt

theorem abs_valid {d : AdjMatrix} (h : d.WF) : (abs d).Valid :=
  valid_of_simple List.pairwise_lt_range h.simple (unitWt_isSome d.hasArc)

theorem arcs_spec {d : AdjMatrix} (h : d.WF) : d.arcs = Spec.arcs (abs d) :=
  arcs_eq_of (abs_valid h) (AdjMatrix.arcs_sorted d) (AdjMatrix.mem_arcs_iff d)

theorem size_spec {d : AdjMatrix} (h : d.WF) : d.size = Spec.size (abs d) :=
  (AdjMatrix.size_eq h.shape).trans (congrArg List.length (arcs_spec h))

theorem inNeighbors_spec {d : AdjMatrix} (h : d.WF) (v : Nat) : inNeighbors d v = Spec.inNeighbors (abs d) v := by
  rw [inNeighbors, arcs_spec h]
  exact col_eq_inNeighbors (abs_valid h) (arcs_sorted (abs_valid h)) (mem_arcs (abs_valid h)) v

theorem core_correct {d : AdjMatrix} (h : d.WF) : CoreCorrect (core d) (abs d) where
  order := (List.length_range).symm
  vertices := rfl
  arcs_mem := AdjMatrix.mem_arcs_iff d
  size := size_spec h
  hasArc := fun _ _ => rfl
  hasEdge := fun _ _ => rfl
  hasWalk := fun w => hasWalkZip_eq (abs d) d.hasArc (fun _ _ => rfl) w
  outNeighbors := fun u hu => if_pos (AdjMatrix.mem_vertices.1 hu)
  inNeighbors := inNeighbors_spec h
  indegree := fun v hv => if_pos (AdjMatrix.mem_vertices.1 hv)
  isSource := fun v => by
    rw [Spec.isSource, Spec.indegree, Spec.inNeighbors, filter_length_eq_zero]; rfl
  outdegree := fun u hu => if_pos (AdjMatrix.mem_vertices.1 hu)
  isSink := fun u hu => by
    rw [Spec.isSink, Spec.outdegree, Spec.outNeighbors, filter_length_eq_zero]
    exact if_pos (AdjMatrix.mem_vertices.1 hu)

theorem seq_correct {d : AdjMatrix} (h : d.WF) : SeqCorrect (core d) (abs d) :=
  seqCorrect_default (core_correct h) rfl (fun _ => rfl)

theorem panics_outside {d : AdjMatrix} {u : Nat} (hu : ¬ u < d.order) :
    (core d).outNeighbors u = none ∧ (core d).indegree u = none ∧ (core d).outdegree u = none ∧ (core d).isSink u = none :=
  ⟨if_neg hu, if_neg hu, if_neg hu, if_neg hu⟩

theorem removeArc_outside (d : AdjMatrix) {u v : Nat} (h : ¬ (u < d.order ∧ v < d.order)) :
    d.removeArc u v = (d, false) := by
  rw [AdjMatrix.removeArc, if_pos (oob_guard d h)]

theorem removeArc_absent (d : AdjMatrix) {u v : Nat} (h : d.hasArc u v = false) : d.removeArc u v = (d, false) := by
  unfold AdjMatrix.removeArc
  by_cases hr : (u ≥ d.order || v ≥ d.order) = true
  · rw [if_pos hr]
  · have hbit : (d.blocks[d.index u v / 64]?.getD 0#64).getLsbD (d.index u v % 64) = false := by
      rw [AdjMatrix.hasArc, if_neg hr, AdjMatrix.and_mask_ne_zero] at h
      exact h
    rw [if_neg hr, h, AdjMatrix.setBlock, AdjMatrix.andnot_mask_fix _ _ hbit]
    refine congrArg (fun b => ((⟨b, d.order⟩ : AdjMatrix), false)) ?_
    by_cases hlen : d.index u v / 64 < d.blocks.length
    · rw [List.getElem?_eq_getElem hlen]; exact List.set_getElem_self hlen
    · exact List.set_eq_of_length_le (Nat.le_of_not_lt hlen)

end MX

end GraafVerif.Query
