import GraafVerif.Proof.ReprRows
/-!
# `AdjacencyList` refines the abstract digraph (C01) and is determined by it (C20)

An instance of the row-indexed scheme of `Proof/ReprRows.lean` with `setLook` as the row lookup.
-/
namespace GraafVerif.Repr.AdjList
open GraafVerif.ReprSpec GraafVerif.Repr

theorem abs_A (d : AdjList) (u v : Nat) : d.abs.A u v = d.hasArc u v := unitOf_isSome _

theorem abs_eq (d : AdjList) : d.abs = rowsAbs setLook d.rows :=
  SpecState.ext (fun _ => rfl) (fun u v => congrArg unitOf (hasArc_eq d u v))

theorem vertices_spec (d : AdjList) :
    d.vertices = List.range d.order ∧ ∀ x, x ∈ d.vertices ↔ d.abs.V x = true :=
  ⟨rfl, fun _ => List.mem_range.trans decide_eq_true_iff.symm⟩

theorem WF_iff (d : AdjList) : d.WF ↔ d.Shape ∧ d.abs.Valid :=
  (WF_iff_simple d).trans <| and_congr_right fun _ => (valid_iff_simple (vertices_spec d).2 (abs_A d)).symm

theorem abs_empty {n : Nat} {d : AdjList} (h : empty n = some d) : d.abs = emptySpec Unit n := by
  obtain ⟨_, ⟨⟩⟩ := Option.ite_none_left_eq_some.mp h
  rw [abs_eq]; exact rowsAbs_replicate setLook (fun _ => rfl) n

theorem empty_WF {n : Nat} {d : AdjList} (h : empty n = some d) : d.WF := by
  refine (WF_iff d).mpr ⟨?_, abs_empty h ▸ emptySpec_valid Unit n⟩
  obtain ⟨hn, ⟨⟩⟩ := Option.ite_none_left_eq_some.mp h
  exact RowsShape.replicate id hn

theorem addArc_eq (d : AdjList) (u v : Nat) :
    d.addArc u v = if rejected .fixed d.abs u v = true then none
      else some ⟨d.rows.set u (sinsert v (d.rows[u]?.getD []))⟩ :=
  fixed_guard d.order _ u v _

/-- `remove_arc` on a vertex without a row rewrites nothing: `List.set` past the end is the identity. -/
theorem removeArc_eq (d : AdjList) (u v : Nat) :
    d.removeArc u v = (⟨d.rows.set u (serase v (d.rows[u]?.getD []))⟩, (d.rows[u]?.getD []).contains v) := by
  unfold removeArc
  cases h : d.rows[u]? with
  | none => rw [List.set_eq_of_length_le (List.getElem?_eq_none_iff.mp h)]; rfl
  | some row => rfl

theorem step_spec (d : AdjList) (op : Op Unit) (h : d.Shape) :
    Refines Shape abs (d.step op) (specStep .fixed d.abs op) := by
  cases op with
  | add u v w =>
    rw [step, addArc_eq]
    refine guarded_refines h fun hrej => ?_
    refine ⟨h.set u (sorted_sinsert (h.2 u)), ?_⟩
    rw [abs_eq, abs_eq]
    exact rowsAbs_set setLook (Or.inl (accepted_fixed_range hrej).2.1) (setLook_sinsert v _)
  | rem u v =>
    rw [step, removeArc_eq]
    refine ⟨h.set u (sorted_serase (h.2 u)), ?_, ?_⟩
    · show abs ⟨_⟩ = ⟨d.abs.V, setW d.abs.W u v none⟩
      rw [abs_eq, abs_eq]
      exact rowsAbs_set setLook (Or.inr rfl) (setLook_serase v (h.2 u))
    · show Out.bool _ = Out.bool (d.abs.A u v)
      rw [abs_eq]; exact congrArg Out.bool (unitOf_isSome _).symm

theorem step_WF (d : AdjList) (op : Op Unit) (h : d.WF) : (d.step op).1.WF :=
  step_WF_of_shape WF_iff (specStep_valid .fixed) step_spec d op h

theorem step_refines (d : AdjList) (op : Op Unit) (h : d.WF) :
    (d.step op).1.abs = (specStep .fixed d.abs op).1 ∧ (d.step op).2 = (specStep .fixed d.abs op).2 :=
  (step_spec d op ((WF_iff d).mp h).1).2

theorem step_rejects (d : AdjList) (u v : Nat) (h : rejected .fixed d.abs u v = true) :
    d.step (.add u v ()) = (d, .panic) := by
  rw [step, addArc_eq, if_pos h]; rfl

theorem run_refines (ops : List (Op Unit)) (d : AdjList) (h : d.WF) :
    (run step d ops).1.WF ∧ (run step d ops).1.abs = (run (specStep .fixed) d.abs ops).1 ∧
    (run step d ops).2 = (run (specStep .fixed) d.abs ops).2 :=
  run_refines_gen step (specStep .fixed) WF abs step_WF step_refines ops d h

theorem mem_arcs (d : AdjList) (_ : d.WF) (u v : Nat) : (u, v) ∈ d.arcs ↔ d.abs.A u v = true := by
  rw [abs_A]; exact mem_arcs_iff d u v

theorem arcs_sorted_nodup (d : AdjList) (h : d.WF) :
    d.arcs.Pairwise (fun a b => pairLt a b = true) ∧ d.arcs.Nodup ∧
    ∀ u v, (u, v) ∈ d.arcs ↔ d.abs.A u v = true := by
  have hp := arcs_sorted ((WF_iff d).mp h).1
  exact ⟨hp, sortedP_nodup hp, mem_arcs d h⟩

theorem abs_valid (d : AdjList) (h : d.WF) : d.abs.Valid := ((WF_iff d).mp h).2

/-- C20: a well-formed `AdjacencyList` is determined by its abstract digraph. -/
theorem abs_injective (d₁ d₂ : AdjList) (h₁ : d₁.WF) (h₂ : d₂.WF) : d₁.abs = d₂.abs ↔ d₁ = d₂ :=
  determined_of_ext (fun d h => ((WF_iff d).mp h).1) (fun d _ => (vertices_spec d).2) (fun _ _ _ => rfl) ext
    d₁ d₂ h₁ h₂

end GraafVerif.Repr.AdjList
