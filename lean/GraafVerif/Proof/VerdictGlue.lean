import GraafVerif.Driver.Common
/-!
# The verdict of a case line (`Driver.classify`) says what it should

`OK` is printed exactly when the handler's spec-level oracle found nothing wrong with the
IMPLEMENTATION's output and that output equals the model's; `PROPFAIL` exactly when the oracle
objected (it wins over a model disagreement, so a real violation is reported as such); everything
else is `MISMATCH`.  That is `Glue.verdict_sound`, stated and proved in `Thm/Glue.lean` by unfolding
`Driver.classify`; of this module it uses only the import of `Driver/Common.lean`.  Here is the one
theorem `classify_status`: there is no fourth outcome.
-/
namespace GraafVerif.Driver

/-- The three outcomes are exhaustive: `classify` never says anything else (in particular never `KNOWN`). -/
theorem classify_status (obs mdl : List V) (pf : Option String) (nt : Bool) (tags : List String) :
    (classify obs mdl pf nt tags).status = "OK" ∨ (classify obs mdl pf nt tags).status = "PROPFAIL" ∨
      (classify obs mdl pf nt tags).status = "MISMATCH" := by
  unfold classify
  cases pf with
  | some w => simp
  | none => by_cases h : (obs == mdl) = true <;> simp [h]

end GraafVerif.Driver
