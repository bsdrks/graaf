import GraafVerif.Model.AlgoGen2
import GraafVerif.Proof.AlgoGenCall
import GraafVerif.Model.Conv
/-!
# Generated `impl<I: IntoIterator<..>> From<I>` bodies = hand-written `AL.fromRows`, `AM.fromRows`,
`WL.fromRows`, `MX.fromArcs`, `EL.fromArcs` (`Model/Conv.lean`), for every iterator content
(the iterator is the list it yields; rows are the ascending lists of the sets / maps).
-/
namespace GraafVerif.AlgoGenThm
open GraafVerif GraafVerif.AlgoGen GraafVerif.Repr

/-- The `From<rows>` impls: collect (`d`), assert a positive order, validate every arc with `p`, return `d`;
the generated `fromRows` are this block by definition. -/
theorem fromRows_valid {D : Type} (d : D) (order : Nat) (arcs : List (Nat × Nat)) (p : Nat × Nat → Bool)
    (body : Unit → Nat × Nat → Blk Unit D Unit)
    (hbody : ∀ a, body () a = if p a = true then .ok () else .error (.err (.fault .panic))) :
    fnBody (do
      assert (decide (order > 0))
      forLoop body arcs ()
      pure d) = optR (if order = 0 then none else if arcs.all p = true then some d else none) := by
  rw [forLoop_all body p hbody]
  by_cases h0 : order = 0
  · subst h0; rfl
  · rw [if_neg h0, decide_eq_true (Nat.pos_of_ne_zero h0)]
    cases arcs.all p <;> rfl

namespace AdjacencyList

theorem fromRows_for0_eq (order : Nat) (arcs : List (Nat × Nat)) :
    (forLoop (AlgoGen.AdjacencyList.fromRows_for0 order) arcs () : Blk Empty AdjList Unit) =
      if Conv.arcsValid order arcs = true then .ok () else .error (.err (.fault .panic)) :=
  forLoop_all (AlgoGen.AdjacencyList.fromRows_for0 order) (fun a => a.1 != a.2 && decide (a.2 < order))
    (fun _ => asserts2 _ _) arcs

/-- `impl<I: IntoIterator<Item = BTreeSet<usize>>> From<I> for AdjacencyList` = `Conv.AL.fromRows`. -/
theorem fromRows_eq (rows : List (List Nat)) : AlgoGen.AdjacencyList.fromRows rows = optR (Conv.AL.fromRows rows) :=
  fromRows_valid (⟨rows⟩ : AdjList) _ _ _ _ (fun _ => asserts2 _ _)

end AdjacencyList

namespace AdjacencyListWeighted

theorem fromRows_for0_eq (order : Nat) (arcs : List (Nat × Nat)) :
    (forLoop (AlgoGen.AdjacencyListWeighted.fromRows_for0 order) arcs () : Blk Empty AdjListW Unit) =
      if Conv.arcsValid order arcs = true then .ok () else .error (.err (.fault .panic)) :=
  forLoop_all (AlgoGen.AdjacencyListWeighted.fromRows_for0 order) (fun a => a.1 != a.2 && decide (a.2 < order))
    (fun _ => asserts2 _ _) arcs

/-- `impl<W, I: IntoIterator<Item = BTreeMap<usize, W>>> From<I> for AdjacencyListWeighted<W>` = `Conv.WL.fromRows`. -/
theorem fromRows_eq (rows : List (List (Nat × Int))) :
    AlgoGen.AdjacencyListWeighted.fromRows rows = optR (Conv.WL.fromRows rows) :=
  fromRows_valid (⟨rows⟩ : AdjListW) _ _ _ _ (fun _ => asserts2 _ _)

end AdjacencyListWeighted

namespace AdjacencyMap

theorem fromRows_for0_eq (d : AdjMap) (arcs : List (Nat × Nat)) :
    (forLoop (AlgoGen.AdjacencyMap.fromRows_for0 d) arcs () : Blk Empty AdjMap Unit) =
      if arcs.all (fun a => a.1 != a.2 && (mget a.2 d.rows).isSome) = true then .ok ()
      else .error (.err (.fault .panic)) :=
  forLoop_all (AlgoGen.AdjacencyMap.fromRows_for0 d) (fun a => a.1 != a.2 && (mget a.2 d.rows).isSome)
    (fun _ => asserts2 _ _) arcs

/-- `impl<I: IntoIterator<Item = BTreeSet<usize>>> From<I> for AdjacencyMap` = `Conv.AM.fromRows`. -/
theorem fromRows_eq (rows : List (List Nat)) : AlgoGen.AdjacencyMap.fromRows rows = optR (Conv.AM.fromRows rows) :=
  fromRows_valid (⟨rows.zipIdx.map (fun p : List Nat × Nat => (p.2, p.1))⟩ : AdjMap) _ _ _ _ (fun _ => asserts2 _ _)

end AdjacencyMap

/-- the collecting loop of `From<arcs>`: self-loop assert, running maximum of the ids -/
theorem collect_maxId {σ β ρ : Type} (body : Nat × σ → Nat × Nat → Blk (Nat × σ) ρ (Nat × σ)) (push : σ → Nat × Nat → σ)
    (h : ∀ o acc a, body (o, acc) a = if a.1 == a.2 then .error (.err (.fault .panic))
      else .ok (max (max o a.1) a.2, push acc a)) : ∀ (l : List (Nat × Nat)) (o : Nat) (acc : σ),
    (forLoop body l (o, acc) : Blk β ρ (Nat × σ)) =
      if l.any (fun a => a.1 == a.2) = true then .error (.err (.fault .panic))
      else .ok (l.foldl (fun o a => max (max o a.1) a.2) o, l.foldl push acc) := by
  intro l
  induction l with
  | nil => intro o acc; rfl
  | cons a l ih =>
    intro o acc
    by_cases ha : (a.1 == a.2) = true
    · rw [forLoop_cons_err (e := .fault .panic) (h := by rw [h, if_pos ha]), List.any_cons, ha, Bool.true_or]
      rfl
    · rw [forLoop_cons_ok (h := by rw [h, if_neg ha]), ih, List.any_cons, Bool.eq_false_iff.2 ha, Bool.false_or]
      rfl

/-- one item of the collecting loop, over the container's `push`: the generated `fromArcs_for0` are this block -/
theorem collect_step {σ ρ : Type} (push : σ → Nat × Nat → σ) (o : Nat) (acc : σ) (a : Nat × Nat) :
    ((do
        assert (a.1 != a.2)
        let order := max (max o a.1) a.2
        let arcs := push acc a
        pure (order, arcs)) : Blk (Nat × σ) ρ (Nat × σ)) =
      if a.1 == a.2 then .error (.err (.fault .panic)) else .ok (max (max o a.1) a.2, push acc a) := by
  show (assert (!(a.1 == a.2)) >>= fun _ => _) = _
  cases (a.1 == a.2) <;> rfl

namespace EdgeList

theorem fromArcs_for0_step (o : Nat) (acc : List (Nat × Nat)) (a : Nat × Nat) :
    (AlgoGen.EdgeList.fromArcs_for0 (o, acc) a : Blk _ Repr.EdgeList _) =
      if a.1 == a.2 then .error (.err (.fault .panic)) else .ok (max (max o a.1) a.2, pinsert a acc) :=
  collect_step (fun s a => pinsert a s) o acc a

theorem fromArcs_for0_eq (l : List (Nat × Nat)) (o : Nat) (acc : List (Nat × Nat)) :
    (forLoop AlgoGen.EdgeList.fromArcs_for0 l (o, acc) : Blk Empty Repr.EdgeList _) =
      if l.any (fun a => a.1 == a.2) = true then .error (.err (.fault .panic))
      else .ok (l.foldl (fun o a => max (max o a.1) a.2) o, l.foldl (fun s a => pinsert a s) acc) :=
  collect_maxId _ (fun s a => pinsert a s) fromArcs_for0_step l o acc

/-- `impl<I: IntoIterator<Item = (usize, usize)>> From<I> for EdgeList` = `Conv.EL.fromArcs`. -/
theorem fromArcs_eq (arcs : List (Nat × Nat)) : AlgoGen.EdgeList.fromArcs arcs = optR (Conv.EL.fromArcs arcs) := by
  unfold AlgoGen.EdgeList.fromArcs Conv.EL.fromArcs
  simp only [fromArcs_for0_eq]
  cases arcs.any (fun a => a.1 == a.2) <;> rfl

end EdgeList

namespace AdjacencyMatrix

theorem fromArcs_for0_step (o : Nat) (acc : List (Nat × Nat)) (a : Nat × Nat) :
    (AlgoGen.AdjacencyMatrix.fromArcs_for0 (o, acc) a : Blk _ Repr.AdjMatrix _) =
      if a.1 == a.2 then .error (.err (.fault .panic)) else .ok (max (max o a.1) a.2, acc ++ [a]) :=
  collect_step (fun s a => s ++ [a]) o acc a

theorem fromArcs_for0_eq (l : List (Nat × Nat)) (o : Nat) (acc : List (Nat × Nat)) :
    (forLoop AlgoGen.AdjacencyMatrix.fromArcs_for0 l (o, acc) : Blk Empty Repr.AdjMatrix _) =
      if l.any (fun a => a.1 == a.2) = true then .error (.err (.fault .panic))
      else .ok (l.foldl (fun o a => max (max o a.1) a.2) o, l.foldl (fun s a => s ++ [a]) acc) :=
  collect_maxId _ (fun s a => s ++ [a]) fromArcs_for0_step l o acc

theorem foldl_snoc (l : List (Nat × Nat)) : ∀ acc, l.foldl (fun s a => s ++ [a]) acc = acc ++ l := by
  intro acc
  exact (foldl_snoc_map id l acc).trans (congrArg _ (List.map_id l))

/-- the `for (u, v) in arcs { digraph.add_arc(u, v) }` loop -/
theorem fromArcs_for1_eq (l : List (Nat × Nat)) (g : AdjMatrix) :
    (forLoop AlgoGen.AdjacencyMatrix.fromArcs_for1 l g : Blk Empty AdjMatrix _) =
      optP (l.foldlM (fun g a => g.addArc a.1 a.2) g) :=
  forLoop_optP AlgoGen.AdjacencyMatrix.fromArcs_for1 _ (fun _ _ => bind_pure_blk _) l g

/-- `impl<I: IntoIterator<Item = (usize, usize)>> From<I> for AdjacencyMatrix` = `Conv.MX.fromArcs`. -/
theorem fromArcs_eq (arcs : List (Nat × Nat)) : AlgoGen.AdjacencyMatrix.fromArcs arcs = optR (Conv.MX.fromArcs arcs) := by
  unfold AlgoGen.AdjacencyMatrix.fromArcs Conv.MX.fromArcs Conv.maxId
  simp only [fromArcs_for0_eq, fromArcs_for1_eq, foldl_snoc, List.nil_append]
  cases arcs.any (fun a => a.1 == a.2)
  · simp only [Bool.false_eq_true, if_false, ok_bind]
    cases arcs.isEmpty
    · simp only [Bool.not_false, assert_true, ok_bind, Bool.false_eq_true, if_false]
      exact fnBody_optP_bind _ _
    · rfl
  · rfl

end AdjacencyMatrix

end GraafVerif.AlgoGenThm
