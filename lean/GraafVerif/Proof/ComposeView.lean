import GraafVerif.Thm.C01
import GraafVerif.Thm.C02
import GraafVerif.Proof.ComposeRel
import GraafVerif.Model.Tarjan
/-!
# Compose — the `Graph` / `WGraph` a representation hands to a traversal

Every traversal of graaf is generic in `Order + OutNeighbors` (`OutNeighborsWeighted`).  The
`Graph` it sees of a representation value `r` is therefore: `n = r.order()` and
`out u = r.out_neighbors(u).collect()`.  `viewOf` builds exactly this from C02's query record
`Core` (`Model/Query.lean`; `none` = the call panics ↦ `[]`, which by `X.panics_outside` happens only for
`u ≥ order`, ids no traversal asks for on a well-formed digraph with in-range sources).
`vviewOf`: the same rows under the vertex LIST `vertices()` — what `Tarjan` sees.
-/
namespace GraafVerif.Compose
open GraafVerif GraafVerif.Repr GraafVerif.Query GraafVerif.ReprSpec

/-- The digraph as a traversal sees it through `order()` and `out_neighbors()`. -/
def viewOf (q : Core) : Graph := ⟨q.order, fun u => (q.outNeighbors u).getD []⟩

/-- Everything `view_spec` says, for a view `g` of a digraph of order `n` with arc list `arcs`
whose `out_neighbors` query is `outN`. -/
structure ViewSpec (g : Graph) (n : Nat) (arcs : List (Nat × Nat)) (outN : Nat → Option (List Nat)) : Prop where
  order : g.n = n
  wf : g.WF
  arc_iff : ∀ u v, g.A u v ↔ (u, v) ∈ arcs
  /-- `BTreeSet` iteration / column scan / sorted pair set -/
  asc : ∀ u, (g.out u).Pairwise (· < ·)
  nodup : ∀ u, (g.out u).Nodup
  /-- on a vertex the row IS what `out_neighbors` returns (no panic) -/
  out_eq : ∀ u, u < n → outN u = some (g.out u)
  /-- outside (where `out_neighbors` panics) the row is empty -/
  out_nil : ∀ u, ¬ u < n → outN u = none ∧ g.out u = []
  irrefl : ∀ u, ¬ g.A u u

/-- The digraph as `Tarjan` sees it through `vertices()` and `out_neighbors()`: vertex IDS, not
positions — so any finite id set (a non-contiguous `AdjacencyMap`) is covered. -/
def vviewOf (q : Core) : Tarjan.VGraph := ⟨q.vertices, fun u => (q.outNeighbors u).getD []⟩

structure VViewSpec (g : Tarjan.VGraph) (verts : List Nat) (arcs : List (Nat × Nat)) : Prop where
  verts_eq : g.verts = verts
  verts_asc : g.verts.Pairwise (· < ·)
  closed : ∀ u ∈ g.verts, ∀ v ∈ g.out u, v ∈ g.verts
  arc_iff : ∀ u v, v ∈ g.out u ↔ (u, v) ∈ arcs
  arc_verts : ∀ u v, (u, v) ∈ arcs → u ∈ verts ∧ v ∈ verts
  asc : ∀ u, (g.out u).Pairwise (· < ·)

theorem rows_ext {o₁ o₂ : Nat → List Nat} (h₁ : ∀ u, (o₁ u).Pairwise (· < ·))
    (h₂ : ∀ u, (o₂ u).Pairwise (· < ·)) (h : ∀ u v, v ∈ o₁ u ↔ v ∈ o₂ u) : o₁ = o₂ :=
  funext fun u => Repr.sortedS_ext (h₁ u) (h₂ u) (h u)

theorem graph_eq_of_asc {g₁ g₂ : Graph} (hn : g₁.n = g₂.n) (h₁ : ∀ u, (g₁.out u).Pairwise (· < ·))
    (h₂ : ∀ u, (g₂.out u).Pairwise (· < ·)) (hA : ∀ u v, g₁.A u v ↔ g₂.A u v) : g₁ = g₂ := by
  obtain ⟨n₁, o₁⟩ := g₁
  obtain ⟨n₂, o₂⟩ := g₂
  obtain rfl : n₁ = n₂ := hn
  obtain rfl : o₁ = o₂ := rows_ext h₁ h₂ hA
  rfl

theorem vgraph_eq_of_asc {g₁ g₂ : Tarjan.VGraph} (hv : g₁.verts = g₂.verts)
    (h₁ : ∀ u, (g₁.out u).Pairwise (· < ·)) (h₂ : ∀ u, (g₂.out u).Pairwise (· < ·))
    (hA : ∀ u v, v ∈ g₁.out u ↔ v ∈ g₂.out u) : g₁ = g₂ := by
  obtain ⟨v₁, o₁⟩ := g₁
  obtain ⟨v₂, o₂⟩ := g₂
  obtain rfl : v₁ = v₂ := hv
  obtain rfl : o₁ = o₂ := rows_ext h₁ h₂ hA
  rfl

/-! ### the rows of `viewOf q` (they are also the rows of `vviewOf q`) -/
section rows
variable {q : Core} {G : Digraph} (hv : G.Valid) (hc : CoreCorrect q G)
  (hp : ∀ u, u ∉ G.verts → q.outNeighbors u = none)
include hc in
theorem viewOf_out_of_mem {u : Nat} (hu : u ∈ G.verts) : (viewOf q).out u = Spec.outNeighbors G u := by
  simp only [viewOf, hc.outNeighbors u hu, Option.getD_some]

include hp in
theorem viewOf_out_of_not_mem {u : Nat} (hu : u ∉ G.verts) : (viewOf q).out u = [] := by
  simp only [viewOf, hp u hu, Option.getD_none]

include hv hc hp
theorem mem_viewOf_out (u v : Nat) : v ∈ (viewOf q).out u ↔ G.adj u v = true := by
  by_cases hu : u ∈ G.verts
  · rw [viewOf_out_of_mem hc hu, Spec.outNeighbors, List.mem_filter]
    exact ⟨fun h => h.2, fun h => ⟨(hv.closed u v h).2, h⟩⟩
  · rw [viewOf_out_of_not_mem hp hu]
    exact ⟨nofun, fun h => absurd (hv.closed u v h).1 hu⟩

theorem viewOf_out_asc (u : Nat) : ((viewOf q).out u).Pairwise (· < ·) := by
  by_cases hu : u ∈ G.verts
  · rw [viewOf_out_of_mem hc hu]; exact (C02.spec_outNeighbors hv u).1
  · rw [viewOf_out_of_not_mem hp hu]; exact .nil

theorem viewOf_spec (hcont : G.verts = List.range q.order) :
    ViewSpec (viewOf q) q.order q.arcs q.outNeighbors := by
  have hV : ∀ x, x ∈ G.verts ↔ x < q.order := fun x => by rw [hcont, List.mem_range]
  have key := mem_viewOf_out hv hc hp
  have asc := viewOf_out_asc hv hc hp
  refine ⟨rfl, fun u v h => ?_, fun u v => (key u v).trans (hc.arcs_mem u v).symm, asc,
    fun u => Repr.sortedS_nodup (asc u), fun u hu => ?_, fun u hu => ?_, fun u h => ?_⟩
  · have := hv.closed u v ((key u v).1 h)
    exact ⟨(hV u).1 this.1, (hV v).1 this.2⟩
  · rw [viewOf_out_of_mem hc ((hV u).2 hu)]; exact hc.outNeighbors u ((hV u).2 hu)
  · have hu' : u ∉ G.verts := fun h => hu ((hV u).1 h)
    exact ⟨hp u hu', viewOf_out_of_not_mem hp hu'⟩
  · have := (key u u).1 h
    rw [hv.irrefl u] at this
    cases this

theorem vviewOf_spec : VViewSpec (vviewOf q) q.vertices q.arcs := by
  have key : ∀ u v, v ∈ (vviewOf q).out u ↔ G.adj u v = true := mem_viewOf_out hv hc hp
  refine ⟨rfl, ?_, fun u _ v hvm => ?_, fun u v => (key u v).trans (hc.arcs_mem u v).symm,
    fun u v h => ?_, viewOf_out_asc hv hc hp⟩
  · show q.vertices.Pairwise (· < ·)
    rw [hc.vertices]; exact hv.sorted
  · show v ∈ q.vertices
    rw [hc.vertices]; exact (hv.closed u v ((key u v).1 hvm)).2
  · rw [hc.vertices]; exact hv.closed u v ((hc.arcs_mem u v).1 h)
end rows

/-- The representations of fixed order state their panics as "for `u ≥ order`". -/
theorem views_spec_of_range {q : Core} {G : Digraph} (hv : G.Valid) (hc : CoreCorrect q G)
    (hcont : G.verts = List.range q.order) (hp : ∀ u, ¬ u < q.order → q.outNeighbors u = none) :
    ViewSpec (viewOf q) q.order q.arcs q.outNeighbors ∧ VViewSpec (vviewOf q) q.vertices q.arcs :=
  have hp' : ∀ u, u ∉ G.verts → q.outNeighbors u = none :=
    fun u hu => hp u fun h => hu (hcont ▸ List.mem_range.2 h)
  ⟨viewOf_spec hv hc hp' hcont, vviewOf_spec hv hc hp'⟩

end GraafVerif.Compose

namespace GraafVerif.Repr
open GraafVerif GraafVerif.Query GraafVerif.Compose GraafVerif.ReprSpec

def AdjList.view (d : AdjList) : Graph := viewOf (AL.core d)
/-- `AdjacencyMap` as a traversal sees it (meaningful when the key set is `0..order`). -/
def AdjMap.view (d : AdjMap) : Graph := viewOf (AM.core d)
def AdjMatrix.view (d : AdjMatrix) : Graph := viewOf (MX.core d)
def EdgeList.view (d : EdgeList) : Graph := viewOf (EL.core d)
/-- `AdjacencyListWeighted` as an UNWEIGHTED traversal sees it (`out_neighbors` = the keys). -/
def AdjListW.view (d : AdjListW) : Graph := viewOf (WL.core d)
/-- `AdjacencyListWeighted` as a weighted traversal sees it: `order()` and
`out_neighbors_weighted()` (`none` = index panic ↦ `[]`, only for `u ≥ order`). -/
def AdjListW.wview (d : AdjListW) : WGraph := ⟨d.order, fun u => (WL.outNeighborsWeighted d u).getD []⟩

/-- The arc relation a representation denotes: `(u, v) ∈ arcs()`. -/
def AdjList.Arc (d : AdjList) : Rel := fun u v => (u, v) ∈ d.arcs
def AdjMap.Arc (d : AdjMap) : Rel := fun u v => (u, v) ∈ d.arcs
def AdjMatrix.Arc (d : AdjMatrix) : Rel := fun u v => (u, v) ∈ d.arcs
def EdgeList.Arc (d : EdgeList) : Rel := fun u v => (u, v) ∈ d.arcs
def AdjListW.Arc (d : AdjListW) : Rel := fun u v => (u, v) ∈ d.arcs
/-- The weighted arc relation: `(u, v, w) ∈ arcs_weighted()`. -/
def AdjListW.WArc (d : AdjListW) : WRel := fun u v w => (u, v, w) ∈ d.arcsWeighted

def AdjList.vview (d : AdjList) : Tarjan.VGraph := vviewOf (AL.core d)
def AdjMap.vview (d : AdjMap) : Tarjan.VGraph := vviewOf (AM.core d)
def AdjMatrix.vview (d : AdjMatrix) : Tarjan.VGraph := vviewOf (MX.core d)
def EdgeList.vview (d : EdgeList) : Tarjan.VGraph := vviewOf (EL.core d)
def AdjListW.vview (d : AdjListW) : Tarjan.VGraph := vviewOf (WL.core d)

theorem AdjList.vview_eq (d : AdjList) : d.vview = ⟨d.vertices, d.view.out⟩ := rfl
theorem AdjMap.vview_eq (d : AdjMap) : d.vview = ⟨d.vertices, d.view.out⟩ := rfl
theorem AdjMatrix.vview_eq (d : AdjMatrix) : d.vview = ⟨d.vertices, d.view.out⟩ := rfl
theorem EdgeList.vview_eq (d : EdgeList) : d.vview = ⟨d.vertices, d.view.out⟩ := rfl
theorem AdjListW.vview_eq (d : AdjListW) : d.vview = ⟨d.vertices, d.view.out⟩ := rfl

theorem AdjList.view_out (d : AdjList) (u : Nat) : d.view.out u = d.rows[u]?.getD [] := rfl
theorem AdjList.view_eq_toGraph (d : AdjList) : d.view = d.toGraph := rfl
theorem AdjMap.view_out (d : AdjMap) (u : Nat) : d.view.out u = (mget u d.rows).getD [] := rfl
theorem AdjMatrix.view_out (d : AdjMatrix) (u : Nat) :
    d.view.out u = if u < d.order then (List.range d.order).filter (fun v => d.hasArc u v) else [] :=
  apply_ite (Option.getD · []) _ _ _
theorem EdgeList.view_out (d : EdgeList) (u : Nat) :
    d.view.out u = if u < d.order then d.arcs.filterMap (fun a => if a.1 == u then some a.2 else none) else [] :=
  apply_ite (Option.getD · []) _ _ _
/-- What a row of the matrix view lists, whatever the blocks hold. -/
theorem AdjMatrix.mem_view_out (d : AdjMatrix) (u v : Nat) :
    v ∈ d.view.out u ↔ u < d.order ∧ v < d.order ∧ d.hasArc u v = true := by
  rw [AdjMatrix.view_out]
  split
  · next h => rw [List.mem_filter, List.mem_range]; exact (and_iff_right h).symm
  · next h => exact ⟨nofun, fun h' => absurd h'.1 h⟩
theorem EdgeList.mem_view_out (d : EdgeList) (u v : Nat) : v ∈ d.view.out u ↔ u < d.order ∧ d.hasArc u v = true := by
  rw [EdgeList.view_out]
  split
  · next h => rw [Query.mem_row, ← EdgeList.mem_arcs_iff]; exact (and_iff_right h).symm
  · next h => exact ⟨nofun, fun h' => absurd h'.1 h⟩
theorem AdjListW.view_out (d : AdjListW) (u : Nat) : d.view.out u = (d.rows[u]?.getD []).map (·.1) := by
  simp only [AdjListW.view, viewOf, WL.core, WL.outNeighbors]
  cases d.rows[u]? <;> rfl
theorem AdjListW.wview_out (d : AdjListW) (u : Nat) : d.wview.out u = d.rows[u]?.getD [] := rfl
theorem AdjListW.wview_eq_toWGraph (d : AdjListW) : d.wview = d.toWGraph := rfl
theorem AdjListW.view_eq_toGraph (d : AdjListW) : d.view = d.wview.toGraph := by
  show Graph.mk d.view.n d.view.out = Graph.mk d.wview.n (fun u => (d.wview.out u).map (·.1))
  congr 1
  funext u; rw [AdjListW.view_out, AdjListW.wview_out]

theorem AdjList.view_spec (d : AdjList) (h : d.WF) : ViewSpec d.view d.order d.arcs d.outNeighbors :=
  (views_spec_of_range (AL.abs_valid h) (AL.core_correct h) rfl fun _ hu => (AL.panics_outside hu).1).1
theorem AdjMatrix.view_spec (d : AdjMatrix) (h : d.WF) : ViewSpec d.view d.order d.arcs (MX.outNeighbors d) :=
  (views_spec_of_range (MX.abs_valid h) (MX.core_correct h) rfl fun _ hu => (MX.panics_outside hu).1).1
theorem EdgeList.view_spec (d : EdgeList) (h : d.WF) : ViewSpec d.view d.order d.arcs (EL.outNeighbors d) :=
  (views_spec_of_range (EL.abs_valid h) (EL.core_correct h) rfl fun _ hu => (EL.panics_outside hu).1).1
theorem AdjListW.view_spec (d : AdjListW) (h : d.WF) : ViewSpec d.view d.order d.arcs (WL.outNeighbors d) :=
  (views_spec_of_range (WL.abs_valid h) (WL.core_correct h) rfl fun _ hu => (WL.panics_outside hu).1).1

theorem AdjList.vview_spec (d : AdjList) (h : d.WF) : VViewSpec d.vview d.vertices d.arcs :=
  (views_spec_of_range (AL.abs_valid h) (AL.core_correct h) rfl fun _ hu => (AL.panics_outside hu).1).2
theorem AdjMatrix.vview_spec (d : AdjMatrix) (h : d.WF) : VViewSpec d.vview d.vertices d.arcs :=
  (views_spec_of_range (MX.abs_valid h) (MX.core_correct h) rfl fun _ hu => (MX.panics_outside hu).1).2
theorem EdgeList.vview_spec (d : EdgeList) (h : d.WF) : VViewSpec d.vview d.vertices d.arcs :=
  (views_spec_of_range (EL.abs_valid h) (EL.core_correct h) rfl fun _ hu => (EL.panics_outside hu).1).2
theorem AdjListW.vview_spec (d : AdjListW) (h : d.WF) : VViewSpec d.vview d.vertices d.arcs :=
  (views_spec_of_range (WL.abs_valid h) (WL.core_correct h) rfl fun _ hu => (WL.panics_outside hu).1).2

/-- `AdjacencyMap` with the contiguous vertex set `0..order` (what `Bfs::new` etc. require:
they allocate `order` slots and index them by vertex id). -/
theorem AdjMap.view_spec (d : AdjMap) (h : d.WF) (hc : Gen.AM.Contiguous d) :
    ViewSpec d.view d.order d.arcs (AM.outNeighbors d) :=
  viewOf_spec (AM.abs_valid h) (AM.core_correct h) (fun _ hu => (AM.panics_outside hu).1) hc
/-- `AdjacencyMap` with an ARBITRARY key set (no contiguity hypothesis). -/
theorem AdjMap.vview_spec (d : AdjMap) (h : d.WF) : VViewSpec d.vview d.vertices d.arcs :=
  vviewOf_spec (AM.abs_valid h) (AM.core_correct h) fun _ hu => (AM.panics_outside hu).1

/-! ### the arc relation of the view is C01's abstract arc set

`X.mem_arcs` / `AdjListW.mem_arcsWeighted` (`Proof/ReprAL.lean` …) said of `X.Arc` / `WArc`; the list and the edge
list need no `WF` here. -/

theorem AdjList.arc_iff_abs (d : AdjList) (u v : Nat) : d.Arc u v ↔ d.abs.A u v = true := by
  rw [AdjList.abs_A]; exact AdjList.mem_arcs_iff d u v
theorem AdjMap.arc_iff_abs (d : AdjMap) (h : d.WF) (u v : Nat) : d.Arc u v ↔ d.abs.A u v = true :=
  AdjMap.mem_arcs d h u v
theorem AdjMatrix.arc_iff_abs (d : AdjMatrix) (h : d.WF) (u v : Nat) : d.Arc u v ↔ d.abs.A u v = true :=
  AdjMatrix.mem_arcs d h u v
theorem EdgeList.arc_iff_abs (d : EdgeList) (u v : Nat) : d.Arc u v ↔ d.abs.A u v = true := by
  rw [EdgeList.abs_A]; exact EdgeList.mem_arcs_iff d u v
theorem AdjListW.arc_iff_abs (d : AdjListW) (h : d.WF) (u v : Nat) : d.Arc u v ↔ d.abs.A u v = true :=
  AdjListW.mem_arcs d h u v
theorem AdjListW.warc_iff_abs (d : AdjListW) (h : d.WF) (u v : Nat) (w : Int) :
    d.WArc u v w ↔ d.abs.W u v = some w := AdjListW.mem_arcsWeighted d h u v w

structure WViewSpec (g : WGraph) (d : AdjListW) : Prop where
  order : g.n = d.order
  wf : g.WF
  functional : g.Functional
  arc_iff : ∀ u v w, g.A u v w ↔ (u, v, w) ∈ d.arcsWeighted
  weight_iff : ∀ u v w, g.A u v w ↔ d.arcWeight u v = some w
  /-- rows ascending in the head (`BTreeMap` iteration) -/
  asc : ∀ u, (g.out u).Pairwise (fun a b => a.1 < b.1)
  out_eq : ∀ u, u < d.order → WL.outNeighborsWeighted d u = some (g.out u)
  out_nil : ∀ u, ¬ u < d.order → WL.outNeighborsWeighted d u = none ∧ g.out u = []
  irrefl : ∀ u w, ¬ g.A u u w
  arcs_iff : ∀ u v, (∃ w, g.A u v w) ↔ (u, v) ∈ d.arcs

/-- The arcs of the weighted view are `arcs_weighted()` (whatever the rows hold). -/
theorem AdjListW.wview_arc_iff (d : AdjListW) (u v : Nat) (w : Int) :
    d.wview.A u v w ↔ (u, v, w) ∈ d.arcsWeighted :=
  mem_flatRows_getD.symm

theorem AdjListW.wview_spec (d : AdjListW) (h : d.WF) : WViewSpec d.wview d := by
  have harc := d.wview_arc_iff
  have hwt : ∀ u v w, d.wview.A u v w ↔ d.arcWeight u v = some w := fun _ _ _ => AdjListW.mem_row h.shape
  have hsimple : ∀ u v w, d.wview.A u v w → u < d.order ∧ v < d.order ∧ u ≠ v := fun u v w hw =>
    have := h.simple u v (by rw [AdjListW.hasArc_eq, (hwt u v w).1 hw]; rfl)
    ⟨List.mem_range.1 this.1, List.mem_range.1 this.2.1, this.2.2⟩
  refine ⟨rfl, fun u v w hw => ⟨(hsimple u v w hw).1, (hsimple u v w hw).2.1⟩, fun u v w₁ w₂ h₁ h₂ => ?_, harc, hwt,
    h.shape.2, fun u hu => getElem?_eq_some_getD hu, fun u hu => ?_,
    fun u w hw => (hsimple u u w hw).2.2 rfl, fun u v => ?_⟩
  · exact Option.some.inj (((hwt u v w₁).1 h₁).symm.trans ((hwt u v w₂).1 h₂))
  · have : d.rows[u]? = none := List.getElem?_eq_none (Nat.le_of_not_lt hu)
    exact ⟨this, congrArg (Option.getD · []) this⟩
  · rw [AdjListW.mem_arcs_iff h.shape, AdjListW.hasArc_eq, Option.isSome_iff_exists]
    exact exists_congr fun w => hwt u v w

theorem AdjListW.wview_nonneg (d : AdjListW) (hnn : ∀ u v w, (u, v, w) ∈ d.arcsWeighted → 0 ≤ w) :
    d.wview.NonNeg :=
  fun u v w hw => hnn u v w ((d.wview_arc_iff u v w).1 hw)

end GraafVerif.Repr
