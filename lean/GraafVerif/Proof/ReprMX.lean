import GraafVerif.Proof.ReprRun
import GraafVerif.Proof.ReprBits
/-!
# `AdjacencyMatrix` refines the abstract digraph (C01) and is determined by it (C20)

All three mutations rewrite the block of one cell by a bitwise operation with its mask, which acts on
that cell alone (`cell_update`, `Proof/ReprBits.lean`); on the abstract digraph this is one `setW`
(`update_spec`).
-/
namespace GraafVerif.Repr.AdjMatrix
open GraafVerif.ReprSpec GraafVerif.Repr

theorem abs_A (d : AdjMatrix) (u v : Nat) : d.abs.A u v = d.hasArc u v := unitOf_isSome _

theorem vertices_spec (d : AdjMatrix) :
    d.vertices = List.range d.order ∧ ∀ x, x ∈ d.vertices ↔ d.abs.V x = true :=
  ⟨rfl, fun _ => List.mem_range.trans decide_eq_true_iff.symm⟩

theorem WF_iff (d : AdjMatrix) : d.WF ↔ d.Shape ∧ d.abs.Valid :=
  (WF_iff_simple d).trans <| and_congr_right fun _ => (valid_iff_simple (vertices_spec d).2 (abs_A d)).symm

theorem update_spec {d : AdjMatrix} (h : d.Shape) {u v : Nat} (hu : u < d.order) (hv : v < d.order)
    {op : BitVec 64 → BitVec 64 → BitVec 64} {g : Bool → Bool → Bool}
    (hop : ∀ x y k, k < 64 → (op x y).getLsbD k = g (x.getLsbD k) (y.getLsbD k)) (hg : ∀ b, g b false = b) :
    (d.setBlock (d.index u v) (op · (mask (d.index u v)))).Shape ∧
    (d.setBlock (d.index u v) (op · (mask (d.index u v)))).abs =
      ⟨d.abs.V, setW d.abs.W u v (unitOf (g (d.hasArc u v) true))⟩ := by
  refine ⟨⟨h.1, (setBlock_length ..).trans h.2.1, fun c (hc : d.order * d.order ≤ c) => ?_⟩,
    SpecState.ext (fun _ => rfl) fun a b => ?_⟩
  · rw [cell_update d (block_lt h.cells_cover hu hv) hop hg,
      decide_eq_false (fun (e : c = d.index u v) => Nat.not_lt.mpr hc (e ▸ flatIdx_lt hu hv)), hg]
    exact h.2.2 c hc
  · exact (congrArg unitOf (hasArc_update h.cells_cover hu hv hop hg a b)).trans (apply_ite unitOf ..)

theorem empty_eq {n : Nat} {d : AdjMatrix} (h : empty n = some d) :
    n ≠ 0 ∧ d = ⟨List.replicate ((n * n + 63) / 64) 0#64, n⟩ := by
  obtain ⟨hn, h⟩ := Option.ite_none_left_eq_some.mp h
  exact ⟨hn, (Option.some.inj (Option.ite_none_left_eq_some.mp h).2).symm⟩

theorem abs_empty {n : Nat} {d : AdjMatrix} (h : empty n = some d) : d.abs = emptySpec Unit n := by
  obtain ⟨_, rfl⟩ := empty_eq h
  refine SpecState.ext (fun _ => rfl) fun u v => ?_
  show unitOf (hasArc _ u v) = none
  rw [hasArc_eq, cell_replicate, Bool.and_false]; rfl

theorem empty_WF {n : Nat} {d : AdjMatrix} (h : empty n = some d) : d.WF := by
  refine (WF_iff d).mpr ⟨?_, abs_empty h ▸ emptySpec_valid Unit n⟩
  obtain ⟨hn, rfl⟩ := empty_eq h
  exact ⟨Nat.pos_of_ne_zero hn, List.length_replicate, fun c _ => cell_replicate _ _ c⟩

theorem addArc_eq (d : AdjMatrix) (u v : Nat) :
    d.addArc u v = if rejected .fixed d.abs u v = true then none
      else some (d.setBlock (d.index u v) (· ||| mask (d.index u v))) :=
  fixed_guard d.order _ u v _

theorem toggle_eq (d : AdjMatrix) (u v : Nat) :
    d.toggle u v = if rejected .fixed d.abs u v = true then none
      else some (d.setBlock (d.index u v) (· ^^^ mask (d.index u v))) :=
  fixed_guard d.order _ u v _

theorem removeArc_eq (d : AdjMatrix) (u v : Nat) :
    d.removeArc u v = if decide (u < d.order) && decide (v < d.order)
      then (d.setBlock (d.index u v) (· &&& ~~~ mask (d.index u v)), d.hasArc u v) else (d, false) := by
  unfold removeArc
  rw [oob_eq]
  cases (decide (u < d.order) && decide (v < d.order)) <;> rfl

theorem step_spec (d : AdjMatrix) (op : MxOp) (h : d.Shape) :
    Refines Shape abs (d.step op) (specStepMx d.abs op) := by
  cases op with
  | add u v =>
    rw [step, addArc_eq]
    refine guarded_refines h fun hrej => ?_
    obtain ⟨_, hu, hv⟩ := accepted_fixed_range hrej
    refine (update_spec h hu hv (fun _ _ _ _ => BitVec.getLsbD_or) Bool.or_false).imp_right (·.trans ?_)
    rw [Bool.or_true]; rfl
  | tog u v =>
    rw [step, toggle_eq]
    refine guarded_refines h fun hrej => ?_
    obtain ⟨_, hu, hv⟩ := accepted_fixed_range hrej
    refine (update_spec h hu hv (fun _ _ _ _ => BitVec.getLsbD_xor) Bool.xor_false).imp_right (·.trans ?_)
    rw [Bool.xor_true, abs_A]
    cases d.hasArc u v <;> rfl
  | rem u v =>
    rw [step, removeArc_eq]
    cases hr : (decide (u < d.order) && decide (v < d.order))
    · have := rem_absent (s := d.abs) (u := u) (v := v) (by show unitOf _ = none; rw [hasArc_eq, hr]; rfl)
      exact ⟨h, this.1, congrArg Out.bool this.2⟩
    · -- the diagonal cell may be addressed (`remove_arc(u, u)`): it is cleared, which changes nothing
      have hu := of_decide_eq_true (Bool.and_eq_true_iff.mp hr).1
      have hv := of_decide_eq_true (Bool.and_eq_true_iff.mp hr).2
      have := update_spec (op := fun x y => x &&& ~~~ y) (g := fun a b => a && !b) h hu hv andnot_bits Bool.and_true
      refine ⟨this.1, this.2.trans ?_, congrArg Out.bool (abs_A d u v).symm⟩
      rw [Bool.not_true, Bool.and_false]; rfl

theorem step_WF (d : AdjMatrix) (op : MxOp) (h : d.WF) : (d.step op).1.WF :=
  step_WF_of_shape WF_iff specStepMx_valid step_spec d op h

theorem step_refines (d : AdjMatrix) (op : MxOp) (h : d.WF) :
    (d.step op).1.abs = (specStepMx d.abs op).1 ∧ (d.step op).2 = (specStepMx d.abs op).2 :=
  (step_spec d op ((WF_iff d).mp h).1).2

theorem step_rejects (d : AdjMatrix) (u v : Nat) (h : rejected .fixed d.abs u v = true) :
    d.step (.add u v) = (d, .panic) ∧ d.step (.tog u v) = (d, .panic) := by
  rw [step, step, addArc_eq, toggle_eq, if_pos h, if_pos h]
  exact ⟨rfl, rfl⟩

theorem run_refines (ops : List MxOp) (d : AdjMatrix) (h : d.WF) :
    (run step d ops).1.WF ∧ (run step d ops).1.abs = (run specStepMx d.abs ops).1 ∧
    (run step d ops).2 = (run specStepMx d.abs ops).2 :=
  run_refines_gen step specStepMx WF abs step_WF step_refines ops d h

theorem mem_arcs (d : AdjMatrix) (_ : d.WF) (u v : Nat) : (u, v) ∈ d.arcs ↔ d.abs.A u v = true := by
  rw [abs_A]; exact mem_arcs_iff d u v

theorem arcs_sorted_nodup (d : AdjMatrix) (h : d.WF) :
    d.arcs.Pairwise (fun a b => pairLt a b = true) ∧ d.arcs.Nodup ∧
    ∀ u v, (u, v) ∈ d.arcs ↔ d.abs.A u v = true :=
  ⟨arcs_sorted d, sortedP_nodup (arcs_sorted d), mem_arcs d h⟩

theorem abs_valid (d : AdjMatrix) (h : d.WF) : d.abs.Valid := ((WF_iff d).mp h).2

/-- C20: a well-formed `AdjacencyMatrix` is determined by its abstract digraph (no residue bits,
block count fixed by the order). -/
theorem abs_injective (d₁ d₂ : AdjMatrix) (h₁ : d₁.WF) (h₂ : d₂.WF) : d₁.abs = d₂.abs ↔ d₁ = d₂ :=
  determined_of_ext (fun d h => ((WF_iff d).mp h).1) (fun d _ => (vertices_spec d).2) (fun _ _ _ => rfl) ext
    d₁ d₂ h₁ h₂

end GraafVerif.Repr.AdjMatrix
