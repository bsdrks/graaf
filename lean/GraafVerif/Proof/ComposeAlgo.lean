import GraafVerif.Proof.ComposeRel
import GraafVerif.Proof.ComposeDfs
import GraafVerif.Thm.C03
import GraafVerif.Thm.C04
import GraafVerif.Thm.C05
import GraafVerif.Thm.C05Dijkstra
import GraafVerif.Thm.C06
import GraafVerif.Thm.C07
import GraafVerif.Thm.C08
import GraafVerif.Thm.C09
import GraafVerif.Thm.C10
/-!
# Compose — the algorithm statements (C03 … C10) over a bare arc relation

For each algorithm property `Cxx` the predicate `…Holds A n S g` below is the conclusion of
`Cxx`'s `Statement`, word for word, except that every declarative notion (`ReachFrom`,
`IsHopDist`, `IsWalk`, `IsMinDist`, …) is the RELATIONAL one of `Proof/ComposeRel.lean` over a
given arc relation `A` (resp. weighted relation `W`) and every `g.n` is a given order `n`.
The `Graph` / `WGraph` argument `g` names the outputs of the algorithm model (`bfs g S`,
`dijkstraDist g S`, …) and stays off the specification side, except in `DfsTodayHolds` and
`DfsFixedHolds`: they keep C06's executable reading of "depth-first preorder" (`Dfs.ValidDfsPreorder g S`,
`Dfs.annotate g S`, `Dfs.forestOf g.n`), which reads the rows of `g`.  `DfsPreorderTodayR` and
`DfsFixedHoldsR` state the same clauses over `A` and `n` alone (`RIsDfsPreorder`, `Proof/ComposeDfs.lean`).

`…_self` is `Cxx`'s theorem in this form for the graph's own relation `g.A`; `traversalsHold_of`,
`weightedHold_of`, `tarjanHolds_of`, `johnsonHolds_of` transport along `∀ u v, g.A u v ↔ A u v`:
whatever `Graph` an algorithm is run on, if its arc relation is `A` then the outputs satisfy the
property w.r.t. `A`.
-/
namespace GraafVerif.Compose
open GraafVerif

/-- C04's conclusions (`C04.Holds`) over the arc relation `A` and the order `n`. -/
def BfsHolds (A : Rel) (n : Nat) (S : List Nat) (g : Graph) : Prop :=
    -- Bfs: each reachable vertex exactly once, no other vertex, non-decreasing hop distance
    (∃ out, Bfs.bfs g S = .ok out ∧ out.Nodup ∧ (∀ v, v ∈ out ↔ RReachFrom A S v) ∧
      out.Pairwise (fun u v => ∀ du dv, RIsHopDist A S u du → RIsHopDist A S v dv → du ≤ dv)) ∧
    -- BfsDist: the same vertices in the same order, each paired with its exact hop distance
    (∃ out, Bfs.bfsDist g S = .ok out ∧ Bfs.bfs g S = .ok (out.map (·.1)) ∧
      ∀ p ∈ out, RIsHopDist A S p.1 p.2) ∧
    -- distances(): the full hop-distance vector, usize::MAX exactly at the unreachable vertices
    (∀ inf, n ≤ inf → ∃ d, Bfs.distances g S inf = .ok d ∧ d.length = n ∧
      (∀ v k, RIsHopDist A S v k → d[v]? = some k) ∧
      (∀ v, v < n → (d[v]? = some inf ↔ ¬ RReachFrom A S v)))

theorem bfsHolds_self {g : Graph} {S : List Nat} (hg : g.WF) (hS : ∀ s ∈ S, s < g.n) (hnd : S.Nodup) :
    BfsHolds g.A g.n S g := by
  unfold BfsHolds
  rw [← reachFrom_eq g, ← isHopDist_eq g]
  exact C04.c04 g S hg hS hnd

def RIsElemCycle (A : Rel) (c : List Nat) : Prop :=
  c ≠ [] ∧ c.Nodup ∧ RIsWalk A c ∧ ∃ a z, c.head? = some a ∧ c.getLast? = some z ∧ A z a

theorem isElemCycle_eq (g : Graph) : Bfs.IsElemCycle g = RIsElemCycle g.A := by
  funext c; simp only [Bfs.IsElemCycle, RIsElemCycle, isWalk_eq]

/-- `C05.Holds` (predecessor tree, shortest path, cycles) over the arc relation `A` and the order `n`. -/
def BfsPredHolds (A : Rel) (n : Nat) (S : List Nat) (g : Graph) : Prop :=
    (∃ pred, Bfs.predecessors g S = .ok pred ∧ pred.length = n ∧
      (∀ s ∈ S, pred[s]? = some none) ∧
      (∀ v, v < n → ¬ RReachFrom A S v → pred[v]? = some none) ∧
      (∀ v, RReachFrom A S v → v ∉ S →
        ∃ u d, pred[v]? = some (some u) ∧ A u v ∧ RIsHopDist A S u d ∧ RIsHopDist A S v (d + 1)) ∧
      (∀ v d, RIsHopDist A S v d →
        ∃ cs, PredTree.searchBy pred v (fun _ b => b.isNone) = .ret (some cs) ∧ cs.length = d + 1 ∧
          RIsWalk A cs.reverse ∧ (∃ s ∈ S, cs.getLast? = some s) ∧ cs.head? = some v)) ∧
    (∀ isT : Nat → Bool, ∃ r, Bfs.shortestPath g S isT = .ok r ∧
      (r = none ↔ ¬ ∃ v, RReachFrom A S v ∧ isT v = true) ∧
      (∀ p, r = some p → ∃ s t, p.head? = some s ∧ p.getLast? = some t ∧ s ∈ S ∧ isT t = true ∧
        RIsWalk A p ∧ RIsHopDist A S t (p.length - 1) ∧
        ∀ t' d', isT t' = true → RIsHopDist A S t' d' → p.length - 1 ≤ d')) ∧
    (∃ cs, Bfs.cycles g S = .ok cs ∧ ∀ c ∈ cs, RIsElemCycle A c)

theorem bfsPredHolds_self {g : Graph} {S : List Nat} (hg : g.WF) (hn : 0 < g.n) (hS : ∀ s ∈ S, s < g.n)
    (hnd : S.Nodup) : BfsPredHolds g.A g.n S g := by
  unfold BfsPredHolds
  rw [← reachFrom_eq g, ← isHopDist_eq g, ← isWalk_eq g, ← isElemCycle_eq g]
  exact C05.c05_bfs g S hg hn hS hnd

def RExact (A : Rel) (S : List Nat) (xs : List Nat) : Prop := xs.Nodup ∧ ∀ v, v ∈ xs ↔ RReachFrom A S v

theorem exact_eq (g : Graph) : Dfs.Exact g = RExact g.A := by
  funext S xs; simp only [Dfs.Exact, RExact, reachFrom_eq]

/-- What C06 proves of TODAY's code (`C06.dfs_partial` + `C06.dfs_valid_prefix`), over `A`:
termination, the three iterators agree, no vertex twice, only reachable vertices, all of them
when the run ends on an empty stack; what is yielded is a valid depth-first preorder prefix with
the prescribed predecessors and depths.  (`ValidDfsPreorder` / `annotate` are the executable
reading of "depth-first preorder" of `Spec/Dfs.lean`; they consult the out-neighbour rows of
`g` only through MEMBERSHIP, i.e. through the arc relation.) -/
def DfsTodayHolds (A : Rel) (S : List Nat) (g : Graph) : Prop :=
    C06.Terminated (Dfs.dfs g S).ending ∧
    (Dfs.dfsDist g S).verts = (Dfs.dfs g S).verts ∧ (Dfs.dfsPred g S).verts = (Dfs.dfs g S).verts ∧
    (Dfs.dfsDist g S).ending = (Dfs.dfs g S).ending ∧ (Dfs.dfsPred g S).ending = (Dfs.dfs g S).ending ∧
    (Dfs.dfs g S).verts.Nodup ∧
    (∀ v ∈ (Dfs.dfs g S).verts, RReachFrom A S v) ∧
    ((Dfs.dfs g S).ending = .done → ∀ v, RReachFrom A S v → v ∈ (Dfs.dfs g S).verts) ∧
    Dfs.ValidDfsPreorder g S (Dfs.dfs g S).verts ∧
    ∃ ann, Dfs.annotate g S (Dfs.dfs g S).verts = some ann ∧
      (Dfs.dfsDist g S).items = ann.map (fun a => (a.1, a.2.2)) ∧
      (Dfs.dfsPred g S).items = ann.map (fun a => (a.1, a.2.1)) ∧
      Dfs.predecessors g S = Dfs.forestOf g.n ann

theorem dfsTodayHolds_self {g : Graph} {S : List Nat} (hi : C06.Inputs g S) : DfsTodayHolds g.A S g := by
  obtain ⟨h1, h2, h3, h4, h5, h6, h7, h8⟩ := C06.dfs_partial g S hi
  obtain ⟨p1, p2⟩ := C06.dfs_valid_prefix g S hi
  unfold DfsTodayHolds
  rw [← reachFrom_eq g]
  exact ⟨h1, h2, h3, h4, h5, h6, h7, h8, p1, p2⟩

/-- C06 in full for the corrected variant (`C06.StatementFixed`), with the exactness clauses
over `A`. -/
def DfsFixedHolds (A : Rel) (S : List Nat) (g : Graph) : Prop :=
    ((Dfs.dfsFixed g S).ending = .done ∧ RExact A S (Dfs.dfsFixed g S).verts ∧
      Dfs.ValidDfsPreorder g S (Dfs.dfsFixed g S).verts) ∧
    ((Dfs.dfsDistFixed g S).ending = .done ∧ RExact A S ((Dfs.dfsDistFixed g S).items.map (·.1)) ∧
      ∃ ann, Dfs.annotate g S ((Dfs.dfsDistFixed g S).items.map (·.1)) = some ann ∧
        (Dfs.dfsDistFixed g S).items = ann.map (fun a => (a.1, a.2.2))) ∧
    ((Dfs.dfsPredFixed g S).ending = .done ∧ RExact A S ((Dfs.dfsPredFixed g S).items.map (·.1)) ∧
      ∃ ann, Dfs.annotate g S ((Dfs.dfsPredFixed g S).items.map (·.1)) = some ann ∧
        (Dfs.dfsPredFixed g S).items = ann.map (fun a => (a.1, a.2.1)) ∧
        Dfs.predecessorsFixed g S = Dfs.forestOf g.n ann)

theorem dfsFixedHolds_self {g : Graph} {S : List Nat} (hi : C06.Inputs g S) : DfsFixedHolds g.A S g := by
  obtain ⟨⟨_, a1, a2⟩, ⟨_, b1, b2⟩, ⟨_, c1, c2⟩⟩ := C06.statement_fixed g S hi
  obtain ⟨⟨e1, _⟩, ⟨e2, _⟩, ⟨e3, _⟩⟩ := C06.dfsFixed_reachable g S hi
  unfold DfsFixedHolds
  rw [← exact_eq g]
  exact ⟨⟨e1, a1, a2⟩, ⟨e2, b1, b2⟩, ⟨e3, c1, c2⟩⟩

/-- The preorder clause of C06 for TODAY's code, entirely over the relation `A` and the order `n`
(`RIsDfsPreorder`, `Proof/ComposeDfs.lean`): what `Dfs` yields is a depth-first preorder prefix of
the digraph `A` from `S`; `DfsDist` / `DfsPred` report exactly the prescribed depths / parents;
`predecessors()` is the forest of the annotation. -/
def DfsPreorderTodayR (A : Rel) (n : Nat) (S : List Nat) (g : Graph) : Prop :=
  ∃ ann, RIsDfsPreorder A S (Dfs.dfs g S).verts ann ∧
    (Dfs.dfsDist g S).items = ann.map (fun a => (a.1, a.2.2)) ∧
    (Dfs.dfsPred g S).items = ann.map (fun a => (a.1, a.2.1)) ∧
    Dfs.predecessors g S = Dfs.forestOf n ann

theorem dfsPreorderTodayR_self {g : Graph} {S : List Nat} (hi : C06.Inputs g S) :
    DfsPreorderTodayR g.A g.n S g :=
  have ⟨_, ann, h1, h2, h3, h4⟩ := C06.dfs_valid_prefix g S hi
  ⟨ann, (annotate_iff g S _ ann).1 h1, h2, h3, h4⟩

/-- C06 in full for the corrected variant, entirely over `A` and `n`: termination on an empty
stack, exactly the reachable vertices once each, in a depth-first preorder, with the prescribed
depths (`DfsDist`), parents (`DfsPred`) and forest (`predecessors()`). -/
def DfsFixedHoldsR (A : Rel) (n : Nat) (S : List Nat) (g : Graph) : Prop :=
    ((Dfs.dfsFixed g S).ending = .done ∧ RExact A S (Dfs.dfsFixed g S).verts ∧
      ∃ ann, RIsDfsPreorder A S (Dfs.dfsFixed g S).verts ann) ∧
    ((Dfs.dfsDistFixed g S).ending = .done ∧ RExact A S ((Dfs.dfsDistFixed g S).items.map (·.1)) ∧
      ∃ ann, RIsDfsPreorder A S ((Dfs.dfsDistFixed g S).items.map (·.1)) ann ∧
        (Dfs.dfsDistFixed g S).items = ann.map (fun a => (a.1, a.2.2))) ∧
    ((Dfs.dfsPredFixed g S).ending = .done ∧ RExact A S ((Dfs.dfsPredFixed g S).items.map (·.1)) ∧
      ∃ ann, RIsDfsPreorder A S ((Dfs.dfsPredFixed g S).items.map (·.1)) ann ∧
        (Dfs.dfsPredFixed g S).items = ann.map (fun a => (a.1, a.2.1)) ∧
        Dfs.predecessorsFixed g S = Dfs.forestOf n ann)

theorem dfsFixedHoldsR_self {g : Graph} {S : List Nat} (hi : C06.Inputs g S) :
    DfsFixedHoldsR g.A g.n S g :=
  have ⟨⟨e1, x1, v1⟩, ⟨e2, x2, a2, p2, q2⟩, ⟨e3, x3, a3, p3, q3, r3⟩⟩ := dfsFixedHolds_self hi
  ⟨⟨e1, x1, (validDfsPreorder_iff g S _).1 v1⟩,
    ⟨e2, x2, a2, (annotate_iff g S _ a2).1 p2, q2⟩,
    ⟨e3, x3, a3, (annotate_iff g S _ a3).1 p3, q3, r3⟩⟩

structure RIsSCCPartition (verts : List Nat) (A : Rel) (cs : List (List Nat)) : Prop where
  nonempty : ∀ c ∈ cs, c ≠ []
  disjoint : cs.Pairwise (fun c d => ∀ x ∈ c, x ∉ d)
  nodup : ∀ c ∈ cs, c.Nodup
  cover : ∀ v, v ∈ verts ↔ ∃ c ∈ cs, v ∈ c
  scc : ∀ u ∈ verts, ∀ v ∈ verts, (∃ c ∈ cs, u ∈ c ∧ v ∈ c) ↔ (RReach A u v ∧ RReach A v u)

theorem isSCCPartition_iff (g : Tarjan.VGraph) (cs : List (List Nat)) :
    Tarjan.IsSCCPartition g cs ↔ RIsSCCPartition g.verts g.toGraph.A cs :=
  ⟨fun h => ⟨h.nonempty, h.disjoint, h.nodup, h.cover, reach_eq g.toGraph ▸ h.scc⟩,
   fun h => ⟨h.nonempty, h.disjoint, h.nodup, h.cover, by simpa only [Tarjan.VReach, reach_eq] using h.scc⟩⟩

/-- C09 over the vertex list `verts` and the arc relation `A`; also: every block ascending. -/
def TarjanHolds (verts : List Nat) (A : Rel) (g : Tarjan.VGraph) : Prop :=
  ∃ cs, Tarjan.components g = .ret cs ∧ RIsSCCPartition verts A cs ∧ ∀ c ∈ cs, c.Pairwise (· < ·)

theorem tarjanHolds_of {g : Tarjan.VGraph} {A : Rel} (hA : ∀ u v, v ∈ g.out u ↔ A u v)
    (hcl : g.Closed) : TarjanHolds g.verts A g := by
  obtain rfl : g.toGraph.A = A := rel_ext hA
  obtain ⟨cs, hcs, hp⟩ := C09.tarjan_scc g hcl
  exact ⟨cs, hcs, (isSCCPartition_iff g cs).1 hp, C09.tarjan_sets_ascending g hcl cs hcs⟩

/-- `c = s :: rest` is an elementary circuit of `A` written from its smallest vertex. -/
def RIsCanonicalElemCircuit (A : Rel) (c : List Nat) : Prop :=
  ∃ s rest, c = s :: rest ∧ rest ≠ [] ∧ c.Nodup ∧ RIsWalk A c ∧
    A ((s :: rest).getLast (List.cons_ne_nil _ _)) s ∧ ∀ x ∈ rest, s < x

theorem isCanonicalElemCircuit_eq (g : Graph) :
    Johnson.IsCanonicalElemCircuit g = RIsCanonicalElemCircuit g.A := by
  funext c; simp only [Johnson.IsCanonicalElemCircuit, RIsCanonicalElemCircuit, isWalk_eq]

/-- `C10.Statement`'s conclusion over `A`. -/
def JohnsonHolds (A : Rel) (g : Graph) : Prop :=
  (Johnson.circuits g).Nodup ∧ ∀ c, c ∈ Johnson.circuits g ↔ RIsCanonicalElemCircuit A c

theorem johnsonHolds_of {g : Graph} {A : Rel} (hA : ∀ u v, g.A u v ↔ A u v)
    (hg : g.WF) (hl : Johnson.NoLoops g) (hr : Johnson.RowsNodup g) : JohnsonHolds A g := by
  obtain rfl : g.A = A := rel_ext hA
  have h := C10.statement g hg hl hr
  unfold JohnsonHolds
  rw [← isCanonicalElemCircuit_eq g]
  exact h

/-- `C03.Statement`'s conclusion over the weighted relation `W` and the order `n`. -/
def DijkstraHolds (W : WRel) (n : Nat) (S : List Nat) (g : WGraph) : Prop :=
    ((Dijkstra.dijkstraDist g S).map (·.1)).Nodup ∧
    (∀ v, v ∈ (Dijkstra.dijkstraDist g S).map (·.1) ↔ RWReachFrom W S v) ∧
    (∀ p ∈ Dijkstra.dijkstraDist g S, RIsMinDist W S p.1 p.2) ∧
    ((Dijkstra.dijkstraDist g S).map (·.2)).Pairwise (· ≤ ·) ∧
    Dijkstra.dijkstra g S = (Dijkstra.dijkstraDist g S).map (·.1) ∧
    (Dijkstra.distances g S).length = n ∧
    (∀ v, v < n → ∀ d, (Dijkstra.distances g S)[v]? = some (some d) ↔ RIsMinDist W S v d) ∧
    (∀ v, v < n → ((Dijkstra.distances g S)[v]? = some none ↔ ¬ RWReachFrom W S v)) ∧
    (∀ f, Dijkstra.fuel g S ≤ f →
      Dijkstra.run g (fun _ => none) f (Dijkstra.init n S) = Dijkstra.entries g (fun _ => none) S)

theorem dijkstraHolds_self {g : WGraph} {S : List Nat} (h : Dijkstra.Hyp g S) : DijkstraHolds g.A g.n S g := by
  unfold DijkstraHolds
  rw [← wreachFrom_eq g, ← isMinDist_eq g]
  exact C03.dijkstra_correct g S h

/-- The non-empty vertex list `p` is a walk of `W` of total weight `wt`. -/
inductive RPathW (W : WRel) : List Nat → Int → Prop
  | single (u : Nat) : RPathW W [u] 0
  | cons {u v : Nat} {rest : List Nat} {w wt : Int} :
      W u v w → RPathW W (v :: rest) wt → RPathW W (u :: v :: rest) (w + wt)

theorem pathW_eq (g : WGraph) : PathW g = RPathW g.A := by
  funext p wt
  apply propext
  constructor
  · intro h; induction h with
    | single u => exact .single u
    | cons ha _ ih => exact .cons ha ih
  · intro h; induction h with
    | single u => exact .single u
    | cons ha _ ih => exact .cons ha ih

/-- `C05Dijkstra.Statement`'s conclusion over `W` and `n`. -/
def DijkstraPredHolds (W : WRel) (n : Nat) (S : List Nat) (g : WGraph) : Prop :=
    (Dijkstra.predecessors g S).length = n ∧
    (∀ v, v < n → (v ∈ S ∨ ¬ RWReachFrom W S v) → (Dijkstra.predecessors g S)[v]? = some none) ∧
    (∀ v, v < n → v ∉ S → RWReachFrom W S v → ∃ u w du dv,
      (Dijkstra.predecessors g S)[v]? = some (some u) ∧ W u v w ∧
      RIsMinDist W S u du ∧ RIsMinDist W S v dv ∧ du + w = dv) ∧
    (∀ v, RWReachFrom W S v → ∃ p d,
      PredTree.searchBy (Dijkstra.predecessors g S) v (fun _ b => b.isNone) = .ret (some p) ∧
      p.head? = some v ∧ (∃ s ∈ S, p.getLast? = some s) ∧ RPathW W p.reverse d ∧ RIsMinDist W S v d) ∧
    ∀ isT : Nat → Bool,
      (Dijkstra.shortestPath g S isT = .ret none ↔ ¬ ∃ v, RWReachFrom W S v ∧ isT v = true) ∧
      ((∃ v, RWReachFrom W S v ∧ isT v = true) → ∃ p t d,
        Dijkstra.shortestPath g S isT = .ret (some p) ∧
        (∃ s ∈ S, p.head? = some s) ∧ p.getLast? = some t ∧ isT t = true ∧
        RPathW W p d ∧ RIsMinDist W S t d ∧
        ∀ t' d', isT t' = true → RIsMinDist W S t' d' → d ≤ d')

theorem dijkstraPredHolds_self {g : WGraph} {S : List Nat} (h : Dijkstra.Hyp g S) :
    DijkstraPredHolds g.A g.n S g := by
  unfold DijkstraPredHolds
  rw [← wreachFrom_eq g, ← isMinDist_eq g, ← pathW_eq g]
  exact C05Dijkstra.dijkstraPred_correct g S h

def RExactDist (W : WRel) (n s : Nat) (d : List (Option Int)) : Prop :=
  d.length = n ∧
  (∀ v x, d[v]? = some (some x) → RIsMinDist W [s] v x) ∧
  (∀ v, d[v]? = some none → ¬ RWReachFrom W [s] v)

def RNegReachable (W : WRel) (s : Nat) : Prop := ∃ x, RWReachFrom W [s] x ∧ RNegCycleAt W x

theorem exactDist_eq (g : WGraph) : Bfm.Exact g = RExactDist g.A g.n := by
  funext s d; simp only [Bfm.Exact, RExactDist, isMinDist_eq, wreachFrom_eq]

theorem negReachable_eq (g : WGraph) : Bfm.NegReachable g = RNegReachable g.A := by
  funext s; simp only [Bfm.NegReachable, RNegReachable, wreachFrom_eq, negCycleAt_eq]

/-- `C07.Statement`'s conclusion over `W` and `n` (arbitrary `Int` weights). -/
def BfmHolds (W : WRel) (n : Nat) (s : Nat) (g : WGraph) : Prop :=
    (RNegReachable W s → Bfm.distances g s = .ret none) ∧
    ((∀ x, ¬ RNegCycleAt W x) → ∃ d, Bfm.distances g s = .ret (some d)) ∧
    (∀ d, Bfm.distances g s = .ret (some d) →
      RExactDist W n s d ∧ ∀ v, v < n → (d[v]? = some none ↔ ¬ RWReachFrom W [s] v)) ∧
    ((∀ u v w, W u v w → 0 ≤ w) → ∀ dj, RExactDist W n s dj → Bfm.distances g s = .ret (some dj))

theorem bfmHolds_self {g : WGraph} {s : Nat} (hg : g.WF) (hs : s < g.n) : BfmHolds g.A g.n s g := by
  unfold BfmHolds
  rw [← wreachFrom_eq g, ← negCycleAt_eq g, ← exactDist_eq g, ← negReachable_eq g]
  exact C07.statement g s hg hs

/-- `C08.Statement`'s conclusion over `W` and `n`, for the pair `(u, v)`. -/
def FwHolds (W : WRel) (n : Nat) (u v : Nat) (g : WGraph) : Prop :=
    Fw.get n (Fw.distances g) u v = ((Fw.distances g)[u * n + v]?).getD none ∧
    (∀ d, Fw.get n (Fw.distances g) u v = some d ↔ RIsMinDist W [u] v d) ∧
    (Fw.get n (Fw.distances g) u v = none ↔ ¬ RWReachFrom W [u] v) ∧
    Fw.get n (Fw.distances g) u u = some 0 ∧
    (∀ r : List (Option Int), r.length = n →
      (∀ x, x < n → ∀ d, r[x]? = some (some d) ↔ RIsMinDist W [u] x d) →
      Fw.row n (Fw.distances g) u = r)

theorem noNegCycle_of {g : WGraph} (hnc : ∀ x, ¬ RNegCycleAt g.A x) : g.NoNegCycle :=
  fun x => negCycleAt_eq g ▸ hnc x

theorem fwHolds_self {g : WGraph} (hg : g.WF) (hf : g.Functional) (hnc : ∀ x, ¬ RNegCycleAt g.A x) {u v : Nat}
    (hu : u < g.n) (hv : v < g.n) : FwHolds g.A g.n u v g := by
  unfold FwHolds
  rw [← wreachFrom_eq g, ← isMinDist_eq g]
  exact C08.fw_statement g hg hf (noNegCycle_of hnc) u v hu hv

/-! ## Repeated calls on the same algorithm object (`tarjan_every_call`, `johnson_repeat_statement`,
`bfm_repeat_const`, `fw_twice`) -/

/-- EVERY call of `components()` on the same `Tarjan` value returns what the first one returns:
the partition of `verts` into the strongly connected components of `A`. -/
def TarjanEveryCallHolds (verts : List Nat) (A : Rel) (g : Tarjan.VGraph) : Prop :=
  ∀ k, Tarjan.componentsAt g (k + 1) = Tarjan.components g ∧
    ∃ cs, Tarjan.componentsAt g (k + 1) = .ret cs ∧ RIsSCCPartition verts A cs

theorem tarjanEveryCallHolds_of {g : Tarjan.VGraph} {A : Rel} (hA : ∀ u v, v ∈ g.out u ↔ A u v)
    (hcl : g.Closed) : TarjanEveryCallHolds g.verts A g := by
  obtain rfl : g.toGraph.A = A := rel_ext hA
  intro k
  obtain ⟨e, cs, hcs, hp⟩ := C09.tarjan_every_call g hcl k
  exact ⟨e, cs, hcs, (isSCCPartition_iff g cs).1 hp⟩

/-- EVERY one of `k` consecutive `circuits()` calls on the same `Johnson75` value returns each
elementary circuit of `A` exactly once, in canonical form, and nothing else. -/
def JohnsonRepeatHolds (A : Rel) (g : Graph) : Prop :=
  ∀ k, (Johnson.circuitsRepeat (Johnson.AM.ofGraph g) k (Johnson.JState.new (Johnson.AM.ofGraph g))).length = k ∧
    ∀ out ∈ Johnson.circuitsRepeat (Johnson.AM.ofGraph g) k (Johnson.JState.new (Johnson.AM.ofGraph g)),
      out.Nodup ∧ ∀ c, c ∈ out ↔ RIsCanonicalElemCircuit A c

theorem johnsonRepeatHolds_of {g : Graph} {A : Rel} (hA : ∀ u v, g.A u v ↔ A u v)
    (hg : g.WF) (hl : Johnson.NoLoops g) (hr : Johnson.RowsNodup g) : JohnsonRepeatHolds A g := by
  obtain rfl : g.A = A := rel_ext hA
  intro k
  have h := C10.johnson_repeat_statement g hg hl hr k
  rw [isCanonicalElemCircuit_eq g] at h
  exact h

/-- `k` calls of `BellmanFordMoore::distances()` on the same object all return what one call
returns (which `BfmHolds` characterises). -/
def BfmRepeatHolds (s : Nat) (g : WGraph) : Prop :=
  ∀ k r, Bfm.distances g s = .ret r → Bfm.distancesRepeat g s k = some (List.replicate k r)

/-- Everything C04, C05 (BFS half) and C06 say about the source-based traversals of the `Graph`
`g`, w.r.t. the arc relation `A` on `n` vertices. -/
structure TraversalsHold (A : Rel) (n : Nat) (S : List Nat) (g : Graph) : Prop where
  bfs : BfsHolds A n S g
  /-- `PredecessorTree::new` asserts `order > 0` -/
  bfsPred : 0 < n → BfsPredHolds A n S g
  dfsToday : DfsTodayHolds A S g
  dfsFixed : DfsFixedHolds A S g
  /-- the preorder clauses with NOTHING on the specification side but `A`, `n`, `S` -/
  dfsTodayR : DfsPreorderTodayR A n S g
  dfsFixedR : DfsFixedHoldsR A n S g

theorem traversalsHold_of {g : Graph} {A : Rel} {n : Nat} (hn : g.n = n) (hA : ∀ u v, g.A u v ↔ A u v)
    {S : List Nat} (hg : g.WF) (hS : ∀ s ∈ S, s < n) (hnd : S.Nodup) : TraversalsHold A n S g := by
  obtain rfl : g.A = A := rel_ext hA
  subst hn
  have hi : C06.Inputs g S := ⟨hg, hnd, hS⟩
  exact ⟨bfsHolds_self hg hS hnd, fun hn => bfsPredHolds_self hg hn hS hnd, dfsTodayHolds_self hi,
    dfsFixedHolds_self hi, dfsPreorderTodayR_self hi, dfsFixedHoldsR_self hi⟩

/-- Everything C03, C05 (Dijkstra half), C07, C08 say about the weighted algorithms on the
`WGraph` `g`, w.r.t. the weighted relation `W` on `n` vertices. -/
structure WeightedHold (W : WRel) (n : Nat) (g : WGraph) : Prop where
  dijkstra : (∀ u v w, W u v w → 0 ≤ w) → ∀ S : List Nat, (∀ s ∈ S, s < n) → S.Nodup →
    DijkstraHolds W n S g ∧ DijkstraPredHolds W n S g
  bfm : ∀ s, s < n → BfmHolds W n s g
  fw : (∀ x, ¬ RNegCycleAt W x) → ∀ u v, u < n → v < n → FwHolds W n u v g
  bfmRepeat : ∀ s, s < n → BfmRepeatHolds s g
  fwTwice : (∀ x, ¬ RNegCycleAt W x) → Fw.distances2 g = Fw.distances g

theorem weightedHold_of {g : WGraph} {W : WRel} {n : Nat} (hn : g.n = n) (hW : ∀ u v w, g.A u v w ↔ W u v w)
    (hg : g.WF) (hf : g.Functional) : WeightedHold W n g := by
  obtain rfl : g.A = W := wrel_ext hW
  subst hn
  exact ⟨fun hnn S hS hnd => have hyp : Dijkstra.Hyp g S := ⟨hg, hnn, hS, hnd⟩
      ⟨dijkstraHolds_self hyp, dijkstraPredHolds_self hyp⟩,
    fun s hs => bfmHolds_self hg hs, fun hnc u v hu hv => fwHolds_self hg hf hnc hu hv,
    fun s hs k r h => C07.bfm_repeat_const g hg s hs k r h,
    fun hnc => C08.fw_twice g hg hf (noNegCycle_of hnc)⟩

end GraafVerif.Compose
