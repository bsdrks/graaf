import GraafVerif.Proof.OpsSorted
import GraafVerif.Proof.OpsAbs
/-!
# `AdjacencyMap::{complement, converse, filter_vertices}` on arbitrary key sets

Rows are read through `rowAM m k`, `AdjMap.row` of the bare entry list `m`.  `converse` and `filter_vertices` are
folds of two kinds of map updates (`entry(k).or_default()` and `entry(u).or_default().insert(v)`),
handled once (`applyActs_sorted`, `keys_applyActs`, `mem_rowAM_applyActs`).  A result is well formed and denotes `S` as soon as it is
key-sorted with ascending rows that hold the arcs of the valid digraph `S` (`okAM_of_rows`).
-/
namespace GraafVerif.Ops
open GraafVerif.Repr

def rowAM (m : List Entry) (k : Nat) : List Nat := (mget k m).getD []

def keysAM (m : List Entry) : List Nat := m.map (·.1)

theorem absAM_V {d : AdjMap} {v : Nat} : (absAM d).V v ↔ v ∈ keysAM d.rows := Iff.rfl

theorem absAM_A {d : AdjMap} {u v : Nat} : (absAM d).A u v ↔ v ∈ rowAM d.rows u := AdjMap.mem_row.symm

theorem mem_keysAM_iff {l : List Entry} {k : Nat} : k ∈ keysAM l ↔ ∃ e ∈ l, e.1 = k := List.mem_map

/-! Intermediate results are bare entry lists; the reading lemmas of `AdjMap` apply to them as rows of a map. -/

theorem rowAM_of_mem {m : List Entry} (h : SortedK m) {u : Nat} {row : List Nat} (hm : (u, row) ∈ m) :
    rowAM m u = row := AdjMap.row_of_mem (d := ⟨m⟩) h hm

theorem mem_of_mem_rowAM {m : List Entry} {u v : Nat} (hv : v ∈ rowAM m u) : (u, rowAM m u) ∈ m :=
  AdjMap.mem_of_mem_row (d := ⟨m⟩) hv

theorem mem_rowAM_iff {l : List Entry} (h : SortedK l) {k v : Nat} :
    v ∈ rowAM l k ↔ ∃ e ∈ l, e.1 = k ∧ v ∈ e.2 :=
  (AdjMap.mem_row_iff (d := ⟨l⟩) h).trans
    ⟨fun ⟨s, hm, hv⟩ => ⟨(k, s), hm, rfl, hv⟩, fun ⟨⟨_, s⟩, hm, e, hv⟩ => ⟨s, e ▸ hm, hv⟩⟩

theorem rowAM_nil_of_not_key {m : List Entry} {k : Nat} (hk : k ∉ keysAM m) : rowAM m k = [] := by
  cases hr : rowAM m k with
  | nil => rfl
  | cons v _ => exact absurd (mem_keysAM_iff.mpr ⟨_, mem_of_mem_rowAM (hr ▸ List.mem_cons_self), rfl⟩) hk

theorem absAM_valid {d : AdjMap} (h : d.WF) : (absAM d).Valid := h.simple

theorem canonAM {a b : AdjMap} (ha : a.WF) (hb : b.WF) (h : absAM a = absAM b) : a = b :=
  canon_of_ext AdjMap.WF_iff_simple AdjMap.ext ha hb h

theorem okAM_of_rows {r : AdjMap} {S : DG} (hs : SortedK r.rows) (hr : ∀ k, SortedS (rowAM r.rows k))
    (hV : ∀ v, v ∈ keysAM r.rows ↔ S.V v) (hA : ∀ u v, v ∈ rowAM r.rows u ↔ S.A u v) (hS : S.Valid) :
    r.WF ∧ absAM r = S :=
  ok_of_reads AdjMap.WF_iff_simple ⟨hs, hr⟩ hV (fun u v => absAM_A.trans (hA u v)) hS

theorem sortedS_keys {m : List Entry} (h : SortedK m) : SortedS (keysAM m) := List.pairwise_map.mpr h

/-! ## Key-preserving row maps -/

theorem sortedK_mapRows {m : List Entry} (g : Entry → List Nat) (h : SortedK m) :
    SortedK (m.map (fun e => (e.1, g e))) := List.pairwise_map.mpr h

theorem keys_mapRows {m : List Entry} (g : Entry → List Nat) :
    keysAM (m.map (fun e => (e.1, g e))) = keysAM m := by
  rw [keysAM, List.map_map]; rfl

theorem rowAM_mapRows {m : List Entry} (g : Entry → List Nat) (h : SortedK m) (k : Nat) :
    rowAM (m.map (fun e => (e.1, g e))) k = if k ∈ keysAM m then g (k, rowAM m k) else [] := by
  split
  · rename_i hk
    obtain ⟨⟨k', row⟩, hm, rfl⟩ := List.mem_map.mp hk
    rw [rowAM_of_mem h hm]
    exact rowAM_of_mem (sortedK_mapRows g h) (List.mem_map.mpr ⟨(k', row), hm, rfl⟩)
  · rename_i hk
    exact rowAM_nil_of_not_key (by rw [keys_mapRows]; exact hk)

theorem complementAM_rows {d : AdjMap} (h : SortedK d.rows) :
    (complementAM d).rows = d.rows.map (fun e =>
      (e.1, serase e.1 ((keysAM d.rows).filter (fun v => !e.2.contains v)))) := by
  have hk : toSet (d.rows.map (·.1)) = keysAM d.rows := toSet_of_sorted (sortedS_keys h)
  have hin : ∀ e : Entry, toSet ((keysAM d.rows).filter (fun v => !e.2.contains v)) =
      (keysAM d.rows).filter (fun v => !e.2.contains v) :=
    fun e => toSet_of_sorted (List.Pairwise.filter _ (sortedS_keys h))
  simp only [complementAM, hk, hin]
  exact toMap_of_sorted (sortedK_mapRows _ h)

theorem complementAM_spec (d : AdjMap) (h : d.WF) :
    (complementAM d).WF ∧ absAM (complementAM d) = specComplement (absAM d) := by
  have hrows := complementAM_rows h.1
  have hfil := fun k => List.Pairwise.filter (fun v => !(rowAM d.rows k).contains v) (sortedS_keys h.1)
  have hrow : ∀ k, rowAM (complementAM d).rows k = if k ∈ keysAM d.rows then
      serase k ((keysAM d.rows).filter (fun v => !(rowAM d.rows k).contains v)) else [] :=
    fun k => by rw [hrows, rowAM_mapRows _ h.1]
  refine okAM_of_rows (hrows ▸ sortedK_mapRows _ h.1) (fun k => ?_) (fun v => by rw [hrows, keys_mapRows]; rfl)
    (fun u v => ?_) (specComplement_valid _)
  · rw [hrow]
    split
    · exact sorted_serase (hfil k)
    · exact List.Pairwise.nil
  · rw [hrow]
    simp only [specComplement, absAM_V, absAM_A]
    split
    · rename_i hu
      rw [mem_serase (hfil u), List.mem_filter, Bool.not_eq_true', Bool.eq_false_iff, ne_eq,
        List.contains_iff_mem]
      exact ⟨fun ⟨⟨h1, h2⟩, h3⟩ => ⟨hu, h1, fun e => h3 e.symm, h2⟩,
        fun ⟨_, h1, h2, h3⟩ => ⟨⟨h1, h3⟩, fun e => h2 e.symm⟩⟩
    · rename_i hu
      exact ⟨fun hm => (nomatch hm), fun hc => absurd hc.1 hu⟩

/-! ## Folds of map updates -/

inductive Act where
  /-- `entry(k).or_default()` -/
  | key (k : Nat)
  /-- `entry(u).or_default().insert(v)` -/
  | arc (u v : Nat)

/-- The key an update is filed under. -/
def Act.src : Act → Nat
  | .key k => k
  | .arc u _ => u

def applyAct (m : List Entry) : Act → List Entry
  | .key k => mupsert k [] id m
  | .arc u v => mupsert u [] (sinsert v) m

theorem sortedK_applyAct {m : List Entry} (a : Act) (h : SortedK m) : SortedK (applyAct m a) := by
  cases a <;> exact sortedK_mupsert h

theorem keys_applyAct {m : List Entry} (a : Act) {k : Nat} :
    k ∈ keysAM (applyAct m a) ↔ k ∈ keysAM m ∨ k = a.src := by
  cases a <;> simp only [applyAct, keysAM, keys_mupsert, mem_sinsert, Act.src, or_comm]

theorem rowAM_mupsert (u : Nat) (f : List Nat → List Nat) (m : List Entry) (k : Nat) :
    rowAM (mupsert u [] f m) k = if k = u then f (rowAM m k) else rowAM m k := by
  refine (AdjMap.row_mupsert ⟨m⟩ u f k).trans ?_
  split
  · rename_i e; rw [e]; rfl
  · rfl

theorem rowAM_applyAct_key (m : List Entry) (k0 k : Nat) : rowAM (applyAct m (.key k0)) k = rowAM m k :=
  (rowAM_mupsert k0 id m k).trans (ite_self _)

theorem rowAM_applyAct_arc (m : List Entry) (u v k : Nat) :
    rowAM (applyAct m (.arc u v)) k = if k = u then sinsert v (rowAM m k) else rowAM m k :=
  rowAM_mupsert u (sinsert v) m k

theorem sortedS_rowAM_applyAct {m : List Entry} (a : Act) (hr : ∀ k, SortedS (rowAM m k)) (k : Nat) :
    SortedS (rowAM (applyAct m a) k) := by
  cases a with
  | key k0 => rw [rowAM_applyAct_key]; exact hr k
  | arc u v =>
    rw [rowAM_applyAct_arc]
    split
    · exact sorted_sinsert (hr k)
    · exact hr k

theorem mem_rowAM_applyAct (m : List Entry) (a : Act) {k x : Nat} :
    x ∈ rowAM (applyAct m a) k ↔ x ∈ rowAM m k ∨ a = Act.arc k x := by
  cases a with
  | key k0 => rw [rowAM_applyAct_key]; exact ⟨Or.inl, fun h => h.elim id fun e => nomatch e⟩
  | arc u v =>
    rw [rowAM_applyAct_arc, Act.arc.injEq]
    split
    · rename_i e
      rw [mem_sinsert, or_comm, e]
      exact or_congr_right ⟨fun e => ⟨rfl, e.symm⟩, fun e => e.2.symm⟩
    · rename_i hne
      exact ⟨Or.inl, fun h => h.elim id fun e => absurd e.1.symm hne⟩

theorem applyActs_sorted (acts : List Act) (m : List Entry) (hs : SortedK m) (hr : ∀ k, SortedS (rowAM m k)) :
    SortedK (acts.foldl applyAct m) ∧ ∀ k, SortedS (rowAM (acts.foldl applyAct m) k) :=
  Fold.foldl_inv (fun m => SortedK m ∧ ∀ k, SortedS (rowAM m k))
    (fun _ a _ h => ⟨sortedK_applyAct a h.1, sortedS_rowAM_applyAct a h.2⟩) m ⟨hs, hr⟩

theorem keys_applyActs (acts : List Act) (m : List Entry) {k : Nat} :
    k ∈ keysAM (acts.foldl applyAct m) ↔ k ∈ keysAM m ∨ ∃ a ∈ acts, k = a.src :=
  Fold.foldl_accum (fun m => k ∈ keysAM m) (fun a => k = a.src) (fun _ a => keys_applyAct a) acts m

theorem mem_rowAM_applyActs (acts : List Act) (m : List Entry) {k x : Nat} :
    x ∈ rowAM (acts.foldl applyAct m) k ↔ x ∈ rowAM m k ∨ Act.arc k x ∈ acts := by
  have := Fold.foldl_accum (fun m => x ∈ rowAM m k) (fun a => a = Act.arc k x)
    (fun m a => mem_rowAM_applyAct m a) acts m
  rwa [exists_eq_right] at this

theorem mem_arcsAM {d : AdjMap} (h : SortedK d.rows) {u v : Nat} : (u, v) ∈ d.arcs ↔ v ∈ rowAM d.rows u :=
  (AdjMap.mem_arcs_iff h u v).trans AdjMap.mem_row.symm

theorem converseAM_spec (d : AdjMap) (h : d.WF) :
    (converseAM d).WF ∧ absAM (converseAM d) = specConverse (absAM d) := by
  have hs0 : SortedK (d.rows.map (fun e => (e.1, ([] : List Nat)))) := sortedK_mapRows _ h.1
  have hr0 : ∀ k, rowAM (d.rows.map (fun e => (e.1, ([] : List Nat)))) k = [] := fun k => by
    rw [rowAM_mapRows _ h.1]; split <;> rfl
  have hfold : (converseAM d).rows = (d.arcs.map (fun a => Act.arc a.2 a.1)).foldl applyAct
      (d.rows.map (fun e => (e.1, ([] : List Nat)))) := by
    rw [converseAM, toMap_of_sorted hs0, List.foldl_map]; rfl
  obtain ⟨h1, h2⟩ := applyActs_sorted (d.arcs.map (fun a => Act.arc a.2 a.1)) _ hs0
    (fun k => by rw [hr0]; exact List.Pairwise.nil)
  rw [← hfold] at h1 h2
  have hact : ∀ k x, Act.arc k x ∈ d.arcs.map (fun a => Act.arc a.2 a.1) ↔ k ∈ rowAM d.rows x := fun k x => by
    rw [← mem_arcsAM h.1]
    simp only [List.mem_map, Act.arc.injEq]
    exact ⟨fun ⟨⟨_, _⟩, hm, rfl, rfl⟩ => hm, fun hm => ⟨(x, k), hm, rfl, rfl⟩⟩
  refine okAM_of_rows h1 h2 (fun k => ?_) (fun u v => ?_) (specConverse_valid (absAM_valid h))
  · rw [hfold, keys_applyActs, keys_mapRows]
    refine ⟨fun hk => hk.elim id ?_, Or.inl⟩
    rintro ⟨a, ha, rfl⟩
    obtain ⟨⟨x, k⟩, hm, rfl⟩ := List.mem_map.mp ha
    exact (absAM_valid h x k (absAM_A.mpr ((mem_arcsAM h.1).mp hm))).2.1
  · rw [hfold, mem_rowAM_applyActs, hr0, hact]
    exact (or_iff_right List.not_mem_nil).trans absAM_A.symm

/-- The map updates `filter_vertices` performs, in order. -/
def filterActs (p : Nat → Bool) (rows : List Entry) : List Act :=
  rows.flatMap (fun e =>
    if p e.1 then Act.key e.1 :: e.2.flatMap (fun v => if p v then [Act.arc e.1 v, Act.key v] else [])
    else [])

theorem filterAM_rows (d : AdjMap) (p : Nat → Bool) :
    (filterAM d p).rows = (filterActs p d.rows).foldl applyAct [] := by
  unfold filterAM filterActs
  simp only []
  rw [List.foldl_flatMap]
  congr 1
  funext m e
  by_cases hp : p e.1 = true
  · simp only [hp, if_true, List.foldl_cons]
    rw [List.foldl_flatMap]
    congr 1
    funext m' v
    by_cases hv : p v = true <;> simp [hv, applyAct]
  · simp [hp]

theorem mem_filterActs {p : Nat → Bool} {rows : List Entry} {a : Act} :
    a ∈ filterActs p rows ↔ ∃ e ∈ rows, p e.1 = true ∧
      (a = Act.key e.1 ∨ ∃ v ∈ e.2, p v = true ∧ (a = Act.arc e.1 v ∨ a = Act.key v)) := by
  unfold filterActs
  rw [List.mem_flatMap]
  refine exists_congr fun e => and_congr_right fun _ => ?_
  by_cases hp : p e.1 = true
  · simp only [hp, if_true, true_and, List.mem_cons, List.mem_flatMap]
    refine or_congr_right (exists_congr fun v => and_congr_right fun _ => ?_)
    by_cases hv : p v = true <;> simp [hv]
  · simp [hp]

theorem filterAM_spec (d : AdjMap) (p : Nat → Bool) (h : d.WF) :
    (filterAM d p).WF ∧ absAM (filterAM d p) = specFilter p (absAM d) := by
  obtain ⟨h1, h2⟩ := applyActs_sorted (filterActs p d.rows) [] List.Pairwise.nil
    (fun _ => List.Pairwise.nil)
  rw [← filterAM_rows] at h1 h2
  refine okAM_of_rows h1 h2 (fun k => ?_) (fun k x => ?_) (specFilter_valid p (absAM_valid h))
  · rw [filterAM_rows, keys_applyActs]
    simp only [keysAM, List.map_nil, List.not_mem_nil, false_or, specFilter, absAM_V]
    constructor
    · rintro ⟨a, ha, rfl⟩
      obtain ⟨⟨u, out⟩, hm, hp, rfl | ⟨v, hv, hpv, rfl | rfl⟩⟩ := mem_filterActs.mp ha
      · exact ⟨mem_keysAM_iff.mpr ⟨_, hm, rfl⟩, hp⟩
      · exact ⟨mem_keysAM_iff.mpr ⟨_, hm, rfl⟩, hp⟩
      · exact ⟨(h.2 u out hm).2 v hv |>.2 |> (mget_isSome_iff h.1).mp, hpv⟩
    · rintro ⟨hk, hp⟩
      obtain ⟨⟨k', out⟩, hm, rfl⟩ := List.mem_map.mp hk
      exact ⟨Act.key k', mem_filterActs.mpr ⟨(k', out), hm, hp, Or.inl rfl⟩, rfl⟩
  · rw [filterAM_rows, mem_rowAM_applyActs, mem_filterActs]
    constructor
    · rintro (hm | ⟨⟨u, out⟩, hm, hp, he | ⟨v, hv, hpv, he | he⟩⟩)
      · cases hm
      · cases he
      · cases he
        exact ⟨absAM_A.mpr ((mem_rowAM_iff h.1).mpr ⟨_, hm, rfl, hv⟩), hp, hpv⟩
      · cases he
    · rintro ⟨ha, hpk, hpx⟩
      obtain ⟨e, hm, rfl, hv⟩ := (mem_rowAM_iff h.1).mp (absAM_A.mp ha)
      exact Or.inr ⟨e, hm, hpk, Or.inr ⟨x, hv, hpx, Or.inl rfl⟩⟩

end GraafVerif.Ops
