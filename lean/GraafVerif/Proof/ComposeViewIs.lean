import GraafVerif.Proof.ComposeView
import GraafVerif.Proof.ComposeAlgo
/-!
# Compose — "the views ARE the digraph `(n, P)`"

`ViewHas g vg n P`: the positional view `g` and the vertex-id view `vg` of some representation
value are the digraph with vertex set `0..n` and arc relation `P`; this is all BFS / DFS / Tarjan
need (`ViewHas.traversals`, `.tarjan`).  `ViewIs` adds strictly ascending rows and irreflexivity:
Johnson (`ViewIs.johnson`), and two values with `ViewIs` for equivalent relations have EQUAL views
(`ViewIs.unique`).  `AlgorithmsHold g vg n P` is everything the algorithm theorems say of such a
view; it is built in one place, `AlgorithmsHold.of_viewHas` (under it `ViewIs.algorithms`, and
`ReprModel.algorithms_after_any_history` of `Proof/ComposeHist.lean`).  Every well-formed value of every representation `ViewIs` its own `arcs()`
(`X.viewIs`, from `X.view_spec`; an `AdjacencyMap` when its keys are `0..order`, `Gen.AM.Contiguous`); generators, conversions, the driver's descriptions, the C11
operations, the `From` constructors and the random generators all state what they build in these terms.

`listRel l` is the relation of an arc list; `X.Arc d` unfolds to `listRel d.arcs`.  `Gen.ofList l` of
`Proof/GenArcRepr.lean` is the same function as a reducible abbreviation, for the modules below this one (the
relation in `ArcRepr.yields_build`, in `X.dgIs`); where the two meet (`ViewIs.of_holds`, `ViewIs.of_dgIs` applied to
`X.viewIs` and `X.dgIs`, `build_views`) they unify by unfolding.
-/
namespace GraafVerif.Compose
open GraafVerif GraafVerif.Repr GraafVerif.Query

def listRel (arcs : List (Nat × Nat)) : Rel := fun u v => (u, v) ∈ arcs

/-- The view is a well-formed `Graph` of order `n` with arc relation `P`, and the vertex-id view
has the vertex list `0..n` — all that BFS / DFS / Tarjan need (rows need not be sorted). -/
structure ViewHas (g : Graph) (vg : Tarjan.VGraph) (n : Nat) (P : Rel) : Prop where
  order : g.n = n
  wf : g.WF
  arc_iff : ∀ u v, g.A u v ↔ P u v
  vverts : vg.verts = List.range n
  vout : vg.out = g.out

/-- C04, C05 (BFS half), C06 w.r.t. `P`. -/
theorem ViewHas.traversals {g : Graph} {vg : Tarjan.VGraph} {n : Nat} {P : Rel} (h : ViewHas g vg n P)
    (S : List Nat) (hS : ∀ s ∈ S, s < n) (hnd : S.Nodup) : TraversalsHold P n S g :=
  traversalsHold_of h.order h.arc_iff h.wf hS hnd

theorem ViewHas.vout_iff {g : Graph} {vg : Tarjan.VGraph} {n : Nat} {P : Rel} (h : ViewHas g vg n P)
    (u v : Nat) : v ∈ vg.out u ↔ P u v := by
  rw [h.vout]; exact h.arc_iff u v

theorem ViewHas.closed {g : Graph} {vg : Tarjan.VGraph} {n : Nat} {P : Rel} (h : ViewHas g vg n P) :
    vg.Closed := by
  intro u _ v hv
  rw [h.vout] at hv
  rw [h.vverts, List.mem_range, ← h.order]
  exact (h.wf u v hv).2

/-- C09 w.r.t. the vertex set `0..n` and `P`. -/
theorem ViewHas.tarjan {g : Graph} {vg : Tarjan.VGraph} {n : Nat} {P : Rel} (h : ViewHas g vg n P) :
    TarjanHolds (List.range n) P vg :=
  h.vverts ▸ tarjanHolds_of h.vout_iff h.closed

/-- Every call of `components()` on the same `Tarjan` object. -/
theorem ViewHas.tarjanEveryCall {g : Graph} {vg : Tarjan.VGraph} {n : Nat} {P : Rel} (h : ViewHas g vg n P) :
    TarjanEveryCallHolds (List.range n) P vg :=
  h.vverts ▸ tarjanEveryCallHolds_of h.vout_iff h.closed

/-- `ViewHas` with strictly ascending rows and no loops: what Johnson and the uniqueness of the
view need in addition. -/
structure ViewIs (g : Graph) (vg : Tarjan.VGraph) (n : Nat) (P : Rel) : Prop where
  order : g.n = n
  wf : g.WF
  arc_iff : ∀ u v, g.A u v ↔ P u v
  asc : ∀ u, (g.out u).Pairwise (· < ·)
  irrefl : ∀ u, ¬ P u u
  vverts : vg.verts = List.range n
  vout : vg.out = g.out

theorem ViewIs.toHas {g : Graph} {vg : Tarjan.VGraph} {n : Nat} {P : Rel} (h : ViewIs g vg n P) :
    ViewHas g vg n P := ⟨h.order, h.wf, h.arc_iff, h.vverts, h.vout⟩

theorem ViewIs.of_viewSpec {g : Graph} {n : Nat} {arcs : List (Nat × Nat)} {o : Nat → Option (List Nat)}
    (vs : ViewSpec g n arcs o) {P : Rel} (hP : ∀ u v, (u, v) ∈ arcs ↔ P u v)
    {vg : Tarjan.VGraph} (hv : vg.verts = List.range n) (ho : vg.out = g.out) : ViewIs g vg n P :=
  ⟨vs.order, vs.wf, fun u v => (vs.arc_iff u v).trans (hP u v), vs.asc,
   fun u h => vs.irrefl u ((vs.arc_iff u u).2 ((hP u u).2 h)), hv, ho⟩

theorem ViewIs.congr {g : Graph} {vg : Tarjan.VGraph} {n : Nat} {P Q : Rel} (h : ViewIs g vg n P)
    (hPQ : ∀ u v, P u v ↔ Q u v) : ViewIs g vg n Q :=
  ⟨h.order, h.wf, fun u v => (h.arc_iff u v).trans (hPQ u v), h.asc,
   fun u hq => h.irrefl u ((hPQ u u).2 hq), h.vverts, h.vout⟩

theorem ViewIs.cast {g : Graph} {vg : Tarjan.VGraph} {m n : Nat} {P Q : Rel} (h : ViewIs g vg m P) (hm : m = n)
    (hPQ : ∀ u v, P u v ↔ Q u v) : ViewIs g vg n Q :=
  hm ▸ h.congr hPQ

/-- From "the value `d` IS `(n, P)`" to "its views ARE `(n, P)`", for any type of values whose
well-formed members have `ViewIs` of their own order and `arcs()` (`hview`: `X.viewIs`, or
`viewIs_okX` of `Proof/ComposeGen.lean` under C16's `OkX`).  The hypothesis `h` is what
`Gen.ArcRepr.Holds d n P`, `Gen.X.Realises d n P` (C14) and `OkX t ∧ C16.Same o a t.order t.arcs` (C16)
unfold to. -/
theorem ViewIs.of_holds {T : Type} {WF : T → Prop} {order : T → Nat} {arcs : T → List (Nat × Nat)}
    {view : T → Graph} {vview : T → Tarjan.VGraph}
    (hview : ∀ r, WF r → ViewIs (view r) (vview r) (order r) (listRel (arcs r))) {d : T} {n : Nat} {P : Rel}
    (h : WF d ∧ order d = n ∧ ∀ u v, (u, v) ∈ arcs d ↔ P u v) : ViewIs (view d) (vview d) n P :=
  (hview d h.1).cast h.2.1 h.2.2

theorem ViewIs.arcs_lt {g : Graph} {vg : Tarjan.VGraph} {n : Nat} {P : Rel} (h : ViewIs g vg n P)
    {u v : Nat} (hp : P u v) : u < n ∧ v < n :=
  h.order ▸ h.wf u v ((h.arc_iff u v).2 hp)

theorem ViewIs.traversals {g : Graph} {vg : Tarjan.VGraph} {n : Nat} {P : Rel} (h : ViewIs g vg n P)
    (S : List Nat) (hS : ∀ s ∈ S, s < n) (hnd : S.Nodup) : TraversalsHold P n S g :=
  h.toHas.traversals S hS hnd

theorem ViewIs.closed {g : Graph} {vg : Tarjan.VGraph} {n : Nat} {P : Rel} (h : ViewIs g vg n P) :
    vg.Closed := h.toHas.closed

theorem ViewIs.unique {g₁ g₂ : Graph} {vg₁ vg₂ : Tarjan.VGraph} {n : Nat} {P Q : Rel}
    (h₁ : ViewIs g₁ vg₁ n P) (h₂ : ViewIs g₂ vg₂ n Q) (hPQ : ∀ u v, P u v ↔ Q u v) :
    g₁ = g₂ ∧ vg₁ = vg₂ := by
  obtain rfl : g₁ = g₂ := graph_eq_of_asc (h₁.order.trans h₂.order.symm) h₁.asc h₂.asc
    fun u v => (h₁.arc_iff u v).trans ((hPQ u v).trans (h₂.arc_iff u v).symm)
  obtain ⟨v₁, o₁⟩ := vg₁
  obtain ⟨v₂, o₂⟩ := vg₂
  obtain rfl : v₁ = v₂ := h₁.vverts.trans h₂.vverts.symm
  obtain rfl : o₁ = o₂ := h₁.vout.trans h₂.vout.symm
  exact ⟨rfl, rfl⟩

/-- Everything the algorithm theorems say of a view that IS the digraph `(n, P)`. -/
structure AlgorithmsHold (g : Graph) (vg : Tarjan.VGraph) (n : Nat) (P : Rel) : Prop where
  traversals : ∀ S : List Nat, (∀ s ∈ S, s < n) → S.Nodup → TraversalsHold P n S g
  tarjan : TarjanHolds (List.range n) P vg
  tarjanEveryCall : TarjanEveryCallHolds (List.range n) P vg
  johnson : JohnsonHolds P g
  johnsonRepeat : JohnsonRepeatHolds P g

/-- The one place where the record is built.  Johnson needs no loops and duplicate-free rows
(sortedness is not needed), which is also all that `ReprModel.view_spec` says of a row. -/
theorem AlgorithmsHold.of_viewHas {g : Graph} {vg : Tarjan.VGraph} {n : Nat} {P : Rel} (h : ViewHas g vg n P)
    (hl : Johnson.NoLoops g) (hr : Johnson.RowsNodup g) : AlgorithmsHold g vg n P :=
  ⟨h.traversals, h.tarjan, h.tarjanEveryCall, johnsonHolds_of h.arc_iff h.wf hl hr,
   johnsonRepeatHolds_of h.arc_iff h.wf hl hr⟩

theorem ViewIs.algorithms {g : Graph} {vg : Tarjan.VGraph} {n : Nat} {P : Rel} (h : ViewIs g vg n P) :
    AlgorithmsHold g vg n P :=
  .of_viewHas h.toHas (fun u hu => h.irrefl u ((h.arc_iff u u).1 hu)) fun u => Repr.sortedS_nodup (h.asc u)

/-- C10 w.r.t. `P`, and every one of `k` calls of `circuits()` on the same `Johnson75` object. -/
theorem ViewIs.johnson {g : Graph} {vg : Tarjan.VGraph} {n : Nat} {P : Rel} (h : ViewIs g vg n P) :
    JohnsonHolds P g ∧ JohnsonRepeatHolds P g :=
  ⟨h.algorithms.johnson, h.algorithms.johnsonRepeat⟩

theorem _root_.GraafVerif.Repr.AdjList.viewIs (d : AdjList) (h : d.WF) : ViewIs d.view d.vview d.order d.Arc :=
  ViewIs.of_viewSpec (d.view_spec h) (fun _ _ => Iff.rfl) rfl rfl
theorem _root_.GraafVerif.Repr.AdjMatrix.viewIs (d : AdjMatrix) (h : d.WF) : ViewIs d.view d.vview d.order d.Arc :=
  ViewIs.of_viewSpec (d.view_spec h) (fun _ _ => Iff.rfl) rfl rfl
theorem _root_.GraafVerif.Repr.EdgeList.viewIs (d : EdgeList) (h : d.WF) : ViewIs d.view d.vview d.order d.Arc :=
  ViewIs.of_viewSpec (d.view_spec h) (fun _ _ => Iff.rfl) rfl rfl
theorem _root_.GraafVerif.Repr.AdjListW.viewIs (d : AdjListW) (h : d.WF) : ViewIs d.view d.vview d.order d.Arc :=
  ViewIs.of_viewSpec (d.view_spec h) (fun _ _ => Iff.rfl) rfl rfl
theorem _root_.GraafVerif.Repr.AdjMap.viewIs (d : AdjMap) (h : d.WF) (hc : Gen.AM.Contiguous d) : ViewIs d.view d.vview d.order d.Arc :=
  ViewIs.of_viewSpec (d.view_spec h hc) (fun _ _ => Iff.rfl) hc rfl

/-- The weighted twin of `X.viewIs` with `ViewIs.cast` and `ViewIs.algorithms` in one: C03, C05 (Dijkstra half), C07, C08
and the repeated calls on the weighted view of a well-formed `d` that has order `n` and the weighted arcs `W`. -/
theorem _root_.GraafVerif.Repr.AdjListW.weightedHold (d : AdjListW) (h : d.WF) {n : Nat} {W : WRel} (hn : d.order = n)
    (hW : ∀ u v w, d.WArc u v w ↔ W u v w) : WeightedHold W n d.wview :=
  have vs := d.wview_spec h
  weightedHold_of (vs.order.trans hn) (fun u v w => (vs.arc_iff u v w).trans (hW u v w)) vs.wf vs.functional
end GraafVerif.Compose
