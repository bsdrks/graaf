import GraafVerif.Proof.LawsInst
/-!
# Laws2 — `filter_vertices` (C11's fourth operation; `AdjacencyMap` only, arbitrary key sets)

Set level (`specFilter` of `Spec/Ops.lean`) and the lifts through `filterAM_spec` + `canonAM`.
The result of `filter_vertices` may have NO vertex (order 0); every law below holds there too, except the
one with `union` (see `filter_union` and the witness in `Thm/Laws2.lean`).
-/
namespace GraafVerif.Laws2
open GraafVerif.Repr GraafVerif.Ops GraafVerif.Query GraafVerif.Pred GraafVerif.Laws

theorem specFilter_filter (p q : Nat → Bool) (g : DG) :
    specFilter p (specFilter q g) = specFilter (fun v => p v && q v) g := by
  rw [DG.ext_iff']
  simp only [specFilter, Bool.and_eq_true]
  exact ⟨fun v => ⟨fun x => ⟨x.1.1, x.2, x.1.2⟩, fun x => ⟨⟨x.1, x.2.2⟩, x.2.1⟩⟩,
    fun u v => ⟨fun x => ⟨x.1.1, ⟨x.2.1, x.1.2.1⟩, x.2.2, x.1.2.2⟩,
      fun x => ⟨⟨x.1, x.2.1.2, x.2.2.2⟩, x.2.1.1, x.2.2.1⟩⟩⟩

theorem specFilter_of_all {p : Nat → Bool} {g : DG} (hv : g.Valid) (h : ∀ v, g.V v → p v = true) : specFilter p g = g := by
  rw [DG.ext_iff']
  exact ⟨fun v => ⟨fun x => x.1, fun x => ⟨x, h v x⟩⟩,
    fun u v => ⟨fun x => x.1, fun x => ⟨x, h u (hv u v x).1, h v (hv u v x).2.1⟩⟩⟩

theorem specFilter_true (g : DG) : specFilter (fun _ => true) g = g := by
  rw [DG.ext_iff']
  exact ⟨fun v => ⟨fun x => x.1, fun x => ⟨x, rfl⟩⟩, fun u v => ⟨fun x => x.1, fun x => ⟨x, rfl, rfl⟩⟩⟩

theorem specFilter_eq_iff {p : Nat → Bool} {g : DG} (hv : g.Valid) : specFilter p g = g ↔ ∀ v, g.V v → p v = true := by
  constructor
  · intro h v x
    have := (DG.ext_iff'.mp h).1 v
    exact (this.mpr x).2
  · exact specFilter_of_all hv

theorem specFilter_converse (p : Nat → Bool) (g : DG) :
    specConverse (specFilter p g) = specFilter p (specConverse g) := by
  rw [DG.ext_iff']
  exact ⟨fun _ => Iff.rfl, fun u v => ⟨fun ⟨a, b, c⟩ => ⟨a, c, b⟩, fun ⟨a, b, c⟩ => ⟨a, c, b⟩⟩⟩

theorem specFilter_complement (p : Nat → Bool) (g : DG) :
    specComplement (specFilter p g) = specFilter p (specComplement g) := by
  rw [DG.ext_iff']
  refine ⟨fun _ => Iff.rfl, fun u v => ?_⟩
  exact ⟨fun ⟨⟨a, b⟩, ⟨c, d⟩, e, f⟩ => ⟨⟨a, c, e, fun x => f ⟨x, b, d⟩⟩, b, d⟩,
    fun ⟨⟨a, c, e, f⟩, b, d⟩ => ⟨⟨a, b⟩, ⟨c, d⟩, e, fun x => f x.1⟩⟩

theorem specFilter_union (p : Nat → Bool) (g h : DG) :
    specFilter p (specUnion g h) = specUnion (specFilter p g) (specFilter p h) := by
  rw [DG.ext_iff']
  exact ⟨fun _ => or_and_right, fun _ _ => or_and_right⟩

theorem specFilter_sub (p : Nat → Bool) (g : DG) : DGP.Sub (specFilter p g) g := ⟨fun _ x => x.1, fun _ _ x => x.1⟩

theorem specFilter_hereditary (p : Nat → Bool) (g : DG) :
    (DGP.Complete g → DGP.Complete (specFilter p g)) ∧ (DGP.Semicomplete g → DGP.Semicomplete (specFilter p g)) ∧
    (DGP.Tournament g → DGP.Tournament (specFilter p g)) ∧ (DGP.Symmetric g → DGP.Symmetric (specFilter p g)) ∧
    (DGP.Oriented g → DGP.Oriented (specFilter p g)) := by
  refine ⟨fun h u v a b c => ⟨h u v a.1 b.1 c, a.2, b.2⟩,
    fun h u v a b c => (h u v a.1 b.1 c).elim (fun x => Or.inl ⟨x, a.2, b.2⟩) (fun x => Or.inr ⟨x, b.2, a.2⟩),
    fun h u v a b c => ⟨fun x y => (h u v a.1 b.1 c).mp x.1 y.1,
      fun x => ⟨(h u v a.1 b.1 c).mpr (fun y => x ⟨y, b.2, a.2⟩), a.2, b.2⟩⟩,
    fun h u v x => ⟨h u v x.1, x.2.2, x.2.1⟩, fun h u v x y => h u v x.1 y.1⟩

theorem filter_wf (g : AdjMap) (p : Nat → Bool) (h : g.WF) : (filterAM g p).WF := (filterAM_spec g p h).1
theorem filter_abs (g : AdjMap) (p : Nat → Bool) (h : g.WF) : absAM (filterAM g p) = specFilter p (absAM g) :=
  (filterAM_spec g p h).2

theorem filter_filter (g : AdjMap) (p q : Nat → Bool) (h : g.WF) :
    filterAM (filterAM g q) p = filterAM g (fun v => p v && q v) :=
  canonAM (filter_wf _ p (filter_wf g q h)) (filter_wf g _ h)
    (by rw [filter_abs _ p (filter_wf g q h), filter_abs g q h, filter_abs g _ h, specFilter_filter])

theorem filter_comm (g : AdjMap) (p q : Nat → Bool) (h : g.WF) :
    filterAM (filterAM g q) p = filterAM (filterAM g p) q := by
  rw [filter_filter g p q h, filter_filter g q p h]
  congr 1; funext v; exact Bool.and_comm _ _

theorem filter_idem (g : AdjMap) (p : Nat → Bool) (h : g.WF) : filterAM (filterAM g p) p = filterAM g p := by
  rw [filter_filter g p p h]; congr 1; funext v; exact Bool.and_self _

theorem filter_eq_iff (g : AdjMap) (p : Nat → Bool) (h : g.WF) : filterAM g p = g ↔ ∀ v ∈ g.vertices, p v = true := by
  constructor
  · intro e
    exact (specFilter_eq_iff (absAM_valid h)).mp (by rw [← filter_abs g p h, e])
  · intro hp
    exact canonAM (filter_wf g p h) h (by rw [filter_abs g p h]; exact specFilter_of_all (absAM_valid h) hp)

theorem filter_true (g : AdjMap) (h : g.WF) : filterAM g (fun _ => true) = g :=
  (filter_eq_iff g _ h).mpr (fun _ _ => rfl)

theorem filter_vertices_arcs (g : AdjMap) (p : Nat → Bool) (h : g.WF) :
    (∀ v, v ∈ (filterAM g p).vertices ↔ v ∈ g.vertices ∧ p v = true) ∧
    (∀ u v, (u, v) ∈ (filterAM g p).arcs ↔ (u, v) ∈ g.arcs ∧ p u = true ∧ p v = true) ∧
    (∀ u v, (filterAM g p).hasArc u v = (g.hasArc u v && p u && p v)) := by
  have ha := filter_abs g p h
  have hA : ∀ u v, (filterAM g p).hasArc u v = true ↔ g.hasArc u v = true ∧ p u = true ∧ p v = true := fun u v => by
    have := (DG.ext_iff'.mp ha).2 u v; exact this
  refine ⟨fun v => ?_, fun u v => ?_, fun u v => ?_⟩
  · have := (DG.ext_iff'.mp ha).1 v; exact this
  · have e1 : (u, v) ∈ (filterAM g p).arcs ↔ (filterAM g p).hasArc u v = true :=
      (Query.AM.core_correct (filter_wf g p h)).arcs_mem u v
    have e2 : (u, v) ∈ g.arcs ↔ g.hasArc u v = true := (Query.AM.core_correct h).arcs_mem u v
    rw [e1, e2]; exact hA u v
  · rw [Bool.and_assoc]
    exact Bool.eq_iff_iff.mpr ((hA u v).trans (by rw [Bool.and_eq_true, Bool.and_eq_true]))

theorem filter_converse (g : AdjMap) (p : Nat → Bool) (h : g.WF) :
    converseAM (filterAM g p) = filterAM (converseAM g) p := by
  have h1 := converseAM_spec (filterAM g p) (filter_wf g p h)
  have h2 := converseAM_spec g h
  exact canonAM h1.1 (filter_wf _ p h2.1)
    (by rw [h1.2, filter_abs g p h, filter_abs _ p h2.1, h2.2, specFilter_converse])

theorem filter_complement (g : AdjMap) (p : Nat → Bool) (h : g.WF) :
    complementAM (filterAM g p) = filterAM (complementAM g) p := by
  have h1 := complementAM_spec (filterAM g p) (filter_wf g p h)
  have h2 := complementAM_spec g h
  exact canonAM h1.1 (filter_wf _ p h2.1)
    (by rw [h1.2, filter_abs g p h, filter_abs _ p h2.1, h2.2, specFilter_complement])

theorem order_pos_iff (d : AdjMap) : 0 < d.order ↔ ∃ v, v ∈ d.vertices := by
  rw [← List.length_pos_iff_exists_mem, AdjMap.vertices, List.length_map]; exact Iff.rfl

theorem filter_order_pos {d : AdjMap} {p : Nat → Bool} (hd : d.WF) (hx : 0 < (filterAM d p).order) : 0 < d.order := by
  obtain ⟨v, hv⟩ := (order_pos_iff _).mp hx
  exact (order_pos_iff d).mpr ⟨v, (((filter_vertices_arcs d p hd).1 v).mp hv).1⟩

/-- `hne`: one of the two filtered operands must keep a vertex, since `union` of two vertex-less maps returns
`trivial()` (witness in `Thm/Laws2.lean`) -/
theorem filter_union (g k : AdjMap) (p : Nat → Bool) (ap : Nat) (hap : 0 < ap) (hg : g.WF) (hk : k.WF)
    (hne : 0 < (filterAM g p).order + (filterAM k p).order) :
    ∃ r, unionAM g k ap = some r ∧ unionAM (filterAM g p) (filterAM k p) ap = some (filterAM r p) := by
  have hpos : 0 < g.order + k.order :=
    Nat.add_pos_iff_pos_or_pos.mpr ((Nat.add_pos_iff_pos_or_pos.mp hne).imp (filter_order_pos hg) (filter_order_pos hk))
  obtain ⟨r, e1, hr, ar⟩ := unionAM_spec g k ap hap hg hk hpos
  refine ⟨r, e1, (C11.Ok.eq_some_iff (fun _ _ => canonAM)
    (unionAM_spec _ _ ap hap (filter_wf g p hg) (filter_wf k p hk) hne) (filter_wf r p hr)).mpr ?_⟩
  rw [filter_abs g p hg, filter_abs k p hk, filter_abs r p hr, ar, specFilter_union]

theorem filter_sub (g : AdjMap) (p : Nat → Bool) (h : g.WF) :
    Blanket.isSubdigraph (Query.AM.core (filterAM g p)) (Query.AM.core g) = true ∧
    Blanket.isSuperdigraph (Query.AM.core g) (Query.AM.core (filterAM g p)) = true ∧
    (Blanket.isSpanningSubdigraph (Query.AM.core (filterAM g p)) (Query.AM.core g) = true ↔ filterAM g p = g) := by
  have hf := filter_wf g p h
  have hs : Blanket.isSubdigraph (Query.AM.core (filterAM g p)) (Query.AM.core g) = true :=
    (isSubdigraph_correct (Query.AM.core_correct hf) (Query.AM.core_correct h) (Query.AM.abs_valid hf)).mpr
      ((def_iff_sub _ _).mpr (by
        show DGP.Sub (absAM (filterAM g p)) (absAM g)
        rw [filter_abs g p h]; exact specFilter_sub p (absAM g)))
  refine ⟨hs, hs, ?_⟩
  rw [isSpanningSubdigraph_correct (Query.AM.core_correct hf) (Query.AM.core_correct h)]
  constructor
  · rintro ⟨hv, _⟩
    rw [filter_eq_iff g p h]
    intro v hv'
    have : v ∈ (filterAM g p).vertices := by
      show v ∈ (Query.AM.abs (filterAM g p)).verts; rw [hv]; exact hv'
    exact (((filter_vertices_arcs g p h).1 v).mp this).2
  · intro e; rw [e]; exact ⟨rfl, fun _ _ x => x⟩

theorem filter_hereditary (g : AdjMap) (p : Nat → Bool) (h : g.WF) :
    (Pred.AM.isComplete g = true → Pred.AM.isComplete (filterAM g p) = true) ∧
    (Pred.AM.isSemicomplete g = true → Pred.AM.isSemicomplete (filterAM g p) = true) ∧
    (Pred.AM.isTournament g = true → Pred.AM.isTournament (filterAM g p) = true) ∧
    (Blanket.isSymmetric (Query.AM.core g) = true → Blanket.isSymmetric (Query.AM.core (filterAM g p)) = true) ∧
    (Blanket.isOriented (Query.AM.core g) = true → Blanket.isOriented (Query.AM.core (filterAM g p)) = true) := by
  have hf := filter_wf g p h
  have hh := specFilter_hereditary p (absAM g)
  rw [← filter_abs g p h] at hh
  have hc := Query.AM.core_correct h
  have hcf := Query.AM.core_correct hf
  exact ⟨(imp_congr ((Pred.AM.isComplete_correct h).trans (def_iff_complete _))
      ((Pred.AM.isComplete_correct hf).trans (def_iff_complete _))).mpr hh.1,
    (imp_congr ((Pred.AM.isSemicomplete_correct h).trans (def_iff_semicomplete _))
      ((Pred.AM.isSemicomplete_correct hf).trans (def_iff_semicomplete _))).mpr hh.2.1,
    (imp_congr ((Pred.AM.isTournament_correct h).trans (def_iff_tournament _))
      ((Pred.AM.isTournament_correct hf).trans (def_iff_tournament _))).mpr hh.2.2.1,
    (imp_congr ((isSymmetric_correct hc).trans (def_iff_symmetric _))
      ((isSymmetric_correct hcf).trans (def_iff_symmetric _))).mpr hh.2.2.2.1,
    (imp_congr ((isOriented_correct hc).trans (def_iff_oriented _))
      ((isOriented_correct hcf).trans (def_iff_oriented _))).mpr hh.2.2.2.2⟩

end GraafVerif.Laws2
