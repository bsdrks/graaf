import GraafVerif.Proof.JohnsonUnblock
import GraafVerif.Proof.JohnsonTarjan
/-!
# The functions of `Model/Johnson.lean` on their input shapes

`circuit` unfolded once: the neighbour loop is a fold of `circuitStep` (three cases), `circuitFinish` is what follows
it.  What `circuits` prepares a round with: `minByKey` returns a member with the least head, the input `AM.ofGraph g` has
the vertices `0..n` and is closed (the `vgOf` facts of `Proof/SccBasics.lean`), `AM.filter` keeps the
vertices and arcs inside a predicate (and closedness), `resetFor` clears its vertices and touches nothing else
(`RSpec`).
Both the proofs about `circuits` and the comparison with the regenerated `Johnson75` (`Proof/AlgoGen2Johnson.lean`)
start from these.
-/
namespace GraafVerif.Johnson
open GraafVerif

theorem circuitStep_emit (rec : JState → Nat → Bool × JState) (s : Nat) (acc : Bool × JState) :
    circuitStep rec s acc s = (true, { acc.2 with result := acc.2.result ++ [acc.2.stack] }) := by
  simp only [circuitStep, if_true]

theorem circuitStep_skip {rec : JState → Nat → Bool × JState} {s w : Nat} {acc : Bool × JState}
    (hws : w ≠ s) (hbl : acc.2.isBlocked w = true) : circuitStep rec s acc w = acc := by
  simp only [circuitStep, hws, hbl, if_false, Bool.not_true, Bool.false_eq_true]

theorem circuitStep_call {rec : JState → Nat → Bool × JState} {s w : Nat} {acc : Bool × JState}
    (hws : w ≠ s) (hbl : acc.2.isBlocked w = false) :
    circuitStep rec s acc w = (acc.1 || (rec acc.2 w).1, (rec acc.2 w).2) := by
  simp only [circuitStep, hws, hbl, if_false, Bool.not_false, if_true]

/-- The part of `circuit` after the neighbour loop. -/
def circuitFinish (comp : AM) (uf v : Nat) (r : Bool × JState) : Bool × JState :=
  (r.1, if r.1 then { unblock uf r.2 v with stack := (unblock uf r.2 v).stack.dropLast }
        else { r.2 with B := addToB v r.2.B (comp.out v), stack := r.2.stack.dropLast })

theorem circuit_succ (comp : AM) (s uf fuel : Nat) (st : JState) (v : Nat) :
    circuit comp s uf (fuel+1) st v =
      circuitFinish comp uf v ((comp.out v).foldl (circuitStep (circuit comp s uf fuel) s)
        (false, { st with stack := st.stack ++ [v], blocked := insBlocked v st.blocked })) := by
  show circuit comp s uf (fuel+1) st v = _
  unfold circuitFinish
  simp only [circuit]
  split <;> rfl

theorem mem_insBlocked (v : Nat) (bl : List Nat) (x : Nat) : x ∈ insBlocked v bl ↔ x = v ∨ x ∈ bl := by
  unfold insBlocked
  split
  · rename_i h
    have : v ∈ bl := by simpa using h
    constructor
    · intro hx; exact Or.inr hx
    · rintro (rfl | hx)
      · exact this
      · exact hx
  · simp

/-- `keyLt` is `<` on this rank (`None` first). -/
def keyRank : Option Nat → Nat
  | none => 0
  | some a => a + 1

theorem keyLt_eq_false {p q : Option Nat} : keyLt p q = false ↔ keyRank q ≤ keyRank p := by
  cases p <;> cases q <;> simp [keyLt, keyRank]

theorem keyLt_irrefl (p : Option Nat) : keyLt p p = false := keyLt_eq_false.2 (Nat.le_refl _)

theorem keyLt_asymm {p q : Option Nat} (h : keyLt p q = true) : keyLt q p = false :=
  keyLt_eq_false.2 (Nat.le_of_lt (Nat.lt_of_not_le fun h' => by rw [keyLt_eq_false.2 h'] at h; cases h))

theorem not_keyLt_trans {p q r : Option Nat} (h1 : keyLt p q = false) (h2 : keyLt q r = false) :
    keyLt p r = false :=
  keyLt_eq_false.2 (Nat.le_trans (keyLt_eq_false.1 h2) (keyLt_eq_false.1 h1))

theorem foldl_minKey (xs : List (List Nat)) (best : List Nat) :
    xs.foldl (fun best x => if keyLt x.head? best.head? then x else best) best ∈ best :: xs ∧
    ∀ y ∈ best :: xs, keyLt y.head?
      (xs.foldl (fun best x => if keyLt x.head? best.head? then x else best) best).head? = false := by
  induction xs generalizing best with
  | nil => exact ⟨List.mem_singleton_self _, fun y hy => List.mem_singleton.1 hy ▸ keyLt_irrefl _⟩
  | cons x xs ih =>
    rw [List.foldl_cons]
    cases hk : keyLt x.head? best.head? with
    | true =>
      obtain ⟨h1, h2⟩ := ih x
      simp only [if_true]
      refine ⟨List.mem_cons_of_mem _ h1, fun y hy => ?_⟩
      rcases List.mem_cons.1 hy with rfl | hy
      · exact not_keyLt_trans (keyLt_asymm hk) (h2 x List.mem_cons_self)
      · exact h2 y hy
    | false =>
      obtain ⟨h1, h2⟩ := ih best
      simp only [Bool.false_eq_true, if_false]
      refine ⟨?_, fun y hy => ?_⟩
      · rcases List.mem_cons.1 h1 with h | h
        · rw [h]; exact List.mem_cons_self
        · exact List.mem_cons_of_mem _ (List.mem_cons_of_mem _ h)
      · rcases List.mem_cons.1 hy with rfl | hy
        · exact h2 y List.mem_cons_self
        · rcases List.mem_cons.1 hy with rfl | hy
          · exact not_keyLt_trans hk (h2 best List.mem_cons_self)
          · exact h2 y (List.mem_cons_of_mem _ hy)

theorem minByKey_spec : ∀ (cs : List (List Nat)) (m : List Nat), minByKey cs = some m →
    m ∈ cs ∧ ∀ c ∈ cs, keyLt c.head? m.head? = false := by
  intro cs m h
  cases cs with
  | nil => simp [minByKey] at h
  | cons c cs =>
    simp only [minByKey, Option.some.injEq] at h
    exact h ▸ foldl_minKey cs c

theorem minByKey_some_of_ne_nil : ∀ (cs : List (List Nat)), cs ≠ [] → ∃ m, minByKey cs = some m
  | [], h => absurd rfl h
  | _ :: _, _ => ⟨_, rfl⟩

theorem mem_ofGraph_verts {g : Graph} {x : Nat} : x ∈ (AM.ofGraph g).verts ↔ x < g.n := Cross2.vgOf_mem

theorem ofGraph_closed {g : Graph} (hwf : g.WF) : (AM.ofGraph g).vg.Closed :=
  AM.vg_ofGraph g ▸ Cross2.vgOf_closed hwf

theorem ofGraph_order (g : Graph) : (AM.ofGraph g).order = g.n := List.length_range

theorem mem_filter_verts {a : AM} {p : Nat → Bool} {x : Nat} :
    x ∈ (a.filter p).verts ↔ x ∈ a.verts ∧ p x = true := List.mem_filter

theorem mem_filter_out {a : AM} {p : Nat → Bool} {u v : Nat} :
    v ∈ (a.filter p).out u ↔ p u = true ∧ v ∈ a.out u ∧ p v = true := by
  simp only [AM.filter]
  split
  · rename_i h; simp [List.mem_filter, h]
  · rename_i h; simp [h]

theorem filter_order_le (a : AM) (p : Nat → Bool) : (a.filter p).order ≤ a.order :=
  List.length_filter_le _ _

theorem filter_closed {a : AM} (hcl : a.vg.Closed) (p : Nat → Bool) : (a.filter p).vg.Closed := by
  intro u hu v hv
  obtain ⟨_, hv, hpv⟩ := mem_filter_out.1 hv
  exact mem_filter_verts.2 ⟨hcl u (mem_filter_verts.1 hu).1 v hv, hpv⟩

theorem resetFor_cons (v : Nat) (vs : List Nat) (st : JState) :
    resetFor (v :: vs) st = resetFor vs (st.clear v) := rfl

/-- What `resetFor vs` guarantees: `stack` and `result` stay, the vertices of `vs` are free afterwards, and the
shape of `blocked` and the B-lists that the invariants speak of is kept. -/
structure RSpec (vs : List Nat) (st st' : JState) : Prop where
  stack : st'.stack = st.stack
  result : st'.result = st.result
  blen : st'.B.length = st.B.length
  bl : ∀ x, x ∈ st'.blocked → x ∈ st.blocked ∧ x ∉ vs
  nd : st.blocked.Nodup → st'.blocked.Nodup
  i1 : (∀ y, y ∉ st.blocked → st.Bof y = []) → ∀ y, y ∉ st'.blocked → st'.Bof y = []

theorem resetFor_spec : ∀ (vs : List Nat) (st : JState), RSpec vs st (resetFor vs st) := by
  intro vs
  induction vs with
  | nil => exact fun st => ⟨rfl, rfl, rfl, fun x hx => ⟨hx, List.not_mem_nil⟩, fun h => h, fun h => h⟩
  | cons v vs ih =>
    intro st
    have ih := ih (st.clear v)
    rw [resetFor_cons]
    refine ⟨ih.stack, ih.result, ih.blen.trans (List.length_set ..), ?_,
      fun h => ih.nd (h.sublist List.filter_sublist), ?_⟩
    · intro x hx
      obtain ⟨h1, h2⟩ := ih.bl x hx
      obtain ⟨h3, h4⟩ := mem_clear_blocked.1 h1
      exact ⟨h3, fun hm => (List.mem_cons.1 hm).elim h4 h2⟩
    · intro h1
      apply ih.i1
      intro y hy
      rw [clear_Bof]
      split
      · rfl
      · rename_i hyv
        exact h1 y (fun hyb => hy (mem_clear_blocked.2 ⟨hyb, hyv⟩))

end GraafVerif.Johnson
