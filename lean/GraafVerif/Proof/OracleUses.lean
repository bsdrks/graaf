import GraafVerif.Proof.OracleReach
import GraafVerif.Proof.OracleHop
import GraafVerif.Proof.OracleWDist
/-!
# Corollaries in the exact shapes the drivers use the oracles

* H04/H05 (`mkCtx`): `reachSetB g S` for order `≤ 40`, else `(hopDistB g S).map Option.isSome`;
* H03: `(wdistB g S).1` on non-negative weights (flag never looked at);
* H07: `wdistB g [s]` (flag and entries), tags from `(wdistB g (List.range n)).2`;
* H08: rows `(wdistB g [s]).1`, skip when `(List.range g.n).any (fun s => (wdistB g [s]).2)`.
-/
namespace GraafVerif.OracleProof

/-- H04 for order `> 40`: reachability read off the hop-distance oracle. -/
theorem hop_isSome_spec {g : Graph} (hwf : g.WF) {S : List Nat} (hS : ∀ s ∈ S, s < g.n) (v : Nat) :
    ((hopDistB g S).map Option.isSome)[v]?.getD false = true ↔ ReachFrom g S v := by
  rw [getD_map_isSome, Option.isSome_iff_ne_none, Ne, (hopDistB_done hwf hS).none_iff, Classical.not_not]

/-- The two reachability oracles of H04 agree entry by entry. -/
theorem reach_eq_hop_isSome {g : Graph} (hwf : g.WF) {S : List Nat} (hS : ∀ s ∈ S, s < g.n) :
    reachSetB g S = (hopDistB g S).map Option.isSome :=
  Vec.ext_getD false (by rw [reachSetB_length hwf S, List.length_map, hopDistB_length g S])
    (fun v => Bool.eq_iff_iff.mpr ((reachSetB_spec hwf hS v).trans (hop_isSome_spec hwf hS v).symm))

/-- H03: on non-negative weights the flag is `false`. -/
theorem wdistB_nonneg_flag {g : WGraph} (hwf : g.WF) (hnn : g.NonNeg) {S : List Nat}
    (hS : ∀ s ∈ S, s < g.n) : (wdistB g S).2 = false := by
  cases hf : (wdistB g S).2 with
  | false => rfl
  | true => exact absurd ((wdistB_flag hwf hS).mp hf) (hnn.noNegCycle.not_negReachableFrom S)

/-- H08's skip test / H07's `anyNeg` tag: some single-source flag is raised iff the digraph has a
negative circuit. -/
theorem anyFlag_iff {g : WGraph} (hwf : g.WF) :
    (List.range g.n).any (fun s => (wdistB g [s]).2) = true ↔ ∃ x, NegCycleAt g x := by
  rw [List.any_eq_true]
  constructor
  · rintro ⟨s, hs, hf⟩
    obtain ⟨x, _, hneg⟩ := (wdistB_flag hwf (single_lt (List.mem_range.mp hs))).mp hf
    exact ⟨x, hneg⟩
  · rintro ⟨x, hneg⟩
    have hx := negCycle_lt hwf hneg
    exact ⟨x, List.mem_range.mpr hx,
      (wdistB_flag hwf (single_lt hx)).mpr ⟨x, ⟨x, List.mem_singleton_self x, 0, 0, WWalk.nil x⟩, hneg⟩⟩

/-- H07's `anyNeg` tag: all vertices as sources. -/
theorem allSrcFlag_iff {g : WGraph} (hwf : g.WF) :
    (wdistB g (List.range g.n)).2 = true ↔ ∃ x, NegCycleAt g x := by
  rw [wdistB_flag hwf (fun s hs => List.mem_range.mp hs)]
  constructor
  · rintro ⟨x, _, hneg⟩; exact ⟨x, hneg⟩
  · rintro ⟨x, hneg⟩
    exact ⟨x, ⟨x, List.mem_range.mpr (negCycle_lt hwf hneg), 0, 0, WWalk.nil x⟩, hneg⟩

/-- H07 in the vocabulary of C07 (`Spec/Bfm.lean`). -/
theorem wdistB_single {g : WGraph} (hwf : g.WF) {s : Nat} (hs : s < g.n) :
    ((wdistB g [s]).2 = true ↔ Bfm.NegReachable g s) ∧
    ((wdistB g [s]).2 = false → Bfm.Exact g s (wdistB g [s]).1) := by
  refine ⟨wdistB_flag hwf (single_lt hs), fun hf => ?_⟩
  obtain ⟨hlen, hfin, hinf⟩ := wdistB_spec hwf (single_lt hs) hf
  refine ⟨hlen, fun v x hx => (hfin v x).mp (by rw [hx]; rfl), fun v hv => (hinf v).mp (by rw [hv]; rfl)⟩

end GraafVerif.OracleProof
