import GraafVerif.Model.ReprEqMxIter
import GraafVerif.Proof.ReprMX
/-!
# The literal `ArcsIterator` loop and the `count_ones` sum agree with the filter forms

`trailing_zeros` and `x &= x - 1` peel the set bits of a word off in ascending order (`bitsList_cons`;
`clearLow_spec` goes through `Nat.testBit` of `x - 1`), so above the loop variant `μ` the loop emits the
cells that remain (`drain_eq`), for every matrix.
-/
namespace GraafVerif.Repr.AdjMatrix
open GraafVerif.Repr

theorem exists_lowbit_decomp {x t : Nat} (ht : x.testBit t = true) (hlow : ∀ k, k < t → x.testBit k = false) :
    ∃ a, x = 2 ^ (t + 1) * a + 2 ^ t := by
  have hmod : x % 2 ^ t = 0 := Nat.eq_of_testBit_eq fun i => by
    rw [Nat.testBit_mod_two_pow, Nat.zero_testBit]
    by_cases hi : i < t
    · rw [hlow i hi, Bool.and_false]
    · rw [decide_eq_false hi, Bool.false_and]
  have hodd : (x / 2 ^ t) % 2 = 1 := by
    have := Nat.testBit_div_two_pow (n := t) x 0
    rw [Nat.zero_add, ht, Nat.testBit_zero] at this
    exact of_decide_eq_true this
  have h1 := Nat.div_add_mod x (2 ^ t)
  have h2 := Nat.div_add_mod (x / 2 ^ t) 2
  rw [hmod, Nat.add_zero] at h1
  rw [hodd] at h2
  refine ⟨x / 2 ^ t / 2, ?_⟩
  calc x = 2 ^ t * (2 * (x / 2 ^ t / 2) + 1) := by rw [h2, h1]
    _ = 2 ^ (t + 1) * (x / 2 ^ t / 2) + 2 ^ t := by rw [Nat.mul_add, Nat.mul_one, ← Nat.mul_assoc, ← Nat.pow_succ]

theorem testBit_pred {x t : Nat} (ht : x.testBit t = true) (hlow : ∀ k, k < t → x.testBit k = false) (j : Nat) :
    (x - 1).testBit j = if j < t then true else if j = t then false else x.testBit j := by
  obtain ⟨a, rfl⟩ := exists_lowbit_decomp ht hlow
  have hlt : 2 ^ t < 2 ^ (t + 1) := Nat.pow_lt_pow_right (by decide) (Nat.lt_succ_self t)
  rw [Nat.add_sub_assoc (Nat.two_pow_pos t), Nat.testBit_two_pow_mul_add a (Nat.lt_of_le_of_lt (Nat.sub_le _ _) hlt),
    Nat.testBit_two_pow_mul_add a hlt, Nat.testBit_two_pow_sub_one, Nat.testBit_two_pow]
  rcases Nat.lt_trichotomy j t with h | h | h
  · rw [if_pos (Nat.lt_succ_of_lt h), if_pos h, decide_eq_true h]
  · rw [h, if_pos (Nat.lt_succ_self t), if_neg (Nat.lt_irrefl t), if_pos rfl, decide_eq_false (Nat.lt_irrefl t)]
  · have h' : ¬ j < t + 1 := Nat.not_lt.mpr h
    rw [if_neg h', if_neg (Nat.lt_asymm h), if_neg (Nat.ne_of_gt h), if_neg h']

theorem tz_spec {x : BitVec 64} (hx : x ≠ 0#64) :
    tz x < 64 ∧ x.getLsbD (tz x) = true ∧ ∀ k, k < tz x → x.getLsbD k = false := by
  unfold tz
  cases hf : (List.range 64).find? (fun k => x.getLsbD k) with
  | none =>
    refine absurd (BitVec.eq_of_getLsbD_eq fun k hk => ?_) hx
    rw [BitVec.getLsbD_zero]
    exact (Bool.not_eq_true' _).mp (List.find?_range_eq_none.mp hf k hk)
  | some t =>
    obtain ⟨h1, h2, h3⟩ := List.find?_range_eq_some.mp hf
    exact ⟨List.mem_range.mp h2, h1, fun k hk => (Bool.not_eq_true' _).mp (h3 k hk)⟩

theorem toNat_sub_one {x : BitVec 64} (hx : x ≠ 0#64) : (x - 1#64).toNat = x.toNat - 1 :=
  BitVec.toNat_sub_of_le (BitVec.toNat_pos_of_ne_zero hx)

theorem clearLow_spec {x : BitVec 64} (hx : x ≠ 0#64) (k : Nat) :
    (clearLow x).getLsbD k = (x.getLsbD k && decide (k ≠ tz x)) := by
  obtain ⟨_, h1, h2⟩ := tz_spec hx
  have : (x - 1#64).getLsbD k = (x.toNat - 1).testBit k := congrArg (·.testBit k) (toNat_sub_one hx)
  rw [clearLow, BitVec.getLsbD_and, this, testBit_pred (x := x.toNat) (t := tz x) h1 h2 k]
  rcases Nat.lt_trichotomy k (tz x) with hk | hk | hk
  · rw [h2 k hk]; rfl
  · rw [if_neg (Nat.not_lt.mpr (Nat.le_of_eq hk.symm)), if_pos hk, decide_eq_false (fun h => h hk), Bool.and_false]
  · rw [if_neg (Nat.lt_asymm hk), if_neg (Nat.ne_of_gt hk), decide_eq_true (Nat.ne_of_gt hk), Bool.and_true]
    exact Bool.and_self _

theorem mem_bitsList {x : BitVec 64} {k : Nat} : k ∈ bitsList x ↔ k < 64 ∧ x.getLsbD k = true := by
  simp [bitsList]

theorem sorted_bitsList (x : BitVec 64) : SortedS (bitsList x) :=
  List.Pairwise.filter _ List.pairwise_lt_range

theorem bitsList_zero : bitsList 0#64 = [] := by
  simp [bitsList]

theorem popcount_eq (x : BitVec 64) : popcount x = (bitsList x).length := rfl

theorem popcount_le (x : BitVec 64) : popcount x ≤ 64 := by
  have := List.length_filter_le (fun k => x.getLsbD k) (List.range 64)
  simpa [popcount] using this

theorem bitsList_cons {x : BitVec 64} (hx : x ≠ 0#64) : bitsList x = tz x :: bitsList (clearLow x) := by
  obtain ⟨h0, h1, h2⟩ := tz_spec hx
  apply sortedS_ext (sorted_bitsList x)
  · refine List.pairwise_cons.mpr ⟨?_, sorted_bitsList _⟩
    intro k hk
    have := (mem_bitsList.mp hk).2
    rw [clearLow_spec hx] at this
    simp only [ne_eq, Bool.and_eq_true, decide_eq_true_eq] at this
    apply Nat.lt_of_le_of_ne
    · apply Nat.le_of_not_lt
      intro hlt
      rw [h2 k hlt] at this
      exact absurd this.1 (by decide)
    · exact fun e => this.2 e.symm
  · intro k
    simp only [List.mem_cons, mem_bitsList, clearLow_spec hx, ne_eq, Bool.and_eq_true, decide_eq_true_eq]
    constructor
    · rintro ⟨hk, hb⟩
      by_cases e : k = tz x
      · exact Or.inl e
      · exact Or.inr ⟨hk, hb, e⟩
    · rintro (e | ⟨hk, hb, _⟩)
      · subst e; exact ⟨h0, h1⟩
      · exact ⟨hk, hb⟩

theorem popcount_clearLow {x : BitVec 64} (hx : x ≠ 0#64) : popcount (clearLow x) + 1 = popcount x := by
  rw [popcount_eq, popcount_eq, bitsList_cons hx]; simp

/-- Cells of the blocks `bi, bi+1, …` in order. -/
def restCells (d : AdjMatrix) (bi : Nat) : List Nat :=
  ((d.blocks.drop bi).zipIdx bi).flatMap (fun p => cellsOfBits (p.2 * 64) p.1)

theorem emit_cons (d : AdjMatrix) (c : Nat) (cs : List Nat) :
    emit d (c :: cs) = if c < d.order * d.order then (c / d.order, c % d.order) :: emit d cs else emit d cs := by
  unfold emit
  by_cases h : c < d.order * d.order <;> simp [h]

theorem restCells_ge (d : AdjMatrix) {bi : Nat} (h : d.blocks.length ≤ bi) : restCells d bi = [] := by
  unfold restCells; rw [List.drop_eq_nil_of_le h]; rfl

theorem restCells_lt (d : AdjMatrix) {bi : Nat} (h : bi < d.blocks.length) :
    restCells d bi = cellsOfBits (bi * 64) (d.blocks[bi]?.getD 0#64) ++ restCells d (bi + 1) := by
  unfold restCells
  rw [List.drop_eq_getElem_cons h]
  simp only [List.zipIdx_cons, List.flatMap_cons, List.getElem?_eq_getElem h, Option.getD_some]

/-- Loop variant: remaining set bits plus one per remaining block. -/
def restMeasure (d : AdjMatrix) (bi : Nat) : Nat := ((d.blocks.drop bi).map (fun b => popcount b + 1)).sum

def μ (d : AdjMatrix) (s : IterState) : Nat := popcount s.bits + restMeasure d s.blockIndex

theorem restMeasure_lt (d : AdjMatrix) {bi : Nat} (h : bi < d.blocks.length) :
    restMeasure d bi = popcount (d.blocks[bi]?.getD 0#64) + 1 + restMeasure d (bi + 1) := by
  unfold restMeasure
  rw [List.drop_eq_getElem_cons h]
  simp only [List.map_cons, List.sum_cons, List.getElem?_eq_getElem h, Option.getD_some]

theorem popcount_zero : popcount 0#64 = 0 := by rw [popcount_eq, bitsList_zero]; rfl

/-- The arcs still to come from an iterator state: the set bits of the current word, then the blocks from `blockIndex` on. -/
def rem (d : AdjMatrix) (s : IterState) : List (Nat × Nat) :=
  emit d (cellsOfBits s.base s.bits ++ restCells d s.blockIndex)

/-! One round of the `while` loop of `ArcsIterator::next` consumes the lowest set bit of the current word (`rem_nz`, `μ_nz`),
loads the next block (`rem_load`, `μ_load`) or ends (`rem_exit`); `drain` and the regenerated `next`
(`Proof/AlgoGen5Iter.lean`) run these rounds. -/

theorem rem_nz (d : AdjMatrix) (bi : Nat) {bits : BitVec 64} (base : Nat) (hb : bits ≠ 0#64) :
    rem d ⟨bi, bits, base⟩ =
      if base + tz bits < d.order * d.order then
        ((base + tz bits) / d.order, (base + tz bits) % d.order) :: rem d ⟨bi, clearLow bits, base⟩
      else rem d ⟨bi, clearLow bits, base⟩ := by
  unfold rem
  dsimp only
  rw [cellsOfBits, bitsList_cons hb, List.map_cons, List.cons_append, emit_cons]
  rfl

theorem rem_load (d : AdjMatrix) {bi : Nat} (base : Nat) (hbi : bi < d.blocks.length) :
    rem d ⟨bi, 0#64, base⟩ = rem d ⟨bi + 1, d.blocks[bi], bi * 64⟩ := by
  unfold rem
  dsimp only
  rw [cellsOfBits, bitsList_zero, restCells_lt d hbi, List.getElem?_eq_getElem hbi]
  rfl

theorem rem_exit (d : AdjMatrix) {bi : Nat} (base : Nat) (hbi : ¬ bi < d.blocks.length) : rem d ⟨bi, 0#64, base⟩ = [] := by
  unfold rem
  dsimp only
  rw [cellsOfBits, bitsList_zero, restCells_ge d (Nat.not_lt.1 hbi)]
  rfl

theorem μ_nz (d : AdjMatrix) (bi : Nat) {bits : BitVec 64} (base : Nat) (hb : bits ≠ 0#64) :
    μ d ⟨bi, clearLow bits, base⟩ < μ d ⟨bi, bits, base⟩ := by
  unfold μ
  dsimp only
  rw [← popcount_clearLow hb]
  exact Nat.add_lt_add_right (Nat.lt_succ_self _) _

theorem μ_load (d : AdjMatrix) {bi : Nat} (base : Nat) (hbi : bi < d.blocks.length) :
    μ d ⟨bi + 1, d.blocks[bi], bi * 64⟩ < μ d ⟨bi, 0#64, base⟩ := by
  unfold μ
  dsimp only
  rw [popcount_zero, restMeasure_lt d hbi, List.getElem?_eq_getElem hbi, Nat.zero_add, Nat.add_right_comm]
  exact Nat.lt_succ_self _

theorem drain_eq (d : AdjMatrix) : ∀ (fuel : Nat) (s : IterState), μ d s < fuel → drain d fuel s = rem d s := by
  intro fuel
  induction fuel with
  | zero => intro s h; exact absurd h (Nat.not_lt_zero _)
  | succ fuel ih =>
    intro s hμ
    obtain ⟨bi, bits, base⟩ := s
    have hμ := Nat.le_of_lt_succ hμ
    -- the round from a state `k` whose word is non-zero (the current word, or the one just loaded)
    have hbit : ∀ k : IterState, k.bits ≠ 0#64 → μ d k ≤ fuel →
        (if k.base + tz k.bits < d.order * d.order then
          ((k.base + tz k.bits) / d.order, (k.base + tz k.bits) % d.order) ::
            drain d fuel ⟨k.blockIndex, clearLow k.bits, k.base⟩
        else drain d fuel ⟨k.blockIndex, clearLow k.bits, k.base⟩) = rem d k := fun k hk hle => by
      rw [rem_nz d k.blockIndex k.base hk, ih _ (Nat.lt_of_lt_of_le (μ_nz d k.blockIndex k.base hk) hle)]
    rw [drain]
    dsimp only
    by_cases hb : bits = 0#64
    · subst hb
      by_cases hbi : bi < d.blocks.length
      · have hlt := Nat.lt_of_lt_of_le (μ_load d base hbi) hμ
        rw [if_pos (.inl hbi), if_pos rfl, List.getElem?_eq_getElem hbi, Option.getD_some, rem_load d base hbi]
        by_cases hz : d.blocks[bi] = 0#64
        · rw [if_neg (fun h => h hz)]
          exact ih _ hlt
        · rw [if_pos hz]
          exact hbit ⟨bi + 1, d.blocks[bi], bi * 64⟩ hz (Nat.le_of_lt hlt)
      · rw [if_neg (fun h => h.elim hbi (fun h => h rfl)), rem_exit d base hbi]
    · rw [if_pos (.inr hb), if_neg hb, if_pos hb]
      exact hbit ⟨bi, bits, base⟩ hb hμ

/-- Fuel adequacy: above the variant the result does not depend on the fuel (termination). -/
theorem drain_fuel_irrelevant (d : AdjMatrix) (s : IterState) (f₁ f₂ : Nat) (h₁ : μ d s < f₁) (h₂ : μ d s < f₂) :
    drain d f₁ s = drain d f₂ s := by
  rw [drain_eq d f₁ s h₁, drain_eq d f₂ s h₂]

theorem restMeasure_le (d : AdjMatrix) (bi : Nat) : restMeasure d bi ≤ 65 * (d.blocks.length - bi) := by
  have bound : ∀ l : List (BitVec 64), (l.map (fun b => popcount b + 1)).sum ≤ 65 * l.length := by
    intro l
    induction l with
    | nil => exact Nat.le_refl 0
    | cons b bs ih =>
      rw [List.map_cons, List.sum_cons, List.length_cons, Nat.mul_succ, Nat.add_comm]
      exact Nat.add_le_add ih (Nat.succ_le_succ (popcount_le b))
  exact List.length_drop ▸ bound (d.blocks.drop bi)

theorem cellsOfBits_eq_filter (d : AdjMatrix) (bi : Nat) :
    cellsOfBits (bi * 64) (d.blocks[bi]?.getD 0#64) = (List.range' (bi * 64) 64).filter d.cell := by
  rw [List.range'_eq_map_range, List.filter_map]
  unfold cellsOfBits bitsList
  exact congrArg (List.map _) (List.filter_congr fun k hk => (cell_mul_add d bi (List.mem_range.mp hk)).symm)

theorem restCells_eq_filter (d : AdjMatrix) : ∀ (m bi : Nat), bi + m = d.blocks.length →
    restCells d bi = (List.range' (bi * 64) (64 * m)).filter d.cell := by
  intro m
  induction m with
  | zero => intro bi h; rw [restCells_ge d (show d.blocks.length ≤ bi from Nat.le_of_eq h.symm)]; rfl
  | succ m ih =>
    intro bi h
    have hbi : bi < d.blocks.length := h ▸ Nat.lt_add_of_pos_right (Nat.succ_pos m)
    rw [restCells_lt d hbi, ih (bi + 1) (by rw [← h, Nat.add_assoc, Nat.add_comm 1 m]), cellsOfBits_eq_filter,
      ← List.filter_append, Nat.succ_mul bi 64, Nat.mul_succ 64 m, Nat.add_comm (64 * m) 64]
    exact congrArg _ (by rw [← List.range'_append, Nat.one_mul])

theorem restCells_zero (d : AdjMatrix) : restCells d 0 = (List.range (64 * d.blocks.length)).filter d.cell := by
  rw [restCells_eq_filter d d.blocks.length 0 (Nat.zero_add _), List.range_eq_range']

theorem emit_restCells_zero (d : AdjMatrix) : emit d (restCells d 0) = d.arcs := by
  rw [restCells_zero]
  unfold emit arcs
  rw [List.filter_filter]
  exact congrArg _ (List.filter_congr fun c _ => Bool.and_comm _ _)

theorem arcsFold_eq (d : AdjMatrix) : arcsFold d = d.arcs := by
  refine Eq.trans (congrArg (emit d) ?_) (emit_restCells_zero d)
  unfold restCells
  rw [List.drop_zero]
  -- a zero word has no set bits, so skipping it changes nothing
  refine congrArg (List.flatMap · _) (funext fun p => ?_)
  split
  · rename_i h0; rw [h0, cellsOfBits, bitsList_zero]; rfl
  · rfl

theorem arcsIter_eq (d : AdjMatrix) : arcsIter d = d.arcs := by
  unfold arcsIter
  rw [drain_eq d (iterFuel d) iterInit (Nat.lt_succ_of_le (by
    show popcount 0#64 + restMeasure d 0 ≤ _
    rw [popcount_zero, Nat.zero_add]; exact restMeasure_le d 0))]
  show emit d (cellsOfBits 0 0#64 ++ restCells d 0) = _
  rw [cellsOfBits, bitsList_zero]
  exact emit_restCells_zero d

theorem length_cells (bs : List (BitVec 64)) (k : Nat) :
    ((bs.zipIdx k).flatMap (fun p => cellsOfBits (p.2 * 64) p.1)).length = (bs.map popcount).sum := by
  induction bs generalizing k with
  | nil => rfl
  | cons b bs ih =>
    rw [List.zipIdx_cons, List.flatMap_cons, List.length_append, ih, List.map_cons, List.sum_cons, cellsOfBits,
      List.length_map]
    rfl

theorem sizePop_eq (d : AdjMatrix) : sizePop d = d.size := by
  unfold sizePop size
  rw [← restCells_zero, restCells, List.drop_zero, length_cells]

end GraafVerif.Repr.AdjMatrix
