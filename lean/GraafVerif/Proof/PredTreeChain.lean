import GraafVerif.Model.PredTree
import GraafVerif.Proof.FoldLemmas
/-!
# Link chains of a predecessor vector, and `PredecessorTree::search_by` along them

Two forms of "following the predecessor links from `s`" are in use.  The statements of `Thm/C19.lean`
speak of positions: `chain pred s k` is the `k`-th iterate of the link, `chainPath pred s k` the list
of the first `k + 1` of them, `InRange` that no entry leaves the vector (`Model/PredTree.lean`,
`Proof/PredTreeFull.lean`): that form is fixed.  The completeness proofs work with vertex lists
`[c₀, c₁, …, c_k]` in which every `c_{i+1}` is the recorded predecessor of `c_i`: `Links` (nothing else),
`TChain` (no target before `c_k`, which is one).  Along a duplicate-free `TChain` that fits the fuel
`search_by` returns the chain (`searchBy_of_tchain`, the one induction on the loop besides soundness);
`tchain_isNone_of_links` reads the search `|_, b| b.is_none()` (`isRoot`) off a `Links` chain.  The bridge
from positions to lists is `tchain_chainPath` of `Proof/PredTreeFull.lean`.  Users: C19's completeness
(`searchBy_first`), and through `Proof/PredForest.lean` both halves of C05.  What the path to the root says
about every OTHER search is in `Proof/PredTreeRoot.lean`, from C19's statement.
-/
namespace GraafVerif.Cross3

/-- The predicate `|_, b| b.is_none()`: the entry is a root.  (The full name is the one the statements
of `Thm/Cross3.lean` carry; below and in the modules that open `PredTree` it is `isRoot`.) -/
def isRoot : Nat → Option Nat → Bool := fun _ b => b.isNone

end GraafVerif.Cross3

namespace GraafVerif.PredTree
export Cross3 (isRoot)

/-- `[c₀, …, c_k]`: consecutive predecessor links, no target before `c_k`, `c_k` is a target. -/
def TChain (pred : Pred) (isT : Nat → Option Nat → Bool) : List Nat → Prop
  | [] => False
  | [z] => ∃ e, pred[z]? = some e ∧ isT z e = true
  | a :: b :: r => pred[a]? = some (some b) ∧ isT a (some b) = false ∧ TChain pred isT (b :: r)

theorem TChain.mem_lt {pred : Pred} {isT} : ∀ {cs : List Nat}, TChain pred isT cs → ∀ x ∈ cs, x < pred.length := by
  intro cs
  induction cs with
  | nil => exact fun h => h.elim
  | cons a cs ih =>
    intro h x hx
    cases cs with
    | nil =>
      obtain ⟨e, he, _⟩ := h
      rw [List.mem_singleton.mp hx]
      exact (List.getElem?_eq_some_iff.mp he).1
    | cons b r =>
      rcases List.mem_cons.mp hx with rfl | hx
      · exact (List.getElem?_eq_some_iff.mp h.1).1
      · exact ih h.2.2 x hx

theorem loop_of_tchain (pred : Pred) (isT) :
    ∀ (rest : List Nat) (a fuel : Nat) (vis : List Bool) (path : List Nat),
      TChain pred isT (a :: rest) → (a :: rest).Nodup → (∀ x ∈ rest, vis[x]? = some false) →
      rest.length < fuel → loop pred isT fuel a vis path = some (path ++ rest) := by
  intro rest
  induction rest with
  | nil =>
    intro a fuel vis path h _ _ hf
    obtain ⟨e, he, ht⟩ := h
    cases fuel with
    | zero => simp at hf
    | succ f => simp [loop, he, ht]
  | cons b r ih =>
    intro a fuel vis path h hnd hvis hf
    obtain ⟨hlink, hnt, hrest⟩ := h
    cases fuel with
    | zero => simp at hf
    | succ f =>
      have hb : vis[b]? = some false := hvis b (by simp)
      have hba : b ≠ a := by
        intro e; subst e
        simp at hnd
      have hnd' : (b :: r).Nodup := (List.nodup_cons.mp hnd).2
      have hbr : b ∉ r := (List.nodup_cons.mp hnd').1
      unfold loop
      simp only [hlink, hnt, hb]
      rw [if_pos hba]
      -- `b` is marked from here on; the rest of the chain stays unmarked because the chain repeats no vertex
      have := ih b f (vis.set b true) (path ++ [b]) hrest hnd'
        (fun x hx => by
          have hxb : b ≠ x := fun e => hbr (e ▸ hx)
          rw [List.getElem?_set_ne hxb]; exact hvis x (by simp [hx]))
        (Nat.lt_of_succ_lt_succ hf)
      simpa using this

theorem searchBy_of_tchain (pred : Pred) (isT) (s : Nat) (rest : List Nat)
    (h : TChain pred isT (s :: rest)) (hnd : (s :: rest).Nodup) (hlen : rest.length < pred.length + 2) :
    searchBy pred s isT = .ret (some (s :: rest)) := by
  unfold searchBy searchByFuel
  cases rest with
  | nil =>
    obtain ⟨e, he, ht⟩ := h
    simp [he, ht]
  | cons b r =>
    have hall := TChain.mem_lt h
    obtain ⟨hlink, hnt, _⟩ := h
    simp only [hlink, hnt]
    have := loop_of_tchain pred isT (b :: r) s (pred.length + 2) (List.replicate pred.length false) [s]
      ⟨hlink, hnt, by assumption⟩ hnd
      (fun x hx => by
        have := hall x (by simp at hx ⊢; exact Or.inr hx)
        simp [this])
      hlen
    simpa using this

/-- Consecutive predecessor links; every member has an entry. -/
def Links (pred : Pred) : List Nat → Prop
  | [] => True
  | [z] => ∃ e, pred[z]? = some e
  | a :: b :: r => pred[a]? = some (some b) ∧ Links pred (b :: r)

theorem tchain_isNone_of_links (pred : Pred) : ∀ (cs : List Nat), cs ≠ [] → Links pred cs →
    (∀ z, cs.getLast? = some z → pred[z]? = some none) → TChain pred isRoot cs := by
  intro cs
  induction cs with
  | nil => intro h; exact absurd rfl h
  | cons a cs ih =>
    intro _ h hlast
    cases cs with
    | nil => exact ⟨none, hlast a rfl, rfl⟩
    | cons b r =>
      exact ⟨h.1, rfl, ih (List.cons_ne_nil b r) h.2 (fun z hz => hlast z (by rwa [List.getLast?_cons_cons]))⟩

end GraafVerif.PredTree
