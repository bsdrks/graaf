import GraafVerif.Proof.RandReal
import GraafVerif.Proof.OpsAM
/-! `AdjacencyMap::erdos_renyi`: valid for every thread count, both for `p ≤ 0.5` (threaded rows)
and for `p > 0.5` (complement of the `1 - p` digraph).  `Rand.complementAM` is C11's `Ops.complementAM` on a
key-sorted map (`complementAM_agree`) and takes its arc law and its well-formedness from `Ops.complementAM_spec`. -/
namespace GraafVerif.Rand
open GraafVerif.Repr GraafVerif.Gen

/-- the rows collected from the workers, before `collect::<BTreeMap>` -/
def erResults (streams : Nat → Stream) (n t : Nat) (p : F64) : List (Nat × List Nat) :=
  (workers n t).flatMap fun rk => erWorker (streams rk.2) p n rk.1

theorem erResults_keys (streams : Nat → Stream) (n t : Nat) (p : F64) (hn : 0 < n) (ht : 0 < t) :
    (erResults streams n t p).map (·.1) = List.range n := by
  rw [← workers_tile n t ht hn, erResults, List.map_flatMap]
  congr 1
  funext rk
  rw [erWorker, List.map_map]
  exact List.map_id' _

/-- with a single worker the rows are the sequential ones of worker 0's stream -/
theorem erResults_single (streams : Nat → Stream) (n : Nat) (p : F64) (hn : 1 ≤ n) :
    erResults streams n 1 p = erKeyed (streams 0) p n := by
  rw [erResults, workers_single n hn, List.flatMap_cons, List.flatMap_nil, List.append_nil, erWorker, erKeyed,
    Nat.sub_zero, List.range_eq_range']
  rfl

theorem erResults_rows (streams : Nat → Stream) (n t : Nat) (p : F64) : ErRows n p (erResults streams n t p) :=
  fun ur h => by
    simp only [erResults, erWorker, List.mem_flatMap, List.mem_map] at h
    obtain ⟨rk, _, a, _, rfl⟩ := h
    exact ⟨_, _, rfl⟩

theorem erResults_spec (streams : Nat → Stream) (n t : Nat) (p : F64) (hn : 0 < n) (ht : 0 < t) :
    ErArcsSpec n p (rowArcs (erResults streams n t p)) :=
  rowArcs_er_spec (erResults_keys streams n t p hn ht) (erResults_rows streams n t p)

/-- the workers' rows arrive in key order, so `collect::<BTreeMap>` keeps them as they are -/
theorem erMapCore_rows (streams : Nat → Stream) (n t : Nat) (p : F64) (hn : 0 < n) (ht : 0 < t) :
    (erMapCore streams n t p).rows = erResults streams n t p :=
  collectMap_sorted _ (sortedK_of_keys (erResults_keys streams n t p hn ht))

theorem erMapCore_holds (streams : Nat → Stream) (n t : Nat) (p : F64) (hn : 0 < n) (ht : 0 < t) :
    AM.repr.Holds (erMapCore streams n t p) n (ofList (rowArcs (erResults streams n t p))) :=
  (holds_rows hn (erResults_keys streams n t p hn ht) (erResults_rows streams n t p).sorted (fun _ _ => Iff.rfl)
    (erResults_spec streams n t p hn ht).1.valid.validOn).2

theorem erMapCore_realizes (streams : Nat → Stream) (n t : Nat) (p : F64) (hn : 0 < n) (ht : 0 < t) :
    Realizes (viewAM (erMapCore streams n t p)) n (rowArcs (erResults streams n t p)) :=
  (erMapCore_holds streams n t p hn ht).realizes

end GraafVerif.Rand

namespace GraafVerif.AlgoGenThm.AdjacencyMap
open GraafVerif.Repr

/-- `Ops.complementAM` (C11's `AdjacencyMap::complement`, which the generated `erdos_renyi` calls) and the
`complementAM` of `Model/Rand.lean` agree on a key-sorted map -/
theorem complementAM_agree (d : AdjMap) (hs : SortedK d.rows) : Ops.complementAM d = Rand.complementAM d :=
  congrArg AdjMap.mk (Ops.complementAM_rows hs)

end GraafVerif.AlgoGenThm.AdjacencyMap

namespace GraafVerif.Rand
open GraafVerif.Repr GraafVerif.Gen
open AlgoGenThm.AdjacencyMap (complementAM_agree)

theorem complementAM_keys (g : AdjMap) : (complementAM g).rows.map (·.1) = g.rows.map (·.1) := by
  rw [complementAM, List.map_map]
  rfl

/-- C11's `complementAM_spec`, read on a map with the keys `0..n` -/
theorem mem_rowArcs_complement {n : Nat} {g : AdjMap} (hw : g.WF) (hk : g.rows.map (·.1) = List.range n) (u v : Nat) :
    (u, v) ∈ rowArcs (complementAM g).rows ↔ u < n ∧ v < n ∧ v ≠ u ∧ (u, v) ∉ rowArcs g.rows := by
  obtain ⟨hw', hc⟩ := Ops.complementAM_spec g hw
  rw [← complementAM_agree g hw.1]
  refine (AdjMap.mem_arcs_iff hw'.1 u v).trans ((iff_of_eq (congrArg (·.A u v) hc)).trans ?_)
  show u ∈ g.rows.map (·.1) ∧ v ∈ g.rows.map (·.1) ∧ u ≠ v ∧ ¬ g.hasArc u v = true ↔ _
  rw [hk, List.mem_range, List.mem_range, ← AdjMap.mem_arcs_iff hw.1, ne_comm]
  exact Iff.rfl

theorem complementAM_holds {g : AdjMap} {n : Nat} {A : Nat → Nat → Prop} (h : AM.repr.Holds g n A) :
    AM.repr.Holds (complementAM g) n (ofList (rowArcs (complementAM g).rows)) :=
  have ho : (complementAM g).order = g.order := List.length_map _
  ⟨⟨complementAM_agree g h.1.1.1 ▸ (Ops.complementAM_spec g h.1.1).1,
      (complementAM_keys g).trans (h.1.2.1.trans (congrArg List.range ho.symm)), ho ▸ h.1.2.2⟩,
    ho.trans h.2.1, fun _ _ => Iff.rfl⟩

/-- the complement of a `1 - p` digraph is a `p` digraph, for `p > 0` -/
theorem complement_er_spec {n : Nat} {p q : F64} {g : AdjMap} (hw : g.WF) (hk : g.rows.map (·.1) = List.range n)
    (hq : ErArcsSpec n q (rowArcs g.rows)) (hp0 : p ≠ F64.zero) (hp1 : p = F64.one → q = F64.zero) :
    ErArcsSpec n p (rowArcs (complementAM g).rows) := by
  refine ⟨fun a ha => ?_, fun h => absurd h hp0, fun h u v hu hv huv => ?_⟩
  · have := (mem_rowArcs_complement hw hk a.1 a.2).1 ha
    exact ⟨this.1, this.2.1, this.2.2.1.symm⟩
  · exact (mem_rowArcs_complement hw hk u v).2 ⟨hu, hv, huv.symm, hq.2.1 (hp1 h) _⟩

/-- `erdos_renyi` of the map without the recursion: the inner call on `1.0 - p ≤ 0.5` does not
recurse again, so fuel 2 is enough -/
theorem erAMF_eq (streams : Nat → Stream) (n t fuel : Nat) (p : F64) :
    erAMF streams n t (fuel + 2) p =
      if n = 0 then none else if !p.inUnit then none else if n = 1 then AdjMap.empty 1
      else if p.gtHalf then some (complementAM (erMapCore streams n t p.oneMinus))
      else some (erMapCore streams n t p) := by
  rw [erAMF]
  refine ite_congr rfl (fun _ => rfl) fun h0 => ite_congr rfl (fun _ => rfl) fun hp =>
    ite_congr rfl (fun _ => rfl) fun h1 => ite_congr rfl (fun hh => ?_) fun _ => rfl
  obtain ⟨hq1, hq2, _⟩ := oneMinus_facts p (Bool.of_not_eq_false fun h => hp (by rw [h]; rfl)) hh
  rw [erAMF, if_neg h0, hq1, if_neg (by decide), if_neg h1, hq2, if_neg (by decide)]
  rfl

theorem erAM_le_half (streams : Nat → Stream) (n t : Nat) (p : F64) (hn : 2 ≤ n) (hp : p.inUnit = true)
    (hh : p.gtHalf = false) : erAM streams n t p = some (erMapCore streams n t p) := by
  refine (erAMF_eq streams n t 0 p).trans ?_
  rw [if_neg (Nat.ne_of_gt (Nat.lt_of_lt_of_le Nat.zero_lt_two hn)), hp, if_neg (by decide),
    if_neg (Nat.ne_of_gt hn), hh, if_neg (by decide)]

/-- The arcs are those of the workers' rows for `p ≤ 0.5` and of the complement for `p > 0.5`. -/
theorem erAM_yields (streams : Nat → Stream) (n t : Nat) (p : F64) (hn : 1 ≤ n) (ht : 1 ≤ t) (hp : p.inUnit = true) :
    ∃ arcs, AM.repr.Yields (erAM streams n t p) n (ofList arcs) ∧ ErArcsSpec n p arcs := by
  rw [erAM, erAMF_eq streams n t 0 p, if_neg (Nat.ne_of_gt hn), hp, if_neg (by decide)]
  cases hh : p.gtHalf
  · have hs := erResults_spec streams n t p hn ht
    exact ⟨_, AM.repr.yields_guard₁ hn trivial hs.1.valid.validOn fun _ =>
      ⟨_, rfl, erMapCore_holds streams n t p hn ht⟩, hs⟩
  · have hcore := erMapCore_holds streams n t p.oneMinus hn ht
    have hrows := erMapCore_rows streams n t p.oneMinus hn ht
    have hs := complement_er_spec hcore.1.1 (hrows ▸ erResults_keys streams n t p.oneMinus hn ht)
      (hrows ▸ erResults_spec streams n t p.oneMinus hn ht) (gtHalf_ne_zero hh) (oneMinus_facts p hp hh).2.2
    exact ⟨_, AM.repr.yields_guard₁ hn trivial hs.1.valid.validOn fun _ => ⟨_, rfl, complementAM_holds hcore⟩, hs⟩

theorem erAM_valid (streams : Nat → Stream) (n t : Nat) (p : F64) (hn : 1 ≤ n) (ht : 1 ≤ t) (hp : p.inUnit = true) :
    ∃ g, erAM streams n t p = some g ∧ ErValid n p (viewAM g) :=
  have ⟨_, hy, hs⟩ := erAM_yields streams n t p hn ht hp
  hy.realizes.imp fun _ h => ⟨h.1, h.2.er hs⟩

/-- fuel adequacy: the recursion `erdos_renyi(order, 1.0 - p, seed)` is at most one level deep -/
theorem erAM_fuel (streams : Nat → Stream) (n t k : Nat) (p : F64) :
    erAMF streams n t (k + 2) p = erAMF streams n t 2 p :=
  (erAMF_eq streams n t k p).trans (erAMF_eq streams n t 0 p).symm

end GraafVerif.Rand
