import GraafVerif.Proof.BfsCore
import GraafVerif.Proof.BfsSim
import GraafVerif.Proof.CrossTable
/-!
# C04: `BfsDist`, `Bfs`, `distances()`

The level invariant of the run (`runP_levelSpec` in `BfsCore`) at the labelling `labDist` is C04 for `BfsDist`;
`Bfs` is its vertex projection (`bfs_eq_map_fst`), and `distances()` writes the items of `BfsDist` into a vector
filled with `usize::MAX`.
-/
namespace GraafVerif.Bfs
open GraafVerif

variable {g : Graph} {S : List Nat}

structure DistSpec (g : Graph) (S : List Nat) (out : List (Nat × Nat)) : Prop where
  nodup : (out.map (·.1)).Nodup
  mem_iff : ∀ v, v ∈ out.map (·.1) ↔ ReachFrom g S v
  exact : ∀ p ∈ out, IsHopDist g S p.1 p.2
  sorted : (out.map (·.2)).Pairwise (· ≤ ·)
  lt : ∀ p ∈ out, p.1 < g.n ∧ p.2 < g.n

theorem runP_distSpec (hg : g.WF) (hS : ∀ s ∈ S, s < g.n) (hnd : S.Nodup) {fuel : Nat} (hf : g.n < fuel) :
    DistSpec g S (runP g labDist fuel (newP g labDist S)).1 :=
  let ⟨h1, h2, h3, h4, h5⟩ := runP_levelSpec hg isLevel_dist hS hnd hf
  ⟨h1, h2, h3, h4, h5⟩

/-- C04 for `BfsDist`: no panic; every reachable vertex exactly once, nothing else, each with
its exact hop distance, in non-decreasing distance order. -/
theorem bfsDist_spec (hg : g.WF) (hS : ∀ s ∈ S, s < g.n) (hnd : S.Nodup) :
    ∃ out, bfsDist g S = .ok out ∧ DistSpec g S out :=
  ⟨_, iter_eq hg labDist hS, runP_distSpec hg hS hnd (Nat.lt_succ_of_le (Nat.le_add_right _ _))⟩

/-- What `Bfs` yields: "non-decreasing hop distance" is stated with the declarative distance. -/
structure BfsSpec (g : Graph) (S : List Nat) (out : List Nat) : Prop where
  nodup : out.Nodup
  mem_iff : ∀ v, v ∈ out ↔ ReachFrom g S v
  ordered : out.Pairwise (fun u v => ∀ du dv, IsHopDist g S u du → IsHopDist g S v dv → du ≤ dv)

theorem bfs_spec (hg : g.WF) (hS : ∀ s ∈ S, s < g.n) (hnd : S.Nodup) :
    ∃ out, bfs g S = .ok out ∧ BfsSpec g S out := by
  obtain ⟨out, ho, hsp⟩ := bfsDist_spec hg hS hnd
  refine ⟨out.map (·.1), by rw [bfs_eq_map_fst, ho]; rfl, hsp.nodup, hsp.mem_iff, ?_⟩
  rw [List.pairwise_map]
  have hs := hsp.sorted
  rw [List.pairwise_map] at hs
  refine List.Pairwise.imp_of_mem ?_ hs
  intro p q hp hq hle du dv hu hv
  rw [OracleProof.hop_unique hu (hsp.exact p hp), OracleProof.hop_unique hv (hsp.exact q hq)]
  exact hle

/-- `distances()` is the full hop-distance vector, `inf` (= `usize::MAX`) exactly at the
unreachable vertices. `g.n ≤ inf`: an order fits a `usize`. -/
structure DistancesSpec (g : Graph) (S : List Nat) (inf : Nat) (d : List Nat) : Prop where
  len : d.length = g.n
  dist : ∀ v k, IsHopDist g S v k → d[v]? = some k
  inf_iff : ∀ v, v < g.n → (d[v]? = some inf ↔ ¬ ReachFrom g S v)

theorem distances_spec (g : Graph) (hg : g.WF) (S : List Nat) (hS : ∀ s ∈ S, s < g.n) (hnd : S.Nodup)
    (inf : Nat) (hinf : g.n ≤ inf) :
    ∃ d, distances g S inf = .ok d ∧ DistancesSpec g S inf d := by
  obtain ⟨out, ho, hsp⟩ := bfsDist_spec hg hS hnd
  have hget := fun p (hp : p ∈ out) =>
    Vec.written_mem (k := (·.1)) (val := (·.2)) (z := inf) hsp.nodup hp (hsp.lt p hp).1
  refine ⟨Vec.written (·.1) (·.2) inf g.n out, by unfold distances; rw [ho]; rfl,
    Vec.written_length _ _ _, ?_, ?_⟩
  · intro v k hk
    obtain ⟨p, hp, rfl⟩ := List.mem_map.mp ((hsp.mem_iff v).mpr (OracleProof.hop_reach hk))
    rw [hget p hp, OracleProof.hop_unique hk (hsp.exact p hp)]
  · intro v hv
    constructor
    · intro hd hr
      obtain ⟨p, hp, rfl⟩ := List.mem_map.mp ((hsp.mem_iff v).mpr hr)
      rw [hget p hp] at hd
      exact Nat.lt_irrefl _ (Option.some.inj hd ▸ Nat.lt_of_lt_of_le (hsp.lt p hp).2 hinf)
    · exact fun hr => Vec.written_not_mem hv fun h => hr ((hsp.mem_iff v).mp h)

theorem g0_wf : g0.WF := Cross.graph_wf_of_table (fun _ => rfl) (by decide)

end GraafVerif.Bfs
