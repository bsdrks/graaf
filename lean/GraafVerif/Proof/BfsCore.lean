import GraafVerif.Model.Bfs
import GraafVerif.Proof.VecLemmas
import GraafVerif.Proof.OracleHopDist
/-!
# Invariants of the labelled BFS iterator (C04 core, basis of C05)

On a well-formed digraph with in-range sources no assert fires, so the iterator is its assert-free
version `nextP`/`runP`/`newP`.  A step pops `x` and appends the newly discovered items `new`, so
`(E ++ [x]) ++ st'.queue = (E ++ st.queue) ++ new` (`append_step`): every clause of the invariants
that speaks of `E ++ st.queue` is maintained by checking `new` alone.
-/
namespace GraafVerif.Bfs
open GraafVerif

variable {L : Type}

def nextP (g : Graph) (lab : Lab L) (st : St L) : Option ((Nat × L) × St L) :=
  match st.queue with
  | [] => none
  | (u, l) :: q => some ((u, l), (g.out u).foldl (discover (lab.child u l)) ⟨q, st.visited⟩)

def runP (g : Graph) (lab : Lab L) : Nat → St L → List (Nat × L) × St L
  | 0, st => ([], st)
  | f+1, st => match nextP g lab st with
    | none => ([], st)
    | some (x, st') => let r := runP g lab f st'; (x :: r.1, r.2)

def newP (g : Graph) (lab : Lab L) (S : List Nat) : St L :=
  S.foldl (fun st u => ⟨st.queue ++ [(u, lab.init)], st.visited.set u true⟩) ⟨[], List.replicate g.n false⟩

variable {g : Graph} {S : List Nat} {lab : Lab L} {lev : L → Nat} {E : List (Nat × L)} {st st' : St L}
  {x : Nat × L}

theorem isVis_set {vis : List Bool} {v : Nat} (x : Nat) (hv : v < vis.length) :
    isVis (vis.set v true) x = (isVis vis x || decide (x = v)) :=
  Vec.getD_set_true vis v x hv

theorem isVis_lt {vis : List Bool} {x : Nat} (h : isVis vis x = true) : x < vis.length :=
  Vec.lt_of_getD h nofun

theorem isVis_replicate (n x : Nat) : isVis (List.replicate n false) x = false :=
  Vec.getD_replicate false n x

theorem discover_len (lab : L) (st : St L) (v : Nat) :
    (discover lab st v).visited.length = st.visited.length := by
  unfold discover; split <;> simp

theorem discover_queue (lab : L) (st : St L) (v : Nat) :
    (discover lab st v).queue = st.queue ++ if isVis st.visited v then [] else [(v, lab)] := by
  unfold discover; split <;> simp

theorem isVis_discover (lab : L) (st : St L) (v x : Nat) (hv : v < st.visited.length) :
    isVis (discover lab st v).visited x = (isVis st.visited x || decide (x = v)) := by
  unfold discover
  split
  · next h => by_cases hx : x = v <;> simp [hx, h]
  · exact isVis_set x hv

theorem foldl_discover_len (lab : L) (vs : List Nat) (st : St L) :
    (vs.foldl (discover lab) st).visited.length = st.visited.length := by
  induction vs generalizing st with
  | nil => rfl
  | cons v vs ih => rw [List.foldl_cons, ih, discover_len]

theorem scan_eq (lab : L) (vs : List Nat) (st : St L) (h : ∀ v ∈ vs, v < st.visited.length) :
    scan lab vs st = .ok (vs.foldl (discover lab) st) := by
  induction vs generalizing st with
  | nil => rfl
  | cons v vs ih =>
    rw [scan, if_pos (h v List.mem_cons_self), List.foldl_cons]
    exact ih _ (fun x hx => by rw [discover_len]; exact h x (List.mem_cons_of_mem _ hx))

theorem nextP_eq_none (h : nextP g lab st = none) : st.queue = [] := by
  unfold nextP at h
  split at h
  · assumption
  · cases h

theorem nextP_eq_some (h : nextP g lab st = some (x, st')) :
    ∃ q, st.queue = x :: q ∧ st' = (g.out x.1).foldl (discover (lab.child x.1 x.2)) ⟨q, st.visited⟩ := by
  unfold nextP at h
  split at h
  · cases h
  · next u l q hq =>
    cases h
    exact ⟨q, hq, rfl⟩

theorem next_eq (hg : g.WF) (lab : Lab L) (hlen : st.visited.length = g.n) :
    next g lab st = match nextP g lab st with
      | none => .done
      | some (x, st') => .yield x st' := by
  unfold next nextP
  cases st.queue with
  | nil => rfl
  | cons p q =>
    obtain ⟨u, l⟩ := p
    simp only
    rw [scan_eq _ _ _ (fun v hv => hlen ▸ (hg u v hv).2)]

theorem nextP_len (h : nextP g lab st = some (x, st')) : st'.visited.length = st.visited.length := by
  obtain ⟨q, _, rfl⟩ := nextP_eq_some h
  exact foldl_discover_len _ _ _

theorem run_eq (hg : g.WF) (lab : Lab L) :
    ∀ (fuel : Nat) {st : St L}, st.visited.length = g.n → run g lab fuel st = .ok (runP g lab fuel st).1 := by
  intro fuel
  induction fuel with
  | zero => intro st _; rfl
  | succ f ih =>
    intro st hlen
    simp only [run, runP, next_eq hg lab hlen]
    cases hn : nextP g lab st with
    | none => rfl
    | some p => simp only [ih ((nextP_len hn).trans hlen)]

/-- The `for u in sources` loop of `new` as a fold; its effect on `(queue, visited)`. -/
theorem foldl_push (lab0 : L) (S : List Nat) (st : St L) (h : ∀ s ∈ S, s < st.visited.length) :
    let r := S.foldl (fun st u => (⟨st.queue ++ [(u, lab0)], st.visited.set u true⟩ : St L)) st
    newFrom lab0 S st = .ok r ∧ r.queue = st.queue ++ S.map (fun s => (s, lab0)) ∧
    r.visited.length = st.visited.length ∧
    ∀ x, isVis r.visited x = (isVis st.visited x || decide (x ∈ S)) := by
  induction S generalizing st with
  | nil => simp [newFrom]
  | cons s S ih =>
    have hs : s < st.visited.length := h s List.mem_cons_self
    obtain ⟨a, b, c, d⟩ := ih ⟨st.queue ++ [(s, lab0)], st.visited.set s true⟩
      (fun x hx => by rw [List.length_set]; exact h x (List.mem_cons_of_mem _ hx))
    refine ⟨by rw [newFrom, if_pos hs]; exact a, by rw [List.foldl_cons, b, List.append_assoc]; rfl,
      by rw [List.foldl_cons, c, List.length_set], fun x => ?_⟩
    rw [List.foldl_cons, d x, isVis_set x hs, Bool.or_assoc]
    simp only [List.mem_cons, Bool.decide_or]

theorem newP_spec (lab : Lab L) (hS : ∀ s ∈ S, s < g.n) :
    (newP g lab S).queue = S.map (fun s => (s, lab.init)) ∧ (newP g lab S).visited.length = g.n ∧
    ∀ x, isVis (newP g lab S).visited x = decide (x ∈ S) := by
  obtain ⟨_, b, c, d⟩ := foldl_push lab.init S ⟨[], List.replicate g.n false⟩ (by simpa using hS)
  exact ⟨b.trans (List.nil_append _), c.trans List.length_replicate,
    fun x => by rw [newP, d x, isVis_replicate, Bool.false_or]⟩

theorem new_eq (g : Graph) (lab : Lab L) (S : List Nat) (hS : ∀ s ∈ S, s < g.n) :
    new g lab S = .ok (newP g lab S) :=
  (foldl_push lab.init S ⟨[], List.replicate g.n false⟩ (by simpa using hS)).1

theorem foldl_discover (lab : L) (vs : List Nat) (st : St L) (hlen : ∀ v ∈ vs, v < st.visited.length) :
    let st' := vs.foldl (discover lab) st
    st'.visited.length = st.visited.length ∧
    (∀ x, isVis st'.visited x = (isVis st.visited x || decide (x ∈ vs))) ∧
    (∃ new, st'.queue = st.queue ++ new ∧ (∀ p ∈ new, p.1 ∈ vs ∧ isVis st.visited p.1 = false ∧ p.2 = lab)
        ∧ (new.map (·.1)).Nodup ∧ ∀ v ∈ vs, isVis st.visited v = false → v ∈ new.map (·.1)) := by
  refine ⟨foldl_discover_len lab vs st, fun x => ?_, ?_⟩
  · induction vs generalizing st with
    | nil => simp
    | cons v vs ih =>
      rw [List.foldl_cons, ih _ (fun y hy => by rw [discover_len]; exact hlen y (List.mem_cons_of_mem _ hy)),
        isVis_discover lab st v x (hlen v List.mem_cons_self), Bool.or_assoc]
      simp only [List.mem_cons, Bool.decide_or]
  · induction vs generalizing st with
    | nil => exact ⟨[], (List.append_nil _).symm, nofun, List.nodup_nil, nofun⟩
    | cons v vs ih =>
      have hv := hlen v List.mem_cons_self
      obtain ⟨new, h3, h4, h5, h6⟩ := ih (discover lab st v)
        (fun x hx => by rw [discover_len]; exact hlen x (List.mem_cons_of_mem _ hx))
      have hvis : ∀ x, isVis (discover lab st v).visited x = false ↔ isVis st.visited x = false ∧ x ≠ v :=
        fun x => by rw [isVis_discover lab st v x hv, Bool.or_eq_false_iff, decide_eq_false_iff_not]
      have hold : ∀ p ∈ new, p.1 ∈ v :: vs ∧ isVis st.visited p.1 = false ∧ p.2 = lab := fun p hp =>
        ⟨List.mem_cons_of_mem _ (h4 p hp).1, ((hvis _).mp (h4 p hp).2.1).1, (h4 p hp).2.2⟩
      have hrest : ∀ x ∈ v :: vs, isVis st.visited x = false → x ≠ v → x ∈ new.map (·.1) := fun x hx hnv hxv =>
        h6 x ((List.mem_cons.mp hx).resolve_left hxv) ((hvis x).mpr ⟨hnv, hxv⟩)
      rw [List.foldl_cons, h3, discover_queue]
      by_cases hvv : isVis st.visited v = true
      · refine ⟨new, by rw [if_pos hvv, List.append_nil], hold, h5, fun x hx hnv => ?_⟩
        exact hrest x hx hnv (fun e => by rw [e, hvv] at hnv; cases hnv)
      · refine ⟨(v, lab) :: new, by rw [if_neg hvv, List.append_assoc]; rfl, fun p hp => ?_, ?_, fun x hx hnv => ?_⟩
        · rcases List.mem_cons.mp hp with rfl | hp
          · exact ⟨List.mem_cons_self, Bool.eq_false_iff.mpr hvv, rfl⟩
          · exact hold p hp
        · rw [List.map_cons, List.nodup_cons]
          refine ⟨fun hm => ?_, h5⟩
          obtain ⟨p, hp, hpv⟩ := List.mem_map.mp hm
          exact ((hvis _).mp (h4 p hp).2.1).2 hpv
        · rw [List.map_cons]
          by_cases hxv : x = v
          · rw [hxv]; exact List.mem_cons_self
          · exact List.mem_cons_of_mem _ (hrest x hx hnv hxv)

theorem nextP_spec (hg : g.WF) (hlen : st.visited.length = g.n) (hn : nextP g lab st = some (x, st')) :
    ∃ q new, st.queue = x :: q ∧ st'.queue = q ++ new ∧ st'.visited.length = st.visited.length ∧
      (∀ y, isVis st'.visited y = (isVis st.visited y || decide (y ∈ g.out x.1))) ∧
      (∀ p ∈ new, p.1 ∈ g.out x.1 ∧ isVis st.visited p.1 = false ∧ p.2 = lab.child x.1 x.2) ∧
      (new.map (·.1)).Nodup ∧ (∀ v ∈ g.out x.1, isVis st.visited v = false → v ∈ new.map (·.1)) := by
  obtain ⟨q, hq, rfl⟩ := nextP_eq_some hn
  obtain ⟨h1, h2, new, h3, h4⟩ := foldl_discover (lab.child x.1 x.2) (g.out x.1) ⟨q, st.visited⟩
    (fun v hv => hlen ▸ (hg x.1 v hv).2)
  exact ⟨q, new, hq, h3, h1, h2, h4⟩

theorem append_step {q new : List (Nat × L)} (hq : st.queue = x :: q) (h3 : st'.queue = q ++ new) :
    (E ++ [x]) ++ st'.queue = (E ++ st.queue) ++ new := by
  rw [hq, h3, List.append_assoc, List.append_assoc]; rfl

theorem mem_of_head {q : List (Nat × L)} (hq : st.queue = x :: q) : x ∈ E ++ st.queue := by
  rw [hq]; exact List.mem_append_right E List.mem_cons_self

/-- The reachable-set half of C04; it does not look at labels.  `E` = the items emitted so far. -/
structure Inv (g : Graph) (S : List Nat) (E : List (Nat × L)) (st : St L) : Prop where
  len : st.visited.length = g.n
  vis : ∀ x, isVis st.visited x = true ↔ x ∈ (E ++ st.queue).map (·.1)
  nodup : ((E ++ st.queue).map (·.1)).Nodup
  reach : ∀ x ∈ (E ++ st.queue).map (·.1), ReachFrom g S x
  closed : ∀ p ∈ E, ∀ v ∈ g.out p.1, isVis st.visited v = true
  src : ∀ s ∈ S, isVis st.visited s = true

theorem step_inv (hg : g.WF) (h : Inv g S E st) (hn : nextP g lab st = some (x, st')) :
    Inv g S (E ++ [x]) st' := by
  obtain ⟨q, new, hq, h3, h1, h2, h4, h5, h6⟩ := nextP_spec hg h.len hn
  have hA := append_step (E := E) hq h3
  have hx : x.1 ∈ (E ++ st.queue).map (·.1) := List.mem_map_of_mem (mem_of_head hq)
  refine ⟨h1.trans h.len, fun y => ?_, ?_, fun y hy => ?_, fun p hp v hv => ?_, fun s hs => ?_⟩
  · rw [h2 y, hA, List.map_append, List.mem_append, Bool.or_eq_true, decide_eq_true_eq, h.vis y]
    constructor
    · rintro (hy | hy)
      · exact Or.inl hy
      · cases hv : isVis st.visited y
        · exact Or.inr (h6 y hy hv)
        · exact Or.inl ((h.vis y).mp hv)
    · rintro (hy | hy)
      · exact Or.inl hy
      · obtain ⟨p, hp, rfl⟩ := List.mem_map.mp hy
        exact Or.inr (h4 p hp).1
  · rw [hA, List.map_append, List.nodup_append]
    refine ⟨h.nodup, h5, fun a ha b hb hab => ?_⟩
    obtain ⟨p, hp, rfl⟩ := List.mem_map.mp hb
    rw [← (h.vis a), hab, (h4 p hp).2.1] at ha
    cases ha
  · rw [hA, List.map_append, List.mem_append] at hy
    rcases hy with hy | hy
    · exact h.reach y hy
    · obtain ⟨p, hp, rfl⟩ := List.mem_map.mp hy
      obtain ⟨s, hs, hr⟩ := h.reach x.1 hx
      exact ⟨s, hs, Reach.step hr (h4 p hp).1⟩
  · rw [h2 v]
    rcases List.mem_append.mp hp with hp | hp
    · rw [h.closed p hp v hv, Bool.true_or]
    · rw [List.mem_singleton.mp hp] at hv
      simp [hv]
  · rw [h2 s, h.src s hs, Bool.true_or]

theorem closed_reach (h : Inv g S E st) (hq : st.queue = []) : ∀ v, ReachFrom g S v → v ∈ E.map (·.1) := by
  have hvis : ∀ x, isVis st.visited x = true → x ∈ E.map (·.1) := fun x hx => by
    have := (h.vis x).mp hx
    rwa [hq, List.append_nil] at this
  rintro v ⟨s, hs, hr⟩
  refine OracleProof.reach_closed hr (hvis s (h.src s hs)) fun x y hx ha => ?_
  obtain ⟨p, hp, rfl⟩ := List.mem_map.mp hx
  exact hvis _ (h.closed p hp _ ha)

theorem Inv.lt (h : Inv g S E st) : ∀ x ∈ (E ++ st.queue).map (·.1), x < g.n :=
  fun x hx => h.len ▸ isVis_lt ((h.vis x).mpr hx)

theorem inv_card (h : Inv g S E st) : E.length + st.queue.length ≤ g.n := by
  simpa using length_le_of_nodup_lt h.nodup h.lt

/-- The labelling carries a level: sources at 0, children one deeper. -/
structure IsLevel (lab : Lab L) (lev : L → Nat) : Prop where
  init : lev lab.init = 0
  child : ∀ u l, lev (lab.child u l) = lev l + 1

theorem isLevel_dist : IsLevel labDist id := ⟨rfl, fun _ _ => rfl⟩
theorem isLevel_full : IsLevel labFull (·.1) := ⟨rfl, fun _ _ => rfl⟩

structure InvD (g : Graph) (S : List Nat) (lev : L → Nat) (E : List (Nat × L)) (st : St L) : Prop
    extends Inv g S E st where
  lvl : ∀ p ∈ E ++ st.queue, IsHopDist g S p.1 (lev p.2)
  sorted : ((E ++ st.queue).map (fun p => lev p.2)).Pairwise (· ≤ ·)
  span : ∀ hd, st.queue.head? = some hd → ∀ p ∈ st.queue, lev p.2 ≤ lev hd.2 + 1
  bound : ∀ p ∈ E ++ st.queue, lev p.2 < (E ++ st.queue).length

theorem seen (h : InvD g S lev E st) :
    ∀ j s v, s ∈ S → ReachIn g j s v → (∀ p ∈ st.queue, j ≤ lev p.2) → isVis st.visited v = true := by
  intro j s v hs hr
  induction hr with
  | zero u => intro _; exact h.src _ hs
  | @succ k u x v hrx ha ih =>
    intro hle
    obtain ⟨p, hp, rfl⟩ := List.mem_map.mp ((h.vis x).mp (ih hs (fun p hp => Nat.le_of_succ_le (hle p hp))))
    rcases List.mem_append.mp hp with hpE | hpQ
    · exact h.closed p hpE v ha
    · exact absurd ⟨u, hs, hrx⟩ ((h.lvl p hp).2 k (hle p hpQ))

theorem InvD.levels {q : List (Nat × L)} (h : InvD g S lev E st) (hq : st.queue = x :: q) :
    (∀ p ∈ E, lev p.2 ≤ lev x.2) ∧ ∀ p ∈ q, lev x.2 ≤ lev p.2 ∧ lev p.2 ≤ lev x.2 + 1 := by
  have hs := h.sorted
  rw [hq, List.map_append, List.map_cons, List.pairwise_append, List.pairwise_cons] at hs
  refine ⟨fun p hp => hs.2.2 _ (List.mem_map_of_mem hp) _ List.mem_cons_self, fun p hp => ?_⟩
  exact ⟨hs.2.1.1 _ (List.mem_map_of_mem hp), h.span x (by rw [hq]; rfl) p (hq ▸ List.mem_cons_of_mem _ hp)⟩

theorem InvD.lvl_child {q : List (Nat × L)} (h : InvD g S lev E st) (hq : st.queue = x :: q) {v : Nat} (hv : v ∈ g.out x.1)
    (hnv : isVis st.visited v = false) : IsHopDist g S v (lev x.2 + 1) := by
  obtain ⟨⟨s, hs, hr⟩, _⟩ := h.lvl x (mem_of_head hq)
  refine ⟨⟨s, hs, ReachIn.succ hr hv⟩, ?_⟩
  rintro j hj ⟨s', hs', hr'⟩
  have := seen h j s' v hs' hr' (fun p hp => by
    rw [hq] at hp
    rcases List.mem_cons.mp hp with rfl | hp
    · exact Nat.le_of_lt_succ hj
    · exact Nat.le_trans (Nat.le_of_lt_succ hj) ((h.levels hq).2 p hp).1)
  rw [hnv] at this
  cases this

theorem pairwise_le_append_const {l l' : List Nat} {c : Nat} (hl : l.Pairwise (· ≤ ·))
    (hle : ∀ a ∈ l, a ≤ c) (hc : ∀ b ∈ l', b = c) : (l ++ l').Pairwise (· ≤ ·) := by
  refine List.pairwise_append.mpr ⟨hl, ?_, fun a ha b hb => hc b hb ▸ hle a ha⟩
  exact List.pairwise_of_forall_mem_list (fun a ha b hb => by rw [hc a ha, hc b hb]; exact Nat.le_refl _)

theorem step_invD (g : Graph) (hg : g.WF) (lab : Lab L) (lev : L → Nat) (hlev : IsLevel lab lev)
    (S : List Nat) (E : List (Nat × L)) (st st' : St L) (x : Nat × L)
    (h : InvD g S lev E st) (hn : nextP g lab st = some (x, st')) : InvD g S lev (E ++ [x]) st' := by
  obtain ⟨q, new, hq, h3, _, _, h4, _, _⟩ := nextP_spec hg h.len hn
  have hA := append_step (E := E) hq h3
  obtain ⟨hE, hQ⟩ := h.levels hq
  -- the new items are children of `x`: one level deeper, which is as deep as `span` lets a queued item be
  have hnew : ∀ p ∈ new, lev p.2 = lev x.2 + 1 := fun p hp => by rw [(h4 p hp).2.2, hlev.child]
  have hx : x ∈ E ++ st.queue := mem_of_head hq
  have hQ' : ∀ p ∈ st'.queue, lev x.2 ≤ lev p.2 ∧ lev p.2 ≤ lev x.2 + 1 := fun p hp => by
    rcases List.mem_append.mp (h3 ▸ hp) with hp | hp
    · exact hQ p hp
    · rw [hnew p hp]; exact ⟨Nat.le_succ _, Nat.le_refl _⟩
  refine { toInv := step_inv hg h.toInv hn, lvl := ?_, sorted := ?_, span := ?_, bound := ?_ }
  · intro p hp
    rcases List.mem_append.mp (hA ▸ hp) with hp | hp
    · exact h.lvl p hp
    · rw [hnew p hp]; exact h.lvl_child hq (h4 p hp).1 (h4 p hp).2.1
  · rw [hA, List.map_append]
    refine pairwise_le_append_const (c := lev x.2 + 1) h.sorted ?_ ?_
    · intro a ha
      obtain ⟨p, hp, rfl⟩ := List.mem_map.mp ha
      rw [hq] at hp
      rcases List.mem_append.mp hp with hp | hp
      · exact Nat.le_succ_of_le (hE p hp)
      · rcases List.mem_cons.mp hp with rfl | hp
        · exact Nat.le_succ _
        · exact (hQ p hp).2
    · intro b hb
      obtain ⟨p, hp, rfl⟩ := List.mem_map.mp hb
      exact hnew p hp
  · intro hd hhd p hp
    exact Nat.le_trans (hQ' p hp).2 (Nat.succ_le_succ (hQ' hd (List.mem_of_mem_head? hhd)).1)
  · intro p hp
    rw [hA, List.length_append]
    rcases List.mem_append.mp (hA ▸ hp) with hp | hp
    · exact Nat.lt_add_right _ (h.bound p hp)
    · rw [hnew p hp]
      exact Nat.add_lt_add_of_lt_of_le (h.bound x hx) (List.length_pos_of_mem hp)

theorem run_inv (g : Graph) (hg : g.WF) (lab : Lab L) (lev : L → Nat) (hlev : IsLevel lab lev) (S : List Nat) :
    ∀ (fuel : Nat) (E : List (Nat × L)) (st : St L), InvD g S lev E st → g.n < fuel + E.length →
      InvD g S lev (E ++ (runP g lab fuel st).1) (runP g lab fuel st).2 ∧ (runP g lab fuel st).2.queue = [] := by
  intro fuel
  induction fuel with
  | zero =>
    intro E st h hlt
    rw [Nat.zero_add] at hlt
    exact absurd (Nat.le_trans (Nat.le_add_right _ _) (inv_card h.toInv)) (Nat.not_le_of_gt hlt)
  | succ f ih =>
    intro E st h hlt
    simp only [runP]
    cases hn : nextP g lab st with
    | none => exact ⟨by rwa [List.append_nil], nextP_eq_none hn⟩
    | some p =>
      have := ih (E ++ [p.1]) p.2 (step_invD g hg lab lev hlev S E st p.2 p.1 h hn)
        (by rwa [List.length_append, List.length_singleton, ← Nat.add_assoc, Nat.add_right_comm])
      rwa [List.append_assoc] at this

theorem runP_stable (g : Graph) (lab : Lab L) :
    ∀ (fuel fuel' : Nat) (st : St L), fuel ≤ fuel' → (runP g lab fuel st).2.queue = [] →
      runP g lab fuel' st = runP g lab fuel st := by
  intro fuel
  induction fuel with
  | zero =>
    intro fuel' st _ hq
    cases fuel' with
    | zero => rfl
    | succ f' => simp only [runP] at hq ⊢; simp only [nextP, hq]
  | succ f ih =>
    intro fuel' st hle hq
    cases fuel' with
    | zero => exact absurd hle (Nat.not_succ_le_zero f)
    | succ f' =>
      simp only [runP] at hq ⊢
      cases hn : nextP g lab st with
      | none => rfl
      | some p =>
        rw [hn] at hq
        simp only [ih f' p.2 (Nat.le_of_succ_le_succ hle) hq]

theorem init_invD (g : Graph) (lab : Lab L) (lev : L → Nat) (hlev : IsLevel lab lev)
    (S : List Nat) (hS : ∀ s ∈ S, s < g.n) (hnd : S.Nodup) :
    InvD g S lev [] (newP g lab S) := by
  obtain ⟨hq, hl, hv⟩ := newP_spec lab hS
  have hmap : (([] : List (Nat × L)) ++ (newP g lab S).queue).map (·.1) = S := by
    rw [List.nil_append, hq, List.map_map]
    exact List.map_id S
  have hitem : ∀ p ∈ ([] : List (Nat × L)) ++ (newP g lab S).queue, p.1 ∈ S ∧ lev p.2 = 0 := fun p hp => by
    rw [List.nil_append, hq] at hp
    obtain ⟨s, hs, rfl⟩ := List.mem_map.mp hp
    exact ⟨hs, hlev.init⟩
  refine { len := hl, vis := ?_, nodup := ?_, reach := ?_, closed := ?_, src := ?_, lvl := ?_,
           sorted := ?_, span := ?_, bound := ?_ }
  · intro x; rw [hv x, hmap, decide_eq_true_eq]
  · rwa [hmap]
  · intro x hx; rw [hmap] at hx; exact ⟨x, hx, Reach.refl x⟩
  · intro p hp; cases hp
  · intro s hs; rw [hv s, decide_eq_true_eq]; exact hs
  · intro p hp
    rw [(hitem p hp).2]
    exact OracleProof.hop_src (hitem p hp).1
  · rw [List.pairwise_map]
    exact List.pairwise_of_forall_mem_list (fun p hp q hq => by rw [(hitem p hp).2, (hitem q hq).2]; exact Nat.le_refl 0)
  · intro hd _ p hp; rw [(hitem p hp).2]; exact Nat.zero_le _
  · intro p hp; rw [(hitem p hp).2]; exact List.length_pos_of_mem hp

theorem run_final (hg : g.WF) (hlev : IsLevel lab lev) (hS : ∀ s ∈ S, s < g.n) (hnd : S.Nodup)
    {fuel : Nat} (hf : g.n < fuel) :
    InvD g S lev (runP g lab fuel (newP g lab S)).1 (runP g lab fuel (newP g lab S)).2 ∧
    (runP g lab fuel (newP g lab S)).2.queue = [] := by
  have := run_inv g hg lab lev hlev S fuel [] (newP g lab S) (init_invD g lab lev hlev S hS hnd) hf
  rwa [List.nil_append] at this

theorem runP_levelSpec (hg : g.WF) (hlev : IsLevel lab lev) (hS : ∀ s ∈ S, s < g.n) (hnd : S.Nodup)
    {fuel : Nat} (hf : g.n < fuel) :
    let out := (runP g lab fuel (newP g lab S)).1
    (out.map (·.1)).Nodup ∧ (∀ v, v ∈ out.map (·.1) ↔ ReachFrom g S v) ∧
    (∀ p ∈ out, IsHopDist g S p.1 (lev p.2)) ∧ (out.map (fun p => lev p.2)).Pairwise (· ≤ ·) ∧
    ∀ p ∈ out, p.1 < g.n ∧ lev p.2 < g.n := by
  obtain ⟨hI, hq⟩ := run_final hg hlev hS hnd hf
  have hcard := inv_card hI.toInv
  generalize (runP g lab fuel (newP g lab S)).1 = out at hI hcard ⊢
  generalize (runP g lab fuel (newP g lab S)).2 = st at hI hcard hq
  have hE : out ++ st.queue = out := by rw [hq, List.append_nil]
  refine ⟨hE ▸ hI.nodup, fun v => ⟨fun hv => hI.reach v (hE.symm ▸ hv), closed_reach hI.toInv hq v⟩,
    fun p hp => hI.lvl p (hE.symm ▸ hp), hE ▸ hI.sorted, fun p hp => ⟨?_, ?_⟩⟩
  · exact hI.lt p.1 (List.mem_map_of_mem (hE.symm ▸ hp))
  · have := hI.bound p (hE.symm ▸ hp)
    rw [hE] at this
    exact Nat.lt_of_lt_of_le this (Nat.le_trans (Nat.le_add_right _ _) hcard)

theorem iter_eq (hg : g.WF) (lab : Lab L) (hS : ∀ s ∈ S, s < g.n) :
    iter g lab S = .ok (runP g lab (fuelFor g S) (newP g lab S)).1 := by
  unfold iter
  rw [new_eq g lab S hS]
  exact run_eq hg lab _ (newP_spec lab hS).2.1

/-- Fuel adequacy: any fuel above the order drives the iterator to exhaustion with the same
result, so `fuelFor` is a termination argument and not an assumption. -/
theorem iter_fuel (hg : g.WF) (hlev : IsLevel lab lev)
    (hS : ∀ s ∈ S, s < g.n) (hnd : S.Nodup) {fuel : Nat} (hf : g.n < fuel) :
    ∃ st, new g lab S = .ok st ∧ run g lab fuel st = iter g lab S := by
  refine ⟨newP g lab S, new_eq g lab S hS, ?_⟩
  have hlen := (newP_spec lab hS).2.1
  rw [iter_eq hg lab hS, run_eq hg lab fuel hlen]
  have h1 := (run_final hg hlev hS hnd (Nat.lt_succ_self g.n)).2
  have a := runP_stable g lab (g.n + 1) fuel (newP g lab S) hf h1
  have b := runP_stable g lab (g.n + 1) (fuelFor g S) (newP g lab S) (Nat.succ_le_succ (Nat.le_add_right _ _)) h1
  rw [a, b]

end GraafVerif.Bfs
