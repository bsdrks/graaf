/-!
# Folds over lists

Facts about `List.foldl` / `List.foldlM` and `zipIdx` of a range that depend on no model.  Namespace
`Fold` has the ways a fact is carried through `for b in l { a = f(a, b) }`: an invariant, facts
established element by element, a view of the state that commutes with the step, a change flag, steps
that do nothing; then come equations between folds.  At the head stand list facts: the ranges `a..b`
(`mem_range'_sub`) and `(0..u).chain(u + 1..n)` (`mem_range_skip`, `pairwise_range_skip`); `nodup_snoc`, a
new element at the end of a duplicate-free list; `filter_length_le/_lt`, the step of the
measure "vertices not yet indexed" of the Tarjan of C09 and of the one inside C10; `length_le_of_nodup_lt`
bounds a list of distinct vertices by the order (fuel, path lengths, queue sizes); `exists_first` splits a
list at its first element that passes a test; `exists_least_le` and `least_unique` are the least witness of a
predicate on `Nat`.
-/
namespace GraafVerif

theorem mem_range'_sub {a b x : Nat} : x ∈ List.range' a (b - a) ↔ a ≤ x ∧ x < b :=
  List.mem_range'_1.trans (and_congr_right fun h => by
    rw [← Nat.sub_lt_iff_lt_add' h]; exact Nat.sub_lt_sub_iff_right h)

/-- `(0..u).chain(u + 1..n)` has every `v < n` but `u`, in ascending order. -/
theorem mem_range_skip {u n v : Nat} (hu : u < n) :
    v ∈ List.range u ++ List.range' (u + 1) (n - (u + 1)) ↔ v < n ∧ v ≠ u := by
  rw [List.mem_append, List.mem_range, mem_range'_sub]
  exact ⟨fun h => h.elim (fun h => ⟨Nat.lt_trans h hu, Nat.ne_of_lt h⟩) fun h => ⟨h.2, Nat.ne_of_gt h.1⟩,
    fun h => (Nat.lt_or_gt_of_ne h.2).imp_right fun hgt => ⟨hgt, h.1⟩⟩

theorem pairwise_range_skip (u n : Nat) : (List.range u ++ List.range' (u + 1) (n - (u + 1))).Pairwise (· < ·) :=
  List.pairwise_append.mpr ⟨List.pairwise_lt_range, List.pairwise_lt_range' .., fun _ ha _ hb =>
    Nat.lt_trans (List.mem_range.1 ha) (mem_range'_sub.1 hb).1⟩

theorem nodup_snoc {α : Type} {l : List α} {x : α} (h : l.Nodup) (hx : x ∉ l) : (l ++ [x]).Nodup :=
  List.nodup_append.mpr ⟨h, List.pairwise_singleton _ _, fun _ ha _ hb e =>
    hx (List.mem_singleton.mp hb ▸ e ▸ ha)⟩

theorem length_le_of_nodup_lt {l : List Nat} {N : Nat} (hnd : l.Nodup) (hlt : ∀ x ∈ l, x < N) : l.length ≤ N :=
  List.length_range (n := N) ▸ hnd.length_le_of_subset fun x hx => List.mem_range.mpr (hlt x hx)

theorem filter_length_le {α} (p q : α → Bool) (l : List α) (h : ∀ x ∈ l, p x = true → q x = true) :
    (l.filter p).length ≤ (l.filter q).length := by
  rw [← List.countP_eq_length_filter, ← List.countP_eq_length_filter]
  exact List.countP_mono_left h

theorem filter_length_lt {α} (p q : α → Bool) (l : List α) (h : ∀ x ∈ l, p x = true → q x = true)
    (u : α) (hu : u ∈ l) (hq : q u = true) (hp : p u = false) :
    (l.filter p).length < (l.filter q).length := by
  obtain ⟨l1, l2, rfl⟩ := List.append_of_mem hu
  have h1 := filter_length_le p q l1 (fun x hx => h x (by simp [hx]))
  have h2 := filter_length_le p q l2 (fun x hx => h x (by simp [hx]))
  simp only [List.filter_append, List.filter_cons, hp, hq, List.length_append, List.length_cons, if_true,
    Bool.false_eq_true, if_false]
  exact Nat.lt_succ_of_le (Nat.add_le_add h1 h2)

theorem exists_first {α : Type} (P : α → Bool) (l : List α) (h : ∃ a ∈ l, P a = true) :
    ∃ pre a post, l = pre ++ a :: post ∧ (∀ b ∈ pre, P b = false) ∧ P a = true := by
  obtain ⟨a, ha, hpa⟩ := h
  cases hf : l.find? P with
  | none => exact absurd hpa (List.find?_eq_none.mp hf a ha)
  | some b =>
    obtain ⟨hb, as, bs, rfl, has⟩ := List.find?_eq_some_iff_append.mp hf
    exact ⟨as, b, bs, rfl, fun c hc => by simpa using has c hc, hb⟩

/-- Least witness below a witness (core Lean has no `Nat.find`). -/
theorem exists_least_le (P : Nat → Prop) : ∀ j, P j → ∃ m, m ≤ j ∧ P m ∧ ∀ k, k < m → ¬ P k := by
  intro j
  induction j using Nat.strongRecOn with
  | _ j ih =>
    intro h
    by_cases hex : ∃ k, k < j ∧ P k
    · obtain ⟨k, hk, hp⟩ := hex
      obtain ⟨m, hm, hd⟩ := ih k hk hp
      exact ⟨m, Nat.le_trans hm (Nat.le_of_lt hk), hd⟩
    · exact ⟨j, Nat.le_refl _, h, fun k hk hp => hex ⟨k, hk, hp⟩⟩

theorem least_unique {P : Nat → Prop} {d d' : Nat} (h : P d ∧ ∀ k, k < d → ¬ P k) (h' : P d' ∧ ∀ k, k < d' → ¬ P k) :
    d = d' :=
  Nat.le_antisymm (Nat.le_of_not_lt fun hlt => h.2 d' hlt h'.1) (Nat.le_of_not_lt fun hlt => h'.2 d hlt h.1)

end GraafVerif

namespace GraafVerif.Fold

theorem foldl_inv {α β : Type} (P : α → Prop) {f : α → β → α} {l : List β}
    (h : ∀ a b, b ∈ l → P a → P (f a b)) (a : α) (ha : P a) : P (l.foldl f a) :=
  List.foldlRecOn l f ha fun a ha b hb => h a b hb ha

theorem foldl_fixed {α β : Type} (f : α → β → α) (a : α) (l : List β) (h : ∀ b ∈ l, f a b = a) :
    l.foldl f a = a :=
  foldl_inv (· = a) (fun _ b hb e => e ▸ h b hb) a rfl

theorem foldl_establish {α β : Type} (I : α → Prop) (Q : β → α → Prop) (f : α → β → α) :
    ∀ (l : List β), (∀ a b, b ∈ l → I a → I (f a b) ∧ Q b (f a b) ∧ ∀ c, Q c a → Q c (f a b)) →
      ∀ a, I a → I (l.foldl f a) ∧ ∀ b ∈ l, Q b (l.foldl f a) := by
  intro l
  induction l with
  | nil => exact fun _ a ha => ⟨ha, nofun⟩
  | cons x rest ih =>
    intro h a ha
    have hrest := fun a b hb => h a b (List.mem_cons_of_mem x hb)
    obtain ⟨hI, hQ, -⟩ := h a x List.mem_cons_self ha
    obtain ⟨hIl, hQl⟩ := ih hrest _ hI
    refine ⟨hIl, fun b hb => ?_⟩
    rcases List.mem_cons.mp hb with rfl | hb
    · exact (foldl_inv (fun a => I a ∧ Q b a)
        (fun a c hc ha => ⟨(hrest a c hc ha.1).1, (hrest a c hc ha.1).2.2 b ha.2⟩) _ ⟨hI, hQ⟩).2
    · exact hQl b hb

/-- `F` is a fact about the state that only grows, such as "`x` is a member". -/
theorem foldl_accum {σ α : Type} {step : σ → α → σ} (F : σ → Prop) (R : α → Prop)
    (h : ∀ s a, F (step s a) ↔ F s ∨ R a) :
    ∀ (l : List α) (s : σ), F (l.foldl step s) ↔ F s ∨ ∃ a ∈ l, R a := by
  intro l
  induction l with
  | nil => exact fun s => ⟨Or.inl, fun h => h.elim id fun ⟨_, hm, _⟩ => nomatch hm⟩
  | cons a l ih =>
    intro s
    rw [List.foldl_cons, ih, h, or_assoc]
    simp only [List.mem_cons, exists_eq_or_imp]

theorem foldl_sim {α α' β : Type} (P : α → α') (f : α → β → α) (f' : α' → β → α')
    (h : ∀ a b, P (f a b) = f' (P a) b) : ∀ (l : List β) (a : α), P (l.foldl f a) = l.foldl f' (P a) := by
  intro l
  induction l with
  | nil => intro a; rfl
  | cons b rest ih => intro a; rw [List.foldl_cons, List.foldl_cons, ih, h]

/-- States with a change flag.  A step that did nothing whenever it left the flag down cannot lower a
raised flag, so no monotonicity of the flag is assumed. -/
theorem foldl_quiet {α β : Type} (f : α × Bool → β → α × Bool) (Q : α × Bool → β → Prop) :
    ∀ (l : List β), (∀ a, ∀ b ∈ l, (f a b).2 = false → f a b = a ∧ Q a b) →
      ∀ a, (l.foldl f a).2 = false → l.foldl f a = a ∧ ∀ b ∈ l, Q a b := by
  intro l
  induction l with
  | nil => intro _ a _; exact ⟨rfl, fun _ hb => by cases hb⟩
  | cons b rest ih =>
    intro hstep a h
    rw [List.foldl_cons] at h ⊢
    obtain ⟨e, hall⟩ := ih (fun a c hc => hstep a c (List.mem_cons_of_mem _ hc)) _ h
    rw [e] at h ⊢
    obtain ⟨e', hb⟩ := hstep a b List.mem_cons_self h
    rw [e'] at hall
    refine ⟨e', fun c hc => ?_⟩
    rcases List.mem_cons.mp hc with rfl | hc
    · exact hb
    · exact hall c hc

theorem foldl_filter_noop {α β : Type} (I : α → Prop) (p : β → Bool) (f : α → β → α)
    (hI : ∀ a b, I a → I (f a b)) (hno : ∀ a b, I a → p b = false → f a b = a) :
    ∀ (l : List β) (a : α), I a → l.foldl f a = (l.filter p).foldl f a := by
  intro l
  induction l with
  | nil => intro a _; rfl
  | cons b rest ih =>
    intro a ha
    cases hp : p b with
    | true => rw [List.filter_cons_of_pos hp, List.foldl_cons, List.foldl_cons]; exact ih _ (hI a b ha)
    | false => rw [List.filter_cons_of_neg (by simp [hp]), List.foldl_cons, hno a b ha hp]; exact ih a ha

theorem foldlM_prefix {α β : Type} (P : List β → α → Prop) (f : α → β → Option α)
    (hstep : ∀ pre a b a', P pre a → f a b = some a' → P (pre ++ [b]) a') :
    ∀ (l pre : List β) (a a' : α), P pre a → l.foldlM f a = some a' → P (pre ++ l) a' := by
  intro l
  induction l with
  | nil => intro pre a a' h e; cases e; rw [List.append_nil]; exact h
  | cons b rest ih =>
    intro pre a a' h e
    rw [List.foldlM_cons] at e
    cases h1 : f a b with
    | none => rw [h1] at e; cases e
    | some a1 =>
      rw [h1] at e
      rw [List.append_cons]
      exact ih (pre ++ [b]) a1 a' (hstep pre a b a1 h h1) e

theorem foldlM_flatMap {m : Type → Type} [Monad m] [LawfulMonad m] {α γ σ : Type} (F : α → List γ) (g : σ → γ → m σ) :
    ∀ (l : List α) (s : σ), (l.flatMap F).foldlM g s = l.foldlM (fun s a => (F a).foldlM g s) s
  | [], _ => rfl
  | a :: l, s => by
    rw [List.flatMap_cons, List.foldlM_append, List.foldlM_cons]
    exact bind_congr fun s' => foldlM_flatMap F g l s'

end GraafVerif.Fold

/-! Equations between folds, in the namespace of the theorems about the regenerated functions (`Thm/AlgoGen*.lean`):
the audit lists of those properties (`props/*.json`) name them there. -/
namespace GraafVerif.AlgoGenThm

theorem foldlM_flatMap {σ α γ : Type} (F : α → List γ) (f : σ → γ → Option σ) :
    ∀ (us : List α) (s : σ), (us.flatMap F).foldlM f s = us.foldlM (fun s u => (F u).foldlM f s) s  :=
  Fold.foldlM_flatMap F f

theorem foldlM_some {σ α : Type} (g : σ → α → σ) : ∀ (l : List α) (s : σ),
    l.foldlM (fun s a => some (g s a)) s = some (l.foldl g s)  :=
  fun _ _ => List.foldlM_pure

theorem foldlM_congr_mem {σ α : Type} (l : List α) (f g : σ → α → Option σ)
    (h : ∀ s a, a ∈ l → f s a = g s a) : ∀ s, l.foldlM f s = l.foldlM g s := by
  induction l with
  | nil => intro s; rfl
  | cons a l ih =>
    intro s
    rw [List.foldlM_cons, List.foldlM_cons, h s a List.mem_cons_self]
    cases g s a with
    | none => rfl
    | some s' => exact ih (fun s b hb => h s b (List.mem_cons_of_mem _ hb)) s'

theorem foldl_flatMap {σ α γ : Type} (F : α → List γ) (f : σ → γ → σ) :
    ∀ (us : List α) (s : σ), (us.flatMap F).foldl f s = us.foldl (fun s u => (F u).foldl f s) s := by
  intro us
  induction us with
  | nil => intro s; rfl
  | cons u us ih =>
    intro s
    rw [List.flatMap_cons, List.foldl_append, List.foldl_cons]
    exact ih _

theorem foldl_congr_all {σ α : Type} (f g : σ → α → σ) (l : List α) (s : σ) (h : ∀ s a, f s a = g s a) :
    l.foldl f s = l.foldl g s := by
  have : f = g := by funext s a; exact h s a
  rw [this]

theorem foldl_snoc_map {α γ : Type} (f : α → γ) : ∀ (l : List α) (acc : List γ),
    l.foldl (fun s a => s ++ [f a]) acc = acc ++ l.map f := by
  intro l
  induction l with
  | nil => intro acc; exact (List.append_nil acc).symm
  | cons a l ih => intro acc; rw [List.foldl_cons, ih, List.append_assoc]; rfl

theorem foldl_snoc_zipIdx {α γ : Type} (f : α → γ) (l : List α) (k : Nat) (acc : List γ) :
    (l.zipIdx k).foldl (fun s rk => s ++ [f rk.1]) acc = acc ++ l.map f := by
  exact (foldl_snoc_map (f ∘ Prod.fst) _ acc).trans (by rw [← List.map_map, List.zipIdx_map_fst])

theorem foldl_pair {σ τ α : Type} (g : σ → α → σ) (h : τ → α → τ) : ∀ (l : List α) (s : σ) (t : τ),
    l.foldl (fun st a => (g st.1 a, h st.2 a)) (s, t) = (l.foldl g s, l.foldl h t) := by
  intro l
  induction l with
  | nil => intro s t; rfl
  | cons a l ih => intro s t; exact ih _ _

theorem foldl_append_flatten {γ : Type} : ∀ (l : List (List γ)) (acc : List γ),
    l.foldl (fun s a => s ++ a) acc = acc ++ l.flatten := by
  intro l
  induction l with
  | nil => intro acc; simp
  | cons a l ih => intro acc; rw [List.foldl_cons, ih]; simp

theorem foldl_flatten {σ α : Type} (f : σ → α → σ) : ∀ (ls : List (List α)) (s : σ),
    ls.flatten.foldl f s = ls.foldl (fun s l => l.foldl f s) s :=
  fun _ _ => List.foldl_flatten

theorem zipIdx_range' (a k b : Nat) :
    (List.range' a k).zipIdx b = (List.range' a k).map (fun u => (u, u - a + b)) := by
  induction k generalizing a b with
  | zero => rfl
  | succ k ih =>
    rw [List.range'_succ, List.zipIdx_cons, List.map_cons, ih, Nat.sub_self, Nat.zero_add]
    refine congrArg _ (List.map_congr_left fun u hu => ?_)
    obtain ⟨d, rfl⟩ := Nat.exists_eq_add_of_le (List.mem_range'_1.1 hu).1
    rw [Nat.add_sub_cancel_left, Nat.add_assoc a, Nat.add_sub_cancel_left, Nat.add_comm 1 d, Nat.add_assoc d,
      Nat.add_comm 1 b]

theorem zipIdx_range (n : Nat) : (List.range n).zipIdx = (List.range n).map (fun u => (u, u)) := by
  rw [List.range_eq_range', zipIdx_range']
  simp

end GraafVerif.AlgoGenThm
