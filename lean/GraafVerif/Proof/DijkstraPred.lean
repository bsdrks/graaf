import GraafVerif.Proof.DijkstraRun
import GraafVerif.Proof.PredForest
/-!
# `DijkstraPred`: the predecessor tree and `shortest_path`

The emitted entries come parent first (`OutOK.parentFirst`), so the search of `shortest_path` in the
tree written so far, started at the first target popped, climbs the ancestor chain of that entry:
read backwards, a walk from a source whose weight is the entry's key (`entry_chain`).
-/
namespace GraafVerif.Dijkstra
open GraafVerif

variable {g : WGraph} {S : List Nat}

theorem _root_.GraafVerif.PathW.snoc {l : List Nat} {wt : Int} (h : PathW g l wt) :
    ∀ {u v : Nat} {w : Int}, l.getLast? = some u → g.A u v w → PathW g (l ++ [v]) (wt + w) := by
  induction h with
  | single u0 =>
    intro u v w hl ha
    cases hl
    rw [Int.zero_add, ← Int.add_zero w]
    exact PathW.cons ha (PathW.single v)
  | @cons a b rest w' wt' ha' _ ih =>
    intro u v w hl ha
    rw [List.getLast?_cons_cons] at hl
    rw [Int.add_assoc]
    exact PathW.cons ha' (ih hl ha)

theorem OutOK.parentFirst {out : List Entry} (ok : OutOK g S out) :
    PredTree.ParentFirst (fun e : Entry => e.v) (fun e => e.p) out :=
  ⟨ok.nodup, ok.predBefore⟩

/-- `PredecessorTree::new(n)` with `pred[v] = p` written for every entry of `P` in order. -/
abbrev treeOf (n : Nat) (P : List Entry) : PredTree.Pred :=
  Vec.written (fun e : Entry => e.v) (fun e => e.p) none n P

theorem predecessors_eq_treeOf (g : WGraph) (S : List Nat) :
    predecessors g S = treeOf g.n (entries g some S) := by
  rw [predecessors, predecessorsOf, dijkstraPred, List.foldl_map]; rfl

theorem spLoop_none (isT : Nat → Bool) :
    ∀ (P : List Entry) (pred : PredTree.Pred), (∀ e ∈ P, isT e.v = false) →
      spLoop isT (P.map fun e => (e.p, e.v)) pred = .ret none := by
  intro P
  induction P with
  | nil => intro _ _; rfl
  | cons a P ih =>
    intro pred h
    rw [List.map_cons, spLoop, if_neg (by rw [h a List.mem_cons_self]; exact Bool.false_ne_true)]
    exact ih _ (fun e he => h e (List.mem_cons_of_mem _ he))

/-- At the first target the loop searches the tree of the entries up to it. -/
theorem spLoop_hit (isT : Nat → Bool) :
    ∀ (pre : List Entry) (pred : PredTree.Pred) (e : Entry) (post : List Entry),
      (∀ b ∈ pre, isT b.v = false) → isT e.v = true →
      spLoop isT ((pre ++ e :: post).map fun e => (e.p, e.v)) pred =
        resMap List.reverse (PredTree.searchBy
          ((pre ++ [e]).foldl (fun acc e => acc.set e.v e.p) pred) e.v PredTree.isRoot) := by
  intro pre
  induction pre with
  | nil => intro pred e post _ hv; exact if_pos hv
  | cons a pre ih =>
    intro pred e post h hv
    rw [List.cons_append, List.map_cons, spLoop,
      if_neg (by rw [h a List.mem_cons_self]; exact Bool.false_ne_true)]
    exact ih _ e post (fun b hb => h b (List.mem_cons_of_mem _ hb)) hv

theorem predEntries_facts (h : Hyp g S) :
    let out := entries g some S
    OutOK g S out ∧
    (∀ e ∈ out, ∀ u, e.p = some u → ∃ eu ∈ out, eu.v = u ∧ ∃ w, (e.v, w) ∈ g.out u ∧ e.d = eu.d + w) ∧
    (∀ e ∈ out, e.p = none → e.v ∈ S ∧ e.d = 0) ∧
    (∀ e ∈ out, e.v ∈ S → e.p = none) := by
  obtain ⟨ok, ⟨st', inv, hh⟩, _⟩ := entries_spec (tag := some) h tagOK_some
  exact ⟨ok, fun e he => inv.predSome e (List.mem_append_right _ he),
    fun e he => inv.predNone (fun u => nofun) e (List.mem_append_right _ he),
    fun e he => inv.srcNone e (List.mem_append_right _ he)⟩

/-- Searching, from the entry at a split point of the emitted sequence, the tree of any part `P` of the
sequence that contains the prefix up to it returns its ancestor chain: backwards a walk from a source of
weight its key. -/
theorem entry_chain (h : Hyp g S) {pre post : List Entry} {e : Entry}
    (hsplit : entries g some S = pre ++ e :: post) {P : List Entry}
    (hP1 : ∀ b ∈ pre ++ [e], b ∈ P) (hP2 : ∀ b ∈ P, b ∈ entries g some S) (hnd : (P.map (·.v)).Nodup) :
    ∃ c, PredTree.searchBy (treeOf g.n P) e.v PredTree.isRoot = .ret (some (e.v :: c)) ∧
      PathW g (e.v :: c).reverse e.d ∧ ∃ s ∈ S, (e.v :: c).getLast? = some s := by
  obtain ⟨ok, hsome, hnone, _⟩ := predEntries_facts h
  have hlt := entries_lt h tagOK_some
  refine (ok.parentFirst.searchBy_anc hlt
    (fun e c => PathW g c.reverse e.d ∧ ∃ s ∈ S, c.getLast? = some s)
    (fun e he hp => ?_) (fun e he eu heu hp c hM => ?_) hsplit
    (fun b hb => Vec.written_mem hnd (hP1 b hb) (hlt b (hP2 b (hP1 b hb))))
    (Vec.written_length _ g.n P)).imp fun c hc => ⟨hc.1, hc.2⟩
  · obtain ⟨h1, h2⟩ := hnone e he hp
    exact ⟨h2 ▸ PathW.single _, _, h1, rfl⟩
  · obtain ⟨eu', heu', hv, w, harc, hd⟩ := hsome e he _ hp
    cases Vec.eq_of_map_nodup (·.v) _ ok.nodup eu' heu' eu heu hv
    obtain ⟨s, hs, hl⟩ := hM.2
    refine ⟨?_, s, hs, (List.getLast?_cons_cons ..).trans hl⟩
    rw [List.reverse_cons, hd]
    exact hM.1.snoc (by rw [List.getLast?_reverse]; rfl) harc

end GraafVerif.Dijkstra
