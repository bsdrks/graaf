import GraafVerif.Proof.AlgoGenBfs
/-!
# Generated `BfsPred::{shortest_path, cycles}` = hand-written `Bfs.spLoop` / `Bfs.cyLoop`

Both loops run the generated `next` (= hand-written `Bfs.next`, `BfsPred.next_eq`) and call the
generated `search_by` / `search` (= hand-written `PredTree.searchByFuel`).  The generated
definitions have ONE fuel parameter, used for the iteration and handed to `search_by`; the
hand-written model fixes the fuel of the search at `pred.len() + 2`, so the equalities ask for
`order + 2 ≤ fuel` (`PredTree.searchByFuel_adequate`: every such fuel gives the same search).
As for `predecessors`, the pointer write `*pred_ptr.add(v) = u` needs the invariant `QInv` of `new`.
-/
namespace GraafVerif.AlgoGenThm
open GraafVerif GraafVerif.AlgoGen

namespace BfsPred

theorem searchBy_call (F : Nat) (t : AlgoGen.PredecessorTree) (v : Nat) (isT : Nat → Option Nat → Bool)
    (hF : t.pred.length + 2 ≤ F) :
    AlgoGen.PredecessorTree.searchBy F t v isT = PredecessorTree.liftP (PredTree.searchBy t.pred v isT) :=
  PredecessorTree.searchBy_of_le F t v isT hF

/-- A non-empty source list makes the hand-written fuel cover the search as well. -/
theorem fuelFor_ge (g : Graph) (S : List Nat) (hS : S ≠ []) : g.n + 2 ≤ GraafVerif.Bfs.fuelFor g S :=
  Nat.succ_le_succ (Nat.add_le_add_left (List.length_pos_iff.2 hS) g.n)

/-- The body of the `for (u, v) in self.by_ref()` loop of `shortest_path`. -/
theorem shortestPath_for0_eq (F : Nat) (isT : Nat → Bool) (self : AlgoGen.BfsPred) (t : AlgoGen.PredecessorTree)
    (y : Option Nat × Nat) (hv : y.2 < t.pred.length) (hF : t.pred.length + 2 ≤ F) :
    (AlgoGen.BfsPred.shortestPath_for0 F isT self t y : Blk _ (Option (List Nat) × AlgoGen.BfsPred) _) =
      if isT y.2 = true then
        match PredTree.searchBy (t.pred.set y.2 y.1) y.2 (fun _ b => b.isNone) with
        | .panic => .error (.err (.fault .panic))
        | .ret r => .error (.ret (r.map List.reverse, self))
      else .ok ⟨t.pred.set y.2 y.1⟩ :=
  PredecessorTree.shortestPath_step _ F isT self t y hv hF

/-- The loop of `shortest_path` (followed by the final `None`) = the hand-written `spLoop`. -/
theorem shortestPath_loop_eq (g : Graph) (F : Nat) (isT : Nat → Bool) (hF : g.n + 2 ≤ F) :
    ∀ (k : Nat) (s : AlgoGen.BfsPred) (t : AlgoGen.PredecessorTree), QInv g.n (toH s) → t.pred.length = g.n →
      Except.map Prod.fst (fnBody (iterLoopS (AlgoGen.BfsPred.next g) (AlgoGen.BfsPred.shortestPath_for0 F isT) k s t
          >>= fun r => pure (none, r.2) : Blk Empty (Option (List Nat) × AlgoGen.BfsPred) _)) =
        liftBR id (GraafVerif.Bfs.spLoop g isT k (toH s) t.pred) := by
  intro k
  induction k with
  | zero =>
    intro s t _ _
    rfl
  | succ k ih =>
    intro s t hq ht
    rw [GraafVerif.Bfs.spLoop]
    have hn := next_eq g s
    cases hh : GraafVerif.Bfs.next g GraafVerif.Bfs.labPred (toH s) with
    | done =>
      rw [hh] at hn
      rw [iterLoopS_succ_none _ _ _ _ _ _ hn]
      rfl
    | panic =>
      rw [hh] at hn
      rw [iterLoopS_succ_error _ _ _ _ _ _ hn]
      rfl
    | yield x st' =>
      rw [hh] at hn
      obtain ⟨hq', hx⟩ := next_qinv g _ g.n _ _ _ hq hh
      rw [iterLoopS_succ_some _ _ _ _ _ _ _ hn,
        shortestPath_for0_eq F isT (ofH st') t (sw x) (by rw [ht]; exact hx) (by rw [ht]; exact hF)]
      dsimp only [sw]
      by_cases hT : isT x.1 = true
      · simp only [hT, if_true]
        cases PredTree.searchBy (t.pred.set x.1 x.2) x.1 (fun _ b => b.isNone) <;> rfl
      · simp only [hT, if_false, Bool.false_eq_true]
        exact (ih (ofH st') ⟨t.pred.set x.1 x.2⟩ (by rw [toH_ofH]; exact hq')
          (by rw [List.length_set, ht])).trans (by rw [toH_ofH])

theorem shortestPath_eq (g : Graph) (F : Nat) (s : AlgoGen.BfsPred) (isT : Nat → Bool) (hF : g.n + 2 ≤ F)
    (hq : QInv g.n (toH s)) :
    Except.map Prod.fst (AlgoGen.BfsPred.shortestPath g F s isT) =
      if g.n = 0 then .error (.fault .panic)
      else liftBR id (GraafVerif.Bfs.spLoop g isT F (toH s) (List.replicate g.n none)) := by
  refine (PredecessorTree.map_fnBody_new_bind g.n _ _).trans (ite_congr rfl (fun _ => rfl) (fun _ => ?_))
  exact shortestPath_loop_eq g F isT hF F s ⟨List.replicate g.n none⟩ hq List.length_replicate

/-- `BfsPred::new(&g, S).shortest_path(is_target)` = the hand-written `Bfs.shortestPath` (for a
non-empty source list: then the hand-written fuel `order + |S| + 1` also covers the search). -/
theorem new_shortestPath_eq (g : Graph) (S : List Nat) (isT : Nat → Bool) (hS : S ≠ []) :
    (AlgoGen.BfsPred.new g S >>= fun s =>
        Except.map Prod.fst (AlgoGen.BfsPred.shortestPath g (GraafVerif.Bfs.fuelFor g S) s isT)) =
      liftBR id (GraafVerif.Bfs.shortestPath g S isT) := by
  refine new_bind_eq g S _ _ (fun st hq => ?_)
  rw [shortestPath_eq g _ _ isT (fuelFor_ge g S hS) (by rwa [toH_ofH]), toH_ofH]

/-- `for x in out_neighbors(v) { if let Some(mut path) = pred.search(v, x) { path.reverse(); cycles.push(path) } }`
= the hand-written `cyclesAt`. -/
theorem cycles_for0_eq (F : Nat) (t : AlgoGen.PredecessorTree) (v : Nat) (hF : t.pred.length + 2 ≤ F) :
    ∀ (xs : List Nat) (acc : List (List Nat)),
      (forLoop (AlgoGen.BfsPred.cycles_for0 F t v) xs acc :
          Blk (AlgoGen.BfsPred × AlgoGen.PredecessorTree × List (List Nat)) (List (List Nat) × AlgoGen.BfsPred) _) =
        liftB id (GraafVerif.Bfs.cyclesAt t.pred v xs acc) := by
  intro xs
  induction xs with
  | nil =>
    intro acc
    rfl
  | cons x xs ih =>
    intro acc
    have hs : AlgoGen.PredecessorTree.search F t v x = PredecessorTree.liftP (PredTree.search t.pred v x) := by
      rw [PredecessorTree.search_eq, PredTree.searchByFuel_adequate _ _ _ _ hF]
      rfl
    rw [forLoop_cons, AlgoGen.BfsPred.cycles_for0, hs, GraafVerif.Bfs.cyclesAt]
    cases PredTree.search t.pred v x with
    | panic => rfl
    | ret r =>
      cases r with
      | none => exact ih acc
      | some p => exact ih _

/-- One round of `while let Some((u, v)) = self.next()`. -/
theorem cycles_while0_step (g : Graph) (F : Nat) (hF : g.n + 2 ≤ F) (s : AlgoGen.BfsPred) (t : AlgoGen.PredecessorTree)
    (acc : List (List Nat)) (hq : QInv g.n (toH s)) (ht : t.pred.length = g.n) :
    (AlgoGen.BfsPred.cycles_while0 g F (s, t, acc) :
        Blk _ (List (List Nat) × AlgoGen.BfsPred) _) =
      match GraafVerif.Bfs.next g GraafVerif.Bfs.labPred (toH s) with
      | .done => brk (s, t, acc)
      | .panic => .error (.err (.fault .panic))
      | .yield x st' =>
        match GraafVerif.Bfs.cyclesAt (t.pred.set x.1 x.2) x.1 (g.out x.1) acc with
        | .panic => .error (.err (.fault .panic))
        | .ok acc' => .ok (ofH st', ⟨t.pred.set x.1 x.2⟩, acc') := by
  unfold AlgoGen.BfsPred.cycles_while0
  simp only [next_eq g s]
  cases hh : GraafVerif.Bfs.next g GraafVerif.Bfs.labPred (toH s) with
  | done => rfl
  | panic => rfl
  | yield x st' =>
    obtain ⟨_, hx⟩ := next_qinv g _ g.n _ _ _ hq hh
    obtain ⟨v, u⟩ := x
    have hv : v < t.pred.length := by rw [ht]; exact hx
    simp only [liftStep, sw, call_ok, ok_bind, wr_lt _ _ _ _ hv]
    rw [cycles_for0_eq F ⟨t.pred.set v u⟩ v (by simp [ht, hF])]
    cases GraafVerif.Bfs.cyclesAt (t.pred.set v u) v (g.out v) acc with
    | panic => rfl
    | ok acc' => rfl

theorem cycles_while0_eq (g : Graph) (F : Nat) (hF : g.n + 2 ≤ F) :
    ∀ (k : Nat) (s : AlgoGen.BfsPred) (t : AlgoGen.PredecessorTree) (acc : List (List Nat)),
      QInv g.n (toH s) → t.pred.length = g.n →
      Except.map Prod.fst (fnBody (whileLoop (AlgoGen.BfsPred.cycles_while0 g F) k (s, t, acc)
          >>= fun r => pure (r.2.2, r.1) : Blk Empty (List (List Nat) × AlgoGen.BfsPred) _)) =
        liftBR id (GraafVerif.Bfs.cyLoop g k (toH s) t.pred acc) := by
  intro k
  induction k with
  | zero => intro s t acc _ _; rfl
  | succ k ih =>
    intro s t acc hq ht
    rw [whileLoop_succ, cycles_while0_step g F hF s t acc hq ht]
    unfold GraafVerif.Bfs.cyLoop
    cases hh : GraafVerif.Bfs.next g GraafVerif.Bfs.labPred (toH s) with
    | done => rfl
    | panic => rfl
    | yield x st' =>
      obtain ⟨hq', _⟩ := next_qinv g _ g.n _ _ _ hq hh
      obtain ⟨v, u⟩ := x
      simp only
      cases hc : GraafVerif.Bfs.cyclesAt (t.pred.set v u) v (g.out v) acc with
      | panic => rfl
      | ok acc' =>
        simp only
        have := ih (ofH st') ⟨t.pred.set v u⟩ acc' (by rw [toH_ofH]; exact hq') (by simp [ht])
        rw [toH_ofH] at this
        exact this

theorem cycles_eq (g : Graph) (F : Nat) (s : AlgoGen.BfsPred) (hF : g.n + 2 ≤ F) (hq : QInv g.n (toH s)) :
    Except.map Prod.fst (AlgoGen.BfsPred.cycles g F s) =
      if g.n = 0 then .error (.fault .panic)
      else liftBR id (GraafVerif.Bfs.cyLoop g F (toH s) (List.replicate g.n none) []) := by
  refine (PredecessorTree.map_fnBody_new_bind g.n _ _).trans (ite_congr rfl (fun _ => rfl) (fun _ => ?_))
  exact cycles_while0_eq g F hF F s ⟨List.replicate g.n none⟩ [] hq List.length_replicate

/-- `BfsPred::new(&g, S).cycles()` = the hand-written `Bfs.cycles` (non-empty source list). -/
theorem new_cycles_eq (g : Graph) (S : List Nat) (hS : S ≠ []) :
    (AlgoGen.BfsPred.new g S >>= fun s =>
        Except.map Prod.fst (AlgoGen.BfsPred.cycles g (GraafVerif.Bfs.fuelFor g S) s)) =
      liftBR id (GraafVerif.Bfs.cycles g S) := by
  refine new_bind_eq g S _ _ (fun st hq => ?_)
  rw [cycles_eq g _ _ (fuelFor_ge g S hS) (by rwa [toH_ofH]), toH_ofH]

end BfsPred

end GraafVerif.AlgoGenThm
