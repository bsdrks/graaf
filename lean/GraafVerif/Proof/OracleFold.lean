import GraafVerif.Proof.FoldLemmas
import GraafVerif.Proof.VecLemmas
/-!
Every oracle of `Spec/Graph.lean` and `Spec/OracleFast.lean` is a `List.foldl` of small steps over an
`Array` or `List` of labels read with a default (the fold rules are those of `Proof/FoldLemmas.lean`):
the lookups `Array.getD` and `lk` against `set` / `modify`, and the labels after the sources were marked.
-/
namespace GraafVerif.OracleProof

theorem single_lt {n s : Nat} (hs : s < n) : ∀ t ∈ [s], t < n :=
  fun _ ht => List.mem_singleton.mp ht ▸ hs

theorem toList_getD {α : Type} (a : Array α) (v : Nat) (d : α) : a.toList[v]?.getD d = a.getD v d := by
  rw [Array.getElem?_toList, Array.getD_eq_getD_getElem?]

theorem getD_lt {α : Type} {a : Array α} {v : Nat} {d x : α} (h : a.getD v d = x) (hne : x ≠ d) :
    v < a.size :=
  Vec.lt_of_getD (l := a.toList) ((toList_getD a v d).trans h) hne

theorem getD_set {α : Type} (a : Array α) (v y : Nat) (x d : α) :
    (a.setIfInBounds v x).getD y d = if v = y ∧ v < a.size then x else a.getD y d := by
  rw [← toList_getD, Array.toList_setIfInBounds, Vec.getD_set, toList_getD, Array.length_toList]

theorem getD_set_true {a : Array Bool} {x : Nat} (hx : x < a.size) (v : Nat) :
    (a.setIfInBounds x true).getD v false = true ↔ a.getD v false = true ∨ v = x := by
  rw [getD_set]
  by_cases h : x = v
  · rw [if_pos ⟨h, hx⟩]; exact ⟨fun _ => Or.inr h.symm, fun _ => rfl⟩
  · rw [if_neg (fun hh => h hh.1)]; exact ⟨Or.inl, fun hh => hh.resolve_right (fun e => h e.symm)⟩

theorem getD_replicate {α : Type} (n v : Nat) (d : α) : (Array.replicate n d).getD v d = d := by
  rw [← toList_getD, Array.toList_replicate, Vec.getD_replicate]

/-- Only the modified index has to be in range: out of range `modify` changes nothing. -/
theorem getD_modify_if {α : Type} (a : Array α) (p u : Nat) (f : α → α) (d : α) (h : p = u → u < a.size) :
    (a.modify p f).getD u d = if p = u then f (a.getD u d) else a.getD u d := by
  rw [Array.getD_eq_getD_getElem?, Array.getD_eq_getD_getElem?, Array.getElem?_modify]
  by_cases e : p = u
  · rw [if_pos e, if_pos e, Array.getElem?_eq_getElem (h e)]
    rfl
  · rw [if_neg e, if_neg e]

theorem getD_marks {α : Type} (z d : α) (v : Nat) : ∀ (S : List Nat) (a : Array α),
    (S.foldl (fun a s => a.setIfInBounds s z) a).getD v d
      = if v ∈ S ∧ v < a.size then z else a.getD v d := by
  intro S
  induction S with
  | nil => intro a; simp
  | cons s rest ih =>
    intro a
    rw [List.foldl_cons, ih, getD_set, Array.size_setIfInBounds]
    by_cases hs : s = v
    · subst hs
      by_cases hn : s < a.size
      · simp [hn]
      · simp [hn]
    · have : ¬ v = s := fun h => hs h.symm
      simp [hs, this]

theorem size_marks {α : Type} (z : α) (S : List Nat) (a : Array α) :
    (S.foldl (fun a s => a.setIfInBounds s z) a).size = a.size :=
  Fold.foldl_inv (fun b : Array α => b.size = a.size) (fun b s _ h => by simpa using h) a rfl

theorem toList_marks {α : Type} (z : α) (S : List Nat) (a : Array α) :
    (S.foldl (fun a s => a.setIfInBounds s z) a).toList = S.foldl (fun d s => d.set s z) a.toList :=
  Fold.foldl_sim Array.toList _ _ (fun _ _ => Array.toList_setIfInBounds) S a

/-- Lookup with default (the form the oracles use). -/
def lk {α : Type} (d : List (Option α)) (v : Nat) : Option α := d[v]?.getD none

theorem lk_toList {α : Type} (a : Array (Option α)) (v : Nat) : lk a.toList v = a.getD v none :=
  toList_getD a v none

/-- The two ways the statements read an entry. -/
theorem lk_eq_some {α : Type} {d : List (Option α)} {v : Nat} {x : α} :
    lk d v = some x ↔ d[v]? = some (some x) := by
  unfold lk
  cases d[v]? <;> simp

theorem lk_lt {α : Type} {d : List (Option α)} {v : Nat} {x : α} (h : lk d v = some x) : v < d.length :=
  Vec.lt_of_getD h nofun

theorem lk_of_le {α : Type} {d : List (Option α)} {v : Nat} (h : d.length ≤ v) : lk d v = none := by
  rw [lk, List.getElem?_eq_none h]; rfl

theorem lk_set {α : Type} (d : List (Option α)) (v y : Nat) (x : Option α) :
    lk (d.set v x) y = if v = y ∧ v < d.length then x else lk d y :=
  Vec.getD_set d v y x none

/-- The label of `v` is finite and at most `c`. -/
def BndL (d : List (Option Int)) (v : Nat) (c : Int) : Prop := ∃ x, lk d v = some x ∧ x ≤ c

theorem BndL.mono {d : List (Option Int)} {v : Nat} {c c' : Int} (h : BndL d v c) (hc : c ≤ c') :
    BndL d v c' := by
  obtain ⟨x, hx, hxc⟩ := h
  exact ⟨x, hx, Int.le_trans hxc hc⟩

theorem lk_set_bound {d : List (Option Int)} {x y : Nat} {dn c : Int}
    (hlt : ∀ dx, lk d x = some dx → dn < dx) (h : BndL d y c) : BndL (d.set x (some dn)) y c := by
  obtain ⟨a, ha, hac⟩ := h
  rw [BndL, lk_set]
  by_cases hxy : x = y
  · subst hxy
    rw [if_pos ⟨rfl, lk_lt ha⟩]
    exact ⟨dn, rfl, Int.le_trans (Int.le_of_lt (hlt a ha)) hac⟩
  · rw [if_neg fun h => hxy h.1]
    exact ⟨a, ha, hac⟩

theorem lk_marks {α : Type} (z : α) (n v : Nat) (S : List Nat) :
    lk (S.foldl (fun d s => d.set s (some z)) (List.replicate n none)) v
      = if v ∈ S ∧ v < n then some z else none := by
  rw [← Array.toList_replicate, ← toList_marks, lk_toList, getD_marks, Array.size_replicate, getD_replicate]

theorem lk_marks_some {α : Type} (z : α) (n v : Nat) (S : List Nat) (x : α) :
    lk (S.foldl (fun d s => d.set s (some z)) (List.replicate n none)) v = some x ↔ x = z ∧ v ∈ S ∧ v < n := by
  rw [lk_marks, Option.ite_some_none_eq_some, eq_comm, and_comm]

theorem getD_map_isSome {α : Type} (d : List (Option α)) (v : Nat) :
    (d.map Option.isSome)[v]?.getD false = (lk d v).isSome := by
  unfold lk
  rw [List.getElem?_map]
  cases d[v]? <;> rfl

end GraafVerif.OracleProof
