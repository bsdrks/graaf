import GraafVerif.Model.AlgoGen
import GraafVerif.Proof.AlgoGenRt
import GraafVerif.Proof.AlgoGenSentinel
import GraafVerif.Proof.AlgoGenPredTree
import GraafVerif.Model.Dijkstra
import GraafVerif.Proof.DijkstraNext
/-!
# Generated `Dijkstra`, `DijkstraDist`, `DijkstraPred` (`Model/AlgoGen.lean`) = hand-written `Model/Dijkstra.lean`

The hand-written model keeps `dist : Vec<usize>` as `List (Option Int)` (`none` = `usize::MAX`), has
no `assert!` and no out-of-range outcome; the generated definitions keep the vector of numbers with
the sentinel `inf` (a parameter) and have the `assert!(v < order)` / `*dist_ptr.add(·)` outcomes.
`encD inf` (`Proof/AlgoGenSentinel.lean`) replaces `none` by `inf`; every generated state is `ofH inf st` for some hand-written
state `st` (`ofH_surj`).  The three iterators have the same loops (`init_loop`, `dij_new_generic`, `pop_step`,
`popFresh_loop`, `relax_loop`, `dij_next_generic`: each proved once over `mk dist heap`).
The equalities hold under `StepFits` — exactly what the hand-written
model leaves out:
* `vtx` / `arcs`: heap entries and out-neighbours are below `dist.len()` (C13's invariant: no `ub`,
  no failed `assert!`);
* `key` / `sum`: no key in the heap equals the sentinel and no relaxation sum reaches it
  ("path sums fit", DESIGN §4.1).
-/
namespace GraafVerif.AlgoGenThm
open GraafVerif GraafVerif.AlgoGen
open GraafVerif.Dijkstra (State popMax dOf improves relax)

/-- What one call of `next` needs of the state (see the header). -/
structure StepFits (inf : Int) (g : WGraph) (st : State) : Prop where
  vtx : ∀ e ∈ st.heap, e.v < st.dist.length
  key : ∀ e ∈ st.heap, e.d ≠ inf
  arcs : ∀ e ∈ st.heap, ∀ xw ∈ g.out e.v, xw.1 < st.dist.length
  sum : ∀ e ∈ st.heap, ∀ xw ∈ g.out e.v, e.d + xw.2 < inf

/-- The `loop { let e = heap.pop()?; if fresh { break e } }` of the hand-written `next` on its own. -/
def popFresh (dist : List (Option Int)) : Nat → List Entry → Option (Entry × List Entry)
  | 0, _ => none
  | k + 1, h =>
    match popMax h with
    | none => none
    | some (e, h') => if dOf dist e.v = some e.d then some (e, h') else popFresh dist k h'

theorem next_eq_popFresh (g : WGraph) (tag : Nat → Option Nat) (dist : List (Option Int)) :
    ∀ (k : Nat) (heap : List Entry), Dijkstra.next g tag k ⟨dist, heap⟩ =
      (popFresh dist k heap).map (fun r => (r.1, (g.out r.1.v).foldl (relax tag r.1.v r.1.d) ⟨dist, r.2⟩)) := by
  intro k
  induction k with
  | zero => intro heap; rfl
  | succ k ih =>
    intro heap
    unfold Dijkstra.next popFresh
    cases hp : popMax heap with
    | none => rfl
    | some r =>
      obtain ⟨e, h'⟩ := r
      simp only
      by_cases hf : dOf dist e.v = some e.d
      · simp [hf]
      · simp only [hf, if_false]
        exact ih h'

theorem popFresh_mem (dist : List (Option Int)) : ∀ (k : Nat) (heap : List Entry) (e : Entry) (h : List Entry),
    popFresh dist k heap = some (e, h) → e ∈ heap ∧ (∀ x ∈ h, x ∈ heap) ∧ dOf dist e.v = some e.d := by
  intro k
  induction k with
  | zero =>
    intro heap e h hp
    cases hp
  | succ k ih =>
    intro heap e h hp
    rw [popFresh] at hp
    cases hm : popMax heap with
    | none =>
      rw [hm] at hp
      cases hp
    | some r =>
      rw [hm] at hp
      obtain ⟨hmem, herase, _⟩ := Dijkstra.popMax_some hm
      have hsub : ∀ x ∈ r.2, x ∈ heap := fun x hx => List.mem_of_mem_erase (herase ▸ hx)
      dsimp only at hp
      split at hp
      · cases hp
        exact ⟨hmem, hsub, ‹_›⟩
      · obtain ⟨h1, h2, h3⟩ := ih r.2 e h hp
        exact ⟨hsub _ h1, fun x hx => hsub _ (h2 x hx), h3⟩

theorem fresh_iff (inf : Int) (dist : List (Option Int)) (e : Entry) (hk : e.d ≠ inf) :
    (dOf dist e.v).getD inf = e.d ↔ dOf dist e.v = some e.d := by
  cases dOf dist e.v with
  | none => simp; exact fun h => hk h.symm
  | some d => simp

theorem relax_len (tag : Nat → Option Nat) (u : Nat) (d : Int) (st : State) (xw : Nat × Int) :
    (relax tag u d st xw).dist.length = st.dist.length := by
  unfold relax; split
  · simp
  · rfl

theorem foldl_relax_len (tag : Nat → Option Nat) (u : Nat) (d : Int) : ∀ (arcs : List (Nat × Int)) (st : State),
    (arcs.foldl (relax tag u d) st).dist.length = st.dist.length := by
  intro arcs
  induction arcs with
  | nil => intro st; rfl
  | cons a arcs ih => intro st; rw [List.foldl_cons, ih, relax_len]

theorem next_eq_some {g : WGraph} {tag : Nat → Option Nat} {k : Nat} {st st' : State} {e : Entry}
    (h : GraafVerif.Dijkstra.next g tag k st = some (e, st')) :
    ∃ h', popFresh st.dist k st.heap = some (e, h') ∧ st' = (g.out e.v).foldl (relax tag e.v e.d) ⟨st.dist, h'⟩ := by
  rw [next_eq_popFresh] at h
  cases hp : popFresh st.dist k st.heap with
  | none =>
    rw [hp] at h
    cases h
  | some r =>
    rw [hp] at h
    cases h
    exact ⟨r.2, rfl, rfl⟩

theorem next_some (g : WGraph) (tag : Nat → Option Nat) (k : Nat) (st st' : State) (e : Entry)
    (h : GraafVerif.Dijkstra.next g tag k st = some (e, st')) :
    e ∈ st.heap ∧ st'.dist.length = st.dist.length := by
  obtain ⟨h', hp, rfl⟩ := next_eq_some h
  exact ⟨(popFresh_mem _ k _ _ h' hp).1, foldl_relax_len _ _ _ _ _⟩

/-- `StepFits` at every state the iteration passes through (`fuel` calls of `next`): the
"path sums fit" assumption of the properties, stated along the hand-written execution. -/
def RunFits (inf : Int) (g : WGraph) (tag : Nat → Option Nat) : Nat → State → Prop
  | 0, _ => True
  | fuel + 1, st => StepFits inf g st ∧
      ∀ e st', GraafVerif.Dijkstra.next g tag (st.heap.length + 1) st = some (e, st') → RunFits inf g tag fuel st'

/-- `for x in self { acc = f acc x }` over a generated Dijkstra iterator whose `next` is the
hand-written one: the fold over the items of the hand-written `collect`. -/
theorem dij_iter_generic {ι S σ ρ : Type} (item : Entry → ι) (mk : State → S) (next : S → Res (Option ι × S))
    (g : WGraph) (inf : Int) (tag : Nat → Option Nat)
    (hnext : ∀ st, StepFits inf g st → next (mk st) =
      match GraafVerif.Dijkstra.next g tag (st.heap.length + 1) st with
      | none => .ok (none, mk ⟨st.dist, []⟩)
      | some (e, st') => .ok (some (item e), mk st'))
    (body : σ → ι → Blk σ ρ σ) (f : σ → ι → σ) (R : σ → Prop) (n : Nat)
    (hbody : ∀ acc e, R acc → e.v < n → body acc (item e) = .ok (f acc (item e)) ∧ R (f acc (item e))) :
    ∀ (fuel : Nat) (st : State) (acc : σ), st.dist.length = n → RunFits inf g tag fuel st → R acc →
      ∃ s', (iterLoop next body fuel (mk st) acc : Blk Empty ρ (σ × S)) =
        .ok (((GraafVerif.Dijkstra.collect g tag fuel st).map item).foldl f acc, s') := by
  intro fuel
  induction fuel with
  | zero => intro st acc _ _ _; exact ⟨_, rfl⟩
  | succ fuel ih =>
    intro st acc hlen hfit hR
    obtain ⟨hstep, hrest⟩ := hfit
    unfold iterLoop GraafVerif.Dijkstra.collect
    rw [hnext st hstep]
    cases hn : GraafVerif.Dijkstra.next g tag (st.heap.length + 1) st with
    | none => exact ⟨_, rfl⟩
    | some r =>
      obtain ⟨e, st'⟩ := r
      obtain ⟨hmem, hlen'⟩ := next_some g tag _ st st' e hn
      have hv : e.v < n := by rw [← hlen]; exact hstep.vtx e hmem
      obtain ⟨hb1, hb2⟩ := hbody acc e hR hv
      simp only [hb1]
      obtain ⟨s', hs'⟩ := ih st' (f acc (item e)) (by rw [hlen', hlen]) (hrest e st' hn) hb2
      exact ⟨s', by rw [hs']; rfl⟩

/-- the items of a generated Dijkstra iterator are the entries of the hand-written `collect` -/
theorem dij_collect_generic {ι S : Type} (item : Entry → ι) (mk : State → S) (next : S → Res (Option ι × S))
    (g : WGraph) (inf : Int) (tag : Nat → Option Nat)
    (hnext : ∀ st, StepFits inf g st → next (mk st) =
      match GraafVerif.Dijkstra.next g tag (st.heap.length + 1) st with
      | none => .ok (none, mk ⟨st.dist, []⟩)
      | some (e, st') => .ok (some (item e), mk st')) :
    ∀ (fuel : Nat) (st : State), RunFits inf g tag fuel st →
      Except.map Prod.fst (collect next fuel (mk st)) = .ok ((GraafVerif.Dijkstra.collect g tag fuel st).map item) := by
  intro fuel
  induction fuel with
  | zero =>
    intro st _
    rfl
  | succ fuel ih =>
    intro st hfit
    have hn := hnext st hfit.1
    rw [GraafVerif.Dijkstra.collect]
    cases hb : GraafVerif.Dijkstra.next g tag (st.heap.length + 1) st with
    | none =>
      rw [collect, hn, hb]
      rfl
    | some r =>
      rw [hb] at hn
      rw [map_fst_collect_succ next fuel _ _ _ hn, ih r.2 (hfit.2 r.1 r.2 hb)]
      rfl

/-! ### A sufficient condition for `RunFits`: bounded weights and a sentinel above
`(number of calls + 1) * (largest weight)` -/

theorem relax_heap (tag : Nat → Option Nat) (u : Nat) (d : Int) (st : State) (xw : Nat × Int) :
    ∀ e ∈ (relax tag u d st xw).heap, e ∈ st.heap ∨ e = ⟨d + xw.2, tag u, xw.1⟩ := by
  intro e he
  unfold relax at he
  split at he
  · exact (List.mem_cons.1 he).symm
  · exact Or.inl he

theorem foldl_relax_heap (tag : Nat → Option Nat) (u : Nat) (d : Int) : ∀ (arcs : List (Nat × Int)) (st : State),
    ∀ e ∈ (arcs.foldl (relax tag u d) st).heap, e ∈ st.heap ∨ ∃ xw ∈ arcs, e = ⟨d + xw.2, tag u, xw.1⟩ := by
  intro arcs
  induction arcs with
  | nil => intro st e he; exact Or.inl he
  | cons a arcs ih =>
    intro st e he
    rw [List.foldl_cons] at he
    rcases ih _ e he with h | ⟨xw, hxw, h⟩
    · exact (relax_heap tag u d st a e h).imp_right (fun h' => ⟨a, List.mem_cons_self, h'⟩)
    · exact Or.inr ⟨xw, List.mem_cons_of_mem _ hxw, h⟩

theorem next_heap (g : WGraph) (tag : Nat → Option Nat) (k : Nat) (st st' : State) (e : Entry)
    (h : GraafVerif.Dijkstra.next g tag k st = some (e, st')) :
    ∀ e' ∈ st'.heap, e' ∈ st.heap ∨ ∃ xw ∈ g.out e.v, e' = ⟨e.d + xw.2, tag e.v, xw.1⟩ := by
  obtain ⟨h', hp, rfl⟩ := next_eq_some h
  intro e' he'
  exact (foldl_relax_heap tag _ _ _ _ e' he').imp_left ((popFresh_mem _ k _ _ h' hp).2.1 e')

/-- The arithmetic of `runFits_of_bound`: a key `d ≤ B` and a weight `w ≤ W`, with `M ≥ 0` further
rounds of at most `W` each still below the sentinel. -/
theorem fits_arith {B W M inf d w : Int} (hW0 : 0 ≤ W) (hM : 0 ≤ M) (hB : B + (M + W) < inf) (hd : d ≤ B) (hw : w ≤ W) :
    d ≠ inf ∧ d + w < inf ∧ d + w ≤ B + W :=
  have hBW : B + W < inf := Int.lt_of_le_of_lt (Int.add_le_add_left (Int.le_add_of_nonneg_left hM) B) hB
  ⟨Int.ne_of_lt (Int.lt_of_le_of_lt (Int.le_trans hd (Int.le_add_of_nonneg_right hW0)) hBW),
    Int.lt_of_le_of_lt (Int.add_le_add hd hw) hBW, Int.add_le_add hd hw⟩

theorem runFits_of_bound (g : WGraph) (hwf : g.WF) (inf W : Int) (hW0 : 0 ≤ W)
    (hW : ∀ u, ∀ xw ∈ g.out u, xw.2 ≤ W) (tag : Nat → Option Nat) :
    ∀ (fuel : Nat) (st : State) (B : Int), st.dist.length = g.n →
      (∀ e ∈ st.heap, e.v < g.n ∧ e.d ≤ B) → B + (fuel + 1 : Nat) * W < inf → RunFits inf g tag fuel st := by
  intro fuel
  induction fuel with
  | zero =>
    intro st B _ _ _
    trivial
  | succ fuel ih =>
    intro st B hlen hheap hB
    have hM : 0 ≤ ((fuel + 1 : Nat) : Int) * W := Int.mul_nonneg (Int.natCast_nonneg _) hW0
    rw [Int.natCast_succ (fuel + 1), Int.add_mul, Int.one_mul] at hB
    have ha := fun {d w : Int} => fits_arith (d := d) (w := w) hW0 hM hB
    refine ⟨⟨fun e he => hlen ▸ (hheap e he).1, fun e he => (ha (hheap e he).2 (Int.le_refl W)).1,
      fun e _ xw hxw => hlen ▸ (hwf e.v xw.1 xw.2 hxw).2,
      fun e he xw hxw => (ha (hheap e he).2 (hW e.v xw hxw)).2.1⟩, ?_⟩
    intro e st' hn
    obtain ⟨hmem, hlen'⟩ := next_some g tag _ st st' e hn
    -- `B` bounds the keys in the heap; a key this call pushes is `e.d + w ≤ B + W`, the bound for the calls that follow
    refine ih st' (B + W) (hlen'.trans hlen) ?_ (by rw [Int.add_assoc, Int.add_comm W]; exact hB)
    intro e' he'
    rcases next_heap g tag _ st st' e hn e' he' with h1 | ⟨xw, hxw, rfl⟩
    · exact ⟨(hheap e' h1).1, Int.le_trans (hheap e' h1).2 (Int.le_add_of_nonneg_right hW0)⟩
    · exact ⟨(hwf e.v xw.1 xw.2 hxw).2, (ha (hheap e hmem).2 (hW e.v xw hxw)).2.2⟩

theorem init_heap (S : List Nat) : ∀ (st : State),
    ((S.foldl (fun st s => (⟨st.dist.set s (some 0), ⟨0, none, s⟩ :: st.heap⟩ : State)) st).dist.length = st.dist.length) ∧
    ∀ e ∈ (S.foldl (fun st s => (⟨st.dist.set s (some 0), ⟨0, none, s⟩ :: st.heap⟩ : State)) st).heap,
      e ∈ st.heap ∨ (e.d = 0 ∧ e.v ∈ S) := by
  intro st
  obtain ⟨h1, h2⟩ := GraafVerif.Dijkstra.init_fold S st
  refine ⟨h1 ▸ Vec.length_foldl_set _ _, fun e he => ?_⟩
  rcases List.mem_append.1 (h2 ▸ he) with h | h
  · obtain ⟨s, hs, rfl⟩ := List.mem_map.1 h
    exact Or.inr ⟨rfl, List.mem_reverse.1 hs⟩
  · exact Or.inl h

/-- The hypotheses of C03 / C05 plus "path sums fit" in the form: every weight is at most `W`
and `(fuel + 1) * W` is below the sentinel. -/
theorem runFits_init (g : WGraph) (S : List Nat) (h : GraafVerif.Dijkstra.Hyp g S) (inf W : Int) (hW0 : 0 ≤ W)
    (hW : ∀ u, ∀ xw ∈ g.out u, xw.2 ≤ W) (tag : Nat → Option Nat) (fuel : Nat)
    (hinf : ((fuel + 1 : Nat) : Int) * W < inf) :
    (GraafVerif.Dijkstra.init g.n S).dist.length = g.n ∧ RunFits inf g tag fuel (GraafVerif.Dijkstra.init g.n S) := by
  obtain ⟨h1, h2⟩ := init_heap S ⟨List.replicate g.n none, []⟩
  have hlen : (GraafVerif.Dijkstra.init g.n S).dist.length = g.n := h1.trans List.length_replicate
  refine ⟨hlen, runFits_of_bound g h.wf inf W hW0 hW tag fuel _ 0 hlen ?_ ((Int.zero_add _).symm ▸ hinf)⟩
  intro e he
  rcases h2 e he with h3 | ⟨h3, h4⟩
  · cases h3
  · exact ⟨h.srcRange _ h4, Int.le_of_eq h3⟩

/-! ### The three iterators are one body: what differs is the structure (`mk dist heap`), the
site strings, the order of the operands of `==` and `+`, and what an entry yields.  The lemmas below
take the emitted do-block as a hypothesis; for every variant it holds by `rfl`. -/

/-- `dist[s] = 0; heap.push((Reverse(0), (None, s)))` on the hand-written state. -/
def pushSource (st : State) (s : Nat) : State := ⟨st.dist.set s (some 0), ⟨0, none, s⟩ :: st.heap⟩

/-- The source loop of `new` on the pair of `dist` and `heap` (`pack`: the order the translator
gives the two loop variables). -/
theorem init_loop {σ ρ : Type} (pack : List Int → List Entry → σ) (inf : Int) (order : Nat) {site : String}
    {body : σ → Nat → Blk σ ρ σ}
    (hbody : ∀ d h u, body (pack d h) u = do
      assert (decide (u < order))
      let t0 ← wr site d u 0
      pure (pack t0 (⟨0, none, u⟩ :: h))) :
    ∀ (us : List Nat) (st : State), st.dist.length = order →
      (forLoop body us (pack (encD inf st.dist) st.heap) : Blk Empty ρ σ) =
        if ∀ u ∈ us, u < order then
          .ok (pack (encD inf (us.foldl pushSource st).dist) (us.foldl pushSource st).heap)
        else .error (.err (.fault .panic)) := by
  intro us
  induction us with
  | nil =>
    intro st _
    rw [if_pos (fun _ h => nomatch h)]
    rfl
  | cons u us ih =>
    intro st hlen
    rw [forLoop_cons, hbody, assert_bind]
    simp only [List.forall_mem_cons]
    by_cases hu : u < order
    · rw [if_pos hu, wr_lt site _ u 0 (by rw [encD_length, hlen]; exact hu), encD_set]
      refine (ih (pushSource st u) (by rw [← hlen]; exact List.length_set)).trans ?_
      simp only [hu, true_and]
      rfl
    · rw [if_neg hu, if_neg (fun h => hu h.1)]

section variants
variable {S ρ β γ ι : Type} (mk : List Int → List Entry → S) (inf : Int) (out : Entry → γ)

/-- `new`: the source loop on the pair the translator makes of `dist` and `heap`, then the structure
(`fin`). -/
theorem dij_new_generic {σ : Type} (pack : List Int → List Entry → σ) (n : Nat) (us : List Nat) {new : Res S}
    {site : String} {body : σ → Nat → Blk σ S σ} {fin : σ → S}
    (hnew : new = fnBody (do
      let t1 ← forLoop body us (pack (List.replicate n inf) [])
      pure (fin t1)))
    (hfin : ∀ d h, fin (pack d h) = mk d h)
    (hbody : ∀ d h u, body (pack d h) u = do
      assert (decide (u < n))
      let t0 ← wr site d u 0
      pure (pack t0 (⟨0, none, u⟩ :: h))) :
    new = if ∀ s ∈ us, s < n then .ok (mk (encD inf (Dijkstra.init n us).dist) (Dijkstra.init n us).heap)
      else .error (.fault .panic) := by
  have h := init_loop pack inf n hbody us ⟨List.replicate n none, []⟩ List.length_replicate
  rw [encD_replicate] at h
  rw [hnew, h]
  split
  · exact congrArg Except.ok (hfin _ _)
  · rfl

/-- One round of `loop { let e = heap.pop()?; if dist[e.v] == e.d { break (out e) } }`
(`c`: the test as the source writes it). -/
theorem pop_step {site : String} (c : Int → Int → Prop) [∀ a b, Decidable (c a b)]
    (hc : ∀ a b, c a b ↔ a = b) {body : S → Blk (γ × S) (Option ι × S) S}
    (hbody : ∀ d h, body (mk d h) = match heapPop h with
      | none => ret (none, mk d h)
      | some t0 => do
        let t1 ← rd site d t0.1.v
        if c t1 t0.1.d then brk (out t0.1, mk d t0.2) else pure (mk d t0.2))
    (dist : List (Option Int)) (heap : List Entry) (hh : ∀ e ∈ heap, e.v < dist.length ∧ e.d ≠ inf) :
    body (mk (encD inf dist) heap) =
      match popMax heap with
      | none => ret (none, mk (encD inf dist) [])
      | some (e, h') =>
        if dOf dist e.v = some e.d then brk (out e, mk (encD inf dist) h') else .ok (mk (encD inf dist) h') := by
  rw [hbody]
  cases hm : popMax heap with
  | none =>
    cases Dijkstra.popMax_none hm
    rfl
  | some r =>
    obtain ⟨hv, hkey⟩ := hh r.1 (Dijkstra.popMax_some hm).1
    simp only [heapPop, hm, encD_rd site inf dist r.1.v hv, ok_bind, hc, fresh_iff inf dist r.1 hkey]
    rfl

/-- The `loop` of `next`: with fuel above the heap size it is `popFresh`; an exhausted heap is the
`None` of `?`. -/
theorem popFresh_loop {body : S → Blk (γ × S) (Option ι × S) S} (dist : List (Option Int))
    (hstep : ∀ heap, (∀ e ∈ heap, e.v < dist.length ∧ e.d ≠ inf) → body (mk (encD inf dist) heap) =
      match popMax heap with
      | none => ret (none, mk (encD inf dist) [])
      | some (e, h') =>
        if dOf dist e.v = some e.d then brk (out e, mk (encD inf dist) h') else .ok (mk (encD inf dist) h')) :
    ∀ (k : Nat) (heap : List Entry), heap.length < k → (∀ e ∈ heap, e.v < dist.length ∧ e.d ≠ inf) →
      (loopLoop body k (mk (encD inf dist) heap) : Blk Empty (Option ι × S) _) =
        match popFresh dist k heap with
        | none => .error (.ret (none, mk (encD inf dist) []))
        | some (e, h) => .ok (out e, mk (encD inf dist) h) := by
  intro k
  induction k with
  | zero =>
    intro heap hk
    exact absurd hk (Nat.not_lt_zero _)
  | succ k ih =>
    intro heap hk hh
    rw [loopLoop_succ, hstep heap hh, popFresh]
    cases hm : popMax heap with
    | none => rfl
    | some r =>
      obtain ⟨_, herase, _⟩ := Dijkstra.popMax_some hm
      have hlen := Dijkstra.popMax_len hm
      dsimp only
      by_cases hf : dOf dist r.1.v = some r.1.d
      · rw [if_pos hf, if_pos hf]
        rfl
      · rw [if_neg hf, if_neg hf]
        exact ih r.2 (Nat.lt_of_succ_le (Nat.le_trans (Nat.le_of_eq hlen) (Nat.le_of_lt_succ hk)))
          (fun x hx => hh x (List.mem_of_mem_erase (herase ▸ hx)))

/-- `for (x, w) in out_neighbors_weighted(u) { assert!(x < order); relax }` = the fold of the
hand-written `relax` (`add`: the sum as the source writes it). -/
theorem relax_loop (add : Int → Int → Int) (tag : Nat → Option Nat) (u : Nat) (d : Int) (hadd : ∀ w, add w d = d + w)
    (order : Nat) {site : String} {body : S → Nat × Int → Blk S ρ S}
    (hbody : ∀ ds h x, body (mk ds h) x = do
      assert (decide (x.1 < order))
      let t3 ← rd site ds x.1
      if add x.2 d < t3 then do
        let t4 ← wr site ds x.1 (add x.2 d)
        pure (mk t4 (⟨add x.2 d, tag u, x.1⟩ :: h))
      else pure (mk ds h)) :
    ∀ (arcs : List (Nat × Int)) (st : State), st.dist.length = order → (∀ xw ∈ arcs, xw.1 < order ∧ d + xw.2 < inf) →
      (forLoop body arcs (mk (encD inf st.dist) st.heap) : Blk Empty ρ S) =
        .ok (mk (encD inf (arcs.foldl (relax tag u d) st).dist) (arcs.foldl (relax tag u d) st).heap) := by
  intro arcs
  induction arcs with
  | nil =>
    intro st _ _
    rfl
  | cons xw arcs ih =>
    intro st hlen hh
    obtain ⟨hx, hsum⟩ := hh xw List.mem_cons_self
    have hx' : xw.1 < st.dist.length := hlen ▸ hx
    have hstep : body (mk (encD inf st.dist) st.heap) xw =
        .ok (mk (encD inf (relax tag u d st xw).dist) (relax tag u d st xw).heap) := by
      rw [hbody, assert_bind, if_pos hx, encD_rd site inf st.dist xw.1 hx', hadd, relax, ok_bind,
        ite_cond_congr (propext (improves_iff_enc inf (dOf st.dist xw.1) (d + xw.2) hsum))]
      split
      · rw [wr_lt site _ xw.1 _ (by rw [encD_length]; exact hx'), encD_set]
        rfl
      · rfl
    rw [forLoop_cons_ok _ _ _ _ _ hstep]
    exact ih _ (by rw [relax_len, hlen]) (fun y hy => hh y (List.mem_cons_of_mem _ hy))

/-- `next`: the `loop`, then `k` (the relaxation scan over the out-arcs of the popped vertex and
`Some(item)`). -/
theorem dij_next_generic (item : Entry → ι) (g : WGraph) (tag : Nat → Option Nat) {next : S → Res (Option ι × S)}
    {loop0 : S → Blk (γ × S) (Option ι × S) S} {k : γ × S → Blk Empty (Option ι × S) (Option ι × S)}
    (hnext : ∀ d h, next (mk d h) = fnBody (loopLoop loop0 (h.length + 1) (mk d h) >>= k))
    (hloop : ∀ (ds : List (Option Int)) (n : Nat) (heap : List Entry), heap.length < n →
      (∀ e ∈ heap, e.v < ds.length ∧ e.d ≠ inf) →
      (loopLoop loop0 n (mk (encD inf ds) heap) : Blk Empty (Option ι × S) _) =
        match popFresh ds n heap with
        | none => .error (.ret (none, mk (encD inf ds) []))
        | some (e, h) => .ok (out e, mk (encD inf ds) h))
    (hk : ∀ (e : Entry) (st : State), (∀ xw ∈ g.out e.v, xw.1 < (encD inf st.dist).length ∧ e.d + xw.2 < inf) →
      k (out e, mk (encD inf st.dist) st.heap) =
        .ok (some (item e), mk (encD inf ((g.out e.v).foldl (relax tag e.v e.d) st).dist)
          ((g.out e.v).foldl (relax tag e.v e.d) st).heap))
    (st : State) (hf : StepFits inf g st) :
    next (mk (encD inf st.dist) st.heap) =
      match GraafVerif.Dijkstra.next g tag (st.heap.length + 1) st with
      | none => .ok (none, mk (encD inf st.dist) [])
      | some (e, st') => .ok (some (item e), mk (encD inf st'.dist) st'.heap) := by
  obtain ⟨ds, heap⟩ := st
  rw [hnext, next_eq_popFresh,
    hloop ds _ heap (Nat.lt_succ_self _) (fun e he => ⟨hf.vtx e he, hf.key e he⟩)]
  cases hp : popFresh ds (heap.length + 1) heap with
  | none => rfl
  | some r =>
    obtain ⟨hmem, _, _⟩ := popFresh_mem ds _ heap r.1 r.2 hp
    rw [ok_bind, hk r.1 ⟨ds, r.2⟩ (fun xw hxw =>
      ⟨(encD_length inf ds).symm ▸ hf.arcs _ hmem xw hxw, hf.sum _ hmem xw hxw⟩)]
    rfl

end variants

namespace Dijkstra

def ofH (inf : Int) (st : State) : AlgoGen.Dijkstra := ⟨encD inf st.dist, st.heap⟩
def toH (s : AlgoGen.Dijkstra) : State := ⟨s.dist.map some, s.heap⟩
theorem ofH_surj (inf : Int) (s : AlgoGen.Dijkstra) : ofH inf (toH s) = s :=
  congrArg (AlgoGen.Dijkstra.mk · s.heap) (encD_surj inf s.dist)

/-- `for u in sources { assert!(u < order); dist[u] = 0; heap.push((Reverse(0), u)) }` -/
theorem new_for0_eq (inf : Int) (order : Nat) : ∀ (us : List Nat) (st : State), st.dist.length = order →
    (forLoop (AlgoGen.Dijkstra.new_for0 order) us (encD inf st.dist, st.heap) : Blk Empty AlgoGen.Dijkstra _) =
      if ∀ u ∈ us, u < order then
        .ok (encD inf (us.foldl (fun st s => (⟨st.dist.set s (some 0), ⟨0, none, s⟩ :: st.heap⟩ : State)) st).dist,
             (us.foldl (fun st s => (⟨st.dist.set s (some 0), ⟨0, none, s⟩ :: st.heap⟩ : State)) st).heap)
      else .error (.err (.fault .panic)) :=
  init_loop Prod.mk inf order (fun _ _ _ => rfl)

theorem new_eq (g : WGraph) (inf : Int) (S : List Nat) :
    AlgoGen.Dijkstra.new g inf S =
      if ∀ s ∈ S, s < g.n then .ok (ofH inf (GraafVerif.Dijkstra.init g.n S)) else .error (.fault .panic) :=
  dij_new_generic AlgoGen.Dijkstra.mk inf Prod.mk g.n S rfl (fun _ _ => rfl) (fun _ _ _ => rfl)

/-- One round of `loop { let (Reverse(w_prev), u) = self.heap.pop()?; if dist[u] == w_prev { break (w_prev, u) } }`. -/
theorem next_loop0_step (inf : Int) (dist : List (Option Int)) (heap : List Entry)
    (hh : ∀ e ∈ heap, e.v < dist.length ∧ e.d ≠ inf) :
    (AlgoGen.Dijkstra.next_loop0 ⟨encD inf dist, heap⟩ : Blk _ (Option Nat × AlgoGen.Dijkstra) _) =
      match popMax heap with
      | none => ret (none, ⟨encD inf dist, []⟩)
      | some (e, h') =>
        if dOf dist e.v = some e.d then brk ((e.d, e.v), ⟨encD inf dist, h'⟩) else .ok ⟨encD inf dist, h'⟩ :=
  pop_step AlgoGen.Dijkstra.mk inf (fun e => (e.d, e.v)) (fun t w => t = w) (fun _ _ => Iff.rfl) (fun _ _ => rfl) dist heap hh

theorem next_loop0_eq (inf : Int) (dist : List (Option Int)) : ∀ (k : Nat) (heap : List Entry), heap.length < k →
    (∀ e ∈ heap, e.v < dist.length ∧ e.d ≠ inf) →
    (loopLoop AlgoGen.Dijkstra.next_loop0 k ⟨encD inf dist, heap⟩ : Blk Empty (Option Nat × AlgoGen.Dijkstra) _) =
      match popFresh dist k heap with
      | none => .error (.ret (none, ⟨encD inf dist, []⟩))
      | some (e, h) => .ok ((e.d, e.v), ⟨encD inf dist, h⟩) :=
  popFresh_loop AlgoGen.Dijkstra.mk inf (fun e => (e.d, e.v)) dist (next_loop0_step inf dist)

/-- `for (v, w) in out_neighbors_weighted(u) { assert!(v < order); relax }` = the fold of the
hand-written `relax` (all entries of `Dijkstra` carry the predecessor `none`). -/
theorem next_for0_eq (inf : Int) (u : Nat) (d : Int) (order : Nat) : ∀ (arcs : List (Nat × Int)) (st : State),
    st.dist.length = order → (∀ xw ∈ arcs, xw.1 < order ∧ d + xw.2 < inf) →
    (forLoop (AlgoGen.Dijkstra.next_for0 d order) arcs (ofH inf st) : Blk Empty (Option Nat × AlgoGen.Dijkstra) _) =
      .ok (ofH inf (arcs.foldl (relax (fun _ => none) u d) st)) :=
  relax_loop AlgoGen.Dijkstra.mk inf (fun w d => w + d) (fun _ => none) u d (fun w => Int.add_comm w d) order
    (fun _ _ _ => rfl)

/-- `Iterator::next` of `Dijkstra` = the hand-written `Dijkstra.next` (entries without predecessor,
fuel `heap.len() + 1` as in `collect`), for every state that satisfies `StepFits`. -/
theorem next_eq (g : WGraph) (inf : Int) (st : State) (hf : StepFits inf g st) :
    AlgoGen.Dijkstra.next g (ofH inf st) =
      match GraafVerif.Dijkstra.next g (fun _ => none) (st.heap.length + 1) st with
      | none => .ok (none, ofH inf ⟨st.dist, []⟩)
      | some (e, st') => .ok (some e.v, ofH inf st') :=
  dij_next_generic AlgoGen.Dijkstra.mk inf (fun e => (e.d, e.v)) (·.v) g (fun _ => none) (fun _ _ => rfl) (next_loop0_eq inf)
    (fun e st h => congrArg (fun r => r >>= fun self => pure (some e.v, self))
      (next_for0_eq inf e.v e.d _ _ st (encD_length inf _).symm h)) st hf

theorem tagOK : GraafVerif.Dijkstra.TagOK (fun _ => none) := GraafVerif.Dijkstra.tagOK_none

/-- `Dijkstra::new(&digraph, sources)` iterated to the end = the hand-written item sequence, under the
hypotheses of C03 / C05 and a sentinel above `(fuel + 1) * (largest weight)`. -/
theorem new_collect_eq (g : WGraph) (S : List Nat) (h : GraafVerif.Dijkstra.Hyp g S) (inf W : Int) (hW0 : 0 ≤ W)
    (hW : ∀ u, ∀ xw ∈ g.out u, xw.2 ≤ W)
    (hinf : ((GraafVerif.Dijkstra.fuel g S + 1 : Nat) : Int) * W < inf) :
    (AlgoGen.Dijkstra.new g inf S >>= fun s =>
        Except.map Prod.fst (collect (AlgoGen.Dijkstra.next g) (GraafVerif.Dijkstra.fuel g S) s)) =
      .ok (GraafVerif.Dijkstra.dijkstra g S) := by
  rw [new_eq, if_pos h.srcRange]
  obtain ⟨_, hfit⟩ := runFits_init g S h inf W hW0 hW (fun _ => none) (GraafVerif.Dijkstra.fuel g S) hinf
  refine (dij_collect_generic (fun e => e.v) (ofH inf) (AlgoGen.Dijkstra.next g) g inf (fun _ => none)
    (next_eq g inf) _ _ hfit).trans ?_
  rw [GraafVerif.Dijkstra.collect_eq_entries h tagOK]
  rfl

end Dijkstra

namespace DijkstraDist

def ofH (inf : Int) (st : State) : AlgoGen.DijkstraDist := ⟨encD inf st.dist, st.heap⟩
def toH (s : AlgoGen.DijkstraDist) : State := ⟨s.dist.map some, s.heap⟩
theorem ofH_surj (inf : Int) (s : AlgoGen.DijkstraDist) : ofH inf (toH s) = s :=
  congrArg (AlgoGen.DijkstraDist.mk · s.heap) (encD_surj inf s.dist)

/-- `for u in sources { assert!(u < order); dist[u] = 0; heap.push((Reverse(0), u)) }` -/
theorem new_for0_eq (inf : Int) (order : Nat) : ∀ (us : List Nat) (st : State), st.dist.length = order →
    (forLoop (AlgoGen.DijkstraDist.new_for0 order) us (st.heap, encD inf st.dist) : Blk Empty AlgoGen.DijkstraDist _) =
      if ∀ u ∈ us, u < order then
        .ok ((us.foldl (fun st s => (⟨st.dist.set s (some 0), ⟨0, none, s⟩ :: st.heap⟩ : State)) st).heap,
             encD inf (us.foldl (fun st s => (⟨st.dist.set s (some 0), ⟨0, none, s⟩ :: st.heap⟩ : State)) st).dist)
      else .error (.err (.fault .panic)) :=
  init_loop (fun d h => (h, d)) inf order (fun _ _ _ => rfl)

theorem new_eq (g : WGraph) (inf : Int) (S : List Nat) :
    AlgoGen.DijkstraDist.new g inf S =
      if ∀ s ∈ S, s < g.n then .ok (ofH inf (GraafVerif.Dijkstra.init g.n S)) else .error (.fault .panic) :=
  dij_new_generic AlgoGen.DijkstraDist.mk inf (fun d h => (h, d)) g.n S rfl (fun _ _ => rfl) (fun _ _ _ => rfl)

/-- One round of `loop { let (Reverse(w_prev), u) = self.heap.pop()?; if w_prev == dist[u] { break (w_prev, u) } }`. -/
theorem next_loop0_step (inf : Int) (dist : List (Option Int)) (heap : List Entry)
    (hh : ∀ e ∈ heap, e.v < dist.length ∧ e.d ≠ inf) :
    (AlgoGen.DijkstraDist.next_loop0 ⟨encD inf dist, heap⟩ : Blk _ (Option (Nat × Int) × AlgoGen.DijkstraDist) _) =
      match popMax heap with
      | none => ret (none, ⟨encD inf dist, []⟩)
      | some (e, h') =>
        if dOf dist e.v = some e.d then brk ((e.d, e.v), ⟨encD inf dist, h'⟩) else .ok ⟨encD inf dist, h'⟩ :=
  pop_step AlgoGen.DijkstraDist.mk inf (fun e => (e.d, e.v)) (fun t w => w = t) (fun _ _ => eq_comm) (fun _ _ => rfl) dist heap hh

theorem next_loop0_eq (inf : Int) (dist : List (Option Int)) : ∀ (k : Nat) (heap : List Entry), heap.length < k →
    (∀ e ∈ heap, e.v < dist.length ∧ e.d ≠ inf) →
    (loopLoop AlgoGen.DijkstraDist.next_loop0 k ⟨encD inf dist, heap⟩ : Blk Empty (Option (Nat × Int) × AlgoGen.DijkstraDist) _) =
      match popFresh dist k heap with
      | none => .error (.ret (none, ⟨encD inf dist, []⟩))
      | some (e, h) => .ok ((e.d, e.v), ⟨encD inf dist, h⟩) :=
  popFresh_loop AlgoGen.DijkstraDist.mk inf (fun e => (e.d, e.v)) dist (next_loop0_step inf dist)

/-- `for (v, w) in out_neighbors_weighted(u) { assert!(v < order); relax }` = the fold of the
hand-written `relax` (all entries of `DijkstraDist` carry the predecessor `none`). -/
theorem next_for0_eq (inf : Int) (u : Nat) (d : Int) (order : Nat) : ∀ (arcs : List (Nat × Int)) (st : State),
    st.dist.length = order → (∀ xw ∈ arcs, xw.1 < order ∧ d + xw.2 < inf) →
    (forLoop (AlgoGen.DijkstraDist.next_for0 d order) arcs (ofH inf st) : Blk Empty (Option (Nat × Int) × AlgoGen.DijkstraDist) _) =
      .ok (ofH inf (arcs.foldl (relax (fun _ => none) u d) st)) :=
  relax_loop AlgoGen.DijkstraDist.mk inf (fun w d => d + w) (fun _ => none) u d (fun _ => rfl) order (fun _ _ _ => rfl)

/-- `Iterator::next` of `DijkstraDist` = the hand-written `Dijkstra.next` (entries without predecessor,
fuel `heap.len() + 1` as in `collect`), for every state that satisfies `StepFits`. -/
theorem next_eq (g : WGraph) (inf : Int) (st : State) (hf : StepFits inf g st) :
    AlgoGen.DijkstraDist.next g (ofH inf st) =
      match GraafVerif.Dijkstra.next g (fun _ => none) (st.heap.length + 1) st with
      | none => .ok (none, ofH inf ⟨st.dist, []⟩)
      | some (e, st') => .ok (some (e.v, e.d), ofH inf st') :=
  dij_next_generic AlgoGen.DijkstraDist.mk inf (fun e => (e.d, e.v)) (fun e => (e.v, e.d)) g (fun _ => none) (fun _ _ => rfl) (next_loop0_eq inf)
    (fun e st h => congrArg (fun r => r >>= fun self => pure (some (e.v, e.d), self))
      (next_for0_eq inf e.v e.d _ _ st (encD_length inf _).symm h)) st hf

/-- `unsafe { *ptr.add(u.0) = u.1 }` in `distances` -/
theorem distances_for0_eq (d : List Int) (x : Nat × Int) (h : x.1 < d.length) :
    (AlgoGen.DijkstraDist.distances_for0 d x : Blk _ (List Int × AlgoGen.DijkstraDist) _) = .ok (d.set x.1 x.2) :=
  (congrArg (fun t => t >>= fun t0 => pure t0) (wr_lt _ d x.1 x.2 h)).trans rfl

/-- `DijkstraDist::distances` on a state whose `dist` has length `order`, along an execution on
which the sums fit: the hand-written `distancesOf` of the items of the hand-written `collect`. -/
theorem distances_eq (g : WGraph) (inf : Int) (fuel : Nat) (st : State) (hlen : st.dist.length = g.n)
    (hfit : RunFits inf g (fun _ => none) fuel st) :
    Except.map Prod.fst (AlgoGen.DijkstraDist.distances g inf fuel (ofH inf st)) =
      .ok (encD inf (GraafVerif.Dijkstra.distancesOf g.n
        ((GraafVerif.Dijkstra.collect g (fun _ => none) fuel st).map (fun e => (e.v, e.d))))) := by
  obtain ⟨s', hs'⟩ := dij_iter_generic (ρ := List Int × AlgoGen.DijkstraDist) (fun e => (e.v, e.d)) (ofH inf)
    (AlgoGen.DijkstraDist.next g) g inf (fun _ => none) (next_eq g inf)
    AlgoGen.DijkstraDist.distances_for0 (fun d (x : Nat × Int) => d.set x.1 x.2) (fun d => d.length = g.n) g.n
    (fun acc e hR hv => ⟨distances_for0_eq acc (e.v, e.d) (by rw [hR]; exact hv), by rw [List.length_set, hR]⟩)
    fuel st (List.replicate g.n inf) hlen hfit List.length_replicate
  refine (congrArg (fun r => Except.map Prod.fst (fnBody (r >>= fun t1 => pure (t1.1, t1.2)))) hs').trans ?_
  rw [← encD_replicate, foldl_set_enc inf (fun (x : Nat × Int) => x.1) (fun x => x.2)]
  rfl

theorem tagOK : GraafVerif.Dijkstra.TagOK (fun _ => none) := Dijkstra.tagOK

/-- `DijkstraDist::new(&digraph, sources)` iterated to the end = the hand-written item sequence, under the
hypotheses of C03 / C05 and a sentinel above `(fuel + 1) * (largest weight)`. -/
theorem new_collect_eq (g : WGraph) (S : List Nat) (h : GraafVerif.Dijkstra.Hyp g S) (inf W : Int) (hW0 : 0 ≤ W)
    (hW : ∀ u, ∀ xw ∈ g.out u, xw.2 ≤ W)
    (hinf : ((GraafVerif.Dijkstra.fuel g S + 1 : Nat) : Int) * W < inf) :
    (AlgoGen.DijkstraDist.new g inf S >>= fun s =>
        Except.map Prod.fst (collect (AlgoGen.DijkstraDist.next g) (GraafVerif.Dijkstra.fuel g S) s)) =
      .ok (GraafVerif.Dijkstra.dijkstraDist g S) := by
  rw [new_eq, if_pos h.srcRange]
  obtain ⟨_, hfit⟩ := runFits_init g S h inf W hW0 hW (fun _ => none) (GraafVerif.Dijkstra.fuel g S) hinf
  refine (dij_collect_generic (fun e => (e.v, e.d)) (ofH inf) (AlgoGen.DijkstraDist.next g) g inf (fun _ => none)
    (next_eq g inf) _ _ hfit).trans ?_
  rw [GraafVerif.Dijkstra.collect_eq_entries h tagOK]
  rfl

/-- `DijkstraDist::new(&digraph, sources).distances()` = the hand-written `Dijkstra.distances`
(`none` read as the sentinel). -/
theorem new_distances_eq (g : WGraph) (S : List Nat) (h : GraafVerif.Dijkstra.Hyp g S) (inf W : Int) (hW0 : 0 ≤ W)
    (hW : ∀ u, ∀ xw ∈ g.out u, xw.2 ≤ W)
    (hinf : ((GraafVerif.Dijkstra.fuel g S + 1 : Nat) : Int) * W < inf) :
    (AlgoGen.DijkstraDist.new g inf S >>= fun s =>
        Except.map Prod.fst (AlgoGen.DijkstraDist.distances g inf (GraafVerif.Dijkstra.fuel g S) s)) =
      .ok (encD inf (GraafVerif.Dijkstra.distances g S)) := by
  rw [new_eq, if_pos h.srcRange]
  obtain ⟨hlen, hfit⟩ := runFits_init g S h inf W hW0 hW (fun _ => none) (GraafVerif.Dijkstra.fuel g S) hinf
  refine (distances_eq g inf _ _ hlen hfit).trans ?_
  rw [GraafVerif.Dijkstra.collect_eq_entries h tagOK]
  rfl

end DijkstraDist

namespace DijkstraPred

def ofH (inf : Int) (st : State) : AlgoGen.DijkstraPred := ⟨encD inf st.dist, st.heap⟩
def toH (s : AlgoGen.DijkstraPred) : State := ⟨s.dist.map some, s.heap⟩
theorem ofH_surj (inf : Int) (s : AlgoGen.DijkstraPred) : ofH inf (toH s) = s :=
  congrArg (AlgoGen.DijkstraPred.mk · s.heap) (encD_surj inf s.dist)

/-- `for u in sources { assert!(u < order); dist[u] = 0; heap.push((Reverse(0), (None, u))) }` -/
theorem new_for0_eq (inf : Int) (order : Nat) : ∀ (us : List Nat) (st : State), st.dist.length = order →
    (forLoop (AlgoGen.DijkstraPred.new_for0 order) us (st.heap, encD inf st.dist) : Blk Empty AlgoGen.DijkstraPred _) =
      if ∀ u ∈ us, u < order then
        .ok ((us.foldl (fun st s => (⟨st.dist.set s (some 0), ⟨0, none, s⟩ :: st.heap⟩ : State)) st).heap,
             encD inf (us.foldl (fun st s => (⟨st.dist.set s (some 0), ⟨0, none, s⟩ :: st.heap⟩ : State)) st).dist)
      else .error (.err (.fault .panic)) :=
  init_loop (fun d h => (h, d)) inf order (fun _ _ _ => rfl)

theorem new_eq (g : WGraph) (inf : Int) (S : List Nat) :
    AlgoGen.DijkstraPred.new g inf S =
      if ∀ s ∈ S, s < g.n then .ok (ofH inf (GraafVerif.Dijkstra.init g.n S)) else .error (.fault .panic) :=
  dij_new_generic AlgoGen.DijkstraPred.mk inf (fun d h => (h, d)) g.n S rfl (fun _ _ => rfl) (fun _ _ _ => rfl)

/-- One round of `loop { let (Reverse(distance), step @ (_, v)) = self.heap.pop()?; if distance == dist[v] { break (distance, step) } }`. -/
theorem next_loop0_step (inf : Int) (dist : List (Option Int)) (heap : List Entry)
    (hh : ∀ e ∈ heap, e.v < dist.length ∧ e.d ≠ inf) :
    (AlgoGen.DijkstraPred.next_loop0 ⟨encD inf dist, heap⟩ : Blk _ (Option (Option Nat × Nat) × AlgoGen.DijkstraPred) _) =
      match popMax heap with
      | none => ret (none, ⟨encD inf dist, []⟩)
      | some (e, h') =>
        if dOf dist e.v = some e.d then brk ((e.d, (e.p, e.v)), ⟨encD inf dist, h'⟩) else .ok ⟨encD inf dist, h'⟩ :=
  pop_step AlgoGen.DijkstraPred.mk inf (fun e => (e.d, (e.p, e.v))) (fun t w => w = t) (fun _ _ => eq_comm) (fun _ _ => rfl) dist heap hh

theorem next_loop0_eq (inf : Int) (dist : List (Option Int)) : ∀ (k : Nat) (heap : List Entry), heap.length < k →
    (∀ e ∈ heap, e.v < dist.length ∧ e.d ≠ inf) →
    (loopLoop AlgoGen.DijkstraPred.next_loop0 k ⟨encD inf dist, heap⟩ : Blk Empty (Option (Option Nat × Nat) × AlgoGen.DijkstraPred) _) =
      match popFresh dist k heap with
      | none => .error (.ret (none, ⟨encD inf dist, []⟩))
      | some (e, h) => .ok ((e.d, (e.p, e.v)), ⟨encD inf dist, h⟩) :=
  popFresh_loop AlgoGen.DijkstraPred.mk inf (fun e => (e.d, (e.p, e.v))) dist (next_loop0_step inf dist)

/-- `for (x, w) in out_neighbors_weighted(v) { assert!(x < order); relax }` = the fold of the
hand-written `relax` with the predecessor tag `some`. -/
theorem next_for0_eq (inf : Int) (u : Nat) (d : Int) (order : Nat) : ∀ (arcs : List (Nat × Int)) (st : State),
    st.dist.length = order → (∀ xw ∈ arcs, xw.1 < order ∧ d + xw.2 < inf) →
    (forLoop (AlgoGen.DijkstraPred.next_for0 d u order) arcs (ofH inf st) : Blk Empty (Option (Option Nat × Nat) × AlgoGen.DijkstraPred) _) =
      .ok (ofH inf (arcs.foldl (relax some u d) st)) :=
  relax_loop AlgoGen.DijkstraPred.mk inf (fun w d => d + w) some u d (fun _ => rfl) order (fun _ _ _ => rfl)

/-- `Iterator::next` of `DijkstraPred` = the hand-written `Dijkstra.next` (entries with predecessor, `tag = some`,
fuel `heap.len() + 1` as in `collect`), for every state that satisfies `StepFits`. -/
theorem next_eq (g : WGraph) (inf : Int) (st : State) (hf : StepFits inf g st) :
    AlgoGen.DijkstraPred.next g (ofH inf st) =
      match GraafVerif.Dijkstra.next g some (st.heap.length + 1) st with
      | none => .ok (none, ofH inf ⟨st.dist, []⟩)
      | some (e, st') => .ok (some (e.p, e.v), ofH inf st') :=
  dij_next_generic AlgoGen.DijkstraPred.mk inf (fun e => (e.d, (e.p, e.v))) (fun e => (e.p, e.v)) g some (fun _ _ => rfl) (next_loop0_eq inf)
    (fun e st h => congrArg (fun r => r >>= fun self => pure (some (e.p, e.v), self))
      (next_for0_eq inf e.v e.d _ _ st (encD_length inf _).symm h)) st hf

/-- `unsafe { *pred_ptr.add(v) = u }` in `predecessors` -/
theorem predecessors_for0_eq (t : AlgoGen.PredecessorTree) (y : Option Nat × Nat) (h : y.2 < t.pred.length) :
    (AlgoGen.DijkstraPred.predecessors_for0 t y : Blk _ (AlgoGen.PredecessorTree × AlgoGen.DijkstraPred) _) =
      .ok ⟨t.pred.set y.2 y.1⟩ :=
  (congrArg (fun r => r >>= fun t1 => pure (⟨t1⟩ : AlgoGen.PredecessorTree)) (wr_lt _ t.pred y.2 y.1 h)).trans rfl

theorem foldl_pred (xs : List (Option Nat × Nat)) : ∀ (t : AlgoGen.PredecessorTree),
    (xs.foldl (fun (t : AlgoGen.PredecessorTree) (y : Option Nat × Nat) => (⟨t.pred.set y.2 y.1⟩ : AlgoGen.PredecessorTree)) t).pred =
      xs.foldl (fun acc it => acc.set it.2 it.1) t.pred :=
  PredecessorTree.foldl_set_pred xs

/-- `DijkstraPred::predecessors`: `PredecessorTree::new` panics for order 0, otherwise the
hand-written `predecessorsOf` of the items of the hand-written `collect`. -/
theorem predecessors_eq (g : WGraph) (inf : Int) (fuel : Nat) (st : State) (hlen : st.dist.length = g.n)
    (hfit : RunFits inf g some fuel st) :
    Except.map (fun r => r.1.pred) (AlgoGen.DijkstraPred.predecessors g fuel (ofH inf st)) =
      if g.n = 0 then .error (.fault .panic)
      else .ok (GraafVerif.Dijkstra.predecessorsOf g.n
        ((GraafVerif.Dijkstra.collect g some fuel st).map (fun e => (e.p, e.v)))) := by
  refine (PredecessorTree.map_fnBody_new_bind g.n _ _).trans (ite_congr rfl (fun _ => rfl) (fun _ => ?_))
  · obtain ⟨s', hs'⟩ := dij_iter_generic (ρ := AlgoGen.PredecessorTree × AlgoGen.DijkstraPred) (fun e => (e.p, e.v)) (ofH inf)
      (AlgoGen.DijkstraPred.next g) g inf some (next_eq g inf) AlgoGen.DijkstraPred.predecessors_for0
      (fun t (y : Option Nat × Nat) => (⟨t.pred.set y.2 y.1⟩ : AlgoGen.PredecessorTree)) (fun t => t.pred.length = g.n) g.n
      (fun acc e hR hv => ⟨predecessors_for0_eq acc (e.p, e.v) (by rw [hR]; exact hv), by rw [List.length_set, hR]⟩)
      fuel st ⟨List.replicate g.n none⟩ hlen hfit List.length_replicate
    refine (congrArg (fun r => Except.map (fun r => r.1.pred) (fnBody (r >>= fun t2 => pure (t2.1, t2.2)))) hs').trans ?_
    exact congrArg Except.ok (foldl_pred _ _)

theorem tagOK : GraafVerif.Dijkstra.TagOK some := GraafVerif.Dijkstra.tagOK_some

/-- `DijkstraPred::new(&digraph, sources)` iterated to the end = the hand-written item sequence, under the
hypotheses of C03 / C05 and a sentinel above `(fuel + 1) * (largest weight)`. -/
theorem new_collect_eq (g : WGraph) (S : List Nat) (h : GraafVerif.Dijkstra.Hyp g S) (inf W : Int) (hW0 : 0 ≤ W)
    (hW : ∀ u, ∀ xw ∈ g.out u, xw.2 ≤ W)
    (hinf : ((GraafVerif.Dijkstra.fuel g S + 1 : Nat) : Int) * W < inf) :
    (AlgoGen.DijkstraPred.new g inf S >>= fun s =>
        Except.map Prod.fst (collect (AlgoGen.DijkstraPred.next g) (GraafVerif.Dijkstra.fuel g S) s)) =
      .ok (GraafVerif.Dijkstra.dijkstraPred g S) := by
  rw [new_eq, if_pos h.srcRange]
  obtain ⟨_, hfit⟩ := runFits_init g S h inf W hW0 hW some (GraafVerif.Dijkstra.fuel g S) hinf
  refine (dij_collect_generic (fun e => (e.p, e.v)) (ofH inf) (AlgoGen.DijkstraPred.next g) g inf some
    (next_eq g inf) _ _ hfit).trans ?_
  rw [GraafVerif.Dijkstra.collect_eq_entries h tagOK]
  rfl

/-- `DijkstraPred::new(&digraph, sources).predecessors()` = the hand-written `Dijkstra.predecessors`
(`PredecessorTree::new` panics for order 0). -/
theorem new_predecessors_eq (g : WGraph) (S : List Nat) (h : GraafVerif.Dijkstra.Hyp g S) (inf W : Int) (hW0 : 0 ≤ W)
    (hW : ∀ u, ∀ xw ∈ g.out u, xw.2 ≤ W)
    (hinf : ((GraafVerif.Dijkstra.fuel g S + 1 : Nat) : Int) * W < inf) :
    (AlgoGen.DijkstraPred.new g inf S >>= fun s =>
        Except.map (fun r => r.1.pred) (AlgoGen.DijkstraPred.predecessors g (GraafVerif.Dijkstra.fuel g S) s)) =
      if g.n = 0 then .error (.fault .panic) else .ok (GraafVerif.Dijkstra.predecessors g S) := by
  rw [new_eq, if_pos h.srcRange]
  obtain ⟨hlen, hfit⟩ := runFits_init g S h inf W hW0 hW some (GraafVerif.Dijkstra.fuel g S) hinf
  refine (predecessors_eq g inf _ _ hlen hfit).trans ?_
  rw [GraafVerif.Dijkstra.collect_eq_entries h tagOK]
  rfl

/-- The body of the `for (u, v) in self` loop of `shortest_path`. -/
theorem shortestPath_for0_eq (F : Nat) (isT : Nat → Bool) (self : AlgoGen.DijkstraPred) (t : AlgoGen.PredecessorTree)
    (y : Option Nat × Nat) (hv : y.2 < t.pred.length) (hF : t.pred.length + 2 ≤ F) :
    (AlgoGen.DijkstraPred.shortestPath_for0 F isT self t y : Blk _ (Option (List Nat) × AlgoGen.DijkstraPred) _) =
      if isT y.2 = true then
        match PredTree.searchBy (t.pred.set y.2 y.1) y.2 (fun _ b => b.isNone) with
        | .panic => .error (.err (.fault .panic))
        | .ret r => .error (.ret (r.map List.reverse, self))
      else .ok ⟨t.pred.set y.2 y.1⟩ :=
  PredecessorTree.shortestPath_step _ F isT self t y hv hF

/-- The loop of `shortest_path` (followed by the final `None`) = the hand-written `spLoop` over
the items of the hand-written `collect`. -/
theorem shortestPath_loop_eq (g : WGraph) (inf : Int) (F : Nat) (isT : Nat → Bool) (hF : g.n + 2 ≤ F) :
    ∀ (k : Nat) (st : State) (t : AlgoGen.PredecessorTree), st.dist.length = g.n → RunFits inf g some k st →
      t.pred.length = g.n →
      Except.map Prod.fst (fnBody (iterLoopS (AlgoGen.DijkstraPred.next g) (AlgoGen.DijkstraPred.shortestPath_for0 F isT) k
          (ofH inf st) t >>= fun r => pure (none, r.2) : Blk Empty (Option (List Nat) × AlgoGen.DijkstraPred) _)) =
        PredecessorTree.liftP (GraafVerif.Dijkstra.spLoop isT
          ((GraafVerif.Dijkstra.collect g some k st).map (fun e => (e.p, e.v))) t.pred) := by
  intro k
  induction k with
  | zero =>
    intro st t _ _ _
    rfl
  | succ k ih =>
    intro st t hlen hfit ht
    obtain ⟨hstep, hrest⟩ := hfit
    have hn := next_eq g inf st hstep
    rw [GraafVerif.Dijkstra.collect]
    cases hh : GraafVerif.Dijkstra.next g some (st.heap.length + 1) st with
    | none =>
      rw [hh] at hn
      rw [iterLoopS_succ_none _ _ _ _ _ _ hn]
      rfl
    | some r =>
      obtain ⟨e, st'⟩ := r
      rw [hh] at hn
      obtain ⟨hmem, hlen'⟩ := next_some g some _ st st' e hh
      rw [iterLoopS_succ_some _ _ _ _ _ _ _ hn,
        shortestPath_for0_eq F isT (ofH inf st') t (e.p, e.v) (by rw [ht, ← hlen]; exact hstep.vtx e hmem)
          (by rw [ht]; exact hF)]
      rw [List.map_cons, GraafVerif.Dijkstra.spLoop]
      by_cases hT : isT e.v = true
      · rw [if_pos hT, if_pos hT]
        cases PredTree.searchBy (t.pred.set e.v e.p) e.v (fun _ b => b.isNone) <;> rfl
      · rw [if_neg hT, if_neg hT]
        exact ih st' ⟨t.pred.set e.v e.p⟩ (by rw [hlen', hlen]) (hrest e st' hh) (by rw [List.length_set, ht])

theorem shortestPath_eq (g : WGraph) (inf : Int) (F : Nat) (st : State) (isT : Nat → Bool) (hF : g.n + 2 ≤ F)
    (hlen : st.dist.length = g.n) (hfit : RunFits inf g some F st) :
    Except.map Prod.fst (AlgoGen.DijkstraPred.shortestPath g F (ofH inf st) isT) =
      if g.n = 0 then .error (.fault .panic)
      else PredecessorTree.liftP (GraafVerif.Dijkstra.spLoop isT
        ((GraafVerif.Dijkstra.collect g some F st).map (fun e => (e.p, e.v))) (List.replicate g.n none)) := by
  refine (PredecessorTree.map_fnBody_new_bind g.n _ _).trans (ite_congr rfl (fun _ => rfl) (fun _ => ?_))
  exact shortestPath_loop_eq g inf F isT hF F st ⟨List.replicate g.n none⟩ hlen hfit List.length_replicate

/-- `DijkstraPred::new(&g, S).shortest_path(is_target)` = the hand-written `Dijkstra.shortestPath`
(non-empty source list, so that the hand-written fuel also covers the search; order > 0). -/
theorem new_shortestPath_eq (g : WGraph) (S : List Nat) (h : GraafVerif.Dijkstra.Hyp g S) (inf W : Int) (hW0 : 0 ≤ W)
    (hW : ∀ u, ∀ xw ∈ g.out u, xw.2 ≤ W)
    (hinf : ((GraafVerif.Dijkstra.fuel g S + 1 : Nat) : Int) * W < inf) (isT : Nat → Bool)
    (hF : g.n + 2 ≤ GraafVerif.Dijkstra.fuel g S) (hn : 0 < g.n) :
    (AlgoGen.DijkstraPred.new g inf S >>= fun s =>
        Except.map Prod.fst (AlgoGen.DijkstraPred.shortestPath g (GraafVerif.Dijkstra.fuel g S) s isT)) =
      PredecessorTree.liftP (GraafVerif.Dijkstra.shortestPath g S isT) := by
  rw [new_eq, if_pos h.srcRange]
  obtain ⟨hlen, hfit⟩ := runFits_init g S h inf W hW0 hW some (GraafVerif.Dijkstra.fuel g S) hinf
  refine (shortestPath_eq g inf _ _ isT hF hlen hfit).trans ?_
  rw [GraafVerif.Dijkstra.collect_eq_entries h tagOK, if_neg (Nat.ne_of_gt hn)]
  rfl

end DijkstraPred

end GraafVerif.AlgoGenThm
