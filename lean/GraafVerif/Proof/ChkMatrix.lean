import GraafVerif.Model.ChkMatrix
import GraafVerif.Proof.ChkHoare
import GraafVerif.Proof.ReprBits
/-!
# `AdjacencyMatrix`: every block index the code computes is in range (C13, P0)
-/
namespace GraafVerif.Chk
open GraafVerif.Repr.AdjMatrix (le_ceil64 lt_of_not_oob)

/-- Representation invariant: `blocks.len() = ceil(order² / 64)`, the product did not overflow. -/
def MxInv (m : Mx) : Prop :=
  0 < m.order ∧ m.order * m.order < W64 ∧ m.blocks.length = (m.order * m.order + 63) / 64

theorem mx_block_lt {m : Mx} (h : MxInv m) {u v : Nat} (hu : u < m.order) (hv : v < m.order) :
    mxIndex m u v >>> 6 < m.blocks.length := by
  rw [h.2.2, Nat.shiftRight_eq_div_pow]
  exact Nat.div_lt_of_lt_mul (Nat.lt_of_lt_of_le (flatIdx_lt hu hv) (le_ceil64 _))

theorem mxEmpty_spec (order : Nat) : Sat (mxEmpty order) (fun m => MxInv m ∧ m.order = order) := by
  unfold mxEmpty
  refine Sat.assert.bind fun _ h0 => Sat.ite (fun _ => Sat.panic) fun hlt => Sat.pure ⟨⟨h0, ?_, ?_⟩, rfl⟩
  · exact Nat.lt_of_not_le hlt
  · exact List.length_replicate ..

/-- `add_arc` / `toggle`: for ALL `u`, `v` — the asserts reject what is out of range, the
unchecked `get_unchecked_mut(i >> 6)` is in range for what passes; the invariant is kept. -/
theorem mxUpdate_spec {site : String} {f : Nat → Nat → Nat} (m : Mx) (h : MxInv m) (u v : Nat) :
    Sat (mxUpdate site f m u v) MxInv := by
  unfold mxUpdate
  refine Sat.assert.bind fun _ _ => Sat.assert.bind fun _ hu => Sat.assert.bind fun _ hv => ?_
  have hb := mx_block_lt h hu hv
  exact (Sat.rd hb).bind fun _ _ => (Sat.wrLen rfl hb).bind fun _ hl => Sat.pure ⟨h.1, h.2.1, hl.trans h.2.2⟩

/-- `has_arc` never panics (and has no unchecked access at all): the checked index is in range. -/
theorem mxHasArc_total (m : Mx) (h : MxInv m) (u v : Nat) : ∃ b, mxHasArc m u v = .ok b := by
  unfold mxHasArc
  by_cases hc : (decide (u ≥ m.order) || decide (v ≥ m.order)) = true
  · exact ⟨false, by rw [if_pos hc]; rfl⟩
  · rw [if_neg hc]
    dsimp only
    rw [rdChecked_of_lt (mx_block_lt h (lt_of_not_oob hc).1 (lt_of_not_oob hc).2)]
    exact ⟨_, rfl⟩

theorem mxRemoveArc_total (m : Mx) (h : MxInv m) (u v : Nat) :
    ∃ b m', mxRemoveArc m u v = .ok (b, m') ∧ MxInv m' := by
  unfold mxRemoveArc
  by_cases hc : (decide (u ≥ m.order) || decide (v ≥ m.order)) = true
  · exact ⟨false, m, by rw [if_pos hc]; rfl, h⟩
  · obtain ⟨b, hb⟩ := mxHasArc_total m h u v
    rw [if_neg hc, hb]
    dsimp only
    rw [rdChecked_of_lt (mx_block_lt h (lt_of_not_oob hc).1 (lt_of_not_oob hc).2)]
    exact ⟨b, _, rfl, h.1, h.2.1, (List.length_set ..).trans h.2.2⟩

end GraafVerif.Chk
