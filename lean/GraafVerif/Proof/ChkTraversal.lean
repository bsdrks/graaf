import GraafVerif.Model.ChkTraversal
import GraafVerif.Proof.ChkHoare
/-!
# No undefined behaviour in the nine traversals (C13, P0)

For every digraph view (`out` arbitrary: successors may be any numbers, `out u = none` = the call
panics), every source list and — for `next` — every iterator state that `new`/`next` can produce,
the model never reaches an `rd`/`wr` whose index is out of range.
-/
namespace GraafVerif.Chk

/-- `visited` has `n` entries and every queued item satisfies `P` (for the derived entry points:
its vertex is below `n`; for the safety of `next` alone: nothing). -/
def QInv {ι : Type} (P : ι → Prop) (n : Nat) (st : QSt ι) : Prop :=
  st.visited.length = n ∧ ∀ it ∈ st.queue, P it

theorem QInv.push {ι : Type} {P : ι → Prop} {n : Nat} {st : QSt ι} (h : QInv P n st) {vis : List Bool}
    (hvis : vis.length = n) {it : ι} (hit : P it) : QInv P n ⟨st.queue ++ [it], vis⟩ :=
  ⟨hvis, fun x hx => (List.mem_append.mp hx).elim (h.2 x) fun hx => List.mem_singleton.mp hx ▸ hit⟩

theorem bfsNewG_spec {ι : Type} {site : String} (P : ι → Prop) {mk0 : Nat → ι} (order : Nat)
    (hmk : ∀ u, u < order → P (mk0 u)) (sources : List Nat) :
    Sat (bfsNewG site mk0 order sources) (QInv P order) := by
  unfold bfsNewG
  refine Sat.foldlM (fun st u _ h => ?_) ⟨List.length_replicate .., fun _ hit => nomatch hit⟩
  exact Sat.assert.bind fun _ hu => (Sat.wrLen h.1 hu).bind fun _ hvis => Sat.pure (h.push hvis (hmk u hu))

theorem bfsVisit_spec {ι : Type} (site : String) (P : ι → Prop) (mk : Nat → ι) (n : Nat) (hmk : ∀ v, v < n → P (mk v))
    (st : QSt ι) (v : Nat) (h : QInv P n st) : Sat (bfsVisit site mk n st v) (QInv P n) := by
  unfold bfsVisit
  refine Sat.assert.bind fun _ hv => (Sat.rd (h.1 ▸ hv)).bind fun b _ => Sat.ite (fun _ => Sat.pure h) fun _ => ?_
  exact (Sat.wrLen h.1 hv).bind fun _ hvis => Sat.pure (h.push hvis (hmk v hv))

theorem bfsNextG_spec {ι : Type} (site : String) (P : ι → Prop) (vtx : ι → Nat) (mk : ι → Nat → ι) (n : Nat)
    (hmk : ∀ it v, v < n → P (mk it v)) (g : CGraph) (st : QSt ι) (h : QInv P n st) :
    Sat (bfsNextG site vtx mk g st) (fun r => QInv P n r.2 ∧ ∀ it, r.1 = some it → P it) := by
  unfold bfsNextG
  cases hq : st.queue with
  | nil => exact Sat.pure ⟨h, fun _ e => nomatch e⟩
  | cons it q =>
    dsimp only
    cases g.out (vtx it) with
    | none => exact Sat.panic
    | some vs =>
      dsimp only
      have hit : P it ∧ ∀ x ∈ q, P x := List.forall_mem_cons.mp (hq ▸ h.2)
      rw [h.1]
      refine (Sat.foldlM (I := QInv P n) (fun s v _ hs => bfsVisit_spec site P (mk it) n (hmk it) s v hs)
        (show QInv P n ⟨q, st.visited⟩ from ⟨h.1, hit.2⟩)).bind fun st' hst' => Sat.pure ⟨hst', fun _ e => ?_⟩
      cases e
      exact hit.1

/-- `next` is free of UB in EVERY state (no invariant needed: the assert uses `visited.len()`). -/
theorem bfsNextG_noUB {ι : Type} {site : String} {vtx : ι → Nat} {mk : ι → Nat → ι} (g : CGraph) (st : QSt ι) :
    NoUB (bfsNextG site vtx mk g st) :=
  (bfsNextG_spec site (fun _ => True) vtx mk st.visited.length (fun _ _ _ => trivial) g st
    ⟨rfl, fun _ _ => trivial⟩).1

theorem bfsNextG_iterSpec {ι : Type} {site : String} (vtx : ι → Nat) {mk : ι → Nat → ι}
    (hmk : ∀ it v, vtx (mk it v) = v) (g : CGraph) (n : Nat) :
    IterSpec (bfsNextG site vtx mk g) (QInv (vtx · < n) n) (vtx · < n) :=
  bfsNextG_spec site (vtx · < n) vtx mk n (fun it v hv => (hmk it v).symm ▸ hv) g

theorem dfsVisit_noUB {ι : Type} (site : String) (mk : Nat → ι) (vis : List Bool) (stack : List ι) (v : Nat) :
    NoUB (dfsVisit site mk vis.length vis stack v) := by
  unfold dfsVisit
  exact Sat.assert.noUB_bind fun _ hv => noUB_bind (noUB_rd hv) fun _ _ => noUB_pure _

theorem dfsNextG_spec {ι : Type} (site : String) (vtx : ι → Nat) (mk : ι → Nat → ι) (g : CGraph) (st : QSt ι) :
    Sat (dfsNextG site vtx mk g st) (fun r =>
      r.2.visited.length = st.visited.length ∧ ∀ it, r.1 = some it → vtx it < st.visited.length) := by
  unfold dfsNextG
  cases st.queue with
  | nil => exact Sat.pure ⟨rfl, fun _ e => nomatch e⟩
  | cons it s =>
    dsimp only
    refine Sat.assert.bind fun _ hu => (Sat.rd hu).bind fun b _ =>
      Sat.ite (fun _ => Sat.pure ⟨rfl, fun _ e => nomatch e⟩) fun _ => (Sat.wrLen rfl hu).bind fun vis hl => ?_
    cases g.out (vtx it) with
    | none => exact Sat.panic
    | some vs =>
      dsimp only
      refine (Sat.of_noUB ?_).bind fun _ _ => Sat.pure ⟨hl, fun _ e => by cases e; exact hu⟩
      rw [← hl]
      exact noUB_foldlM (fun s v _ => dfsVisit_noUB site (mk it) vis s v) s

theorem dfsNextG_iterSpec {ι : Type} {site : String} (vtx : ι → Nat) {mk : ι → Nat → ι} (g : CGraph) (n : Nat) :
    IterSpec (dfsNextG site vtx mk g) (fun st => st.visited.length = n) (vtx · < n) :=
  fun st hi => (dfsNextG_spec site vtx mk g st).mono fun _ h => ⟨h.1.trans hi, fun it e => hi ▸ h.2 it e⟩

def HInv {ι : Type} (vtx : ι → Nat) (n : Nat) (st : HSt ι) : Prop :=
  st.dist.length = n ∧ ∀ it ∈ st.heap, vtx it < n

theorem HInv.push {ι : Type} {vtx : ι → Nat} {n : Nat} {st : HSt ι} (h : HInv vtx n st) {d : List Nat}
    (hd : d.length = n) {it : ι} (hit : vtx it < n) : HInv vtx n ⟨it :: st.heap, d⟩ :=
  ⟨hd, List.forall_mem_cons.mpr ⟨hit, h.2⟩⟩

theorem popBest_mem {ι : Type} (better : ι → ι → Bool) (l : List ι) :
    ∀ {x : ι} {rest : List ι}, popBest better l = some (x, rest) → x ∈ l ∧ ∀ y ∈ rest, y ∈ l := by
  induction l with
  | nil => intro x rest h; cases h
  | cons a xs ih =>
    intro x rest h
    unfold popBest at h
    cases hp : popBest better xs with
    | none =>
      rw [hp] at h
      cases h
      exact ⟨List.mem_cons_self, fun _ hy => nomatch hy⟩
    | some q =>
      obtain ⟨hy, hys⟩ := ih hp
      rw [hp] at h
      dsimp only at h
      by_cases hb : better q.1 a = true
      · rw [if_pos hb] at h
        cases h
        exact ⟨List.mem_cons_of_mem _ hy, fun z hz => (List.mem_cons.mp hz).elim (· ▸ List.mem_cons_self)
          fun hz => List.mem_cons_of_mem _ (hys z hz)⟩
      · rw [if_neg hb] at h
        cases h
        exact ⟨List.mem_cons_self, fun z hz => List.mem_cons_of_mem _ hz⟩

theorem dijNewG_spec {ι : Type} {site : String} (vtx : ι → Nat) {mk0 : Nat → ι} (hmk : ∀ u, vtx (mk0 u) = u)
    (order : Nat) (sources : List Nat) : Sat (dijNewG site mk0 order sources) (HInv vtx order) := by
  unfold dijNewG
  refine Sat.foldlM (fun st u _ h => ?_) ⟨List.length_replicate .., fun _ hit => nomatch hit⟩
  exact Sat.assert.bind fun _ hu => (Sat.wrLen h.1 hu).bind fun _ hd =>
    Sat.pure (h.push hd ((hmk u).symm ▸ hu))

/-- The stale-entry loop: the unchecked `*dist_ptr.add(u)` is in range because every heap entry is. -/
theorem popFresh_spec {ι : Type} (site : String) (better : ι → ι → Bool) (key vtx : ι → Nat) (dist : List Nat) :
    ∀ (fuel : Nat) (heap : List ι), (∀ it ∈ heap, vtx it < dist.length) →
      Sat (popFresh site better key vtx fuel heap dist) (fun r =>
        (∀ it ∈ r.2, vtx it < dist.length) ∧ ∀ it, r.1 = some it → vtx it < dist.length) := by
  intro fuel
  induction fuel with
  | zero => intro heap hh; exact Sat.pure ⟨hh, fun _ e => nomatch e⟩
  | succ fuel ih =>
    intro heap hh
    unfold popFresh
    cases hp : popBest better heap with
    | none => exact Sat.pure ⟨fun _ e => (nomatch e), fun _ e => nomatch e⟩
    | some q =>
      obtain ⟨hit, hrest⟩ := popBest_mem better heap hp
      have hr : ∀ y ∈ q.2, vtx y < dist.length := fun y hy => hh y (hrest y hy)
      dsimp only
      refine (Sat.rd (hh _ hit)).bind fun d _ => Sat.ite (fun _ => Sat.pure ⟨hr, fun _ e => ?_⟩) fun _ => ih _ hr
      cases e
      exact hh _ hit

theorem dijRelax_spec {ι : Type} (site : String) (vtx : ι → Nat) (mk : Nat → Nat → ι) (hmk : ∀ v w, vtx (mk v w) = v)
    (n wPrev : Nat) (st : HSt ι) (a : Nat × Nat) (h : HInv vtx n st) :
    Sat (dijRelax site mk n wPrev st a) (HInv vtx n) := by
  unfold dijRelax
  refine Sat.assert.bind fun _ hv => (Sat.rd (h.1 ▸ hv)).bind fun _ _ => Sat.ite (fun _ => ?_) fun _ => Sat.pure h
  exact (Sat.wrLen h.1 hv).bind fun _ hd => Sat.pure (h.push hd ((hmk _ _).symm ▸ hv))

theorem dijNextG_iterSpec {ι : Type} {site : String} {better : ι → ι → Bool} {key : ι → Nat} (vtx : ι → Nat)
    {mk : ι → Nat → Nat → ι} (hmk : ∀ it v w, vtx (mk it v w) = v) (g : WCGraph) (n : Nat) :
    IterSpec (dijNextG site better key vtx mk g) (HInv vtx n) (vtx · < n) := by
  intro st h
  unfold dijNextG
  refine (popFresh_spec site better key vtx st.dist _ st.heap (h.1.symm ▸ h.2)).bind fun r hr => ?_
  obtain ⟨o, heap⟩ := r
  rw [h.1] at hr
  have hinv : HInv vtx n ⟨heap, st.dist⟩ := ⟨h.1, hr.1⟩
  cases o with
  | none => exact Sat.pure ⟨hinv, fun _ e => nomatch e⟩
  | some it =>
    dsimp only
    cases g.out (vtx it) with
    | none => exact Sat.panic
    | some arcs =>
      dsimp only
      rw [h.1]
      exact (Sat.foldlM (fun s a _ hs => dijRelax_spec site vtx (mk it) (hmk it) n (key it) s a hs) hinv).bind
        fun st' hst' => Sat.pure ⟨hst', fun _ e => by cases e; exact hr.2 it rfl⟩

end GraafVerif.Chk
