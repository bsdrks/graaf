import GraafVerif.Model.AlgoGen5
import GraafVerif.Proof.AlgoGenCall
import GraafVerif.Proof.ReprBits
/-!
# Generated low-level functions (`Model/AlgoGen5.lean`), part 1: the bit operations of `AdjacencyMatrix`,
`AdjacencyList::{add_arc, out_neighbors}`
-/
namespace GraafVerif.AlgoGenThm
open GraafVerif GraafVerif.AlgoGen GraafVerif.Repr

namespace AdjacencyMatrix

theorem mask_eq (u : Nat) : AlgoGen.AdjacencyMatrix.mask u = .ok (AdjMatrix.mask u) := rfl
theorem index_eq (d : AdjMatrix) (u v : Nat) : AlgoGen.AdjacencyMatrix.index d u v = .ok (d.index u v) := rfl

theorem index_block (d : AdjMatrix) (u v : Nat) (hu : u < d.order) (hv : v < d.order)
    (hlen : d.order * d.order ≤ 64 * d.blocks.length) : d.index u v / 64 < d.blocks.length :=
  AdjMatrix.block_lt hlen hu hv

/-- the body shared by `toggle` and `add_arc`: read-modify-write of the block of cell `(u, v)` with the bit operation `op` -/
theorem setBlock_eq (site : String) (op : BitVec 64 → BitVec 64 → BitVec 64) (d : AdjMatrix) (u v : Nat)
    (hlen : d.order * d.order ≤ 64 * d.blocks.length) :
    (fnBody do
      assert (u != v)
      assert (decide (u < d.order))
      assert (decide (v < d.order))
      let i ← call (AlgoGen.AdjacencyMatrix.index d u v)
      let t1 ← call (AlgoGen.AdjacencyMatrix.mask i)
      let t2 ← rd site d.blocks (i / 64)
      let t3 ← wr site d.blocks (i / 64) (op t2 t1)
      pure ((), { d with blocks := t3 })) =
    optU (if u = v then none else if ¬ u < d.order then none else if ¬ v < d.order then none
      else some (d.setBlock (d.index u v) (op · (AdjMatrix.mask (d.index u v))))) := by
  refine arcGuards u v d.order _ _ (fun _ hu hv => ?_)
  have hi := index_block d u v hu hv hlen
  rw [index_eq, call_ok, ok_bind, mask_eq, call_ok, ok_bind, rd_lt _ _ _ hi, ok_bind, wr_lt _ _ _ _ hi,
    AdjMatrix.setBlock, List.getElem?_eq_getElem hi]
  rfl

/-- `AdjacencyMatrix::toggle` = the hand-written `AdjMatrix.toggle` for every matrix whose blocks cover the `order²`
cells (part of `AdjMatrix.WF`): then `get_unchecked_mut(i >> 6)` is in bounds -/
theorem toggle_eq (d : AdjMatrix) (u v : Nat) (hlen : d.order * d.order ≤ 64 * d.blocks.length) :
    AlgoGen.AdjacencyMatrix.toggle d u v = optU (d.toggle u v) :=
  setBlock_eq _ (· ^^^ ·) d u v hlen

/-- `AdjacencyMatrix::add_arc` = the hand-written `AdjMatrix.addArc` (same hypothesis) -/
theorem addArc_eq (d : AdjMatrix) (u v : Nat) (hlen : d.order * d.order ≤ 64 * d.blocks.length) :
    AlgoGen.AdjacencyMatrix.addArc d u v = optU (d.addArc u v) :=
  setBlock_eq _ (· ||| ·) d u v hlen

end AdjacencyMatrix

namespace AdjacencyList

theorem addArc_eq (d : AdjList) (u v : Nat) : AlgoGen.AdjacencyList.addArc d u v = optU (d.addArc u v) := by
  refine arcGuards u v d.order _ _ (fun _ (hu : u < d.rows.length) _ => ?_)
  rw [rd_lt _ _ _ hu, ok_bind, wr_lt _ _ _ _ hu, List.getElem?_eq_getElem hu]
  rfl

/-- `AdjacencyList::out_neighbors` = the hand-written `AdjList.outNeighbors` (`none` = the `assert!`) -/
theorem outNeighbors_eq (d : AdjList) (u : Nat) : AlgoGen.AdjacencyList.outNeighbors d u = optR (d.outNeighbors u) := by
  unfold AlgoGen.AdjacencyList.outNeighbors AdjList.outNeighbors
  by_cases h : u < d.order
  · have hi : u < d.rows.length := h
    rw [assert_pos h, rd_lt _ _ _ hi, List.getElem?_eq_getElem hi]
    rfl
  · rw [assert_neg h, List.getElem?_eq_none (Nat.le_of_not_lt h)]
    rfl

end AdjacencyList
end GraafVerif.AlgoGenThm
