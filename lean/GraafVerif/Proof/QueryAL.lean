import GraafVerif.Proof.Query
/-!
# C02 — `AdjacencyList`: every core query equals its definition on `abs d` (P0)
-/
namespace GraafVerif.Query
open GraafVerif.Repr

namespace AL

def row (d : AdjList) (u : Nat) : List Nat := d.rows[u]?.getD []

theorem rows_eq_map (d : AdjList) : d.rows = (List.range d.order).map (row d) := eq_map_getD d.rows []

theorem zipIdx_rows (d : AdjList) : d.rows.zipIdx = (List.range d.order).map (fun u => (row d u, u)) :=
  zipIdx_eq_map_getD d.rows []

theorem row_get (d : AdjList) {u : Nat} (h : u < d.order) : d.rows[u]? = some (row d u) :=
  getElem?_eq_some_getD h

theorem row_sorted {d : AdjList} (h : d.WF) (u : Nat) : (row d u).Pairwise (· < ·) :=
  h.shape.2 u

theorem abs_valid {d : AdjList} (h : d.WF) : (abs d).Valid :=
  valid_of_simple List.pairwise_lt_range h.simple (unitWt_isSome d.hasArc)

theorem outNeighbors_spec {d : AdjList} (h : d.WF) (u : Nat) : Spec.outNeighbors (abs d) u = row d u :=
  outNeighbors_eq_of (abs_valid h) (row_sorted h u) fun _ => AdjList.mem_row

theorem outNeighbors_row {d : AdjList} (h : d.WF) {u : Nat} (hu : u < d.order) :
    d.rows[u]? = some (Spec.outNeighbors (abs d) u) := by
  rw [outNeighbors_spec h]; exact row_get d hu

theorem size_spec {d : AdjList} (h : d.WF) : d.size = Spec.size (abs d) :=
  size_of_arcs (abs_valid h) (AdjList.size_eq d) (AdjList.arcs_sorted h.shape)
    (AdjList.mem_arcs_iff d)

theorem indegree_spec (d : AdjList) (v : Nat) :
    (d.rows.filter (fun row => row.contains v)).length = Spec.indegree (abs d) v := by
  rw [rows_eq_map d, List.filter_map, List.length_map]
  exact congrArg List.length (List.filter_congr fun u _ => (AdjList.hasArc_eq d u v).symm)

theorem inNeighbors_spec (d : AdjList) (v : Nat) : inNeighbors d v = Spec.inNeighbors (abs d) v := by
  rw [inNeighbors, zipIdx_rows, List.filter_map, List.map_map]
  exact (List.map_id _).trans (List.filter_congr fun u _ => (AdjList.hasArc_eq d u v).symm)

theorem isSource_spec (d : AdjList) (v : Nat) : isSource d v = Spec.isSource (abs d) v := by
  rw [Spec.isSource, ← indegree_spec, filter_length_eq_zero]; rfl

theorem core_correct {d : AdjList} (h : d.WF) : CoreCorrect (core d) (abs d) where
  order := (List.length_range).symm
  vertices := rfl
  arcs_mem := AdjList.mem_arcs_iff d
  size := size_spec h
  hasArc := fun _ _ => rfl
  hasEdge := fun _ _ => rfl
  hasWalk := fun w => hasWalkPtr_eq (abs d) d.hasArc (fun _ _ => rfl) w
  outNeighbors := fun u hu => outNeighbors_row h (AdjList.mem_vertices.1 hu)
  inNeighbors := inNeighbors_spec d
  indegree := fun v hv => by
    rw [← indegree_spec]; exact if_pos (AdjList.mem_vertices.1 hv)
  isSource := isSource_spec d
  outdegree := fun u hu => (out_fields (outNeighbors_row h (AdjList.mem_vertices.1 hu))).1
  isSink := fun u hu => (out_fields (outNeighbors_row h (AdjList.mem_vertices.1 hu))).2

/-- Documented panics: the queries that are not total panic exactly outside `V`. -/
theorem panics_outside {d : AdjList} {u : Nat} (hu : ¬ u < d.order) :
    (core d).outNeighbors u = none ∧ (core d).indegree u = none ∧ (core d).outdegree u = none ∧ (core d).isSink u = none := by
  have hr : d.rows[u]? = none := List.getElem?_eq_none (Nat.le_of_not_lt hu)
  exact ⟨hr, if_neg hu, congrArg (Option.map List.length) hr, congrArg (Option.map List.isEmpty) hr⟩

/-- `remove_arc` is total: an absent arc (in particular any id outside `V`) answers `false` and leaves the
digraph unchanged. -/
theorem removeArc_absent (d : AdjList) {u v : Nat} (h : d.hasArc u v = false) : d.removeArc u v = (d, false) := by
  unfold AdjList.removeArc
  unfold AdjList.hasArc at h
  cases hr : d.rows[u]? with
  | none => rfl
  | some row =>
    rw [hr] at h
    have hv : v ∉ row := fun hm => Bool.eq_false_iff.1 h (List.contains_iff_mem.2 hm)
    obtain ⟨hu, rfl⟩ := List.getElem?_eq_some_iff.1 hr
    simp only [serase_absent hv, List.set_getElem_self, h]

end AL
end GraafVerif.Query
