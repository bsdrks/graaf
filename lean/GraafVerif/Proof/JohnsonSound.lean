import GraafVerif.Proof.JohnsonUnblock
import GraafVerif.Proof.JohnsonParts
import GraafVerif.Proof.SortedInserts
/-!
# Soundness invariant of `circuit`

`Inv comp st`: (i1) unblocked vertices have empty B-lists, (k) no stack vertex can be reached by
a cascade started at a vertex above it on the stack, (i3) stack vertices are blocked, the stack
is duplicate-free and inside the component.  Pushing a free vertex keeps it (`Inv.push`), and so does
popping the top after `unblock` or after the B-list insertions (`Inv.pop`, `casc_addToB`); that every
call of `circuit` preserves it is `circuit_post` (`Proof/JohnsonCircuit.lean`).
-/
namespace GraafVerif.Johnson
open GraafVerif

structure Inv (comp : AM) (st : JState) : Prop where
  i1 : ∀ y, y ∉ st.blocked → st.Bof y = []
  k : ∀ l1 a l2, st.stack = l1 ++ a :: l2 → ∀ b ∈ l2, ¬ Casc st b a
  i3 : ∀ x ∈ st.stack, x ∈ st.blocked
  nd : st.stack.Nodup
  sub : ∀ x ∈ st.stack, x ∈ comp.verts

theorem Inv.congr {comp : AM} {st st' : JState} (hb : st'.blocked = st.blocked) (hB : st'.B = st.B)
    (hs : st'.stack = st.stack) (h : Inv comp st) : Inv comp st' := by
  have hBof : ∀ y, st'.Bof y = st.Bof y := by intro y; simp [JState.Bof, hB]
  refine ⟨?_, ?_, ?_, ?_, ?_⟩
  · intro y hy; rw [hBof]; exact h.i1 y (by rwa [hb] at hy)
  · intro l1 a l2 hst b hb' hc
    exact h.k l1 a l2 (by rw [← hs]; exact hst) b hb'
      (hc.mono (fun x hx => by rwa [hb] at hx) (fun y x hx => by rwa [hBof] at hx))
  · intro x hx; rw [hb]; exact h.i3 x (by rwa [hs] at hx)
  · rw [hs]; exact h.nd
  · intro x hx; exact h.sub x (by rwa [hs] at hx)

/-- The stack followed by a free vertex of the component is a duplicate-free list of component
vertices: this bounds the recursion depth of `circuit`. -/
theorem Inv.stack_length_lt {comp : AM} {st : JState} (h : Inv comp st) {w : Nat} (hw : w ∉ st.blocked)
    (hwc : w ∈ comp.verts) : st.stack.length < comp.verts.length := by
  have hnd : (w :: st.stack).Nodup := List.nodup_cons.2 ⟨fun hm => hw (h.i3 w hm), h.nd⟩
  exact List.Nodup.length_le_of_subset hnd (l₂ := comp.verts) (by
    intro x hx
    rcases List.mem_cons.1 hx with rfl | hx
    · exact hwc
    · exact h.sub x hx)

theorem Inv.not_fuel_zero {comp : AM} {st : JState} (h : Inv comp st) {w : Nat} (hw : w ∉ st.blocked)
    (hwc : w ∈ comp.verts) : ¬ comp.verts.length ≤ 0 + st.stack.length := by
  rw [Nat.zero_add]
  exact Nat.not_le.mpr (h.stack_length_lt hw hwc)

theorem snoc_eq_append_cons {S : List Nat} {v : Nat} {l1 : List Nat} {a : Nat} {l2 : List Nat}
    (h : S ++ [v] = l1 ++ a :: l2) :
    (l2 = [] ∧ a = v ∧ l1 = S) ∨ ∃ l2', l2 = l2' ++ [v] ∧ S = l1 ++ a :: l2' := by
  rcases List.eq_nil_or_concat l2 with rfl | ⟨l2', z, rfl⟩
  · left
    have : S ++ [v] = l1 ++ [a] := h
    have h2 := List.append_inj' this rfl
    simp at h2
    exact ⟨rfl, h2.2.symm, h2.1.symm⟩
  · right
    have : S ++ [v] = (l1 ++ a :: l2') ++ [z] := by simpa using h
    have h2 := List.append_inj' this rfl
    simp at h2
    exact ⟨l2', by rw [h2.2]; simp, h2.1⟩

theorem casc_only_self {st : JState} {v a : Nat} (hB : st.Bof v = []) (h : Casc st v a) : a = v := by
  induction h with
  | refl _ => rfl
  | step _ hb _ ih => subst ih; rw [hB] at hb; simp at hb

/-- Blocking a vertex with an empty B-list creates no cascade towards other vertices. -/
theorem casc_push {st st1 : JState} {v : Nat} (hbl : ∀ x, x ∈ st1.blocked ↔ x = v ∨ x ∈ st.blocked)
    (hB : ∀ y, st1.Bof y = st.Bof y) (hBv : st.Bof v = []) {b a : Nat} (hav : a ≠ v)
    (h : Casc st1 b a) : Casc st b a := by
  induction h with
  | refl h =>
    rcases (hbl _).1 h with rfl | h
    · exact absurd rfl hav
    · exact Casc.refl h
  | @step y x _ hb hx ih =>
    have hyv : y ≠ v := by
      intro e; subst e; rw [hB, hBv] at hb; simp at hb
    have hx' : x ∈ st.blocked := by
      rcases (hbl _).1 hx with rfl | h
      · exact absurd rfl hav
      · exact h
    exact Casc.step (ih hyv) (by rwa [hB] at hb) hx'

theorem Inv.push {comp : AM} {st : JState} {v : Nat} (h : Inv comp st) (hv : v ∉ st.blocked)
    (hvc : v ∈ comp.verts) :
    Inv comp { st with stack := st.stack ++ [v], blocked := insBlocked v st.blocked } := by
  have hmem := mem_insBlocked v st.blocked
  have hva : ∀ a ∈ st.stack, a ≠ v := by
    intro a ha e; subst e; exact hv (h.i3 a ha)
  refine ⟨?_, ?_, ?_, ?_, ?_⟩
  · intro y hy
    exact h.i1 y (fun hy' => hy ((hmem y).2 (Or.inr hy')))
  · -- a cascade from an old stack vertex is one of the old state (`casc_push`); one from `v` stays at `v`: `B[v]` is empty
    intro l1 a l2 hst b hb hc
    rcases snoc_eq_append_cons hst with ⟨rfl, _, _⟩ | ⟨l2', rfl, hS⟩
    · simp at hb
    · have haS : a ∈ st.stack := by rw [hS]; simp
      have hav := hva a haS
      rcases List.mem_append.1 hb with hb | hb
      · exact h.k l1 a l2' hS b hb (casc_push (st := st)
          (st1 := { st with stack := st.stack ++ [v], blocked := insBlocked v st.blocked })
          hmem (fun _ => rfl) (h.i1 v hv) hav hc)
      · simp at hb; subst hb
        exact hav (casc_only_self
          (st := { st with stack := st.stack ++ [b], blocked := insBlocked b st.blocked }) (h.i1 b hv) hc)
  · intro x hx
    rcases List.mem_append.1 hx with hx | hx
    · exact (hmem x).2 (Or.inr (h.i3 x hx))
    · simp at hx; exact (hmem x).2 (Or.inl hx)
  · show (st.stack ++ [v]).Nodup
    exact nodup_snoc h.nd fun hm => hv (h.i3 v hm)
  · intro x hx
    rcases List.mem_append.1 hx with hx | hx
    · exact h.sub x hx
    · simp at hx; subst hx; exact hvc

theorem Inv.pop {comp : AM} {r st' : JState} {S : List Nat} {v : Nat} (h : Inv comp r)
    (hr : r.stack = S ++ [v]) (hs : st'.stack = S)
    (hi1 : ∀ y, y ∉ st'.blocked → st'.Bof y = [])
    (hcasc : ∀ b a, Casc st' b a → Casc r b a ∨ Casc r v a)
    (hbl : ∀ x ∈ S, x ∈ st'.blocked) : Inv comp st' := by
  have hnd : (S ++ [v]).Nodup := hr ▸ h.nd
  refine ⟨hi1, ?_, by rw [hs]; exact hbl, by rw [hs]; exact (List.nodup_append.1 hnd).1, ?_⟩
  · intro l1 a l2 hst b hb hc
    have hk := h.k l1 a (l2 ++ [v]) (by rw [hr, ← hs, hst]; simp)
    rcases hcasc b a hc with hc | hc
    · exact hk b (by simp [hb]) hc
    · exact hk v (by simp) hc
  · intro x hx
    exact h.sub x (by rw [hr]; rw [hs] at hx; simp [hx])

theorem addToB_length (v : Nat) (ws : List Nat) (B : List (List Nat)) : (addToB v B ws).length = B.length := by
  induction ws generalizing B with
  | nil => rfl
  | cons w ws ih =>
    show (addToB v (B.set w _) ws).length = _
    rw [ih, List.length_set]

theorem addToB_get (v : Nat) (ws : List Nat) (B : List (List Nat)) (y x : Nat) :
    x ∈ ((addToB v B ws)[y]?).getD [] ↔ x ∈ (B[y]?).getD [] ∨ (x = v ∧ y ∈ ws ∧ y < B.length) := by
  induction ws generalizing B with
  | nil => exact ⟨Or.inl, fun h => h.elim id fun h => absurd h.2.1 List.not_mem_nil⟩
  | cons w ws ih =>
    show x ∈ ((addToB v (B.set w (insertAsc v ((B[w]?).getD []))) ws)[y]?).getD [] ↔ _
    rw [ih, Vec.getD_set, List.length_set, List.mem_cons]
    by_cases hwy : w = y ∧ w < B.length
    · rw [if_pos hwy, mem_insertAsc]
      obtain ⟨rfl, hlt⟩ := hwy
      constructor
      · rintro ((h | h) | h)
        · exact Or.inr ⟨h, Or.inl rfl, hlt⟩
        · exact Or.inl h
        · exact Or.inr ⟨h.1, Or.inr h.2.1, h.2.2⟩
      · rintro (h | ⟨h1, _, _⟩)
        · exact Or.inl (Or.inr h)
        · exact Or.inl (Or.inl h1)
    · rw [if_neg hwy]
      exact or_congr_right (and_congr_right fun _ => ⟨fun h => ⟨Or.inr h.1, h.2⟩,
        fun h => ⟨h.1.resolve_left fun e => hwy ⟨e.symm, e ▸ h.2⟩, h.2⟩⟩)

/-- After `v` failed: new B-list entries all point to `v`; a cascade in the new state either
avoids them or passes through `v`. -/
theorem casc_addToB {st : JState} {v : Nat} {ws : List Nat} (hv : v ∈ st.blocked) {b a : Nat}
    (h : Casc { st with B := addToB v st.B ws } b a) : Casc st b a ∨ Casc st v a := by
  induction h with
  | refl h => exact Or.inl (Casc.refl h)
  | @step y x _ hb hx ih =>
    have hb' : x ∈ st.Bof y ∨ (x = v ∧ y ∈ ws ∧ y < st.B.length) := (addToB_get v ws st.B y x).1 hb
    rcases hb' with hb' | ⟨rfl, _, _⟩
    · rcases ih with ih | ih
      · exact Or.inl (Casc.step ih hb' hx)
      · exact Or.inr (Casc.step ih hb' hx)
    · exact Or.inr (Casc.refl hv)

end GraafVerif.Johnson
