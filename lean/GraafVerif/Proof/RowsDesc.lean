import GraafVerif.Proof.SortedInserts
import GraafVerif.Proof.OracleFold
/-!
# The row tables of a digraph description (`rowsOfArcs`, `wrowsOfArcs` of `Spec/Graph.lean`)

Every driver runs the models on `Graph.ofRows (rowsOfArcs n arcs)` / `WGraph.ofRows (wrowsOfArcs n arcs)`.
Both tables are one fold: arc `a` goes into row `a.1` by an insertion `ins a.2`.  Row `u` of the result is
therefore the fold of the insertions of the arcs with tail `u` alone (`rowTable_getD`), and what the
theorems of C04–C10 and the oracles need of the rows (ascending, exactly the listed heads, in range) is
what `Proof/ReprSorted.lean` says of `sinsert` / `mupsert`, which `insertAsc` / `insertAscW` are.
The hypotheses of the properties are read off `rowsOfArcs_row` / `wrowsOfArcs_row`: those of C04/C05 in
`ofArcRows_spec`, those of C08 in `Fw.ofRows_hyps`, those of C10 in `Proof/JohnsonDesc.lean`.
-/
namespace GraafVerif
open GraafVerif.Repr GraafVerif.OracleProof

section table
variable {β γ : Type} (ins : β → List γ → List γ)

/-- One step of `rowsOfArcs` / `wrowsOfArcs`. -/
def rowStep (rows : Array (List γ)) (a : Nat × β) : Array (List γ) :=
  if a.1 < rows.size then rows.modify a.1 (ins a.2) else rows

theorem rowStep_size (rows : Array (List γ)) (a : Nat × β) : (rowStep ins rows a).size = rows.size := by
  unfold rowStep
  split
  · exact Array.size_modify
  · rfl

theorem rowTable_size (arcs : List (Nat × β)) (rows : Array (List γ)) :
    (arcs.foldl (rowStep ins) rows).size = rows.size :=
  Fold.foldl_inv (fun r => r.size = rows.size) (fun r a _ h => (rowStep_size ins r a).trans h) rows rfl

theorem rowStep_getD (rows : Array (List γ)) (a : Nat × β) {u : Nat} (hu : u < rows.size) :
    (rowStep ins rows a).getD u [] = if a.1 = u then ins a.2 (rows.getD u []) else rows.getD u [] := by
  by_cases h : a.1 < rows.size
  · rw [rowStep, if_pos h]
    exact getD_modify_if rows a.1 u (ins a.2) [] fun _ => hu
  · rw [rowStep, if_neg h, if_neg fun e : a.1 = u => h (e ▸ hu)]

theorem rowTable_getD {u : Nat} (arcs : List (Nat × β)) : ∀ rows : Array (List γ), u < rows.size →
    (arcs.foldl (rowStep ins) rows).getD u [] =
      (arcs.filter (·.1 == u)).foldl (fun row a => ins a.2 row) (rows.getD u []) := by
  induction arcs with
  | nil => intro _ _; rfl
  | cons a arcs ih =>
    intro rows hu
    rw [List.foldl_cons, ih _ ((rowStep_size ins rows a).symm ▸ hu), rowStep_getD ins rows a hu, List.filter_cons]
    by_cases h : a.1 = u
    · rw [if_pos h, if_pos (beq_iff_eq.mpr h), List.foldl_cons]
    · rw [if_neg h, if_neg (mt beq_iff_eq.mp h)]

theorem rowTable_replicate (n : Nat) (arcs : List (Nat × β)) (u : Nat) :
    (arcs.foldl (rowStep ins) (Array.replicate n [])).getD u [] =
      if u < n then (arcs.filter (·.1 == u)).foldl (fun row a => ins a.2 row) [] else [] := by
  split
  · next hu =>
    rw [rowTable_getD ins arcs _ (Array.size_replicate.symm ▸ hu), Array.getD_eq_getD_getElem?,
      Array.getElem?_replicate, if_pos hu]
    rfl
  · next hu =>
    rw [Array.getD_eq_getD_getElem?, Array.getElem?_eq_none]
    · rfl
    · rw [rowTable_size, Array.size_replicate]; exact Nat.le_of_not_lt hu

end table

theorem rowsOfArcs_eq (n : Nat) (arcs : List (Nat × Nat)) :
    rowsOfArcs n arcs = arcs.foldl (rowStep sinsert) (Array.replicate n []) := by
  rw [rowsOfArcs, insertAsc_eq_sinsert]
  rfl

theorem rowsOfArcs_size (n : Nat) (arcs : List (Nat × Nat)) : (rowsOfArcs n arcs).size = n :=
  (rowTable_size insertAsc arcs _).trans Array.size_replicate

theorem rowsOfArcs_row (n : Nat) (arcs : List (Nat × Nat)) (u : Nat) :
    SortedS ((rowsOfArcs n arcs).getD u []) ∧
    ∀ v, v ∈ (rowsOfArcs n arcs).getD u [] ↔ (u, v) ∈ arcs ∧ u < n := by
  rw [rowsOfArcs_eq, rowTable_replicate]
  split
  · next hu =>
    rw [← List.foldl_map (f := Prod.snd) (g := fun s x => sinsert x s)]
    refine ⟨sorted_foldl_sinsert _ [] List.Pairwise.nil, fun v => ?_⟩
    rw [mem_foldl_insert_nil mem_sinsert, List.mem_map]
    constructor
    · rintro ⟨a, ha, rfl⟩
      obtain ⟨ha, e⟩ := List.mem_filter.mp ha
      exact ⟨beq_iff_eq.mp e ▸ ha, hu⟩
    · exact fun h => ⟨(u, v), List.mem_filter.mpr ⟨h.1, beq_self_eq_true u⟩, rfl⟩
  · next hu => exact ⟨List.Pairwise.nil, fun v => ⟨nofun, fun h => absurd h.2 hu⟩⟩

/-- For an arc list over `0..n` the `Graph` the drivers run the models on has order `n`, the listed arcs as
its arc relation, and is well formed: the hypothesis `g.WF` of the C04/C05 theorems is met by every digraph the
correspondence run builds. -/
theorem ofArcRows_spec (n : Nat) (arcs : List (Nat × Nat)) (h : ∀ a ∈ arcs, a.1 < n ∧ a.2 < n) :
    let g := Graph.ofRows (rowsOfArcs n arcs)
    g.n = n ∧ (∀ u v, g.A u v ↔ (u, v) ∈ arcs) ∧ g.WF := by
  have hA : ∀ u v, v ∈ (rowsOfArcs n arcs).getD u [] ↔ (u, v) ∈ arcs := fun u v =>
    ((rowsOfArcs_row n arcs u).2 v).trans ⟨And.left, fun h' => ⟨h', (h _ h').1⟩⟩
  refine ⟨rowsOfArcs_size n arcs, hA, fun u v huv => ?_⟩
  show u < (rowsOfArcs n arcs).size ∧ v < (rowsOfArcs n arcs).size
  rw [rowsOfArcs_size]
  exact h _ ((hA u v).mp huv)

/-! ## Rows of (head, weight) pairs (`wrowsOfArcs`): a later weight replaces an earlier one -/

theorem wrowsOfArcs_size (n : Nat) (arcs : List (Nat × Nat × Int)) : (wrowsOfArcs n arcs).size = n :=
  (rowTable_size (fun b : Nat × Int => insertAscW b.1 b.2) arcs _).trans Array.size_replicate

theorem wrowsOfArcs_row (n : Nat) (arcs : List (Nat × Nat × Int)) (u : Nat) :
    SortedK ((wrowsOfArcs n arcs).getD u []) ∧
    ∀ p ∈ (wrowsOfArcs n arcs).getD u [], (u, p) ∈ arcs ∧ u < n := by
  show SortedK ((arcs.foldl (rowStep fun b : Nat × Int => insertAscW b.1 b.2) _).getD u []) ∧
    ∀ p ∈ (arcs.foldl (rowStep fun b : Nat × Int => insertAscW b.1 b.2) _).getD u [], _
  rw [rowTable_replicate]
  split
  · next hu =>
    refine Fold.foldl_inv (fun row => SortedK row ∧ ∀ p ∈ row, (u, p) ∈ arcs ∧ u < n) ?_ [] ⟨.nil, nofun⟩
    intro row a ha ⟨hs, hm⟩
    obtain ⟨ha, he⟩ := List.mem_filter.mp ha
    rw [insertAscW_eq_mupsert]
    refine ⟨sortedK_mupsert hs, fun p hp => ?_⟩
    -- an entry of the new row is looked up under its key: the inserted pair, or an entry of the old row
    have hg := (mget_eq_some_iff (sortedK_mupsert hs)).mpr (show (p.1, p.2) ∈ _ from hp)
    rw [mget_mupsert_eq] at hg
    split at hg
    · next hk =>
      have e : p = a.2 := Prod.ext hk (Option.some.inj hg).symm
      exact ⟨e ▸ beq_iff_eq.mp he ▸ ha, hu⟩
    · exact hm p (mem_of_mget_eq_some hg)
  · exact ⟨.nil, nofun⟩

/-- The `WGraph` the drivers run the weighted models on meets the hypotheses of the C08 theorems (named as
`Thm/C08.lean` cites it): keys ascend in every row, so the weight of an arc is unique (`Functional`), and with
all heads `< n` all arcs are in range (`WF`). -/
theorem Fw.ofRows_hyps (n : Nat) (arcs : List (Nat × Nat × Int)) (harcs : ∀ a ∈ arcs, a.2.1 < n) :
    (WGraph.ofRows (wrowsOfArcs n arcs)).n = n ∧ (WGraph.ofRows (wrowsOfArcs n arcs)).WF ∧
    (WGraph.ofRows (wrowsOfArcs n arcs)).Functional := by
  refine ⟨wrowsOfArcs_size n arcs, fun u v w h => ?_,
    fun u _ _ _ h₁ h₂ => Repr.sortedK_unique (wrowsOfArcs_row n arcs u).1 h₁ h₂⟩
  show u < (wrowsOfArcs n arcs).size ∧ v < (wrowsOfArcs n arcs).size
  rw [wrowsOfArcs_size]
  exact ⟨((wrowsOfArcs_row n arcs u).2 _ h).2, harcs _ ((wrowsOfArcs_row n arcs u).2 _ h).1⟩

end GraafVerif
