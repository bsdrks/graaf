import GraafVerif.Proof.OracleFold
import GraafVerif.Proof.WWalk
import GraafVerif.Spec.Bfm
/-!
# The naive weighted-distance oracle `wdistB` is exact

`wdistB g S` runs `n` Bellman-Ford rounds without early exit (rows in ascending tail order, the label `du`
of the tail read ONCE at the start of its row) and reports whether one more round would improve something.

The argument is about any *relaxation round* `R : labels → labels × flag` (`RelaxRound`), so that it also
serves the fast oracles of `Spec/OracleFast.lean` and the model of `BellmanFordMoore` (`Proof/Bfm.lean`),
whose rounds relax the same arcs in another order:
after `j` rounds every walk of `≤ j` arcs from a source bounds the label of its end; tight walk-weight
labels are exact and unique; without a reachable negative circuit walks shorten to `≤ n-1` arcs
(`Bfm.short_walk`), so from `n - 1` rounds on every arc is tight and the flag is down.  A fold of `relaxRow`
over rows `(u, arcs out of u)` that together list exactly the arcs of `g` is such a round.
-/
namespace GraafVerif.OracleProof
open GraafVerif.Bfm (short_walk NoNegReach)

/-! ## The pieces of `wdistB` (`Spec/Graph.lean`) under names -/

def wInit (g : WGraph) (S : List Nat) : List (Option Int) :=
  S.foldl (fun d s => d.set s (some 0)) (List.replicate g.n none)

def wIn (du : Int) (a : List (Option Int) × Bool) (vw : Nat × Int) : List (Option Int) × Bool :=
  match a.1[vw.1]?.getD none with
  | none => (a.1.set vw.1 (some (du + vw.2)), true)
  | some dv => if du + vw.2 < dv then (a.1.set vw.1 (some (du + vw.2)), true) else a

def wOut (g : WGraph) (acc : List (Option Int) × Bool) (u : Nat) : List (Option Int) × Bool :=
  match acc.1[u]?.getD none with
  | none => acc
  | some du => (g.out u).foldl (wIn du) acc

def wRound (g : WGraph) (d : List (Option Int)) : List (Option Int) × Bool :=
  (List.range g.n).foldl (wOut g) (d, false)

def iter {σ : Type} (R : σ → σ × Bool) : Nat → σ → σ
  | 0, d => d
  | m+1, d => iter R m (R d).1

theorem iter_succ' {σ : Type} (R : σ → σ × Bool) : ∀ m d, iter R (m+1) d = (R (iter R m d)).1 := by
  intro m
  induction m with
  | zero => intro d; rfl
  | succ m ih => intro d; rw [iter, ih]; rfl

theorem foldl_range_iter {σ : Type} (R : σ → σ × Bool) (d : σ) :
    ∀ m, (List.range m).foldl (fun d _ => (R d).1) d = iter R m d := by
  intro m
  induction m with
  | zero => rfl
  | succ m ih => rw [List.range_succ, List.foldl_append, ih, iter_succ']; rfl

/-- A fuelled loop `go` that runs the round `step` on states `σ` until the round's flag is down, where `step`
is the round `R` seen through `abs` and a quiet `R` is a fixpoint: the loop's flag is the flag of `R` at the
`fuel`-th iterate, and when it is down the loop's state is that iterate.  `x s` is the state the loop returns
when it stops at `s`. -/
theorem exitLoop_spec {σ τ : Type} {abs : σ → τ} {step : σ → σ × Bool} {R : τ → τ × Bool}
    (hsim : ∀ s, (abs (step s).1, (step s).2) = R (abs s))
    (hfix : ∀ d, (R d).2 = false → ∀ m, iter R m d = d)
    {x : σ → σ} (hx : ∀ s, (step s).2 = false → abs (x s) = abs s)
    {go : Nat → σ → σ × Bool} (h0 : ∀ s, go 0 s = (x s, (step s).2))
    (hs : ∀ f s, go (f+1) s = if (step s).2 then go f (step s).1 else (x s, false)) :
    ∀ fuel s, (go fuel s).2 = (R (iter R fuel (abs s))).2 ∧
      ((go fuel s).2 = false → abs (go fuel s).1 = iter R fuel (abs s)) := by
  intro fuel
  induction fuel with
  | zero => intro s; rw [h0]; exact ⟨congrArg Prod.snd (hsim s), hx s⟩
  | succ f ih =>
    intro s
    rw [hs]
    cases hc : (step s).2 with
    | true => rw [if_pos rfl, iter, ← congrArg Prod.fst (hsim s)]; exact ih _
    | false =>
      have h2 : (R (abs s)).2 = false := (congrArg Prod.snd (hsim s)).symm.trans hc
      rw [if_neg Bool.false_ne_true, hfix _ h2]
      exact ⟨h2.symm, fun _ => hx s hc⟩

theorem wdistB_eq (g : WGraph) (S : List Nat) :
    wdistB g S = (iter (wRound g) g.n (wInit g S), (wRound g (iter (wRound g) g.n (wInit g S))).2) := by
  rw [← foldl_range_iter]; rfl

structure WInv (g : WGraph) (S : List Nat) (d : List (Option Int)) : Prop where
  len : d.length = g.n
  src : ∀ s ∈ S, BndL d s 0
  walk : ∀ v x, lk d v = some x → Dijkstra.SrcWalk g S v x

def Cov (g : WGraph) (S : List Nat) (d : List (Option Int)) (j : Nat) : Prop :=
  ∀ s ∈ S, ∀ v k wt, k ≤ j → WWalk g s v k wt → BndL d v wt

theorem WInv.cov_zero {g : WGraph} {S : List Nat} {d : List (Option Int)} (h : WInv g S d) : Cov g S d 0 := by
  intro s hs v k wt hk hw
  cases hw with
  | nil => exact h.src s hs
  | snoc _ _ => exact absurd hk (Nat.not_succ_le_zero _)

def TightL (g : WGraph) (d : List (Option Int)) : Prop :=
  ∀ u v w du, g.A u v w → lk d u = some du → BndL d v (du + w)

theorem tightL_walk {g : WGraph} {d : List (Option Int)} (ht : TightL g d) {u v k : Nat} {wt du : Int}
    (hw : WWalk g u v k wt) (hu : lk d u = some du) : BndL d v (du + wt) := by
  induction hw with
  | nil => exact ⟨du, hu, Int.le_of_eq (Int.add_zero du).symm⟩
  | snoc _ ha ih =>
    obtain ⟨x, hx, hle⟩ := ih
    exact (ht _ _ _ x ha hx).mono (Int.add_assoc du _ _ ▸ Int.add_le_add_right hle _)

theorem tightL_walk_src {g : WGraph} {S : List Nat} {d : List (Option Int)} (hinv : WInv g S d)
    (ht : TightL g d) {s : Nat} (hs : s ∈ S) {v k : Nat} {wt : Int} (hw : WWalk g s v k wt) : BndL d v wt := by
  obtain ⟨x0, hx0, hle0⟩ := hinv.src s hs
  have := Int.add_le_add_right hle0 wt
  rw [Int.zero_add] at this
  exact (tightL_walk ht hw hx0).mono this

theorem exact_of_tight {g : WGraph} {S : List Nat} {d : List (Option Int)} (hinv : WInv g S d)
    (ht : TightL g d) :
    (∀ v x, lk d v = some x ↔ IsMinDist g S v x) ∧ (∀ v, lk d v = none ↔ ¬ WReachFrom g S v) ∧
    ¬ NegReachableFrom g S := by
  have hmin : ∀ v x, lk d v = some x → IsMinDist g S v x := by
    intro v x hx
    refine ⟨hinv.walk v x hx, fun s hs k wt hw => ?_⟩
    obtain ⟨y, hy, hle⟩ := tightL_walk_src hinv ht hs hw
    rw [hx] at hy; cases hy; exact hle
  refine ⟨fun v x => ⟨hmin v x, ?_⟩, ?_, ?_⟩
  · rintro ⟨⟨s, hs, k, hw⟩, hle⟩
    obtain ⟨y, hy, _⟩ := tightL_walk_src hinv ht hs hw
    rw [hy, Bfm.isMinDist_unique (hmin v y hy) ⟨⟨s, hs, k, hw⟩, hle⟩]
  · intro v
    constructor
    · rintro hn ⟨s, hs, k, wt, hw⟩
      obtain ⟨y, hy, _⟩ := tightL_walk_src hinv ht hs hw
      rw [hn] at hy; cases hy
    · intro hnr
      cases hx : lk d v with
      | none => rfl
      | some x =>
        obtain ⟨s, hs, k, hw⟩ := hinv.walk v x hx
        exact absurd ⟨s, hs, k, x, hw⟩ hnr
  · -- walked once from the labelled `x`, the circuit would bound the label of `x` strictly below itself
    rintro ⟨x, ⟨s, hs, k, wt, hw⟩, kc, wc, _, hcyc, hneg⟩
    obtain ⟨dx, hdx, _⟩ := tightL_walk_src hinv ht hs hw
    obtain ⟨dx', hdx', hle⟩ := tightL_walk ht hcyc hdx
    rw [hdx] at hdx'; cases hdx'
    have := Int.add_lt_add_left hneg dx
    rw [Int.add_zero] at this
    exact Int.not_le.mpr this hle

theorem tab_of_tight {g : WGraph} {S : List Nat} {d : List (Option Int)} (h : WInv g S d) (ht : TightL g d) :
    Tab g.n (IsMinDist g S) d :=
  ⟨h.len, fun v _ => (exact_of_tight h ht).1 v⟩

theorem tight_unique {g : WGraph} {S : List Nat} {d d' : List (Option Int)}
    (h : WInv g S d) (ht : TightL g d) (h' : WInv g S d') (ht' : TightL g d') : d = d' :=
  (tab_of_tight h ht).unique (tab_of_tight h' ht')

structure RelaxRound (g : WGraph) (S : List Nat) (R : List (Option Int) → List (Option Int) × Bool) : Prop where
  inv : ∀ d, WInv g S d → WInv g S (R d).1
  bnd : ∀ d y c, BndL d y c → BndL (R d).1 y c
  arc : ∀ d, d.length = g.n → ∀ u v w c, g.A u v w → BndL d u c → BndL (R d).1 v (c + w)
  noupd : ∀ d, (R d).2 = false → (R d).1 = d ∧ TightL g d
  tight : ∀ d, TightL g d → R d = (d, false)

section rounds
variable {g : WGraph} {S : List Nat} {R : List (Option Int) → List (Option Int) × Bool}

theorem iter_fix (hR : RelaxRound g S R) {d : List (Option Int)} (ht : TightL g d) : ∀ m, iter R m d = d := by
  intro m
  induction m with
  | zero => rfl
  | succ m ih => rw [iter, hR.tight d ht]; exact ih

theorem iter_inv (hR : RelaxRound g S R) {d : List (Option Int)} (h : WInv g S d) : ∀ m, WInv g S (iter R m d) := by
  intro m
  induction m with
  | zero => exact h
  | succ m ih => rw [iter_succ']; exact hR.inv _ ih

theorem iter_cov (hR : RelaxRound g S R) {d : List (Option Int)} (h : WInv g S d) :
    ∀ m, Cov g S (iter R m d) m := by
  intro m
  induction m with
  | zero => exact h.cov_zero
  | succ m ih =>
    rw [iter_succ']
    intro s hs v k wt hk hw
    cases hw with
    | nil => exact hR.bnd _ _ _ (ih _ hs _ 0 0 (Nat.zero_le _) (WWalk.nil _))
    | snoc hw' ha =>
      exact hR.arc _ (iter_inv hR h m).len _ _ _ _ ha (ih s hs _ _ _ (Nat.le_of_succ_le_succ hk) hw')

/-- Without a reachable negative circuit `n - 1` rounds suffice: a walk shortens to one of at most
`n - 1` arcs, which the labels cover by then. -/
theorem iter_tight_of_noNeg (hR : RelaxRound g S R) (hwf : g.WF) (hS : ∀ s ∈ S, s < g.n)
    {d : List (Option Int)} (h : WInv g S d) (hnn : ¬ NegReachableFrom g S)
    (m : Nat) (hm : g.n ≤ m + 1) : TightL g (iter R m d) := by
  intro u v w du ha hdu
  obtain ⟨s, hs, k, hk⟩ := (iter_inv hR h m).walk u du hdu
  have hnn' : NoNegReach g s := fun ⟨x, ⟨_, hs', k', wt', hw'⟩, hneg⟩ =>
    hnn ⟨x, ⟨s, hs, k', wt', List.mem_singleton.mp hs' ▸ hw'⟩, hneg⟩
  obtain ⟨k', wt', hk', hle, hw'⟩ := short_walk hwf (hS s hs) hnn' (WWalk.snoc hk ha)
  exact (iter_cov hR h m s hs v k' wt' (Nat.le_of_succ_le_succ (Nat.le_trans hk' hm)) hw').mono hle

theorem iter_flag (hR : RelaxRound g S R) (hwf : g.WF) (hS : ∀ s ∈ S, s < g.n)
    {d : List (Option Int)} (h : WInv g S d) :
    (R (iter R g.n d)).2 = true ↔ NegReachableFrom g S := by
  constructor
  · intro hf
    apply Classical.byContradiction
    intro hnn
    rw [hR.tight _ (iter_tight_of_noNeg hR hwf hS h hnn g.n (Nat.le_succ _))] at hf
    cases hf
  · intro hneg
    cases hf : (R (iter R g.n d)).2 with
    | true => rfl
    | false => exact absurd hneg (exact_of_tight (iter_inv hR h g.n) (hR.noupd _ hf).2).2.2

end rounds

theorem wIn_cases (du : Int) (a : List (Option Int) × Bool) (vw : Nat × Int) :
    ((lk a.1 vw.1 = none ∨ ∃ dv, lk a.1 vw.1 = some dv ∧ du + vw.2 < dv) ∧
      wIn du a vw = (a.1.set vw.1 (some (du + vw.2)), true)) ∨
    (∃ dv, lk a.1 vw.1 = some dv ∧ dv ≤ du + vw.2 ∧ wIn du a vw = a) := by
  unfold wIn lk
  cases h : a.1[vw.1]?.getD none with
  | none => left; exact ⟨Or.inl rfl, rfl⟩
  | some dv =>
    by_cases hlt : du + vw.2 < dv
    · left; exact ⟨Or.inr ⟨dv, rfl, hlt⟩, by simp [hlt]⟩
    · right; exact ⟨dv, rfl, Int.not_lt.mp hlt, by simp [hlt]⟩

theorem wIn_length (du : Int) (a : List (Option Int) × Bool) (vw : Nat × Int) :
    (wIn du a vw).1.length = a.1.length := by
  rcases wIn_cases du a vw with ⟨_, h⟩ | ⟨_, _, _, h⟩ <;> rw [h]
  exact List.length_set

theorem wIn_bnd (du : Int) (a : List (Option Int) × Bool) (vw : Nat × Int) {y : Nat} {c : Int}
    (h : BndL a.1 y c) : BndL (wIn du a vw).1 y c := by
  rcases wIn_cases du a vw with ⟨hc, h1⟩ | ⟨_, _, _, h1⟩ <;> rw [h1]
  · refine lk_set_bound (fun dx hdx => ?_) h
    rcases hc with hn | ⟨dv, hdv, hlt⟩
    · rw [hn] at hdx; cases hdx
    · rw [hdv] at hdx; cases hdx; exact hlt
  · exact h

theorem wIn_arc (du : Int) (a : List (Option Int) × Bool) (vw : Nat × Int) (hlt : vw.1 < a.1.length) :
    BndL (wIn du a vw).1 vw.1 (du + vw.2) := by
  rcases wIn_cases du a vw with ⟨_, h1⟩ | ⟨dv, hdv, hle, h1⟩ <;> rw [h1]
  · exact ⟨du + vw.2, by show lk (a.1.set vw.1 _) vw.1 = _; rw [lk_set, if_pos ⟨rfl, hlt⟩], Int.le_refl _⟩
  · exact ⟨dv, hdv, hle⟩

theorem wInv_wIn {g : WGraph} {S : List Nat} {a : List (Option Int) × Bool} {u du} {vw : Nat × Int}
    (h : WInv g S a.1) (hdu : Dijkstra.SrcWalk g S u du) (ha : g.A u vw.1 vw.2) : WInv g S (wIn du a vw).1 := by
  refine ⟨by rw [wIn_length, h.len], fun s hs => wIn_bnd du a vw (h.src s hs), ?_⟩
  rcases wIn_cases du a vw with ⟨_, h1⟩ | ⟨_, _, _, h1⟩
  · rw [h1]
    intro y x hy
    change lk (a.1.set vw.1 (some (du + vw.2))) y = some x at hy
    rw [lk_set] at hy
    by_cases hvy : vw.1 = y ∧ vw.1 < a.1.length
    · rw [if_pos hvy] at hy
      cases hy
      exact hvy.1 ▸ hdu.snoc ha
    · rw [if_neg hvy] at hy; exact h.walk y x hy
  · rw [h1]; exact h.walk

theorem wIn_quiet (du : Int) (a : List (Option Int) × Bool) (vw : Nat × Int) (h : (wIn du a vw).2 = false) :
    wIn du a vw = a ∧ BndL a.1 vw.1 (du + vw.2) := by
  rcases wIn_cases du a vw with ⟨_, h1⟩ | ⟨dv, hdv, hle, h1⟩
  · rw [h1] at h; cases h
  · exact ⟨h1, dv, hdv, hle⟩

theorem wIn_tight (du : Int) (a : List (Option Int) × Bool) (vw : Nat × Int)
    (h : BndL a.1 vw.1 (du + vw.2)) : wIn du a vw = a := by
  obtain ⟨x, hx, hle⟩ := h
  rcases wIn_cases du a vw with ⟨hc, _⟩ | ⟨_, _, _, h1⟩
  · rcases hc with hn | ⟨dv, hdv, hlt⟩
    · rw [hx] at hn; cases hn
    · rw [hx] at hdv; cases hdv; exact absurd hle (Int.not_le.mpr hlt)
  · exact h1

/-- Read the label of the tail `r.1`, then relax the arcs `r.1 → vw.1` of weight `vw.2`, `vw ∈ r.2`. -/
def relaxRow (acc : List (Option Int) × Bool) (r : Nat × List (Nat × Int)) : List (Option Int) × Bool :=
  match acc.1[r.1]?.getD none with
  | none => acc
  | some du => r.2.foldl (wIn du) acc

def relaxRows (rows : List (Nat × List (Nat × Int))) (d : List (Option Int)) : List (Option Int) × Bool :=
  rows.foldl relaxRow (d, false)

theorem relaxRow_cases (acc : List (Option Int) × Bool) (r : Nat × List (Nat × Int)) :
    (lk acc.1 r.1 = none ∧ relaxRow acc r = acc) ∨
    (∃ du, lk acc.1 r.1 = some du ∧ relaxRow acc r = r.2.foldl (wIn du) acc) := by
  unfold relaxRow lk
  cases h : acc.1[r.1]?.getD none with
  | none => left; exact ⟨rfl, rfl⟩
  | some du => right; exact ⟨du, rfl, rfl⟩

theorem relaxRow_length (acc : List (Option Int) × Bool) (r : Nat × List (Nat × Int)) :
    (relaxRow acc r).1.length = acc.1.length := by
  rcases relaxRow_cases acc r with ⟨_, h⟩ | ⟨du, _, h⟩ <;> rw [h]
  exact Fold.foldl_inv (fun b : List (Option Int) × Bool => b.1.length = acc.1.length)
    (fun b vw _ h => by rw [wIn_length]; exact h) acc rfl

theorem relaxRow_bnd (acc : List (Option Int) × Bool) (r : Nat × List (Nat × Int)) {y : Nat} {c : Int}
    (h : BndL acc.1 y c) : BndL (relaxRow acc r).1 y c := by
  rcases relaxRow_cases acc r with ⟨_, h1⟩ | ⟨du, _, h1⟩ <;> rw [h1]
  · exact h
  · exact Fold.foldl_inv (fun b : List (Option Int) × Bool => BndL b.1 y c)
      (fun b vw _ h => wIn_bnd du b vw h) acc h

theorem wInv_relaxRow {g : WGraph} {S : List Nat} {a : List (Option Int) × Bool} {r : Nat × List (Nat × Int)}
    (hr : ∀ vw ∈ r.2, g.A r.1 vw.1 vw.2) (h : WInv g S a.1) : WInv g S (relaxRow a r).1 := by
  rcases relaxRow_cases a r with ⟨_, h1⟩ | ⟨du, hdu, h1⟩ <;> rw [h1]
  · exact h
  · exact Fold.foldl_inv (fun b : List (Option Int) × Bool => WInv g S b.1)
      (fun _ vw hvw hb => wInv_wIn hb (h.walk r.1 du hdu) (hr vw hvw)) a h

theorem relaxRow_arc {n : Nat} (a : List (Option Int) × Bool) (r : Nat × List (Nat × Int)) (hlen : a.1.length = n)
    (hr : ∀ vw ∈ r.2, vw.1 < n) {c : Int} (hc : BndL a.1 r.1 c) :
    ∀ vw ∈ r.2, BndL (relaxRow a r).1 vw.1 (c + vw.2) := by
  obtain ⟨x, hx, hxc⟩ := hc
  rcases relaxRow_cases a r with ⟨hn, _⟩ | ⟨du, hdu, h1⟩
  · rw [hn] at hx; cases hx
  · have hxe : du = x := Option.some.inj (hdu.symm.trans hx)
    subst hxe
    rw [h1]
    intro vw hvw
    refine ((Fold.foldl_establish (fun a : List (Option Int) × Bool => a.1.length = n)
      (fun (vw : Nat × Int) (a : List (Option Int) × Bool) => BndL a.1 vw.1 (du + vw.2))
      (wIn du) r.2
      (fun a vw hvw hl => ⟨(wIn_length du a vw).trans hl, wIn_arc du a vw (hl ▸ hr vw hvw),
        fun _ hc => wIn_bnd du a vw hc⟩)
      a hlen).2 vw hvw).mono (Int.add_le_add_right hxc _)

theorem relaxRow_quiet (a : List (Option Int) × Bool) (r : Nat × List (Nat × Int)) (h : (relaxRow a r).2 = false) :
    relaxRow a r = a ∧ ∀ du, lk a.1 r.1 = some du → ∀ vw ∈ r.2, BndL a.1 vw.1 (du + vw.2) := by
  rcases relaxRow_cases a r with ⟨hn, h1⟩ | ⟨du, hdu, h1⟩
  · exact ⟨h1, fun du hdu => by rw [hn] at hdu; cases hdu⟩
  · rw [h1] at h ⊢
    obtain ⟨e, hall⟩ := Fold.foldl_quiet (wIn du) (fun a vw => BndL a.1 vw.1 (du + vw.2)) _
      (fun a vw _ => wIn_quiet du a vw) a h
    refine ⟨e, fun du' hdu' => ?_⟩
    rw [hdu] at hdu'; cases hdu'
    exact hall

def ListsArcs (g : WGraph) (rows : List (Nat × List (Nat × Int))) : Prop :=
  (∀ r ∈ rows, ∀ vw ∈ r.2, g.A r.1 vw.1 vw.2) ∧
  ∀ u v w, g.A u v w → ∃ r ∈ rows, r.1 = u ∧ (v, w) ∈ r.2

theorem relaxRows_relax {g : WGraph} (hwf : g.WF) (S : List Nat) {rows : List (Nat × List (Nat × Int))}
    (hrows : ListsArcs g rows) : RelaxRound g S (relaxRows rows) where
  inv := fun d h =>
    Fold.foldl_inv (fun b : List (Option Int) × Bool => WInv g S b.1)
      (fun _ r hr hb => wInv_relaxRow (hrows.1 r hr) hb) (d, false) h
  bnd := fun d y c h =>
    Fold.foldl_inv (fun b : List (Option Int) × Bool => BndL b.1 y c)
      (fun b r _ hb => relaxRow_bnd b r hb) (d, false) h
  arc := by
    intro d hlen u v w c ha hu
    obtain ⟨r, hr, rfl, hvw⟩ := hrows.2 u v w ha
    exact (Fold.foldl_establish
      (fun a : List (Option Int) × Bool => a.1.length = g.n ∧ ∀ y c, BndL d y c → BndL a.1 y c)
      (fun (r : Nat × List (Nat × Int)) (a : List (Option Int) × Bool) =>
        ∀ c, BndL d r.1 c → ∀ vw ∈ r.2, BndL a.1 vw.1 (c + vw.2))
      relaxRow rows
      (fun a r hr hI =>
        ⟨⟨(relaxRow_length a r).trans hI.1, fun y c hy => relaxRow_bnd a r (hI.2 y c hy)⟩,
          fun c hc => relaxRow_arc a r hI.1 (fun vw hvw => (hwf _ _ _ (hrows.1 r hr vw hvw)).2) (hI.2 r.1 c hc),
          fun _ h c hc vw hvw => relaxRow_bnd a r (h c hc vw hvw)⟩)
      (d, false) ⟨hlen, fun _ _ h => h⟩).2 r hr c hu (v, w) hvw
  noupd := by
    intro d h
    obtain ⟨e, hall⟩ := Fold.foldl_quiet relaxRow
      (fun a r => ∀ du, lk a.1 r.1 = some du → ∀ vw ∈ r.2, BndL a.1 vw.1 (du + vw.2)) rows
      (fun a r _ => relaxRow_quiet a r) (d, false) h
    refine ⟨congrArg Prod.fst e, fun u v w du ha hdu => ?_⟩
    obtain ⟨r, hr, rfl, hvw⟩ := hrows.2 u v w ha
    exact hall r hr du hdu (v, w) hvw
  tight := by
    intro d ht
    refine Fold.foldl_inv (fun b : List (Option Int) × Bool => b = (d, false)) ?_ _ rfl
    intro a r hr ha
    subst ha
    rcases relaxRow_cases (d, false) r with ⟨_, h1⟩ | ⟨du, hdu, h1⟩ <;> rw [h1]
    refine Fold.foldl_inv (fun b : List (Option Int) × Bool => b = (d, false)) ?_ _ rfl
    intro a vw hvw ha
    subst ha
    exact wIn_tight du (d, false) vw (ht r.1 vw.1 vw.2 du (hrows.1 r hr vw hvw) hdu)

theorem wRound_eq (g : WGraph) (d : List (Option Int)) :
    wRound g d = relaxRows ((List.range g.n).map (fun u => (u, g.out u))) d := by
  unfold relaxRows
  rw [List.foldl_map]
  rfl

theorem listsArcs_rows {g : WGraph} (hwf : g.WF) : ListsArcs g ((List.range g.n).map (fun u => (u, g.out u))) := by
  constructor
  · intro r hr vw hvw
    obtain ⟨u, _, rfl⟩ := List.mem_map.mp hr
    exact hvw
  · intro u v w ha
    exact ⟨(u, g.out u), List.mem_map.mpr ⟨u, List.mem_range.mpr (hwf u v w ha).1, rfl⟩, rfl, ha⟩

theorem wRound_relax {g : WGraph} (hwf : g.WF) (S : List Nat) : RelaxRound g S (wRound g) := by
  rw [show wRound g = relaxRows ((List.range g.n).map (fun u => (u, g.out u))) from funext (wRound_eq g)]
  exact relaxRows_relax hwf S (listsArcs_rows hwf)

theorem wRound_length (g : WGraph) (d : List (Option Int)) : (wRound g d).1.length = d.length :=
  Fold.foldl_inv (fun b : List (Option Int) × Bool => b.1.length = d.length)
    (fun b u _ h => by rw [show wOut g b u = relaxRow b (u, g.out u) from rfl, relaxRow_length]; exact h)
    (d, false) rfl

theorem wInv_init (g : WGraph) {S : List Nat} (hS : ∀ s ∈ S, s < g.n) : WInv g S (wInit g S) := by
  refine ⟨by unfold wInit; rw [Vec.length_foldl_set, List.length_replicate], ?_, ?_⟩
  · intro s hs
    exact ⟨0, (lk_marks_some 0 g.n s S 0).mpr ⟨rfl, hs, hS s hs⟩, Int.le_refl _⟩
  · intro v x hx
    obtain ⟨rfl, hv, _⟩ := (lk_marks_some 0 g.n v S x).mp hx
    exact ⟨v, hv, 0, WWalk.nil v⟩

theorem wdistB_flag {g : WGraph} (hwf : g.WF) {S : List Nat} (hS : ∀ s ∈ S, s < g.n) :
    (wdistB g S).2 = true ↔ NegReachableFrom g S := by
  rw [wdistB_eq]
  exact iter_flag (wRound_relax hwf S) hwf hS (wInv_init g hS)

theorem wdistB_spec {g : WGraph} (hwf : g.WF) {S : List Nat} (hS : ∀ s ∈ S, s < g.n)
    (hf : (wdistB g S).2 = false) :
    (wdistB g S).1.length = g.n ∧
    (∀ v x, (wdistB g S).1[v]?.getD none = some x ↔ IsMinDist g S v x) ∧
    (∀ v, (wdistB g S).1[v]?.getD none = none ↔ ¬ WReachFrom g S v) := by
  rw [wdistB_eq] at hf ⊢
  have hR := wRound_relax hwf S
  have hinv := iter_inv hR (wInv_init g hS) g.n
  obtain ⟨h1, h2, _⟩ := exact_of_tight hinv (hR.noupd _ hf).2
  exact ⟨hinv.len, h1, h2⟩

def arcRows (arcs : List (Nat × Nat × Int)) : List (Nat × List (Nat × Int)) :=
  arcs.map (fun a => (a.1, [(a.2.1, a.2.2)]))

theorem listsArcs_arcRows {g : WGraph} {arcs : List (Nat × Nat × Int)}
    (harcs : ∀ u v w, (u, v, w) ∈ arcs ↔ g.A u v w) : ListsArcs g (arcRows arcs) := by
  constructor
  · intro r hr vw hvw
    obtain ⟨a, ha, rfl⟩ := List.mem_map.mp hr
    cases List.mem_singleton.mp hvw
    exact (harcs _ _ _).mp ha
  · intro u v w ha
    exact ⟨_, List.mem_map.mpr ⟨(u, v, w), (harcs u v w).mpr ha, rfl⟩, rfl, List.mem_singleton_self _⟩

end GraafVerif.OracleProof
