import GraafVerif.Proof.ReprRun
/-!
# `AdjacencyMap` refines the abstract digraph with a growing vertex set (C01) and is determined by it (C20)

Every mutation is built from `mupsert u [] f` (`entry(u).or_default()`, then `f` on that row):
`abs_mupsert` says what one of them does to the abstract digraph when `f` changes the row's
answer at one place.
-/
namespace GraafVerif.Repr.AdjMap
open GraafVerif.ReprSpec GraafVerif.Repr

theorem abs_W (d : AdjMap) (u v : Nat) : d.abs.W u v = setLook (d.row u) v :=
  congrArg unitOf (hasArc_eq d u v)

theorem abs_A (d : AdjMap) (u v : Nat) : d.abs.A u v = d.hasArc u v := unitOf_isSome _

theorem WF_iff (d : AdjMap) : d.WF ↔ d.Shape ∧ d.abs.Valid :=
  (WF_iff_simple d).trans <| and_congr_right fun hs =>
    (valid_iff_simple (fun _ => mem_vertices hs.1) (abs_A d)).symm

theorem sortedK_range (n : Nat) : SortedK ((List.range n).map (fun u => (u, ([] : List Nat)))) :=
  List.pairwise_map.mpr List.pairwise_lt_range

theorem mget_empty (n a : Nat) :
    mget a ((List.range n).map (fun u => (u, ([] : List Nat)))) = if a < n then some [] else none := by
  by_cases ha : a < n
  · rw [if_pos ha, mget_eq_some_iff (sortedK_range n)]
    exact List.mem_map.mpr ⟨a, List.mem_range.mpr ha, rfl⟩
  · rw [if_neg ha]
    cases hm : mget a ((List.range n).map (fun u => (u, ([] : List Nat)))) with
    | none => rfl
    | some r =>
      obtain ⟨b, hb, e⟩ := List.mem_map.mp (mem_of_mget_eq_some hm)
      exact absurd ((Prod.mk.inj e).1 ▸ List.mem_range.mp hb) ha

theorem abs_empty {n : Nat} {d : AdjMap} (h : empty n = some d) : d.abs = emptySpec Unit n := by
  obtain ⟨_, ⟨⟩⟩ := Option.ite_none_left_eq_some.mp h
  apply SpecState.ext
  · intro x
    show (mget x _).isSome = decide (x < n)
    rw [mget_empty]
    by_cases hx : x < n
    · rw [if_pos hx, decide_eq_true hx]; rfl
    · rw [if_neg hx, decide_eq_false hx]; rfl
  · intro u v
    rw [abs_W, row, mget_empty]
    split <;> rfl

theorem empty_WF {n : Nat} {d : AdjMap} (h : empty n = some d) : d.WF := by
  refine (WF_iff d).mpr ⟨?_, abs_empty h ▸ emptySpec_valid Unit n⟩
  obtain ⟨_, ⟨⟩⟩ := Option.ite_none_left_eq_some.mp h
  refine ⟨sortedK_range n, fun a => ?_⟩
  rw [row, mget_empty]
  split <;> exact List.Pairwise.nil

theorem Shape.mupsert {d : AdjMap} (h : d.Shape) (u : Nat) {f : List Nat → List Nat} (hf : SortedS (f (d.row u))) :
    Shape ⟨mupsert u [] f d.rows⟩ := by
  refine ⟨sortedK_mupsert h.1, fun a => ?_⟩
  rw [row_mupsert]
  split
  · exact hf
  · exact h.2 a

theorem abs_mupsert (d : AdjMap) (u v : Nat) (f : List Nat → List Nat) (x : Option Unit)
    (hf : ∀ b, setLook (f (d.row u)) b = if b = v then x else setLook (d.row u) b) :
    abs ⟨mupsert u [] f d.rows⟩ = ⟨addV d.abs.V u, setW d.abs.W u v x⟩ := by
  refine congr (congrArg SpecState.mk (funext fun a => ?_)) (eq_setW_of_row (fun b => ?_) fun a ha b => ?_)
  · show (mget a (mupsert u [] f d.rows)).isSome = (decide (a = u) || (mget a d.rows).isSome)
    rw [mget_mupsert_eq]
    by_cases ha : a = u
    · rw [if_pos ha, decide_eq_true ha]; rfl
    · rw [if_neg ha, decide_eq_false ha]; rfl
  · rw [abs_W, hasArc_eq, row_mupsert, if_pos rfl]; exact hf b
  · rw [abs_W, hasArc_eq, row_mupsert, if_neg ha]; rfl

/-- `entry(v).or_default()` alone only admits `v` as a vertex. -/
theorem abs_mupsert_id (d : AdjMap) (v : Nat) : abs ⟨mupsert v [] id d.rows⟩ = ⟨addV d.abs.V v, d.abs.W⟩ := by
  rw [abs_mupsert d v v id (d.abs.W v v), setW_self]
  intro b
  by_cases hb : b = v
  · rw [if_pos hb, hb, abs_W]; rfl
  · rw [if_neg hb]; rfl

theorem addArc_eq (d : AdjMap) (u v : Nat) :
    d.addArc u v = if rejected .growing d.abs u v = true then none
      else some ⟨mupsert v [] id (mupsert u [] (sinsert v) d.rows)⟩ :=
  growing_guard _ u v _

theorem step_spec (d : AdjMap) (op : Op Unit) (h : d.Shape) :
    Refines Shape abs (d.step op) (specStep .growing d.abs op) := by
  cases op with
  | add u v w =>
    rw [step, addArc_eq]
    refine guarded_refines h fun _ => ?_
    have h1 : Shape ⟨mupsert u [] (sinsert v) d.rows⟩ := h.mupsert u (sorted_sinsert (h.2 u))
    refine ⟨h1.mupsert v (h1.2 v), ?_⟩
    rw [abs_mupsert_id, abs_mupsert d u v (sinsert v) (some ()) (setLook_sinsert v _)]
    rfl
  | rem u v =>
    rw [step]
    unfold removeArc
    cases hm : mget u d.rows with
    | none =>
      have := rem_absent (s := d.abs) (u := u) (v := v) (by rw [abs_W, row_of_mget_none hm]; rfl)
      exact ⟨h, this.1, congrArg Out.bool this.2⟩
    | some r =>
      refine ⟨h.mupsert u (sorted_serase (h.2 u)), ?_, ?_⟩
      · show abs ⟨_⟩ = ⟨d.abs.V, setW d.abs.W u v none⟩
        rw [abs_mupsert d u v (serase v) none (setLook_serase v (h.2 u)),
          addV_of_mem (show d.abs.V u = true from congrArg Option.isSome hm)]
      · show Out.bool (r.contains v) = Out.bool (d.abs.A u v)
        rw [SpecState.A, abs_W, row_of_mget_some hm]; exact congrArg Out.bool (unitOf_isSome _).symm

theorem step_WF (d : AdjMap) (op : Op Unit) (h : d.WF) : (d.step op).1.WF :=
  step_WF_of_shape WF_iff (specStep_valid .growing) step_spec d op h

theorem step_refines (d : AdjMap) (op : Op Unit) (h : d.WF) :
    (d.step op).1.abs = (specStep .growing d.abs op).1 ∧ (d.step op).2 = (specStep .growing d.abs op).2 :=
  (step_spec d op ((WF_iff d).mp h).1).2

/-- A rejected call (self-loop) panics and leaves the digraph unchanged. -/
theorem step_rejects (d : AdjMap) (u v : Nat) (h : rejected .growing d.abs u v = true) :
    d.step (.add u v ()) = (d, .panic) := by
  rw [step, addArc_eq, if_pos h]; rfl

theorem run_refines (ops : List (Op Unit)) (d : AdjMap) (h : d.WF) :
    (run step d ops).1.WF ∧ (run step d ops).1.abs = (run (specStep .growing) d.abs ops).1 ∧
    (run step d ops).2 = (run (specStep .growing) d.abs ops).2 :=
  run_refines_gen step (specStep .growing) WF abs step_WF step_refines ops d h

theorem mem_arcs (d : AdjMap) (h : d.WF) (u v : Nat) : (u, v) ∈ d.arcs ↔ d.abs.A u v = true := by
  rw [abs_A]; exact mem_arcs_iff h.1 u v

theorem arcs_sorted_nodup (d : AdjMap) (h : d.WF) :
    d.arcs.Pairwise (fun a b => pairLt a b = true) ∧ d.arcs.Nodup ∧
    ∀ u v, (u, v) ∈ d.arcs ↔ d.abs.A u v = true := by
  have hp := arcs_sorted h.shape
  exact ⟨hp, sortedP_nodup hp, mem_arcs d h⟩

theorem vertices_spec (d : AdjMap) (h : d.WF) :
    SortedS d.vertices ∧ d.vertices.Nodup ∧ ∀ x, x ∈ d.vertices ↔ d.abs.V x = true :=
  have hs : SortedS d.vertices := (sortedK_iff_keys d.rows).mp h.1
  ⟨hs, sortedS_nodup hs, fun _ => (mget_isSome_iff h.1).symm⟩

theorem order_eq (d : AdjMap) : d.order = d.vertices.length := (List.length_map _).symm

theorem abs_valid (d : AdjMap) (h : d.WF) : d.abs.Valid := ((WF_iff d).mp h).2

/-- C20: a well-formed `AdjacencyMap` is determined by its abstract digraph. -/
theorem abs_injective (d₁ d₂ : AdjMap) (h₁ : d₁.WF) (h₂ : d₂.WF) : d₁.abs = d₂.abs ↔ d₁ = d₂ :=
  determined_of_ext (fun d h => ((WF_iff d).mp h).1) (fun d h => (vertices_spec d h).2.2) (fun _ _ _ => rfl) ext
    d₁ d₂ h₁ h₂

end GraafVerif.Repr.AdjMap

namespace GraafVerif.Gen.AM
open GraafVerif.Repr

/-- the vertex set is `0..order` (hypothesis of C16, conclusion of C14) -/
def Contiguous (d : AdjMap) : Prop := d.vertices = List.range d.order

theorem contiguous_iff {d : AdjMap} (h : d.WF) (k : Nat) :
    Contiguous d ∧ d.order = k ↔ ∀ x, d.abs.V x = true ↔ x < k := by
  have vs := AdjMap.vertices_spec d h
  constructor
  · rintro ⟨hc, rfl⟩ x
    rw [← vs.2.2 x, hc, List.mem_range]
  · intro hV
    have e : d.vertices = List.range k :=
      sortedS_ext vs.1 List.pairwise_lt_range fun x => by rw [vs.2.2 x, hV x, List.mem_range]
    have ho : d.order = k := by rw [AdjMap.order_eq, e, List.length_range]
    exact ⟨e.trans (congrArg List.range ho.symm), ho⟩

end GraafVerif.Gen.AM
