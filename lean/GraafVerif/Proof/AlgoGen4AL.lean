import GraafVerif.Proof.AlgoGen4Par
import GraafVerif.Proof.GenAL
import GraafVerif.Proof.OpsAL
/-!
# Generated parallel functions of `AdjacencyList` = the hand-written models with the thread count
-/
namespace GraafVerif.AlgoGenThm
open GraafVerif GraafVerif.AlgoGen GraafVerif.Repr

namespace AdjacencyList

theorem complete_for1_eq (vertices : List Nat) (loc : List (Nat × List Nat)) (u : Nat) :
    (AlgoGen.AdjacencyList.complete_for1 vertices loc u : Blk (List (Nat × List Nat)) AdjList _) =
      .ok (loc ++ [(u, serase u vertices)]) := rfl

/-- one worker: the rows of its range -/
def completeW (n : Nat) (r : Nat × Nat) : List (Nat × List Nat) :=
  (Gen.rangeFT r.1 r.2).map fun u => (u, serase u (Ops.toSet (List.range n)))

theorem complete_for0_eq (n chunk : Nat) (handles : List (List (Nat × List Nat))) (id : Nat) :
    (AlgoGen.AdjacencyList.complete_for0 n chunk handles id : Blk (List (List (Nat × List Nat))) AdjList _) =
      if id * chunk ≥ min n (id * chunk + chunk) then brk handles
      else .ok (handles ++ [completeW n (id * chunk, min n (id * chunk + chunk))]) := by
  unfold AlgoGen.AdjacencyList.complete_for0
  dsimp only
  by_cases hge : id * chunk ≥ min n (id * chunk + chunk)
  · simp only [hge, if_true]
  · simp only [hge, if_false]
    rw [subP_le _ _ (by omega)]
    simp only [ok_bind]
    rw [forLoop_pure _ _ (complete_for1_eq _)]
    simp only [ok_bind, pure_eq_ok, foldl_snoc_map, List.nil_append]
    rfl

theorem complete_for2_eq (arcs : List (Nat × List Nat)) (h : List (Nat × List Nat)) :
    (AlgoGen.AdjacencyList.complete_for2 arcs h : Blk (List (Nat × List Nat)) AdjList _) = .ok (arcs ++ h) := rfl

theorem completeW_eq (n : Nat) : completeW n = Gen.AL.completeWorker n := by
  funext r
  rw [completeW, Gen.AL.completeWorker, toSet_range, ssetOf_range]

/-- `AdjacencyList::complete(order)` with `available_parallelism() = ap ≥ 1` = the hand-written `Gen.AL.complete order ap`. -/
theorem complete_eq (ap n : Nat) (hap : 0 < ap) :
    AlgoGen.AdjacencyList.complete ap n = optR (Gen.AL.complete n ap) := by
  unfold AlgoGen.AdjacencyList.complete Gen.AL.complete
  by_cases h0 : n = 0
  · subst h0; rfl
  · have hpos : n > 0 := Nat.pos_of_ne_zero h0
    by_cases h1 : n = 1
    · subst h1; rfl
    · have ht : 0 < min n ap := by omega
      simp only [hpos, h0, h1, decide_true, assert_true, ok_bind, if_false, divCeilP_pos _ _ ht]
      rw [List.range_eq_range', (forLoop_spawn (β := Empty) n _ (fun _ => True) _ (fun s r _ => s ++ [completeW n r])
        (fun s id _ => complete_for0_eq n _ s id) (fun _ _ _ _ => trivial) (min n ap) 0 [] trivial).1,
        foldl_snoc_zipIdx, ok_bind, forLoop_pure (β := Empty) _ _ complete_for2_eq, foldl_append_flatten]
      simp only [List.nil_append, ok_bind, pure_eq_ok, fnBody_ok, optR, completeW_eq]
      have hsorted : ((List.map (Gen.AL.completeWorker n) (Par.ranges n (min n ap))).flatten).Pairwise (fun a b => a.1 ≤ b.1) := by
        rw [Gen.AL.joined_eq, Par.chunks_tile_min n ap hap hpos, List.pairwise_map]
        exact (List.pairwise_lt_range (n := n)).imp (fun h => Nat.le_of_lt h)
      exact congrArg (fun l => Except.ok (AdjList.mk (l.map (·.2))))
        ((mergeSort_sorted _ hsorted).trans (Gen.AL.sortByKey_sorted _ hsorted).symm)

theorem complement_while0_eq (full vec : List Nat) (u : Nat) (diff : List Nat) (i j : Nat)
    (hi : i < full.length) (hj : j < vec.length) :
    (AlgoGen.AdjacencyList.complement_while0 full full.length u vec vec.length (diff, i, j) : Blk _ AdjList _) =
      .ok (if full[i] = u then (diff, i + 1, j)
           else if full[i] = vec[j] then (diff, i + 1, j + 1) else (diff ++ [full[i]], i + 1, j)) := by
  unfold AlgoGen.AdjacencyList.complement_while0
  simp only [hi, hj, decide_true, Bool.and_self, if_true, rd_lt _ _ _ hi, rd_lt _ _ _ hj, ok_bind]
  by_cases h1 : full[i] = u
  · simp only [h1, if_true]; rfl
  · simp only [h1, if_false]
    by_cases h2 : full[i] = vec[j]
    · simp only [h2, if_true]; rfl
    · simp only [h2, if_false]; rfl

theorem complement_while0_exit (full vec : List Nat) (u : Nat) (diff : List Nat) (i j : Nat)
    (h : ¬ (i < full.length ∧ j < vec.length)) :
    (AlgoGen.AdjacencyList.complement_while0 full full.length u vec vec.length (diff, i, j) : Blk _ AdjList _) =
      brk (diff, i, j) := by
  unfold AlgoGen.AdjacencyList.complement_while0
  simp only [decide_and_eq_false h, Bool.false_eq_true, if_false]

theorem complement_while1_step (full : List Nat) (u : Nat) (diff : List Nat) (i : Nat) (hi : i < full.length) :
    (AlgoGen.AdjacencyList.complement_while1 full full.length u (diff, i) : Blk _ AdjList _) =
      .ok (if full[i] = u then (diff, i + 1) else (diff ++ [full[i]], i + 1)) := by
  unfold AlgoGen.AdjacencyList.complement_while1
  simp only [hi, if_true, rd_lt _ _ _ hi, ok_bind]
  by_cases h1 : full[i] = u
  · simp only [h1, if_true, ne_eq, not_true_eq_false, if_false]; rfl
  · simp only [h1, if_false, ne_eq, not_false_eq_true, if_true]; rfl

theorem complement_while1_exit (full : List Nat) (u : Nat) (diff : List Nat) (i : Nat) (hi : ¬ i < full.length) :
    (AlgoGen.AdjacencyList.complement_while1 full full.length u (diff, i) : Blk _ AdjList _) = brk (diff, i) := by
  unfold AlgoGen.AdjacencyList.complement_while1
  simp only [hi, if_false]

theorem complement_while1_eq (full : List Nat) (u : Nat) : ∀ (m : Nat) (diff : List Nat) (i F : Nat),
    full.length - i ≤ m → full.length - i ≤ F → ∃ i',
    (whileLoop (AlgoGen.AdjacencyList.complement_while1 full full.length u) F (diff, i) : Blk (List (List Nat)) AdjList _) =
      .ok (diff ++ Ops.diffLoop u (full.drop i) [], i') := by
  intro _ diff i F _ hF
  obtain ⟨t, ht, hq⟩ := whileLoop_total (β := List (List Nat)) (AlgoGen.AdjacencyList.complement_while1 full full.length u)
    (fun s => full.length - s.2) (fun _ => True) (fun s t => t.1 = s.1 ++ Ops.diffLoop u (full.drop s.2) [])
    (fun s _ => by
      by_cases hi : s.2 < full.length
      · have hs := complement_while1_step full u s.1 s.2 hi
        have hm := Ops.diffLoop_cons_nil u full[s.2] (full.drop (s.2 + 1))
        rw [← List.drop_eq_getElem_cons hi] at hm
        by_cases h1 : full[s.2] = u
        · rw [if_pos h1] at hs hm
          exact Or.inr ⟨_, hs, Nat.sub_succ_lt_self _ _ hi, trivial, fun t ht => ht.trans (by rw [hm])⟩
        · rw [if_neg h1] at hs hm
          exact Or.inr ⟨_, hs, Nat.sub_succ_lt_self _ _ hi, trivial, fun t ht => ht.trans (by rw [hm, List.append_assoc]; rfl)⟩
      · refine Or.inl ⟨complement_while1_exit full u s.1 s.2 hi, ?_⟩
        rw [List.drop_eq_nil_of_le (Nat.le_of_not_lt hi), Ops.diffLoop, List.append_nil])
    F (diff, i) trivial hF
  exact ⟨t.2, by rw [ht, ← hq]⟩

theorem complement_loops (full vec : List Nat) (u : Nat) (F : Nat) (diff : List Nat) (i j : Nat) (hF : full.length - i ≤ F) :
    ∃ t i', (whileLoop (AlgoGen.AdjacencyList.complement_while0 full full.length u vec vec.length) F (diff, i, j) :
        Blk (List (List Nat)) AdjList _) = .ok t ∧
      (whileLoop (AlgoGen.AdjacencyList.complement_while1 full full.length u) full.length (t.1, t.2.1) :
        Blk (List (List Nat)) AdjList _) = .ok (diff ++ Ops.diffLoop u (full.drop i) (vec.drop j), i') := by
  obtain ⟨t, ht, i', hq⟩ := whileLoop_total (β := List (List Nat))
    (AlgoGen.AdjacencyList.complement_while0 full full.length u vec vec.length)
    (fun s => full.length - s.2.1) (fun _ => True)
    (fun s t => ∃ i', (whileLoop (AlgoGen.AdjacencyList.complement_while1 full full.length u) full.length (t.1, t.2.1) :
        Blk (List (List Nat)) AdjList _) = .ok (s.1 ++ Ops.diffLoop u (full.drop s.2.1) (vec.drop s.2.2), i'))
    (fun s _ => by
      by_cases hij : s.2.1 < full.length ∧ s.2.2 < vec.length
      · obtain ⟨hi, hj⟩ := hij
        obtain ⟨hμ, hq⟩ := Ops.diff_round u (L := fun i => full.drop i) (R := fun j => vec.drop j)
          (List.drop_eq_getElem_cons hi) (List.drop_eq_getElem_cons hj) hi s.1 _ rfl
        exact Or.inr ⟨_, complement_while0_eq full vec u s.1 s.2.1 s.2.2 hi hj, hμ, trivial, fun t ⟨i', h⟩ => ⟨i', hq ▸ h⟩⟩
      · refine Or.inl ⟨complement_while0_exit full vec u s.1 s.2.1 s.2.2 hij, ?_⟩
        rw [Ops.diffLoop_exit u full vec s.2.1 s.2.2 hij]
        exact complement_while1_eq full u _ s.1 s.2.1 full.length (Nat.le_refl _) (Nat.sub_le _ _))
    F (diff, i, j) trivial hF
  exact ⟨t, i', ht, hq⟩

theorem complement_loops_eq (full vec : List Nat) (u : Nat) : ∀ (m : Nat) (diff : List Nat) (i j F : Nat),
    full.length - i ≤ m → full.length - i ≤ F → ∃ i',
    ((whileLoop (AlgoGen.AdjacencyList.complement_while0 full full.length u vec vec.length) F (diff, i, j) :
        Blk (List (List Nat)) AdjList _) >>= fun t =>
      (whileLoop (AlgoGen.AdjacencyList.complement_while1 full full.length u) full.length (t.1, t.2.1) :
        Blk (List (List Nat)) AdjList _)) =
      .ok (diff ++ Ops.diffLoop u (full.drop i) (vec.drop j), i') := by
  intro _ diff i j F _ hF
  obtain ⟨t, i', ht, hq⟩ := complement_loops full vec u F diff i j hF
  exact ⟨i', by rw [ht, ok_bind, hq]⟩

theorem complement_for1_eq (d : AdjList) (part : List (List Nat)) (u : Nat) (hu : u < d.order) :
    (AlgoGen.AdjacencyList.complement_for1 (List.range d.order) (List.range d.order).length d.rows part u :
        Blk (List (List Nat)) AdjList _) = .ok (part ++ [Ops.complementRowAL d u]) := by
  unfold AlgoGen.AdjacencyList.complement_for1 Ops.complementRowAL
  have hu' : u < d.rows.length := hu
  obtain ⟨t, i', ht, hq⟩ := complement_loops (List.range d.order) d.rows[u] u (List.range d.order).length [] 0 0 (Nat.sub_le _ _)
  simp only [rd_lt _ _ _ hu', ok_bind, ht, hq, List.getElem?_eq_getElem hu']
  rfl

theorem complement_for2_eq (arcs : List (List Nat)) (h : List (List Nat)) :
    (AlgoGen.AdjacencyList.complement_for2 arcs h : Blk (List (List Nat)) AdjList _) = .ok (arcs ++ h) := rfl

/-- one worker of `complement` (a dummy panic for a range that leaves `0..order`: never produced by the chunking) -/
def complementW (d : AdjList) (s : List (List (List Nat))) (r : Nat × Nat) : Blk (List (List (List Nat))) AdjList (List (List (List Nat))) :=
  if r.2 ≤ d.order then .ok (s ++ [(List.range' r.1 (r.2 - r.1)).map (Ops.complementRowAL d)]) else panic

theorem complement_for0_eq (d : AdjList) (chunk : Nat) (handles : List (List (List Nat))) (id : Nat) :
    (AlgoGen.AdjacencyList.complement_for0 d.order (List.range d.order) (List.range d.order).length d.rows chunk handles id :
        Blk (List (List (List Nat))) AdjList _) =
      if id * chunk ≥ min d.order (id * chunk + chunk) then brk handles
      else complementW d handles (id * chunk, min d.order (id * chunk + chunk)) := by
  unfold AlgoGen.AdjacencyList.complement_for0 complementW
  dsimp only
  by_cases hge : id * chunk ≥ min d.order (id * chunk + chunk)
  · simp only [hge, if_true]
  · simp only [hge, if_false, Nat.min_le_left, if_true]
    rw [subP_le _ _ (by omega)]
    simp only [ok_bind]
    rw [(forLoop_ok (I := fun _ : List (List Nat) => True) trivial fun part _ u hu =>
      ⟨complement_for1_eq d part u (mem_range_lt (Nat.min_le_left _ _) hu), trivial⟩).1]
    simp only [ok_bind, pure_eq_ok, foldl_snoc_map, List.nil_append]
    rfl

/-- `AdjacencyList::complement` with `available_parallelism() = ap` = the hand-written `Ops.complementAL d ap`,
for every value and every `ap` (0 included: both panic); in particular no unchecked read is out of bounds. -/
theorem complement_eq (ap : Nat) (d : AdjList) :
    AlgoGen.AdjacencyList.complement ap d = optR (Ops.complementAL d ap) := by
  unfold AlgoGen.AdjacencyList.complement Ops.complementAL
  dsimp only
  by_cases ht : min d.order ap = 0
  · simp only [ht, divCeilP_zero, if_true]
    rfl
  · have htp : 0 < min d.order ap := Nat.pos_of_ne_zero ht
    simp only [ht, if_false, divCeilP_pos _ _ htp, ok_bind]
    rw [List.range_eq_range' (n := min d.order ap), (forLoop_spawn (β := Empty) d.order _ (fun _ => True) _
      (fun s r _ => s ++ [(List.range' r.1 (r.2 - r.1)).map (Ops.complementRowAL d)])
      (fun s id _ => by rw [complement_for0_eq, complementW, if_pos (Nat.min_le_left _ _)])
      (fun _ _ _ _ => trivial) (min d.order ap) 0 [] trivial).1,
      foldl_snoc_zipIdx (fun r : Nat × Nat => (List.range' r.1 (r.2 - r.1)).map (Ops.complementRowAL d)), ok_bind,
      forLoop_pure (β := Empty) _ _ complement_for2_eq, foldl_append_flatten, List.flatMap_def]
    rfl

end AdjacencyList
end GraafVerif.AlgoGenThm
