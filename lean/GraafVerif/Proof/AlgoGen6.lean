import GraafVerif.Model.AlgoGen6
import GraafVerif.Proof.AlgoGenCall
import GraafVerif.Proof.AlgoGen5Walk
/-!
# Generated functions of set 6 (`Model/AlgoGen6.lean`) = the hand-written model functions

`AdjacencyList::indegree_sequence` (`Query.AL.indegreeSequence`), the `add_arc` / `add_arc_weighted` of `AdjacencyMap`,
`EdgeList`, `AdjacencyListWeighted` (`Model/Repr.lean`, panic conditions included), `FloydWarshall::new`, the four wrappers
of `PredecessorTree`, the default method of `ContiguousOrder`; the generated field lists of the five representation structs
= the hand-written `Repr.*` structures.
-/
namespace GraafVerif.AlgoGenThm
open GraafVerif GraafVerif.AlgoGen GraafVerif.Repr

namespace AdjacencyList

/-- `*ptr.add(v) += 1` inside the histogram = the hand-written `bump` -/
theorem indegreeSequence_for1_eq (h : List Nat) (v : Nat) (hv : v < h.length) :
    (AlgoGen.AdjacencyList.indegreeSequence_for1 h v : Blk (List Nat) (List Nat) _) = .ok (Query.AL.bump h v) :=
  rd_wr_lt _ h v (· + 1) 0 hv

/-- outside the histogram it is an out-of-bounds access through the raw pointer -/
theorem indegreeSequence_for1_ub (h : List Nat) (v : Nat) (hv : h.length ≤ v) :
    (AlgoGen.AdjacencyList.indegreeSequence_for1 h v : Blk (List Nat) (List Nat) _) =
      .error (.err (.fault (.ub "repr/adjacency_list/mod.rs:indegree_sequence:ptr.add(v)"))) := by
  unfold AlgoGen.AdjacencyList.indegreeSequence_for1
  rw [rd_ge _ _ _ hv]
  rfl

theorem indegree_row_fold (n : Nat) (row : List Nat) (hrow : ∀ v ∈ row, v < n) (h : List Nat) (hh : h.length = n) :
    (forLoop AlgoGen.AdjacencyList.indegreeSequence_for1 row h : Blk (List Nat) (List Nat) _) = .ok (row.foldl Query.AL.bump h) ∧
      (row.foldl Query.AL.bump h).length = n :=
  forLoop_update 0 id (fun _ t => t + 1) (fun _ _ => rfl) hh hrow

theorem indegreeSequence_for0_eq (n : Nat) (row : List Nat) (hrow : ∀ v ∈ row, v < n) (h : List Nat) (hh : h.length = n) :
    (AlgoGen.AdjacencyList.indegreeSequence_for0 h row : Blk (List Nat) (List Nat) _) = .ok (row.foldl Query.AL.bump h) := by
  unfold AlgoGen.AdjacencyList.indegreeSequence_for0
  rw [(indegree_row_fold n row hrow h hh).1]

/-- **`AdjacencyList::indegree_sequence`** = the hand-written `Query.AL.indegreeSequence` for every list whose heads are
vertices (part of `AdjList.WF`): then no `*ptr.add(v)` leaves the histogram -/
theorem indegreeSequence_eq (d : AdjList) (hin : ∀ row ∈ d.rows, ∀ v ∈ row, v < d.order) :
    AlgoGen.AdjacencyList.indegreeSequence d = .ok (Query.AL.indegreeSequence d) := by
  unfold AlgoGen.AdjacencyList.indegreeSequence
  rw [(forLoop_ok (β := Empty) (I := fun x : List Nat => x.length = d.order) List.length_replicate fun s hs row hr =>
    ⟨indegreeSequence_for0_eq d.order row (hin row hr) s hs, (indegree_row_fold d.order row (hin row hr) s hs).2⟩).1]
  rfl

end AdjacencyList

namespace AdjacencyMap

/-- `AdjacencyMap::add_arc` = the hand-written `AdjMap.addArc` (`none` = the `assert_ne!`), for every map and all arguments -/
theorem addArc_eq (d : AdjMap) (u v : Nat) : AlgoGen.AdjacencyMap.addArc d u v = optU (d.addArc u v) := by
  unfold AlgoGen.AdjacencyMap.addArc AdjMap.addArc
  by_cases h1 : u = v
  · subst h1
    rw [if_pos rfl, bne_self_eq_false]
    rfl
  · rw [if_neg h1, bne_iff_ne.2 h1]
    rfl

end AdjacencyMap

namespace EdgeList

/-- `EdgeList::add_arc` = the hand-written `EdgeList.addArc` (`none` = one of the three asserts) -/
theorem addArc_eq (d : Repr.EdgeList) (u v : Nat) : AlgoGen.EdgeList.addArc d u v = optU (d.addArc u v) :=
  arcGuards u v d.order _ _ (fun _ _ _ => rfl)

end EdgeList

namespace AdjacencyListWeighted

/-- `AdjacencyListWeighted::add_arc_weighted` = the hand-written `AdjListW.addArcWeighted`; the checked `self.arcs[u]` is in
bounds after the asserts -/
theorem addArcWeighted_eq (d : AdjListW) (u v : Nat) (w : Int) :
    AlgoGen.AdjacencyListWeighted.addArcWeighted d u v w = optU (d.addArcWeighted u v w) := by
  refine arcGuards u v d.order _ _ (fun _ (hu : u < d.rows.length) _ => ?_)
  rw [idx_lt _ _ hu, List.getElem?_eq_getElem hu]
  rfl

end AdjacencyListWeighted

namespace FloydWarshall

/-- `FloydWarshall::new` = `DistanceMatrix::new(order, isize::MAX)` around the hand-written `DistMatrix.new` -/
theorem new_eq (g : WGraph) (inf : Int) :
    AlgoGen.FloydWarshall.new g inf =
      (DistanceMatrix.ofRes (DistMatrix.new g.n inf) >>= fun dm => (pure ⟨dm⟩ : Res AlgoGen.FloydWarshall)) := by
  unfold AlgoGen.FloydWarshall.new
  rw [DistanceMatrix.new_eq]
  cases DistanceMatrix.ofRes (DistMatrix.new g.n inf) <;> rfl

/-- in closed form: panic for order 0 and for `order² > usize::MAX`; otherwise every entry is the sentinel -/
theorem new_fresh (g : WGraph) (inf : Int) (hn : 0 < g.n) (hsz : g.n * g.n ≤ DistMatrix.usizeMax) :
    AlgoGen.FloydWarshall.new g inf = .ok ⟨⟨List.replicate (g.n * g.n) inf, inf, g.n⟩⟩ := by
  rw [new_eq, DistMatrix.new, if_neg (Nat.ne_of_gt hn), if_neg (Nat.not_lt.2 hsz)]
  rfl

theorem new_zero (g : WGraph) (inf : Int) (hn : g.n = 0) : AlgoGen.FloydWarshall.new g inf = .error (.fault .panic) := by
  rw [new_eq, DistMatrix.new, if_pos hn]
  rfl

end FloydWarshall

namespace PredecessorTree

theorem fromVec_eq (pred : List (Option Nat)) : AlgoGen.PredecessorTree.fromVec pred = .ok ⟨pred⟩ := rfl

/-- `Index<usize>`: the entry, panic out of range -/
theorem index_eq (t : AlgoGen.PredecessorTree) (i : Nat) :
    AlgoGen.PredecessorTree.index t i = match t.pred[i]? with
      | some x => .ok x
      | none => .error (.fault .panic) := by
  unfold AlgoGen.PredecessorTree.index
  by_cases h : i < t.pred.length
  · rw [idx_lt _ _ h, List.getElem?_eq_getElem h]
    rfl
  · rw [idx_ge _ _ (Nat.le_of_not_lt h), List.getElem?_eq_none (Nat.le_of_not_lt h)]
    rfl

/-- `IndexMut<usize>`: the position of the entry, panic out of range -/
theorem indexMut_eq (t : AlgoGen.PredecessorTree) (i : Nat) :
    AlgoGen.PredecessorTree.indexMut t i = if i < t.pred.length then .ok (i, t) else .error (.fault .panic) :=
  fnBody_idxPos t.pred i t

theorem intoIter_eq (t : AlgoGen.PredecessorTree) : AlgoGen.PredecessorTree.intoIter t = .ok t.pred := rfl

end PredecessorTree

namespace ContiguousOrder

theorem contiguousOrder_eq (d : AlgoGen.HasOrder) : AlgoGen.ContiguousOrder.contiguousOrder d = .ok d.order := rfl

end ContiguousOrder

/-! ## The generated field lists of the representation structs = the hand-written structures -/

def AdjacencyListDecl.toRepr (s : AlgoGen.AdjacencyListDecl) : AdjList := ⟨s.arcs⟩
def AdjacencyListDecl.ofRepr (d : AdjList) : AlgoGen.AdjacencyListDecl := ⟨d.rows⟩
theorem AdjacencyListDecl.to_of (d : AdjList) : AdjacencyListDecl.toRepr (AdjacencyListDecl.ofRepr d) = d := rfl
theorem AdjacencyListDecl.of_to (s : AlgoGen.AdjacencyListDecl) : AdjacencyListDecl.ofRepr (AdjacencyListDecl.toRepr s) = s := rfl

def AdjacencyMapDecl.toRepr (s : AlgoGen.AdjacencyMapDecl) : AdjMap := ⟨s.arcs⟩
def AdjacencyMapDecl.ofRepr (d : AdjMap) : AlgoGen.AdjacencyMapDecl := ⟨d.rows⟩
theorem AdjacencyMapDecl.to_of (d : AdjMap) : AdjacencyMapDecl.toRepr (AdjacencyMapDecl.ofRepr d) = d := rfl
theorem AdjacencyMapDecl.of_to (s : AlgoGen.AdjacencyMapDecl) : AdjacencyMapDecl.ofRepr (AdjacencyMapDecl.toRepr s) = s := rfl

def AdjacencyMatrixDecl.toRepr (s : AlgoGen.AdjacencyMatrixDecl) : AdjMatrix := ⟨s.blocks, s.order⟩
def AdjacencyMatrixDecl.ofRepr (d : AdjMatrix) : AlgoGen.AdjacencyMatrixDecl := ⟨d.blocks, d.order⟩
theorem AdjacencyMatrixDecl.to_of (d : AdjMatrix) : AdjacencyMatrixDecl.toRepr (AdjacencyMatrixDecl.ofRepr d) = d := rfl
theorem AdjacencyMatrixDecl.of_to (s : AlgoGen.AdjacencyMatrixDecl) : AdjacencyMatrixDecl.ofRepr (AdjacencyMatrixDecl.toRepr s) = s := rfl

def EdgeListDecl.toRepr (s : AlgoGen.EdgeListDecl) : Repr.EdgeList := ⟨s.arcs, s.order⟩
def EdgeListDecl.ofRepr (d : Repr.EdgeList) : AlgoGen.EdgeListDecl := ⟨d.arcs, d.order⟩
theorem EdgeListDecl.to_of (d : Repr.EdgeList) : EdgeListDecl.toRepr (EdgeListDecl.ofRepr d) = d := rfl
theorem EdgeListDecl.of_to (s : AlgoGen.EdgeListDecl) : EdgeListDecl.ofRepr (EdgeListDecl.toRepr s) = s := rfl

def AdjacencyListWeightedDecl.toRepr (s : AlgoGen.AdjacencyListWeightedDecl) : AdjListW := ⟨s.arcs⟩
def AdjacencyListWeightedDecl.ofRepr (d : AdjListW) : AlgoGen.AdjacencyListWeightedDecl := ⟨d.rows⟩
theorem AdjacencyListWeightedDecl.to_of (d : AdjListW) : AdjacencyListWeightedDecl.toRepr (AdjacencyListWeightedDecl.ofRepr d) = d := rfl
theorem AdjacencyListWeightedDecl.of_to (s : AlgoGen.AdjacencyListWeightedDecl) :
    AdjacencyListWeightedDecl.ofRepr (AdjacencyListWeightedDecl.toRepr s) = s := rfl

end GraafVerif.AlgoGenThm
