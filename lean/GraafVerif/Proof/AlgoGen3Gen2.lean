import GraafVerif.Proof.AlgoGen3Gen
import GraafVerif.Proof.RandArcs
/-! `AlgoGen` set 3, generators, part 2: `random_recursive_tree` and `erdos_renyi` of `AdjacencyMatrix`
(generated from `src/repr/adjacency_matrix/mod.rs`) against `Rand.rrtMX` / `Rand.erMX`. -/
namespace GraafVerif.AlgoGenThm
open GraafVerif GraafVerif.AlgoGen GraafVerif.Repr
open Xoshiro256StarStar (ofX)

/-- the vertices `1..n` of `random_recursive_tree`, each with the index of its draw -/
theorem zipIdx_range_one (n : Nat) :
    (AlgoGen.range 1 n).zipIdx = (List.range' 1 (n - 1)).map fun u => (u, u - 1) :=
  zipIdx_range' 1 (n - 1) 0

theorem zipIdx_range_one_ne (n : Nat) : ∀ ai ∈ (AlgoGen.range 1 n).zipIdx, ai.1 ≠ 0 := by
  intro ai hai
  rw [zipIdx_range_one, List.mem_map] at hai
  obtain ⟨u, hu, rfl⟩ := hai
  exact Nat.ne_of_gt (List.mem_range'_1.1 hu).1

theorem othersChain_length (n u : Nat) (hu : u < n) : (Rand.othersChain n u).length = n - 1 := by
  rw [Rand.othersChain, List.length_append, List.length_range, List.length_range', Nat.add_comm u 1, Nat.sub_add_eq,
    Nat.add_sub_of_le (Nat.le_sub_one_of_lt hu)]

namespace AdjacencyMatrix

/-- vertex `u`: a draw `w`, then `add_arc(u, w % u)` (`% 0` panics) -/
def rstep (g : AdjMatrix) (u : Nat) (w : UInt64) : Option AdjMatrix :=
  if u = 0 then none else g.addArc u (w.toNat % u)

theorem randomRecursiveTree_for0_eq (g : AdjMatrix) (x : Rand.Xo) (u : Nat) :
    (AlgoGen.AdjacencyMatrix.randomRecursiveTree_for0 (g, ofX x) u : Blk _ AdjMatrix _) =
      optS x.next.2 (rstep g u x.next.1) := by
  unfold AlgoGen.AdjacencyMatrix.randomRecursiveTree_for0 rstep
  simp only [Xoshiro256StarStar.next_eq, call_ok, ok_bind]
  by_cases hu : u = 0
  · subst hu; rfl
  · simp only [hu, if_false, modP_pos _ _ (Nat.pos_of_ne_zero hu), ok_bind]
    cases g.addArc u ((Rand.Xo.next x).1.toNat % u) <;> rfl

/-- `AdjacencyMatrix::random_recursive_tree(order, seed)` = the hand-written `rrtMX` on the stream of
`Xoshiro256StarStar::new(seed)`, for every order and seed (`zip(rng)` never runs dry: no `break`). -/
theorem randomRecursiveTree_eq (n : Nat) (seed : UInt64) :
    AlgoGen.AdjacencyMatrix.randomRecursiveTree n seed = optR (Rand.rrtMX (Rand.xoStream seed) n) := by
  unfold AlgoGen.AdjacencyMatrix.randomRecursiveTree Rand.rrtMX
  by_cases h1 : n = 1
  · subst h1; rfl
  · simp only [h1, if_false]
    cases he : AdjMatrix.empty n with
    | none => rfl
    | some e =>
      simp only [optP, ok_bind, Xoshiro256StarStar.new_eq, call_ok, Option.bind_eq_bind, Option.bind_some]
      rw [forLoop_draws (β := Empty) (fun _ => True) (AlgoGen.range 1 n) AlgoGen.AdjacencyMatrix.randomRecursiveTree_for0
        rstep (fun g u x _ _ => randomRecursiveTree_for0_eq g x u) (fun _ _ _ _ _ _ _ => trivial)
        (AlgoGen.range 1 n) e _ (fun _ h => h) trivial, draws_new]
      have hfold : (AlgoGen.range 1 n).zipIdx.foldlM (fun s ai => rstep s ai.1 (Rand.xoStream seed ai.2)) e =
          (Rand.rrtParents (Rand.xoStream seed) n).foldlM (fun g a => g.addArc a.1 a.2) e := by
        unfold Rand.rrtParents
        rw [zipIdx_range_one, List.foldlM_map, List.foldlM_map]
        exact foldlM_congr_mem _ _ _ (fun g u hu => if_neg (Nat.ne_of_gt (List.mem_range'_1.1 hu).1)) e
      rw [hfold]
      exact fnBody_optS_fst _ _

/-- candidate `v` of row `u`: a draw `w`, then `add_arc(u, v)` iff `next_f64() < p` -/
def estep (p : Rand.F64) (g : AdjMatrix) (a : Nat × Nat) (w : UInt64) : Option AdjMatrix :=
  if Rand.f64lt w p then g.addArc a.1 a.2 else some g

/-- the translator's comparison on the mantissa = the hand-written comparison on the draw -/
theorem f64ltM_mant (w : UInt64) (p : Rand.F64) : f64ltM (Rand.mant w) p = Rand.f64lt w p := by
  cases p <;> rfl

theorem erdosRenyi_for1_eq (p : Rand.F64) (u : Nat) (g : AdjMatrix) (x : Rand.Xo) (v : Nat) :
    (AlgoGen.AdjacencyMatrix.erdosRenyi_for1 p u (g, ofX x) v : Blk _ AdjMatrix _) =
      optS x.next.2 (estep p g (u, v) x.next.1) := by
  unfold AlgoGen.AdjacencyMatrix.erdosRenyi_for1 estep
  simp only [Xoshiro256StarStar.nextF64_eq, call_ok, ok_bind, f64ltM_mant]
  by_cases hb : Rand.f64lt (Rand.Xo.next x).1 p = true
  · simp only [hb, if_true]
    cases g.addArc u v <;> rfl
  · simp only [hb, if_false, Bool.false_eq_true]
    rfl

theorem erdosRenyi_for1_exits (p : Rand.F64) (u : Nat) (s : AdjMatrix × AlgoGen.Xoshiro256StarStar) (v : Nat) :
    (∃ s', AlgoGen.AdjacencyMatrix.erdosRenyi_for1 p u s v = (.ok s' : Blk _ AdjMatrix _)) ∨
      (∃ e, AlgoGen.AdjacencyMatrix.erdosRenyi_for1 p u s v = (.error (.err e) : Blk _ AdjMatrix _)) :=
  noBrk_bind (noBrk_call _) fun _ => noBrk_bind
    (noBrk_ite (noBrk_bind (noBrk_optP _) fun _ => noBrk_ok _) (noBrk_ok _)) fun _ => noBrk_ok _

theorem foldlM_cond_filter {σ α : Type} (c : Nat → Bool) (st : σ → α → Option σ) (M : List (α × Nat)) :
    ∀ g, M.foldlM (fun s ai => if c ai.2 then st s ai.1 else some s) g =
      ((M.filter fun ai => c ai.2).map (·.1)).foldlM st g := by
  intro g
  rw [List.foldlM_map, List.foldlM_filter]
  rfl

theorem row_zip (C : Nat × Nat → Bool) (a : Nat) (c : List Nat) :
    ∀ b, ((((c.map fun v => (a, v)).zipIdx b).filter fun vi => C (vi.1.2, vi.2)).map (·.1)) =
      (((c.zipIdx b).filter C).map (·.1)).map fun v => (a, v) := by
  induction c with
  | nil => intro b; rfl
  | cons v c ih =>
    intro b
    simp only [List.map_cons, List.zipIdx_cons, List.filter_cons]
    by_cases hc : C (v, b) = true
    · simp only [hc, if_true, List.map_cons, ih]
    · simp only [hc, if_false, Bool.false_eq_true, ih]

/-- the selected candidates of the flattened nested loops, row by row: row `u` starts at draw
`b + (u - a)·m` when every row has `m` candidates -/
theorem rows_zip (s : Rand.Stream) (p : Rand.F64) (cs : Nat → List Nat) (m : Nat) :
    ∀ (k a b : Nat), (∀ u, a ≤ u → u < a + k → (cs u).length = m) →
      (((((List.range' a k).flatMap fun u => (cs u).map fun v => (u, v)).zipIdx b).filter
          fun ai => Rand.f64lt (s ai.2) p).map (·.1)) =
        (List.range' a k).flatMap fun u => (Rand.erRow s p (b + (u - a) * m) (cs u)).map fun v => (u, v) := by
  intro k
  induction k with
  | zero => intro a b _; rfl
  | succ k ih =>
    intro a b hlen
    rw [List.range'_succ, List.flatMap_cons, List.flatMap_cons, List.zipIdx_append, List.filter_append,
      List.map_append]
    congr 1
    · rw [row_zip (fun vi => Rand.f64lt (s vi.2) p) a (cs a) b]
      simp [Rand.erRow]
    · rw [List.length_map, hlen a (Nat.le_refl _) (Nat.lt_add_one_of_le (Nat.le_add_right a k)),
        ih (a + 1) (b + m) (fun u h1 h2 => hlen u (Nat.le_of_succ_le h1) (by rw [Nat.add_assoc, Nat.add_comm 1 k] at h2; exact h2)),
        List.flatMap_def, List.flatMap_def]
      refine congrArg _ (List.map_congr_left fun u hu => ?_)
      obtain ⟨d, rfl⟩ := Nat.exists_eq_add_of_le (List.mem_range'_1.1 hu).1
      rw [Nat.add_sub_cancel_left, Nat.add_assoc a, Nat.add_sub_cancel_left, Nat.add_comm 1 d, Nat.succ_mul,
        Nat.add_assoc b, Nat.add_comm m]

theorem othersFilter_length (n u : Nat) (hu : u < n) : (Rand.othersFilter n u).length = n - 1 :=
  Rand.othersChain_eq_filter n u hu ▸ othersChain_length n u hu

theorem erdosRenyi_for0_eq (n : Nat) (p : Rand.F64) (g : AdjMatrix) (x : Rand.Xo) :
    ∃ k, (forLoop (AlgoGen.AdjacencyMatrix.erdosRenyi_for0 n p) (List.range n) (g, ofX x) : Blk Empty AdjMatrix _) =
      optS (x.iter k) ((Rand.erArcs (draws x) p n Rand.othersFilter).foldlM (fun g a => g.addArc a.1 a.2) g) := by
  refine ⟨((List.range n).flatMap fun u => (Rand.othersFilter n u).map fun v => (u, v)).length, ?_⟩
  rw [forLoop_flat_draws (β := Empty) (fun _ => True) (List.range n) (Rand.othersFilter n)
    (AlgoGen.AdjacencyMatrix.erdosRenyi_for0 n p) (AlgoGen.AdjacencyMatrix.erdosRenyi_for1 p) (estep p)
    (fun _ _ => bind_pair_eta _) (erdosRenyi_for1_exits p) (fun g a x _ _ => erdosRenyi_for1_eq p a.1 g x a.2)
    (fun _ _ _ _ _ _ _ => trivial) g x trivial]
  refine congrArg (optS _) ?_
  unfold estep Rand.erArcs
  rw [foldlM_cond_filter (fun i => Rand.f64lt (draws x i) p) (fun (g : AdjMatrix) (a : Nat × Nat) => g.addArc a.1 a.2),
    List.range_eq_range', rows_zip (draws x) p (Rand.othersFilter n) (n - 1) n 0 0
      (fun u _ h => othersFilter_length n u (Nat.zero_add n ▸ h))]
  simp only [Nat.zero_add, Nat.sub_zero]

/-- `AdjacencyMatrix::erdos_renyi(order, p, seed)` = the hand-written `erMX` on the stream of
`Xoshiro256StarStar::new(seed)`, for every order, every `f64` value `p` and every seed.
TRUSTED reading (see `Model/AlgoGenRt3.lean`): `rng.next_f64() < p` is `f64ltM (mantissa) p`. -/
theorem erdosRenyi_eq (n : Nat) (p : Rand.F64) (seed : UInt64) :
    AlgoGen.AdjacencyMatrix.erdosRenyi n p seed = optR (Rand.erMX (Rand.xoStream seed) n p) := by
  unfold AlgoGen.AdjacencyMatrix.erdosRenyi Rand.erMX
  by_cases hp : p.inUnit = true
  · simp only [hp, assert_true, ok_bind, Bool.not_true, Bool.false_eq_true, if_false]
    by_cases h1 : n = 1
    · subst h1; rfl
    · simp only [h1, if_false]
      cases he : AdjMatrix.empty n with
      | none => rfl
      | some e =>
        obtain ⟨k, hk⟩ := erdosRenyi_for0_eq n p e (Rand.Xo.new seed)
        simp only [optP, ok_bind, Xoshiro256StarStar.new_eq, call_ok, hk, draws_new,
          Option.bind_eq_bind, Option.bind_some]
        exact fnBody_optS_fst _ _
  · have hp' : p.inUnit = false := by simpa using hp
    simp only [hp', assert_false, Bool.not_false, if_true]
    rfl

end AdjacencyMatrix
end GraafVerif.AlgoGenThm
