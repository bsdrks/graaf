import GraafVerif.Spec.Ops
import GraafVerif.Proof.GenArcRepr
/-!
# Folds of `add_arc` as operations of C11

`AdjacencyMatrix::{complement, converse, union}` and `EdgeList::union` build their result by `add_arc`.  What a fold of
`add_arc` does is `Gen.foldlM_addArc`, over the interface `Gen.ArcRepr` (order, arcs, invariant, `add_arc` on
valid arcs).  Here the interface is read as an abstraction of C11: `abs d` is the digraph `(0..order d, arcs d)`
(`DGIs`), and the three shapes of fold are proved over it.
-/
namespace GraafVerif.Ops

structure DGIs (s : DG) (n : Nat) (P : Nat → Nat → Prop) : Prop where
  V : ∀ v, s.V v ↔ v < n
  A : ∀ u v, s.A u v ↔ P u v

end GraafVerif.Ops

namespace GraafVerif.Gen.ArcRepr
open GraafVerif.Ops

variable {T : Type} {order : T → Nat} {vertices : T → List Nat} {arcs : T → List (Nat × Nat)}
  {hasArc : T → Nat → Nat → Bool} {empty : Nat → Option T} {addArc : T → Nat → Nat → Option T}
  (R : ArcRepr order vertices arcs hasArc empty addArc) {abs : T → DG}
  (H : ∀ d, DGIs (abs d) (order d) (ofList (arcs d)))
include H

theorem addArcs_spec {d : T} (hd : R.WF d) {S : DG} (hS : S.Valid) (hV : ∀ v, S.V v → v < order d)
    {l : List (Nat × Nat)} (hA : ∀ u v, (u, v) ∈ l ↔ S.A u v) :
    ∃ r, l.foldlM (fun g x => addArc g x.1 x.2) d = some r ∧ R.WF r ∧ abs r = specUnion (abs d) S := by
  obtain ⟨r, e, hr, ho, ha⟩ := foldlM_addArc R l d hd fun a h =>
    have := hS a.1 a.2 ((hA a.1 a.2).mp h)
    ⟨this.2.2, hV _ this.1, hV _ this.2.1⟩
  refine ⟨r, e, hr, DG.ext_iff'.mpr ⟨fun v => ?_, fun u v => ?_⟩⟩
  · exact ((H r).V v).trans (ho ▸ ⟨fun h => Or.inl (((H d).V v).mpr h), fun h => h.elim ((H d).V v).mp (hV v)⟩)
  · exact ((H r).A u v).trans ((ha u v).trans (or_congr ((H d).A u v).symm (hA u v)))

theorem build_spec {e : T} (he : R.WF e) (hno : ∀ u v, (u, v) ∉ arcs e) {S : DG} (hS : S.Valid)
    (hV : ∀ v, S.V v ↔ v < order e) {l : List (Nat × Nat)} (hA : ∀ u v, (u, v) ∈ l ↔ S.A u v) :
    ∃ r, l.foldlM (fun g x => addArc g x.1 x.2) e = some r ∧ R.WF r ∧ abs r = S := by
  obtain ⟨r, h1, h2, h3⟩ := addArcs_spec R H he hS (fun v => (hV v).mp) hA
  refine ⟨r, h1, h2, h3.trans (DG.ext_iff'.mpr ⟨fun v => ?_, fun u v => ?_⟩)⟩
  · exact ⟨fun h => h.elim (fun h => (hV v).mpr (((H e).V v).mp h)) id, Or.inr⟩
  · exact or_iff_right fun h => hno u v (((H e).A u v).mp h)

/-- `union` as `AdjacencyMatrix` and `EdgeList` code it: clone the operand of strictly larger order (else the second),
add the other's arcs. -/
theorem union_spec (valid : ∀ d, R.WF d → (abs d).Valid) (a b : T) (ha : R.WF a) (hb : R.WF b) :
    ∃ r, (let (big, small) := if order a > order b then (a, b) else (b, a)
          (arcs small).foldlM (fun g x => addArc g x.1 x.2) big) = some r ∧
      R.WF r ∧ abs r = specUnion (abs a) (abs b) := by
  have harcs : ∀ d u v, (u, v) ∈ arcs d ↔ (abs d).A u v := fun d u v => ((H d).A u v).symm
  by_cases hgt : order a > order b
  · rw [if_pos hgt]
    exact addArcs_spec R H ha (valid b hb) (fun v hv => Nat.lt_trans (((H b).V v).mp hv) hgt) (harcs b)
  · rw [if_neg hgt, specUnion_comm]
    exact addArcs_spec R H hb (valid a ha)
      (fun v hv => Nat.lt_of_lt_of_le (((H a).V v).mp hv) (Nat.le_of_not_lt hgt)) (harcs a)

end GraafVerif.Gen.ArcRepr
