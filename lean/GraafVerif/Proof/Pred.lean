import GraafVerif.Proof.FoldLemmas
import GraafVerif.Proof.Query
import GraafVerif.Model.Pred
import GraafVerif.Spec.Pred
/-!
# C12 — generic lemmas: counting arcs of semicomplete digraphs / tournaments, the blanket impls,
pair scans and the `size` shortcuts in front of them
-/
namespace GraafVerif.Pred
open GraafVerif.Query

theorem bne_iff {a b : Bool} : (a != b) = true ↔ (a = true ↔ b = false) := by
  cases a <;> cases b <;> decide

def total (vs : List Nat) (A : Nat → Nat → Bool) : Nat := (vs.map (fun u => (vs.filter (A u)).length)).sum

/-- the number of arcs is the sum of the out-degrees: `total G.verts G.adj`, by definition -/
theorem size_eq_sum (G : Digraph) : Spec.size G = (G.verts.map (Spec.outdegree G)).sum := by
  rw [Spec.size, Spec.arcs, List.length_flatMap]
  exact congrArg List.sum (List.map_congr_left fun u _ => List.length_map _)

theorem size_of_const {G : Digraph} {k : Nat} (ho : ∀ u ∈ G.verts, Spec.outdegree G u = k) :
    Spec.size G = G.verts.length * k := by
  rw [size_eq_sum, List.map_eq_replicate_iff.2 ho, List.sum_replicate_nat]

theorem sum_map_ind_add (l : List Nat) (p : Nat → Bool) (f : Nat → Nat) :
    (l.map (fun u => (if p u then 1 else 0) + f u)).sum = (l.filter p).length + (l.map f).sum := by
  induction l with
  | nil => rfl
  | cons a l ih =>
    rw [List.map_cons, List.sum_cons, ih, List.filter_cons, List.map_cons, List.sum_cons]
    cases p a
    · rw [if_neg Bool.false_ne_true, if_neg Bool.false_ne_true, Nat.zero_add, Nat.add_left_comm]
    · rw [if_pos rfl, if_pos rfl, List.length_cons, Nat.add_add_add_comm, Nat.add_comm 1]

theorem total_cons (a : Nat) (rest : List Nat) (A : Nat → Nat → Bool) (haa : A a a = false) :
    total (a :: rest) A = (rest.filter (A a)).length + (rest.filter (fun u => A u a)).length + total rest A := by
  have : (rest.map (fun u => ((a :: rest).filter (A u)).length))
      = rest.map (fun u => (if A u a then 1 else 0) + (rest.filter (A u)).length) :=
    List.map_congr_left fun u _ => by
      rw [List.filter_cons]
      cases A u a
      · rw [if_neg Bool.false_ne_true, if_neg Bool.false_ne_true, Nat.zero_add]
      · rw [if_pos rfl, if_pos rfl, List.length_cons, Nat.add_comm]
  rw [total, List.map_cons, List.sum_cons, List.filter_cons, if_neg (haa ▸ Bool.false_ne_true), this,
    sum_map_ind_add, total, Nat.add_assoc]

theorem tri_succ (k : Nat) : (k + 1) * (k + 1 - 1) / 2 = k + k * (k - 1) / 2 := by
  cases k with
  | zero => rfl
  | succ j =>
    rw [Nat.add_sub_cancel, Nat.add_sub_cancel, Nat.mul_comm (j + 1 + 1), Nat.mul_add_one, Nat.mul_add_one (j + 1) j,
      Nat.add_assoc, ← Nat.two_mul, Nat.add_comm, Nat.mul_add_div (by decide)]

theorem total_ge_of_semicomplete (vs : List Nat) (A : Nat → Nat → Bool) (hn : vs.Nodup)
    (hirr : ∀ u ∈ vs, A u u = false) (h : ∀ u ∈ vs, ∀ v ∈ vs, u ≠ v → A u v = true ∨ A v u = true) :
    vs.length * (vs.length - 1) / 2 ≤ total vs A := by
  induction vs with
  | nil => exact Nat.zero_le _
  | cons a rest ih =>
    rw [List.nodup_cons] at hn
    have ih := ih hn.2 (fun u hu => hirr u (List.mem_cons_of_mem a hu))
      (fun u hu v hv => h u (List.mem_cons_of_mem a hu) v (List.mem_cons_of_mem a hv))
    -- every vertex of the rest is an out- or an in-neighbour of `a`
    have hcover : rest.length ≤ (rest.filter (A a)).length + (rest.filter (fun u => A u a)).length := by
      rw [List.length_eq_countP_add_countP (A a) (l := rest), ← List.countP_eq_length_filter,
        ← List.countP_eq_length_filter]
      refine Nat.add_le_add_left (List.countP_mono_left fun x hx hna => ?_) _
      exact (h a List.mem_cons_self x (List.mem_cons_of_mem a hx) (fun e => hn.1 (e ▸ hx))).resolve_left
        (of_decide_eq_true hna)
    rw [total_cons a rest A (hirr a List.mem_cons_self), List.length_cons, tri_succ]
    exact Nat.add_le_add hcover ih

theorem total_eq_of_tournament (vs : List Nat) (A : Nat → Nat → Bool) (hn : vs.Nodup)
    (hirr : ∀ u ∈ vs, A u u = false) (h : ∀ u ∈ vs, ∀ v ∈ vs, u ≠ v → (A u v = true ↔ A v u = false)) :
    total vs A = vs.length * (vs.length - 1) / 2 := by
  induction vs with
  | nil => rfl
  | cons a rest ih =>
    rw [List.nodup_cons] at hn
    have ih := ih hn.2 (fun u hu => hirr u (List.mem_cons_of_mem a hu))
      (fun u hu v hv => h u (List.mem_cons_of_mem a hu) v (List.mem_cons_of_mem a hv))
    -- every vertex of the rest is either an out- or an in-neighbour of `a`
    have hcover : (rest.filter (A a)).length + (rest.filter (fun u => A u a)).length = rest.length := by
      rw [List.length_eq_countP_add_countP (A a) (l := rest), ← List.countP_eq_length_filter,
        ← List.countP_eq_length_filter]
      refine congrArg _ (List.countP_congr fun x hx => ?_)
      rw [decide_eq_true_eq, h a List.mem_cons_self x (List.mem_cons_of_mem a hx) (fun e => hn.1 (e ▸ hx)),
        Bool.not_eq_false]
    rw [total_cons a rest A (hirr a List.mem_cons_self), List.length_cons, tri_succ, hcover, ih]

theorem size_ge_of_semicomplete {G : Digraph} (hG : G.Valid) (h : Def.IsSemicomplete G) :
    G.verts.length * (G.verts.length - 1) / 2 ≤ Spec.size G := by
  rw [size_eq_sum]
  exact total_ge_of_semicomplete _ _ (Repr.sortedS_nodup hG.sorted) (fun u _ => hG.irrefl u) h

theorem size_eq_of_tournament {G : Digraph} (hG : G.Valid) (h : Def.IsTournament G) :
    Spec.size G = G.verts.length * (G.verts.length - 1) / 2 := by
  rw [size_eq_sum]
  exact total_eq_of_tournament _ _ (Repr.sortedS_nodup hG.sorted) (fun u _ => hG.irrefl u) h

theorem not_semicomplete_of_size_lt {G : Digraph} (hG : G.Valid) {size n : Nat} (hs : size = Spec.size G)
    (hn : G.verts.length = n) (hlt : size < n * (n - 1) / 2) : ¬ Def.IsSemicomplete G := fun hdef => by
  have := size_ge_of_semicomplete hG hdef
  rw [hn, ← hs] at this
  exact Nat.not_le_of_lt hlt this

theorem semicomplete_guard {G : Digraph} (hG : G.Valid) {size n : Nat} (hs : size = Spec.size G)
    (hn : G.verts.length = n) {b : Bool} (hb : b = true ↔ Def.IsSemicomplete G) :
    (if size < n * (n - 1) / 2 then false else b) = true ↔ Def.IsSemicomplete G := by
  by_cases hlt : size < n * (n - 1) / 2
  · rw [if_pos hlt]
    exact ⟨fun hf => absurd hf Bool.false_ne_true, fun hdef => absurd hdef (not_semicomplete_of_size_lt hG hs hn hlt)⟩
  · rw [if_neg hlt]; exact hb

theorem semicomplete_guard' {G : Digraph} (hG : G.Valid) {size n : Nat} (hs : size = Spec.size G)
    (hn : G.verts.length = n) {b : Bool} (hb : b = true ↔ Def.IsSemicomplete G) :
    (decide (size ≥ n * (n - 1) / 2) && b) = true ↔ Def.IsSemicomplete G := by
  refine Iff.trans ?_ (semicomplete_guard hG hs hn hb)
  by_cases hlt : size < n * (n - 1) / 2
  · rw [if_pos hlt, decide_eq_false (Nat.not_le_of_lt hlt)]; rfl
  · rw [if_neg hlt, decide_eq_true (Nat.le_of_not_lt hlt)]; rfl

theorem tournament_guard {G : Digraph} (hG : G.Valid) {size n : Nat} (hs : size = Spec.size G)
    (hn : G.verts.length = n) {b : Bool} (hb : b = true ↔ Def.IsTournament G) :
    (if size != n * (n - 1) / 2 then false else b) = true ↔ Def.IsTournament G := by
  by_cases hne : size = n * (n - 1) / 2
  · rw [if_neg (by rw [bne_iff_ne]; exact fun h => h hne)]; exact hb
  · rw [if_pos (bne_iff_ne.2 hne)]
    refine ⟨fun hf => absurd hf Bool.false_ne_true, fun hdef => ?_⟩
    have := size_eq_of_tournament hG hdef
    rw [hn, ← hs] at this
    exact absurd this hne

theorem allO_eq_some {α : Type} (f : α → Option Bool) (g : α → Bool) (l : List α)
    (h : ∀ a ∈ l, f a = some (g a)) : allO f l = some (l.all g) := by
  induction l with
  | nil => rfl
  | cons a as ih =>
    rw [allO, h a List.mem_cons_self, List.all_cons]
    cases g a
    · rfl
    · exact ih (fun x hx => h x (List.mem_cons_of_mem a hx))

theorem isBalanced_correct {q : Core} {G : Digraph} (h : CoreCorrect q G) :
    ∃ b, Blanket.isBalanced q = some b ∧ (b = true ↔ Def.IsBalanced G) := by
  refine ⟨G.verts.all (fun u => Spec.indegree G u == Spec.outdegree G u), ?_, ?_⟩
  · rw [Blanket.isBalanced, h.vertices]
    exact allO_eq_some _ _ _ (fun u hu => by rw [h.indegree u hu, h.outdegree u hu])
  · rw [List.all_eq_true]
    exact forall_congr' fun u => imp_congr_right fun _ => beq_iff_eq

theorem isSymmetric_correct {q : Core} {G : Digraph} (h : CoreCorrect q G) :
    Blanket.isSymmetric q = true ↔ Def.IsSymmetric G := by
  simp only [Blanket.isSymmetric, List.all_eq_true, Def.IsSymmetric, h.hasArc, Spec.hasArc]
  exact ⟨fun ha u v huv => ha (u, v) ((h.arcs_mem u v).2 huv), fun hs a ha => hs a.1 a.2 ((h.arcs_mem a.1 a.2).1 ha)⟩

theorem isOriented_correct {q : Core} {G : Digraph} (h : CoreCorrect q G) :
    Blanket.isOriented q = true ↔ Def.IsOriented G := by
  simp only [Blanket.isOriented, List.all_eq_true, Def.IsOriented, h.hasArc, Spec.hasArc, Bool.not_eq_true']
  exact ⟨fun ha u v huv => ha (u, v) ((h.arcs_mem u v).2 huv), fun hs a ha => hs a.1 a.2 ((h.arcs_mem a.1 a.2).1 ha)⟩

theorem isRegular_correct {q : Core} {G : Digraph} (h : CoreCorrect q G) (hne : G.verts ≠ []) :
    ∃ b, Blanket.isRegular q = some b ∧ (b = true ↔ Def.IsRegular G) := by
  rw [Blanket.isRegular, (derived_correct h).semidegreeSequence, Spec.semidegreeSequence]
  cases hv : G.verts with
  | nil => exact absurd hv hne
  | cons a rest =>
    refine ⟨_, rfl, ?_⟩
    simp only [Bool.and_eq_true, beq_iff_eq, List.all_eq_true, List.mem_map, Def.IsRegular, hv, List.mem_cons]
    constructor
    · rintro ⟨hk, hall⟩
      refine ⟨Spec.indegree G a, fun u hu => ?_⟩
      rcases hu with rfl | hu
      · exact ⟨rfl, hk.symm⟩
      · have := hall (Spec.indegree G u, Spec.outdegree G u) ⟨u, hu, rfl⟩
        exact ⟨this.1, this.2.trans hk.symm⟩
    · rintro ⟨k, hk⟩
      have ha := hk a (Or.inl rfl)
      refine ⟨ha.1.trans ha.2.symm, ?_⟩
      rintro p ⟨u, hu, rfl⟩
      have := hk u (Or.inr hu)
      exact ⟨this.1.trans ha.1.symm, this.2.trans ha.2.symm⟩

theorem isSubdigraph_correct {h d : Core} {H D : Digraph} (hh : CoreCorrect h H) (hd : CoreCorrect d D) (hH : H.Valid) :
    Blanket.isSubdigraph h d = true ↔ Def.IsSubdigraph H D := by
  simp only [Blanket.isSubdigraph, Bool.and_eq_true, List.all_eq_true, hd.hasArc, Spec.hasArc, hh.vertices, hd.vertices,
    List.contains_iff_mem, Def.IsSubdigraph]
  constructor
  · rintro ⟨ha, hv⟩
    exact ⟨hv, fun u v huv => (ha (u, v) ((hh.arcs_mem u v).2 huv)).1.1⟩
  · rintro ⟨hv, ha⟩
    refine ⟨fun a ham => ?_, hv⟩
    have hadj := (hh.arcs_mem a.1 a.2).1 ham
    exact ⟨⟨ha _ _ hadj, (hH.closed _ _ hadj).1⟩, (hH.closed _ _ hadj).2⟩

theorem isSuperdigraph_correct {h d : Core} {H D : Digraph} (hh : CoreCorrect h H) (hd : CoreCorrect d D) (hD : D.Valid) :
    Blanket.isSuperdigraph h d = true ↔ Def.IsSuperdigraph H D :=
  isSubdigraph_correct hd hh hD

theorem isSpanningSubdigraph_correct {h d : Core} {H D : Digraph} (hh : CoreCorrect h H) (hd : CoreCorrect d D) :
    Blanket.isSpanningSubdigraph h d = true ↔ Def.IsSpanningSubdigraph H D := by
  simp only [Blanket.isSpanningSubdigraph, Bool.and_eq_true, beq_iff_eq, List.all_eq_true, hd.hasArc, Spec.hasArc,
    hh.vertices, hd.vertices, Def.IsSpanningSubdigraph]
  exact and_congr_right fun _ =>
    ⟨fun ha u v huv => ha (u, v) ((hh.arcs_mem u v).2 huv), fun ha a ham => ha _ _ ((hh.arcs_mem a.1 a.2).1 ham)⟩

theorem mem_above {u n v : Nat} : v ∈ above u n ↔ u < v ∧ v < n := mem_range'_sub

theorem pairScan_iff (n : Nat) (f : Nat → Nat → Bool) :
    (List.range n).all (fun u => (above u n).all (f u)) = true ↔ ∀ u v, u < v → v < n → f u v = true := by
  simp only [List.all_eq_true, List.mem_range, mem_above]
  exact ⟨fun h u v huv hv => h u (Nat.lt_trans huv hv) v ⟨huv, hv⟩, fun h u _ v hv => h u v hv.1 hv.2⟩

theorem pairScan_symm (n : Nat) (f : Nat → Nat → Bool) (hs : ∀ u v, f u v = f v u) :
    (List.range n).all (fun u => (above u n).all (f u)) = true ↔ ∀ u, u < n → ∀ v, v < n → u ≠ v → f u v = true := by
  rw [pairScan_iff]
  constructor
  · intro h u hu v hv huv
    rcases Nat.lt_or_gt_of_ne huv with hlt | hlt
    · exact h u v hlt hv
    · rw [hs]; exact h v u hlt hu
  · exact fun h u v huv hv => h u (Nat.lt_trans huv hv) v hv (Nat.ne_of_lt huv)

theorem scan_semicomplete {G : Digraph} {n : Nat} (hv : G.verts = List.range n) :
    (List.range n).all (fun u => (above u n).all (fun v => G.adj u v || G.adj v u)) = true
      ↔ Def.IsSemicomplete G := by
  rw [pairScan_symm n (fun u v => G.adj u v || G.adj v u) (fun u v => Bool.or_comm _ _)]
  simp only [Def.IsSemicomplete, hv, List.mem_range, Bool.or_eq_true]

theorem scan_tournament {G : Digraph} {n : Nat} (hv : G.verts = List.range n) :
    (List.range n).all (fun u => (above u n).all (fun v => G.adj u v != G.adj v u)) = true
      ↔ Def.IsTournament G := by
  rw [pairScan_symm n (fun u v => G.adj u v != G.adj v u) (fun _ _ => bne_comm)]
  simp only [Def.IsTournament, hv, List.mem_range, bne_iff]

theorem scan_complete {G : Digraph} {n : Nat} (hv : G.verts = List.range n) :
    (List.range n).all (fun u => (above u n).all (fun v => G.adj u v && G.adj v u)) = true
      ↔ Def.IsComplete G := by
  rw [pairScan_symm n (fun u v => G.adj u v && G.adj v u) (fun u v => Bool.and_comm _ _)]
  simp only [Def.IsComplete, hv, List.mem_range, Bool.and_eq_true]
  exact ⟨fun hh u hu v hv huv => (hh u hu v hv huv).1,
    fun hh u hu v hv huv => ⟨hh u hu v hv huv, hh v hv u hu (Ne.symm huv)⟩⟩

theorem semiScan_correct {G : Digraph} (hG : G.Valid) (n : Nat) (hv : G.verts = List.range n)
    (size : Nat) (hs : size = Spec.size G) :
    (decide (size ≥ n * (n - 1) / 2) &&
      (List.range n).all (fun u => (above u n).all (fun v => G.adj u v || G.adj v u))) = true
    ↔ Def.IsSemicomplete G :=
  semicomplete_guard' hG hs (by rw [hv, List.length_range]) (scan_semicomplete hv)

theorem tourScan_correct {G : Digraph} (hG : G.Valid) (n : Nat) (hv : G.verts = List.range n)
    (size : Nat) (hs : size = Spec.size G) :
    (if size != n * (n - 1) / 2 then false
     else (List.range n).all (fun u => (above u n).all (fun v => G.adj u v != G.adj v u))) = true
    ↔ Def.IsTournament G :=
  tournament_guard hG hs (by rw [hv, List.length_range]) (scan_tournament hv)

theorem filter_ne_length {l : List Nat} (hn : l.Nodup) {u : Nat} (hu : u ∈ l) :
    (l.filter (fun v => v != u)).length = l.length - 1 := by
  rw [← hn.erase_eq_filter, List.length_erase_of_mem hu]

theorem outdegree_eq_pred_iff {G : Digraph} (hG : G.Valid) {u : Nat} (hu : u ∈ G.verts) :
    Spec.outdegree G u = G.verts.length - 1 ↔ ∀ v ∈ G.verts, u ≠ v → G.adj u v = true := by
  have hsub : Spec.outNeighbors G u = (G.verts.filter (fun v => v != u)).filter (fun v => G.adj u v) := by
    rw [List.filter_filter]
    refine List.filter_congr fun v _ => ?_
    cases hv : G.adj u v
    · rfl
    · have hne : v ≠ u := fun e => by rw [e, hG.irrefl u] at hv; cases hv
      exact ((Bool.true_and _).trans (bne_iff_ne.2 hne)).symm
  rw [← filter_ne_length (Repr.sortedS_nodup hG.sorted) hu, Spec.outdegree, hsub]
  constructor
  · intro h v hv huv
    -- the out-neighbours are a sublist of the other vertices: of the same length iff equal
    have := List.Sublist.eq_of_length List.filter_sublist h
    exact List.filter_eq_self.1 this v (List.mem_filter.2 ⟨hv, bne_iff_ne.2 (Ne.symm huv)⟩)
  · intro h
    refine congrArg List.length (List.filter_eq_self.2 fun v hv => ?_)
    obtain ⟨hv, hne⟩ := List.mem_filter.1 hv
    exact h v hv (Ne.symm (bne_iff_ne.1 hne))

/-- the arc test of a complete digraph on `0..n`, in the form the specifications of `complete` state it -/
theorem eq_decide_complete {n u v : Nat} {b : Bool} (h : b = true ↔ u < n ∧ v < n ∧ u ≠ v) :
    b = (decide (u < n) && decide (v < n) && decide (u ≠ v)) := by
  rw [Bool.eq_iff_iff, h]
  simp only [Bool.and_eq_true, decide_eq_true_eq, and_assoc]

theorem adj_eq_complete_iff {G : Digraph} (hG : G.Valid) {n : Nat} (hv : G.verts = List.range n)
    {cadj : Nat → Nat → Bool} (hca : ∀ u v, cadj u v = (decide (u < n) && decide (v < n) && decide (u ≠ v))) :
    (∀ u v, G.adj u v = cadj u v) ↔ Def.IsComplete G := by
  have hmem : ∀ u, u ∈ G.verts ↔ u < n := fun u => by rw [hv]; exact List.mem_range
  constructor
  · intro hh u hu v hv huv
    rw [hh, hca, decide_eq_true ((hmem u).1 hu), decide_eq_true ((hmem v).1 hv), decide_eq_true huv]; rfl
  · intro hdef u v
    rw [hca, Bool.eq_iff_iff]
    simp only [Bool.and_eq_true, decide_eq_true_eq]
    constructor
    · intro huv
      refine ⟨⟨(hmem u).1 (hG.closed u v huv).1, (hmem v).1 (hG.closed u v huv).2⟩, fun e => ?_⟩
      rw [e, hG.irrefl v] at huv; cases huv
    · exact fun ⟨⟨hu, hv⟩, huv⟩ => hdef u ((hmem u).2 hu) v ((hmem v).2 hv) huv

theorem isComplete_iff_outdegree {G : Digraph} (hG : G.Valid) :
    Def.IsComplete G ↔ ∀ u ∈ G.verts, Spec.outdegree G u = G.verts.length - 1 :=
  forall_congr' fun _ => imp_congr_right fun hu => (outdegree_eq_pred_iff hG hu).symm

end GraafVerif.Pred
