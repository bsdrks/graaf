import GraafVerif.Model.Gen
import GraafVerif.Proof.ReprSorted
/-!
# `BTreeSet` / `BTreeMap` as ascending lists: `ssetOf`, `psetOf`, entries keyed `0..n`

`collect::<BTreeSet<_>>()` is a fold of `insert`: sorted, with the members of the sequence.
-/
namespace GraafVerif.Gen
open GraafVerif.Repr

export GraafVerif.Repr (mem_sinsert sorted_sinsert mem_serase sorted_serase sortedS_ext
  SortedP mem_pinsert sorted_pinsert sortedP_ext sortedK_mupsert mget_eq_some_iff mget_isSome_iff sortedK_unique)

theorem mem_ssetOf {a : Nat} {l : List Nat} : a ∈ ssetOf l ↔ a ∈ l := mem_foldr_insert_nil mem_sinsert l

theorem sorted_ssetOf (l : List Nat) : SortedS (ssetOf l) :=
  List.foldrRecOn l _ List.Pairwise.nil fun _ h _ _ => sorted_sinsert h

theorem mem_psetOf {a : Nat × Nat} {l : List (Nat × Nat)} : a ∈ psetOf l ↔ a ∈ l := mem_foldr_insert_nil mem_pinsert l

theorem sorted_psetOf (l : List (Nat × Nat)) : SortedP (psetOf l) :=
  List.foldrRecOn l _ List.Pairwise.nil fun _ h _ _ => sorted_pinsert h

variable {X : Type}

theorem sortedK_of_keys {n : Nat} {l : List (Nat × X)} (h : l.map (·.1) = List.range n) : SortedK l :=
  List.pairwise_map.mp (h ▸ List.pairwise_lt_range)

end GraafVerif.Gen

namespace GraafVerif.AlgoGenThm
open GraafVerif GraafVerif.Repr

theorem ssetOf_range (n : Nat) : Gen.ssetOf (Gen.rangeFT 0 n) = List.range n := by
  apply sortedS_ext (Gen.sorted_ssetOf _) List.pairwise_lt_range
  intro a
  rw [Gen.mem_ssetOf]
  simp [Gen.rangeFT, List.range_eq_range']

end GraafVerif.AlgoGenThm
