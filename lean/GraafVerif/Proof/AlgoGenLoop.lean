import GraafVerif.Proof.AlgoGenRt
/-!
# Rules for the loops of the translator runtime

`whileLoop`, `loopLoop`: invariant and variant.  The loop runs through states of the form `g k`; `Q k r` is what is claimed of
the result `r` of the loop started in `g k` (`whileLoop_rule`, `loopLoop_rule`, both `fuel_rule` for a loop whose round is
`onExit (step s) ..`; `whileLoop_total` for a loop that ends through its condition).  `forLoop` with an early exit: the loop that only tests its items (`forLoop_first`), the loop over a falling flag
(`forLoop_flag`).  `collect`: an iterator whose `next` is specified by the list of the items still to come
(`collect_of_next`; `collect_of_spec` with the two answers of `next` specified separately).

`forLoop` whose body neither breaks nor returns: every primitive of the runtime except `brk` / `ret` is `call` of something
(`rd`, `wr`, `idx`, `assert` through `liftChk_eq_call`), and a `for` loop whose body is `call (g s a)` is `call` of the
`foldlM` of `g` (`forLoop_call`; `forLoop_ok` when the body cannot fail; `forLoop_update` for the loop of in-place updates
of a vector).  From there on a loop is a statement about `List.foldlM` in `Res` or `Id`, where core's `foldlM_pure`,
`foldlM_map`, `foldlM_filter`, `foldlM_append` apply.
-/
namespace GraafVerif.AlgoGen

variable {β γ ρ σ τ κ : Type}

/-- What one round from `g k` has to achieve: it continues in some `g k'` where `k'` satisfies the invariant `I`, has a
smaller variant `μ` and whose claim implies the claim for `k`, or it leaves the loop with a result for which the claim holds. -/
@[reducible] def Round (g : κ → σ) (I : κ → Prop) (μ : κ → Nat) (Q : κ → Blk β ρ τ → Prop) (k : κ) : Blk τ ρ σ → Prop
  | .ok s' => ∃ k', s' = g k' ∧ I k' ∧ μ k' < μ k ∧ ∀ r, Q k' r → Q k r
  | .error (.brk b) => Q k (.ok b)
  | .error (.ret r) => Q k (.error (.ret r))
  | .error (.err e) => Q k (.error (.err e))

/-- Any loop `L` on fuel whose round is `onExit (step s) (L F) id`: fuel `μ k + c` is enough when the claim holds at fuel `0`
for the states with `μ k + c = 0` (`c = 0` for `while`, which leaves normally when the fuel is used up; `c = 1` for `loop`,
which does not). -/
theorem fuel_rule (L : Nat → σ → Blk β ρ τ) (step : σ → Blk τ ρ σ) (hL : ∀ F s, L (F + 1) s = onExit (step s) (L F) id)
    (g : κ → σ) (I : κ → Prop) (μ : κ → Nat) (Q : κ → Blk β ρ τ → Prop) (c : Nat)
    (hstep : ∀ k, I k → Round g I μ Q k (step (g k))) (hbase : ∀ k, I k → μ k + c = 0 → Q k (L 0 (g k))) :
    ∀ (F : Nat) (k : κ), I k → μ k + c ≤ F → Q k (L F (g k)) := by
  intro F
  induction F with
  | zero => exact fun k hI hμ => hbase k hI (Nat.le_zero.1 hμ)
  | succ F ih =>
    intro k hI hμ
    have h := hstep k hI
    rw [hL]
    cases hs : step (g k) with
    | ok s' =>
      rw [hs] at h
      obtain ⟨k', rfl, hI', hμ', hQ⟩ := h
      exact hQ _ (ih k' hI' (Nat.le_of_lt_succ (Nat.lt_of_lt_of_le (Nat.add_lt_add_right hμ' c) hμ)))
    | error e =>
      rw [hs] at h
      cases e <;> exact h

/-- `while`: running out of fuel is the normal exit, so fuel `μ k` is enough when a state of variant `0` breaks. -/
theorem whileLoop_rule (step : σ → Blk σ ρ σ) (g : κ → σ) (I : κ → Prop) (μ : κ → Nat) (Q : κ → Blk β ρ σ → Prop)
    (hexit : ∀ k, I k → μ k = 0 → step (g k) = brk (g k))
    (hstep : ∀ k, I k → Round g I μ Q k (step (g k))) :
    ∀ (F : Nat) (k : κ), I k → μ k ≤ F → Q k (whileLoop step F (g k)) :=
  fuel_rule (whileLoop step) step (whileLoop_round step) g I μ Q 0 hstep fun k hI h0 => by
    have h := hstep k hI
    rw [hexit k hI h0] at h
    exact h

/-- `loop`: no normal exit, the fuel has to exceed the variant. -/
theorem loopLoop_rule (step : σ → Blk (γ × σ) ρ σ) (g : κ → σ) (I : κ → Prop) (μ : κ → Nat) (Q : κ → Blk β ρ (γ × σ) → Prop)
    (hstep : ∀ k, I k → Round g I μ Q k (step (g k))) :
    ∀ (F : Nat) (k : κ), I k → μ k < F → Q k (loopLoop step F (g k)) :=
  fuel_rule (loopLoop step) step (loopLoop_round step) g I μ Q 1 hstep fun _ _ h0 => absurd h0 (Nat.succ_ne_zero _)

/-- `for` over items that are only tested: the state stays `s` while they pass `p`, the first that fails leaves through `e`. -/
theorem forLoop_first {α : Type} (body : σ → α → Blk σ ρ σ) (p : α → Bool) (s : σ) (e : Exit σ ρ) (l : List α)
    (h : ∀ a ∈ l, body s a = if p a then .ok s else .error e) :
    (forLoop body l s : Blk β ρ σ) = if l.all p then .ok s else catchBrk (.error e) := by
  induction l with
  | nil => rfl
  | cons a l ih =>
    rw [forLoop_cons, h a List.mem_cons_self, List.all_cons]
    cases p a with
    | true => exact ih fun b hb => h b (List.mem_cons_of_mem _ hb)
    | false => cases e <;> rfl

/-- Total correctness of a `while` loop that leaves only through its condition: `I` holds along the run, `μ` bounds the
rounds still to come, `Q s t` relates a state `s` to the state `t` in which the loop started from `s` ends.
Enough fuel is `μ s`. -/
theorem whileLoop_total (step : σ → Blk σ ρ σ) (μ : σ → Nat) (I : σ → Prop) (Q : σ → σ → Prop)
    (h : ∀ s, I s → (step s = brk s ∧ Q s s) ∨
      (∃ s', step s = .ok s' ∧ μ s' < μ s ∧ I s' ∧ ∀ t, Q s' t → Q s t)) :
    ∀ (F : Nat) (s : σ), I s → μ s ≤ F → ∃ t, (whileLoop step F s : Blk β ρ σ) = .ok t ∧ Q s t := by
  refine whileLoop_rule (β := β) step id I μ (fun s r => ∃ t, r = .ok t ∧ Q s t) (fun s hI h0 => ?_) (fun s hI => ?_)
  · rcases h s hI with ⟨hb, _⟩ | ⟨s', _, hlt, _⟩
    · exact hb
    · omega
  · rcases h s hI with ⟨hb, hQ⟩ | ⟨s', hs, hlt, hI', hQ⟩
    · rw [id, hb]
      exact ⟨s, rfl, hQ⟩
    · rw [id, hs]
      exact ⟨s', rfl, hI', hlt, fun r ⟨t, hr, hq⟩ => ⟨t, hr, hQ t hq⟩⟩

/-- a loop that copies `l[i ..]` behind `out` -/
theorem whileLoop_copy {α : Type} (step : List α × Nat → Blk (List α × Nat) ρ (List α × Nat)) (l : List α)
    (hstep : ∀ out i, (hi : i < l.length) → step (out, i) = .ok (out ++ [l[i]], i + 1))
    (hexit : ∀ out i, ¬ i < l.length → step (out, i) = brk (out, i)) :
    ∀ (F : Nat) (out : List α) (i : Nat), l.length - i ≤ F → ∃ i',
      (whileLoop step F (out, i) : Blk β ρ _) = .ok (out ++ l.drop i, i') := by
  intro F out i hF
  obtain ⟨t, ht, hq⟩ := whileLoop_total (β := β) step (fun s => l.length - s.2) (fun _ => True)
    (fun s t => t.1 = s.1 ++ l.drop s.2)
    (fun s _ => by
      by_cases hi : s.2 < l.length
      · refine Or.inr ⟨_, hstep s.1 s.2 hi, by dsimp only; omega, trivial, fun t ht => ?_⟩
        rw [ht, List.drop_eq_getElem_cons hi, List.append_assoc]
        rfl
      · exact Or.inl ⟨hexit s.1 s.2 hi, by rw [List.drop_eq_nil_of_le (Nat.le_of_not_lt hi), List.append_nil]⟩)
    F (out, i) trivial hF
  exact ⟨t.2, by rw [ht, ← hq]⟩

/-! ## `for` loops whose body neither breaks nor returns -/

variable {α : Type}

/-- what a block that neither breaks nor returns amounts to (`div` stands in for those two exits) -/
def toRes : Blk β ρ α → Res α
  | .ok a => .ok a
  | .error (.err e) => .error e
  | .error _ => .error .div

theorem liftChk_eq_call (c : Chk.Chk α) : (liftChk c : Blk β ρ α) = call (c.mapError .fault) := by cases c <;> rfl

/-- a block is `ok` or `err` exactly when it is a `call` -/
theorem eq_call_toRes {X : Blk β ρ α} (h : (∃ a, X = .ok a) ∨ ∃ e, X = .error (.err e)) : X = call (toRes X) := by
  rcases h with ⟨a, rfl⟩ | ⟨e, rfl⟩ <;> rfl

/-- `for` over a body that is a `call` on the states satisfying `I` and the items of the list -/
theorem forLoop_call {body : σ → α → Blk σ ρ σ} {g : σ → α → Res σ} {I : σ → Prop} :
    ∀ {l : List α} {s : σ}, I s → (∀ s, I s → ∀ a ∈ l, body s a = call (g s a) ∧ ∀ s', g s a = .ok s' → I s') →
      (forLoop body l s : Blk β ρ σ) = call (l.foldlM g s) ∧ ∀ t, l.foldlM g s = .ok t → I t
  | [], s, hs, _ => ⟨rfl, fun _ ht => Except.ok.inj ht ▸ hs⟩
  | a :: l, s, hs, h => by
    obtain ⟨hb, hI⟩ := h s hs a List.mem_cons_self
    rw [List.foldlM_cons]
    cases hg : g s a with
    | error e => exact ⟨forLoop_cons_err _ _ _ _ _ (hb.trans (congrArg call hg)), fun _ ht => nomatch ht⟩
    | ok s' =>
      rw [forLoop_cons_ok _ _ _ _ _ (hb.trans (congrArg call hg))]
      exact forLoop_call (hI s' hg) fun s hs b hb => h s hs b (List.mem_cons_of_mem _ hb)

/-- … a body that cannot fail: the loop is the fold -/
theorem forLoop_ok {body : σ → α → Blk σ ρ σ} {f : σ → α → σ} {I : σ → Prop} {l : List α} {s : σ} (hs : I s)
    (h : ∀ s, I s → ∀ a ∈ l, body s a = .ok (f s a) ∧ I (f s a)) :
    (forLoop body l s : Blk β ρ σ) = .ok (l.foldl f s) ∧ I (l.foldl f s) := by
  have := forLoop_call (β := β) (g := fun s a => pure (f s a)) hs
    fun s hs a ha => ⟨(h s hs a ha).1, fun _ e => Except.ok.inj e ▸ (h s hs a ha).2⟩
  rw [List.foldlM_pure] at this
  exact ⟨this.1, this.2 _ rfl⟩

/-- `for a in as { *p.add(idx a) = upd a (*p.add(idx a)) }` with every `idx a` inside the vector: the fold of single-entry
updates that `Vec.getD_foldl_set` reads entry by entry -/
theorem forLoop_update {site : String} (d : τ) (idx : α → Nat) (upd : α → τ → τ)
    {body : List τ → α → Blk (List τ) ρ (List τ)}
    (hbody : ∀ l a, body l a = rd site l (idx a) >>= fun t => wr site l (idx a) (upd a t) >>= pure)
    {as : List α} {l : List τ} {n : Nat} (hl : l.length = n) (has : ∀ a ∈ as, idx a < n) :
    (forLoop body as l : Blk β ρ (List τ)) = .ok (as.foldl (fun l a => l.set (idx a) (upd a (l[idx a]?.getD d))) l) ∧
      (as.foldl (fun l a => l.set (idx a) (upd a (l[idx a]?.getD d))) l).length = n :=
  forLoop_ok (I := fun x : List τ => x.length = n) hl fun s hs a ha =>
    ⟨(hbody s a).trans (rd_wr_lt site s (idx a) (upd a) d (hs ▸ has a ha)), List.length_set.trans hs⟩

end GraafVerif.AlgoGen

namespace GraafVerif.AlgoGenThm
open GraafVerif.AlgoGen

theorem forLoop_all {α β ρ : Type} (body : Unit → α → Blk Unit ρ Unit) (p : α → Bool)
    (h : ∀ a, body () a = if p a = true then .ok () else .error (.err (.fault .panic))) : ∀ (l : List α),
    (forLoop body l () : Blk β ρ Unit) = if l.all p = true then .ok () else .error (.err (.fault .panic)) :=
  fun l => forLoop_first body p () (.err (.fault .panic)) l fun a _ => h a

theorem forLoop_test {α β ρ : Type} (body : Unit → α → Blk Unit ρ Unit) (p : α → Bool) (r : ρ) (l : List α)
    (h : ∀ a ∈ l, body () a = if p a then .ok () else ret r) :
    (forLoop body l () : Blk β ρ Unit) = if l.all p then .ok () else .error (.ret r) :=
  forLoop_first body p () (.ret r) l h

/-- a loop over a falling flag: an iteration leaves the loop once the flag is down, otherwise it lowers the flag
exactly when its item fails the test -/
theorem forLoop_flag {α β ρ : Type} (body : Bool → α → Blk Bool ρ Bool) (ok : α → Bool) (l : List α)
    (htrue : ∀ a ∈ l, body true a = .ok (ok a) ∨ (ok a = false ∧ body true a = brk false))
    (hfalse : ∀ a ∈ l, body false a = brk false ∨ body false a = .ok false) :
    ∀ (l' : List α) (b : Bool), (∀ a ∈ l', a ∈ l) → (forLoop body l' b : Blk β ρ Bool) = .ok (b && l'.all ok) := by
  intro l'
  induction l' with
  | nil => intro b _; simp
  | cons a l' ih =>
    intro b hsub
    have ha := hsub a List.mem_cons_self
    have hsub' : ∀ x ∈ l', x ∈ l := fun x hx => hsub x (List.mem_cons_of_mem _ hx)
    cases b with
    | false =>
      rcases hfalse a ha with h | h
      · rw [forLoop_cons_brk (s' := false) (h := h)]; rfl
      · rw [forLoop_cons_ok (s' := false) (h := h), ih false hsub']; rfl
    | true =>
      rcases htrue a ha with h | ⟨h0, h⟩
      · rw [forLoop_cons_ok (s' := ok a) (h := h), ih (ok a) hsub']
        simp
      · rw [forLoop_cons_brk (s' := false) (h := h)]
        simp [h0]

/-- `collect` of a `next` that is specified by a list of remaining items: from a state satisfying `I` it answers `None`
when none remains, else the first of them, and moves to a state (satisfying `I`) where the others remain -/
theorem collect_of_next {τ ι : Type} (next : τ → Res (Option ι × τ)) (rem : τ → List ι) (I : τ → Prop)
    (h : ∀ s, I s → (∃ s', next s = .ok (none, s') ∧ rem s = []) ∨
      (∃ x s', next s = .ok (some x, s') ∧ rem s = x :: rem s' ∧ I s')) :
    ∀ (N : Nat) (s : τ), I s → (rem s).length < N → ∃ s', collect next N s = .ok (rem s, s') := by
  intro N
  induction N with
  | zero => intro s _ hN; exact absurd hN (Nat.not_lt_zero _)
  | succ N ih =>
    intro s hI hN
    rcases h s hI with ⟨s', h1, h2⟩ | ⟨x, s', h1, h2, hI'⟩
    · exact ⟨s', by rw [collect, h1, h2]⟩
    · rw [h2] at hN ⊢
      obtain ⟨s'', h3⟩ := ih s' hI' (Nat.lt_of_succ_lt_succ hN)
      exact ⟨s'', by rw [collect, h1]; dsimp only; rw [h3]⟩

/-- the same with the two answers of `next` specified separately -/
theorem collect_of_spec {τ ι : Type} (next : τ → Res (Option ι × τ)) (rem : τ → List ι) (I : τ → Prop)
    (hnone : ∀ s, I s → rem s = [] → ∃ s', next s = .ok (none, s'))
    (hsome : ∀ s x xs, I s → rem s = x :: xs → ∃ s', next s = .ok (some x, s') ∧ rem s' = xs ∧ I s') :
    ∀ (N : Nat) (s : τ), I s → (rem s).length < N → ∃ s', collect next N s = .ok (rem s, s') := by
  refine collect_of_next next rem I fun s hI => ?_
  cases hr : rem s with
  | nil =>
    obtain ⟨s', h⟩ := hnone s hI hr
    exact .inl ⟨s', h, rfl⟩
  | cons x xs =>
    obtain ⟨s', h, hrem, hI'⟩ := hsome s x xs hI hr
    exact .inr ⟨x, s', h, by rw [hrem], hI'⟩

end GraafVerif.AlgoGenThm
