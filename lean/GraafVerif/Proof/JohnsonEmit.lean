import GraafVerif.Proof.JohnsonCircuit
import GraafVerif.Proof.JohnsonComplete
import GraafVerif.Proof.JohnsonSpec
/-!
# `circuit` appends what the naive enumerator lists

`closingPaths` is the recursive specification of `circuit`: the same depth-first extension of the
path, without blocking.  From a state with `Inv` (stack and cascades) and `Inv2` (Johnson's B-list
invariant) a call `circuit … st v` keeps `Inv2` and appends exactly `closingPaths … (st.stack ++ [v]) v`
to `result`, in the same order (`circuit_emits`): the branches it prunes (blocked neighbours) are empty
in the enumerator (`branch_dead`, from `free_of_c2`).  Soundness, completeness and "exactly once" of
the model are then those of the enumerator (`mem_closingPaths`, `closingPaths_nodup`).
At the end the completeness of one call said by paths: `CPath` is the enumerator's `Ext`
(`cpath_iff_ext`), so `Post2` holds after a call (`Emits.post2`).
-/
namespace GraafVerif.Johnson
open GraafVerif

/-- A blocked neighbour closes no path that avoids the stack: the enumerator lists nothing for it. -/
theorem branch_dead {comp : AM} {s N : Nat} {st : JState} (h2 : Inv2 comp s N st) {w : Nat}
    (hw : w ∈ st.blocked) (hws : w ≠ s) (F : Nat) : branch comp.gr s F st.stack w = [] := by
  refine List.eq_nil_iff_forall_not_mem.2 fun c hc => ?_
  rcases mem_branch.1 hc with ⟨e, _, _⟩ | ⟨_, _, hwp, hc⟩
  · exact hws e
  · obtain ⟨ext, _, _, he⟩ := mem_closingPaths.1 hc
    refine free_of_c2 h2 ext w he.walk he.close (fun y hy hys => ?_) hw
    rcases List.mem_cons.1 hy with rfl | hy
    · exact hwp hys
    · exact he.fresh y hy (List.mem_append_left _ hys)

/-- What `circuit … st v` guarantees beyond `Post`: the B-list invariant, and the enumerator's list
appended. -/
structure Emits (comp : AM) (s N : Nat) (st : JState) (v : Nat) (r : Bool × JState) : Prop where
  inv2 : Inv2 comp s N r.2
  res : r.2.result = st.result ++ closingPaths comp.gr s (N - st.stack.length) (st.stack ++ [v]) v

def RecEmits (comp : AM) (s N fuel : Nat) (rec : JState → Nat → Bool × JState) : Prop :=
  ∀ st w, Inv comp st → Inv2 comp s N st → w ∉ st.blocked → w ∈ comp.verts →
    (st.stack ++ [w]).head? = some s → comp.verts.length ≤ fuel + st.stack.length →
    Emits comp s N st w (rec st w)

structure FoldEmits (comp : AM) (s N : Nat) (S : List Nat) (v : Nat) (ws : List Nat)
    (acc r : Bool × JState) : Prop where
  inv2 : Inv2 comp s N r.2
  res : r.2.result = acc.2.result ++ ws.flatMap (branch comp.gr s (N - (S.length + 1)) (S ++ [v]))

theorem Inv.stack_lt {comp : AM} {s N : Nat} {st : JState} (h : Inv comp st) (h2 : Inv2 comp s N st)
    {w : Nat} (hw : w ∉ st.blocked) (hwN : w < N) : st.stack.length < N :=
  length_le_of_nodup_lt (l := w :: st.stack) (List.nodup_cons.2 ⟨fun hm => hw (h.i3 w hm), h.nd⟩)
    fun x hx => (List.mem_cons.1 hx).elim (fun e => e ▸ hwN) fun hx => h2.blt x (h.i3 x hx)

theorem circuitStep_emits (comp : AM) (s N fuel : Nat) (rec : JState → Nat → Bool × JState)
    (hrec : RecEmits comp s N fuel rec) (hclosed : comp.vg.Closed)
    (hge : ∀ x ∈ comp.verts, s ≤ x) (hloop : s ∉ comp.out s)
    (S : List Nat) (v : Nat) (hfuel : comp.verts.length ≤ fuel + 1 + S.length)
    (w : Nat) (acc : Bool × JState) (hwv : w ∈ comp.out v)
    (hinv : Inv comp acc.2) (hinv2 : Inv2 comp s N acc.2) (hst : acc.2.stack = S ++ [v])
    (hhead : (S ++ [v]).head? = some s) :
    FoldEmits comp s N S v [w] acc (circuitStep rec s acc w) := by
  have hlen : acc.2.stack.length = S.length + 1 := by rw [hst, List.length_append]; rfl
  suffices h : Inv2 comp s N (circuitStep rec s acc w).2 ∧ (circuitStep rec s acc w).2.result =
      acc.2.result ++ branch comp.gr s (N - acc.2.stack.length) acc.2.stack w from
    ⟨h.1, by rw [h.2, List.flatMap_singleton, hlen, hst]⟩
  by_cases hws : w = s
  · subst hws
    rw [circuitStep_emit]
    -- the enumerator lists a path of two vertices or more: the stack starts at `s`, which has no loop
    have h2 : 2 ≤ acc.2.stack.length := by
      rw [hlen]
      cases S with
      | nil => exact absurd (Option.some.inj hhead ▸ hwv) hloop
      | cons _ _ => exact Nat.le_add_left 2 _
    refine ⟨Inv2.congr (st := acc.2) rfl rfl rfl hinv2, ?_⟩
    simp only [branch, if_true, if_pos h2]
  · cases hbl : acc.2.isBlocked w with
    | true =>
      rw [circuitStep_skip hws hbl, branch_dead hinv2 ((mem_blocked_iff acc.2 w).1 hbl) hws, List.append_nil]
      exact ⟨hinv2, rfl⟩
    | false =>
      rw [circuitStep_call hws hbl]
      have hwf := (not_mem_blocked_iff acc.2 w).1 hbl
      obtain ⟨hwc, hfl⟩ := rec_pre hclosed hinv hst hwv hfuel
      have hpost := hrec acc.2 w hinv hinv2 hwf hwc (by rw [hst, List.head?_append, hhead]; rfl) hfl
      refine ⟨hpost.inv2, ?_⟩
      rw [hpost.res, branch, if_neg hws,
        if_pos ⟨Nat.lt_of_le_of_ne (hge w hwc) (Ne.symm hws), fun hm => hwf (hinv.i3 w hm)⟩]

theorem circuit_foldEmits (comp : AM) (s N fuel : Nat) (rec : JState → Nat → Bool × JState)
    (hrec1 : RecOK comp fuel rec) (hrec : RecEmits comp s N fuel rec)
    (hclosed : comp.vg.Closed)
    (hge : ∀ x ∈ comp.verts, s ≤ x) (hloop : s ∉ comp.out s)
    (S : List Nat) (v : Nat) (hfuel : comp.verts.length ≤ fuel + 1 + S.length)
    (hhead : (S ++ [v]).head? = some s) :
    ∀ (ws : List Nat) (acc : Bool × JState), (∀ w ∈ ws, w ∈ comp.out v) →
      Inv comp acc.2 → Inv2 comp s N acc.2 → acc.2.stack = S ++ [v] →
      FoldEmits comp s N S v ws acc (ws.foldl (circuitStep rec s) acc) := by
  intro ws
  induction ws with
  | nil => exact fun acc _ _ hinv2 _ => ⟨hinv2, (List.append_nil _).symm⟩
  | cons w ws ih =>
    intro acc hout hinv hinv2 hst
    have hwv := hout w List.mem_cons_self
    have h1 := circuitStep_post comp s fuel rec hrec1 hclosed S v hfuel w acc hwv hinv hst
    have h2 := circuitStep_emits comp s N fuel rec hrec hclosed hge hloop S v hfuel w acc hwv hinv hinv2 hst hhead
    have h3 := ih _ (fun x hx => hout x (List.mem_cons_of_mem _ hx)) h1.inv h2.inv2 h1.stack
    exact ⟨h3.inv2, by rw [List.foldl_cons, h3.res, h2.res, List.append_assoc, List.flatMap_singleton, List.flatMap_cons]⟩

theorem circuit_emits (comp : AM) (s N uf : Nat) (huf : N < uf)
    (hclosed : comp.vg.Closed)
    (hge : ∀ x ∈ comp.verts, s ≤ x) (hloop : s ∉ comp.out s) (hN : ∀ x ∈ comp.verts, x < N) :
    ∀ fuel, RecEmits comp s N fuel (circuit comp s uf fuel) := by
  intro fuel
  induction fuel with
  | zero =>
    intro st w hinv _ hw hwc _ hfuel
    exact absurd hfuel (hinv.not_fuel_zero hw hwc)
  | succ fuel ih =>
    intro st v hinv hinv2 hv hvc hhead hfuel
    have hF := circuit_fold comp s fuel (circuit comp s uf fuel) (circuit_post comp s uf hclosed fuel)
      hclosed st.stack v hfuel (comp.out v)
      (false, { st with stack := st.stack ++ [v], blocked := insBlocked v st.blocked })
      (fun _ h => h) (hinv.push hv hvc) rfl
    have hF2 := circuit_foldEmits comp s N fuel (circuit comp s uf fuel) (circuit_post comp s uf hclosed fuel)
      ih hclosed hge hloop st.stack v hfuel hhead (comp.out v)
      (false, { st with stack := st.stack ++ [v], blocked := insBlocked v st.blocked })
      (fun _ h => h) (hinv.push hv hvc) (hinv2.push hv (hN v hvc)) rfl
    rw [circuit_succ]
    revert hF hF2
    generalize (comp.out v).foldl (circuitStep (circuit comp s uf fuel) s)
      (false, { st with stack := st.stack ++ [v], blocked := insBlocked v st.blocked }) = r
    intro hF hF2
    have hres : r.2.result =
        st.result ++ closingPaths comp.gr s (N - st.stack.length) (st.stack ++ [v]) v := by
      have : N - st.stack.length = N - (st.stack.length + 1) + 1 := by
        rw [Nat.sub_succ]
        exact (Nat.succ_pred_eq_of_pos (Nat.sub_pos_of_lt (hinv.stack_lt hinv2 hv (hN v hvc)))).symm
      rw [this, closingPaths_succ]; exact hF2.res
    have hoff : ∀ x, x ∉ st.stack → x ≠ v → x ∉ r.2.stack := by
      intro x hxS hxv hm
      rw [hF.stack] at hm
      exact (List.mem_append.1 hm).elim hxS fun hm => hxv (List.mem_singleton.1 hm)
    unfold circuitFinish
    cases hr1 : r.1 with
    | true =>
      simp only [if_true]
      have U := unblock_spec uf r.2 v
      have U2 := unblock_spec2 uf r.2 v hF2.inv2.bnd
        (Nat.lt_of_le_of_lt (length_le_of_nodup_lt hF2.inv2.bnd hF2.inv2.blt) huf)
      have hstk : (unblock uf r.2 v).stack.dropLast = st.stack := by
        rw [U.stack, hF.stack]; simp
      refine ⟨⟨?_, U2.nd, fun x hx => hF2.inv2.blt x (U.bl x hx), U.blen.trans hF2.inv2.blen⟩,
        by show (unblock uf r.2 v).result = _; rw [U.result, hres]⟩
      -- `x` stays blocked, so none of its out-neighbours was unblocked (the cascade would reach `x`)
      intro x hx hxs w hw
      have hxv : x ≠ v := by intro e; subst e; exact U2.gone hx
      obtain ⟨h1, h2, h3⟩ := hF2.inv2.c2 x (U.bl x hx) (hoff x (hstk ▸ hxs) hxv) w hw
      have hwb : w ∈ (unblock uf r.2 v).blocked :=
        Classical.byContradiction fun hnw => U2.closure w h2 hnw x h3 hx
      exact ⟨h1, hwb, by show x ∈ (unblock uf r.2 v).Bof w; rw [U2.keep w hwb]; exact h3⟩
    | false =>
      simp only [Bool.false_eq_true, if_false]
      obtain ⟨_, _, hws⟩ := hF.fail hr1
      have hstk : r.2.stack.dropLast = st.stack := by rw [hF.stack]; simp
      refine ⟨⟨?_, hF2.inv2.bnd, hF2.inv2.blt, (addToB_length v _ _).trans hF2.inv2.blen⟩, hres⟩
      intro x hx hxs w hw
      show w ≠ s ∧ w ∈ r.2.blocked ∧ x ∈ ((addToB v r.2.B (comp.out v))[w]?).getD []
      by_cases hxv : x = v
      · -- `v` itself: every out-neighbour is blocked and has just received `v` in its B-list
        subst hxv
        have hwN : w < r.2.B.length := by
          rw [hF2.inv2.blen]; exact hN w (hclosed x hvc w hw)
        exact ⟨(hws w hw).2, (hws w hw).1, (addToB_get x (comp.out x) r.2.B w x).2 (Or.inr ⟨rfl, hw, hwN⟩)⟩
      · obtain ⟨h1, h2, h3⟩ := hF2.inv2.c2 x hx (hoff x (hstk ▸ hxs) hxv) w hw
        exact ⟨h1, h2, (addToB_get v (comp.out v) r.2.B w x).2 (Or.inl h3)⟩

/-- Inside a component closed under arcs whose vertices are `≥ s`, `CPath comp s S v ext` says of `ext`
what the enumerator's `Ext` says of an extension of the path `S ++ [v]` (but for the length). -/
theorem cpath_iff_ext {comp : AM} {s : Nat} {S : List Nat} {v : Nat} {ext : List Nat}
    (hclosed : comp.vg.Closed) (hge : ∀ x ∈ comp.verts, s ≤ x) (hvc : v ∈ comp.verts)
    (h2 : 2 ≤ (S ++ v :: ext).length) : CPath comp s S v ext ↔ Ext comp.gr s (S ++ [v]) v ext := by
  constructor
  · intro hp
    refine ⟨hp.walk, hp.close, ?_, fun x hx hm => ?_, hp.nd, by rw [List.append_assoc]; exact h2⟩
    · -- the path stays inside the component, whose vertices other than `s` are larger
      exact fun x hx => Nat.lt_of_le_of_ne
        (hge x (Tarjan.vreach_mem hclosed hvc (AM.vreach_vg.2 (OracleProof.isWalk_reach hp.walk x hx))))
        (Ne.symm (hp.fresh x hx).2.2)
    · rcases List.mem_append.1 hm with hm | hm
      · exact (hp.fresh x hx).1 hm
      · exact (hp.fresh x hx).2.1 (List.mem_singleton.1 hm)
  · intro he
    exact ⟨he.walk, he.close, fun x hx => ⟨fun hm => he.fresh x hx (List.mem_append_left _ hm),
      fun e => he.fresh x hx (List.mem_append_right _ (List.mem_singleton.2 e)), Nat.ne_of_gt (he.gt x hx)⟩, he.nodup⟩

/-- Completeness of one call in terms of paths: a closing path is one the enumerator lists. -/
theorem Emits.post2 {comp : AM} {s N : Nat} {st : JState} {v : Nat} {r : Bool × JState}
    (h : Emits comp s N st v r) (hclosed : comp.vg.Closed)
    (hge : ∀ x ∈ comp.verts, s ≤ x) (hvc : v ∈ comp.verts)
    (hfit : ∀ ext, CPath comp s st.stack v ext → st.stack.length + ext.length < N ∧ 2 ≤ (st.stack ++ v :: ext).length) :
    Post2 comp s N st v r := by
  refine ⟨h.inv2, fun ext hp => ?_⟩
  rw [h.res]
  exact List.mem_append_right _ (mem_closingPaths.2 ⟨ext, by simp,
    Nat.lt_sub_of_add_lt (Nat.add_comm _ _ ▸ (hfit ext hp).1),
    (cpath_iff_ext hclosed hge hvc (hfit ext hp).2).1 hp⟩)

end GraafVerif.Johnson
