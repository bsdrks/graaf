import GraafVerif.Spec.Ops
import GraafVerif.Proof.ReprObs
/-!
# C11's abstract digraph and the reads of a value

`absX d` is `(vertices d, has_arc d)` read as a `DG`; `(absX d).Valid` is `Repr.Simple d.vertices d.hasArc` by
definition.  So with `X.WF_iff_simple` and `X.ext` of `Proof/ReprObs.lean`: a value with the shape whose reads are those
of a valid digraph `S` is well formed and denotes `S` (`ok_of_reads`), and two well-formed values that denote the same
digraph show the same reads (`reads_of_dg`), hence are equal (`canon_of_ext`).
-/
namespace GraafVerif.Ops
open GraafVerif.Repr

theorem lt_max_iff {v a b : Nat} : v < max a b ↔ v < a ∨ v < b := Std.le_max (a := v + 1)

section
variable {R : Type} {verts : R → List Nat} {has : R → Nat → Nat → Bool}

theorem reads_of_dg {a b : R}
    (h : (⟨fun v => v ∈ verts a, fun u v => has a u v = true⟩ : DG) =
      ⟨fun v => v ∈ verts b, fun u v => has b u v = true⟩) :
    (∀ x, x ∈ verts a ↔ x ∈ verts b) ∧ ∀ u v, has a u v = has b u v :=
  ⟨(DG.ext_iff'.mp h).1, fun u v => Bool.eq_iff_iff.mpr ((DG.ext_iff'.mp h).2 u v)⟩

theorem ok_of_reads {WF Shape : R → Prop} (hWF : ∀ r, WF r ↔ Shape r ∧ Simple (verts r) (has r)) {r : R} {S : DG}
    (hs : Shape r) (hV : ∀ v, v ∈ verts r ↔ S.V v) (hA : ∀ u v, has r u v = true ↔ S.A u v) (hS : S.Valid) :
    WF r ∧ (⟨fun v => v ∈ verts r, fun u v => has r u v = true⟩ : DG) = S :=
  have habs := DG.ext_iff'.mpr ⟨hV, hA⟩
  ⟨(hWF r).mpr ⟨hs, fun u v h => (habs ▸ hS : DG.Valid ⟨_, _⟩) u v h⟩, habs⟩

theorem canon_of_ext {WF Shape : R → Prop} (hWF : ∀ r, WF r ↔ Shape r ∧ Simple (verts r) (has r))
    (ext : ∀ {a b : R}, Shape a → Shape b → (∀ x, x ∈ verts a ↔ x ∈ verts b) → (∀ u v, has a u v = has b u v) →
      a = b)
    {a b : R} (ha : WF a) (hb : WF b)
    (h : (⟨fun v => v ∈ verts a, fun u v => has a u v = true⟩ : DG) =
      ⟨fun v => v ∈ verts b, fun u v => has b u v = true⟩) : a = b :=
  ext ((hWF a).mp ha).1 ((hWF b).mp hb).1 (reads_of_dg h).1 (reads_of_dg h).2

end
end GraafVerif.Ops
