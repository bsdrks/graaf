import GraafVerif.Proof.Pred
import GraafVerif.Proof.QueryMX
import GraafVerif.Thm.C14
import GraafVerif.Proof.FoldLemmas
/-!
# C12 — `AdjacencyMatrix`: `is_semicomplete`, `is_tournament`, `is_simple`; canonical form and
`is_complete` (= equality with `complete(order)`)

`is_complete` is proved relative to the specification of the generator first.  `Pred.MX.complete` and
`Gen.MX.complete` (C14) model the same generator, the one as the nested loops, the other as `empty` followed by
`add_arc` over the list of arcs the loops visit; they are equal, and the specification of the generator is C14's.
-/
namespace GraafVerif.Pred
open GraafVerif.Query GraafVerif.Repr

namespace MX
open GraafVerif.Query.MX (abs abs_valid size_spec)

theorem isSemicomplete_correct {d : AdjMatrix} (h : d.WF) : isSemicomplete d = true ↔ Def.IsSemicomplete (abs d) :=
  semiScan_correct (abs_valid h) d.order rfl d.size (size_spec h)

theorem isTournament_correct {d : AdjMatrix} (h : d.WF) : isTournament d = true ↔ Def.IsTournament (abs d) :=
  tourScan_correct (abs_valid h) d.order rfl d.size (size_spec h)

theorem isSimple_true {d : AdjMatrix} (h : d.WF) : isSimple d = true :=
  List.all_eq_true.2 fun u _ => congrArg not ((abs_valid h).irrefl u)

theorem canonical {d c : AdjMatrix} (hd : d.WF) (hc : c.WF) (ho : d.order = c.order)
    (ha : ∀ u v, d.hasArc u v = c.hasArc u v) : d = c :=
  AdjMatrix.ext hd.shape hc.shape (mem_range_congr ho) ha

/-- The hypotheses on `c` are the specification of the generator (property C14). -/
theorem isComplete_of_complete_spec {d c : AdjMatrix} (h : d.WF)
    (hcmp : complete d.order = some c) (hc : c.WF) (hco : c.order = d.order)
    (hca : ∀ u v, c.hasArc u v = (decide (u < d.order) && decide (v < d.order) && decide (u ≠ v))) :
    isComplete d = some (d == c) ∧ ((d == c) = true ↔ Def.IsComplete (abs d)) := by
  refine ⟨by rw [isComplete, hcmp]; rfl, ?_⟩
  rw [beq_iff_eq, ← adj_eq_complete_iff (abs_valid h) rfl hca]
  exact ⟨fun e _ _ => e ▸ rfl, canonical h hc hco.symm⟩

theorem complete_eq_gen (n : Nat) : complete n = Gen.MX.complete n := by
  unfold complete Gen.MX.complete
  by_cases h1 : n = 1
  · rw [if_pos (beq_iff_eq.2 h1), if_pos h1]; rfl
  · rw [if_neg (fun hb => h1 (beq_iff_eq.1 hb)), if_neg h1, Gen.MX.build, Gen.MX.completeArcs, Gen.rangeFT,
      Nat.sub_zero, ← List.range_eq_range']
    refine congrArg (Option.bind _) (funext fun e => ?_)
    rw [Fold.foldlM_flatMap]
    refine congrArg (fun f => List.foldlM f e (List.range n)) (funext fun g => funext fun u => ?_)
    rw [Fold.foldlM_flatMap]
    refine congrArg (fun f => List.foldlM f g (above u n)) (funext fun g => funext fun v => ?_)
    rw [List.foldlM_cons]
    refine congrArg (Option.bind _) (funext fun g => ?_)
    rw [List.foldlM_cons]
    exact (bind_pure _).symm

theorem complete_spec {n : Nat} (hn : 0 < n) (hov : n * n < 2 ^ 64) :
    ∃ c, complete n = some c ∧ c.WF ∧ c.order = n ∧
      ∀ u v, c.hasArc u v = (decide (u < n) && decide (v < n) && decide (u ≠ v)) := by
  obtain ⟨c, hc, hwf, ho, harcs⟩ := Gen.MX.complete_spec hn hov
  exact ⟨c, (complete_eq_gen n).trans hc, hwf, ho, fun u v =>
    eq_decide_complete ((AdjMatrix.mem_arcs_iff c u v).symm.trans (harcs u v))⟩

theorem isComplete_correct {d : AdjMatrix} (h : d.WF) (hov : d.order * d.order < 2 ^ 64) :
    ∃ b, isComplete d = some b ∧ (b = true ↔ Def.IsComplete (Query.MX.abs d)) := by
  obtain ⟨c, hcmp, hc, hco, hca⟩ := complete_spec h.1 hov
  exact ⟨_, isComplete_of_complete_spec h hcmp hc hco hca⟩

end MX
end GraafVerif.Pred
