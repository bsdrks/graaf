import GraafVerif.Spec.Fw
/-!
# Walks with bounded interior: monotonicity, concatenation, and the splitting step (C08)
-/
namespace GraafVerif

theorem leO.refl (a : Option Int) : leO a a := fun y h => ⟨y, h, Int.le_refl y⟩

theorem leO.trans {a b c : Option Int} (h1 : leO a b) (h2 : leO b c) : leO a c := by
  intro z hz
  obtain ⟨y, hy, hyz⟩ := h2 z hz
  obtain ⟨x, hx, hxy⟩ := h1 y hy
  exact ⟨x, hx, Int.le_trans hxy hyz⟩

theorem leO_none (a : Option Int) : leO a none := by intro y h; cases h

theorem leO_some {x y : Int} (h : x ≤ y) : leO (some x) (some y) := by
  intro z hz; cases hz; exact ⟨x, rfl, h⟩

namespace WalkIn
variable {g : WGraph}

theorem mono {K K' u v : Nat} {wt : Int} (hK : K ≤ K') (h : WalkIn g K u v wt) : WalkIn g K' u v wt := by
  induction h with
  | nil => exact .nil _
  | one a => exact .one a
  | snoc _ hx a ih => exact .snoc ih (Nat.lt_of_lt_of_le hx hK) a

theorem toWWalk {K u v : Nat} {wt : Int} (h : WalkIn g K u v wt) : ∃ k, WWalk g u v k wt := by
  induction h with
  | nil => exact ⟨0, .nil _⟩
  | @one v w a => exact ⟨1, by simpa using WWalk.snoc (.nil _) a⟩
  | snoc _ _ a ih => obtain ⟨k, hk⟩ := ih; exact ⟨k+1, .snoc hk a⟩

theorem ofWWalk (hwf : g.WF) {u v k : Nat} {wt : Int} (h : WWalk g u v k wt) : WalkIn g g.n u v wt := by
  induction h with
  | nil => exact .nil _
  | snoc _ a ih => exact .snoc ih (hwf _ _ _ a).1 a

theorem append {K x v : Nat} {w2 : Int} (h2 : WalkIn g K x v w2) :
    ∀ {u : Nat} {w1 : Int}, WalkIn g K u x w1 → x < K → WalkIn g K u v (w1 + w2) := by
  induction h2 with
  | nil => intro u w1 h1 _; simpa using h1
  | one a => intro u w1 h1 hx; exact .snoc h1 hx a
  | snoc _ hy a ih =>
    intro u w1 h1 hx
    have := WalkIn.snoc (ih h1 hx) hy a
    simpa [Int.add_assoc] using this

end WalkIn

/-! With every vertex allowed as interior, `WalkIn` is `WWalk`: minima and reachability agree. -/

theorem walkIn_iff_wwalk {g : WGraph} (hwf : g.WF) {u v : Nat} {wt : Int} :
    WalkIn g g.n u v wt ↔ ∃ k, WWalk g u v k wt :=
  ⟨WalkIn.toWWalk, fun ⟨_, h⟩ => .ofWWalk hwf h⟩

theorem isMinIn_iff_isMinDist {g : WGraph} (hwf : g.WF) (u v : Nat) (d : Int) :
    IsMinIn g g.n u v d ↔ IsMinDist g [u] v d := by
  simp only [IsMinIn, IsMinDist, walkIn_iff_wwalk hwf, List.mem_singleton, exists_eq_left, forall_eq,
    forall_exists_index]
  exact and_congr_right fun _ => forall_comm

theorem walkIn_iff_reach {g : WGraph} (hwf : g.WF) (u v : Nat) :
    (∃ wt, WalkIn g g.n u v wt) ↔ WReachFrom g [u] v := by
  simp only [WReachFrom, walkIn_iff_wwalk hwf, List.mem_singleton, exists_eq_left]
  exact exists_comm

theorem WalkIn.closed_nonneg {g : WGraph} (hnc : g.NoNegCycle) {K x : Nat} {w : Int}
    (h : WalkIn g K x x w) : 0 ≤ w := by
  obtain ⟨k, hk⟩ := h.toWWalk
  cases k with
  | zero => cases hk; exact Int.le_refl 0
  | succ k => exact Int.not_lt.mp fun hneg => hnc x ⟨k+1, w, Nat.succ_pos k, hk, hneg⟩

/-- The walk-splitting step of Floyd-Warshall: a walk with interior `< K+1` either avoids `K`
as an interior vertex, or decomposes into `u → K` and `K → v` with interior `< K` that are
together no heavier (the closed walks at `K` in between weigh `≥ 0`). -/
theorem WalkIn.split {g : WGraph} (hnc : g.NoNegCycle) {K u v : Nat} {wt : Int}
    (h : WalkIn g (K+1) u v wt) :
    WalkIn g K u v wt ∨ ∃ w1 w2, WalkIn g K u K w1 ∧ WalkIn g K K v w2 ∧ w1 + w2 ≤ wt := by
  induction h with
  | nil => exact .inl (.nil _)
  | one a => exact .inl (.one a)
  | @snoc x v wt w _ hx a ih =>
    rcases ih with ih | ⟨w1, w2, h1, h2, hle⟩
    · by_cases hxK : x < K
      · exact .inl (.snoc ih hxK a)
      · cases Nat.eq_of_lt_succ_of_not_lt hx hxK
        exact .inr ⟨wt, w, ih, .one a, Int.le_refl _⟩
    · by_cases hxK : x < K
      · exact .inr ⟨w1, w2 + w, h1, .snoc h2 hxK a,
          by rw [← Int.add_assoc]; exact Int.add_le_add_right hle w⟩
      · cases Nat.eq_of_lt_succ_of_not_lt hx hxK
        -- `h2` is a closed walk at `K`: drop it
        exact .inr ⟨w1, w, h1, .one a, Int.add_le_add_right
          (Int.le_trans (Int.le_add_of_nonneg_right (h2.closed_nonneg hnc)) hle) w⟩

end GraafVerif
