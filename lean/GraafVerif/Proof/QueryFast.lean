import GraafVerif.Model.QueryFast
import GraafVerif.Proof.FoldLemmas
/-!
# The `Array` twins of the `AdjacencyList` sequence models compute the same lists
(driver ↔ proved model, no hypotheses)
-/
namespace GraafVerif.Query.AL
open GraafVerif.Repr

theorem bumpA_toList (h : Array Nat) (v : Nat) : (bumpA h v).toList = bump h.toList v := by
  simp [bumpA, bump]

theorem foldl_bumpA_toList (row : List Nat) (h : Array Nat) : (row.foldl bumpA h).toList = row.foldl bump h.toList :=
  Fold.foldl_sim Array.toList bumpA bump bumpA_toList row h

theorem histogramA_toList (rows : List (List Nat)) (init : Array Nat) :
    (histogramA rows init).toList = histogram rows init.toList :=
  Fold.foldl_sim Array.toList _ _ (fun h row => foldl_bumpA_toList row h) rows init

theorem degreeSequenceFast_eq (d : AdjList) (t : Nat) : degreeSequenceFast d t = degreeSequence d t := by
  unfold degreeSequenceFast degreeSequence
  simp only [histogramA_toList, Array.toList_replicate, List.getElem?_toArray]

theorem indegreeSequenceFast_eq (d : AdjList) : indegreeSequenceFast d = indegreeSequence d := by
  unfold indegreeSequenceFast indegreeSequence
  rw [histogramA_toList, Array.toList_replicate]

end GraafVerif.Query.AL
