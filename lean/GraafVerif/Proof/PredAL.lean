import GraafVerif.Proof.Pred
import GraafVerif.Proof.QueryAL
import GraafVerif.Proof.Par
/-!
# C12 — `AdjacencyList`: `is_complete`, `is_semicomplete` (sequential skeleton and the
functional `t`-thread model, for every `t ≥ 1`), `is_tournament`, `is_simple`
-/
namespace GraafVerif.Pred
open GraafVerif.Query GraafVerif.Repr

namespace AL
open GraafVerif.Query.AL (abs zipIdx_rows rows_eq_map abs_valid size_spec outNeighbors_spec)

theorem row_eq (d : AdjList) (u : Nat) : Pred.AL.row d u = Query.AL.row d u := rfl

theorem verts_length (d : AdjList) : (abs d).verts.length = d.order := List.length_range

theorem isSimple_true {d : AdjList} (h : d.WF) : isSimple d = true := by
  rw [isSimple, zipIdx_rows, List.all_map, List.all_eq_true]
  intro u _
  show (!(Query.AL.row d u).contains u) = true
  rw [Bool.not_eq_true']
  exact Bool.eq_false_iff.2 fun hc =>
    (h.simple u u ((AdjList.hasArc_eq d u u).trans hc)).2.2 rfl

theorem isComplete_correct {d : AdjList} (h : d.WF) : isComplete d = true ↔ Def.IsComplete (abs d) := by
  rw [isComplete_iff_outdegree (abs_valid h), verts_length, isComplete, rows_eq_map d, List.all_map, List.all_eq_true]
  refine forall_congr' fun u => imp_congr_right fun _ => ?_
  rw [Spec.outdegree, outNeighbors_spec h]
  exact beq_iff_eq

theorem pairOk_eq (d : AdjList) (u v : Nat) : pairOk d u v = ((abs d).adj u v || (abs d).adj v u) := by
  rw [pairOk, row, row, ← AdjList.hasArc_eq, ← AdjList.hasArc_eq]; rfl

theorem scanSeq_correct {d : AdjList} : scanSeq d = true ↔ Def.IsSemicomplete (abs d) := by
  have : rowOk d = fun u => (above u d.order).all (fun v => (abs d).adj u v || (abs d).adj v u) :=
    funext fun u => congrArg (above u d.order).all (funext (pairOk_eq d u))
  rw [scanSeq, this]
  exact scan_semicomplete rfl

theorem scanPar_eq_seq (d : AdjList) (t : Nat) (ht : 0 < t) (hn : 0 < d.order) :
    (Par.ranges d.order t).all (scanChunk d) = scanSeq d := by
  rw [scanSeq, ← Par.chunks_tile d.order t ht hn, Par.expand, List.all_flatMap]
  rfl

theorem semicomplete_of_order_one {d : AdjList} (h1 : d.order = 1) : Def.IsSemicomplete (abs d) := by
  intro u hu v hv huv
  have hu := List.mem_range.mp hu
  have hv := List.mem_range.mp hv
  rw [h1, Nat.lt_one_iff] at hu hv
  exact absurd (hu.trans hv.symm) huv

theorem isSemicomplete_correct {d : AdjList} (h : d.WF) (t : Nat) (ht : 0 < t) :
    isSemicomplete d t = true ↔ Def.IsSemicomplete (abs d) := by
  unfold isSemicomplete
  by_cases h1 : d.order = 1
  · rw [if_pos (beq_iff_eq.2 h1)]
    exact ⟨fun _ => semicomplete_of_order_one h1, fun _ => rfl⟩
  · rw [if_neg (fun hb => h1 (beq_iff_eq.1 hb)), scanPar_eq_seq d t ht h.1]
    exact semicomplete_guard (abs_valid h) (size_spec h) (verts_length d) scanSeq_correct

theorem isTournament_correct {d : AdjList} (h : d.WF) : isTournament d = true ↔ Def.IsTournament (abs d) := by
  simp only [isTournament, row, ← AdjList.hasArc_eq]
  exact tourScan_correct (abs_valid h) d.order rfl d.size (size_spec h)

end AL
end GraafVerif.Pred
