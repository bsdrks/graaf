import GraafVerif.Proof.SccBasics
import GraafVerif.Proof.FoldLemmas
import GraafVerif.Proof.SortedInserts
/-!
# The Tarjan model on its input shapes: maps, `insertAsc`, `popTo`, `visit`, `finish`; a fault
aborts what follows; once `connect` did not run out of fuel, more fuel changes nothing.
-/
namespace GraafVerif.Tarjan
open GraafVerif

@[simp] theorem mget_nil (x : Nat) : mget [] x = none := rfl

theorem mget_mset (m : Map) (k v x : Nat) :
    mget (mset m k v) x = if x = k then some v else mget m x := by
  induction m with
  | nil => rfl
  | cons p m ih =>
    obtain ⟨k', w⟩ := p
    show mget (if k = k' then (k', v) :: m else (k', w) :: mset m k v) x = _
    by_cases hk : k = k'
    · rw [if_pos hk, ← hk]
      show (if x = k then some v else mget m x) = if x = k then some v else if x = k then some w else mget m x
      by_cases hx : x = k
      · rw [if_pos hx, if_pos hx]
      · rw [if_neg hx, if_neg hx, if_neg hx]
    · rw [if_neg hk]
      show (if x = k' then some w else mget (mset m k v) x) = if x = k then some v else if x = k' then some w else mget m x
      rw [ih]
      by_cases hx : x = k'
      · rw [if_pos hx, if_neg (fun e => hk (e.symm.trans hx)), if_pos hx]
      · rw [if_neg hx, if_neg hx]

theorem insertAsc_ne_nil (x : Nat) (l : List Nat) : insertAsc x l ≠ [] := by
  intro h
  have : x ∈ insertAsc x l := mem_insertAsc.mpr (Or.inl rfl)
  rw [h] at this
  simp at this

theorem popTo_spec (u : Nat) (rest : List Nat) :
    ∀ (ext on c : List Nat), u ∉ ext →
      (popTo u (ext ++ u :: rest) on c).1 = rest ∧
      (∀ x, x ∈ (popTo u (ext ++ u :: rest) on c).2.1 ↔ (x ∈ on ∧ x ∉ ext ∧ x ≠ u)) ∧
      (∀ x, x ∈ (popTo u (ext ++ u :: rest) on c).2.2 ↔ (x ∈ c ∨ x ∈ ext ∨ x = u)) ∧
      (c.Pairwise (· < ·) → (popTo u (ext ++ u :: rest) on c).2.2.Pairwise (· < ·)) := by
  intro ext
  induction ext with
  | nil =>
    intro on c _
    simp only [List.nil_append, popTo, if_true]
    refine ⟨trivial, fun x => ?_, fun x => ?_, sorted_insertAsc⟩
    · simp [List.mem_filter]
    · simp [mem_insertAsc, or_comm]
  | cons e ext ih =>
    intro on c hu
    have hue : u ≠ e := fun h => hu (h ▸ List.mem_cons_self)
    simp only [List.cons_append, popTo, hue, if_false]
    obtain ⟨h1, h2, h3, h4⟩ := ih (on.filter (· != e)) (insertAsc e c) (fun h => hu (List.mem_cons_of_mem _ h))
    refine ⟨h1, fun x => ?_, fun x => ?_, fun hc => h4 (sorted_insertAsc hc)⟩
    · rw [h2 x]; simp [List.mem_filter, and_assoc]
    · rw [h3 x]; simp only [mem_insertAsc, List.mem_cons, or_assoc, or_left_comm]

theorem visit_onStack {rec : Nat → St → St} {u v w lu : Nat} {s : St} (hs : s.fault = none)
    (hi : mget s.index v = some w) (hon : s.onStack.contains v = true) (hl : mget s.low u = some lu) :
    visit rec u s v = { s with low := mset s.low u (min lu w) } := by
  simp only [visit, hs, hi, hon, hl, Option.isSome_none, Bool.false_eq_true, if_false, if_true]

theorem visit_offStack {rec : Nat → St → St} {u v w : Nat} {s : St} (hs : s.fault = none)
    (hi : mget s.index v = some w) (hon : s.onStack.contains v = false) : visit rec u s v = s := by
  simp only [visit, hs, hi, hon, Option.isSome_none, Bool.false_eq_true, if_false]

theorem visit_fresh {rec : Nat → St → St} {u v lu lv : Nat} {s : St} (hs : s.fault = none)
    (hi : mget s.index v = none) (hr : (rec v s).fault = none) (hlu : mget (rec v s).low u = some lu)
    (hlv : mget (rec v s).low v = some lv) :
    visit rec u s v = { rec v s with low := mset (rec v s).low u (min lu lv) } := by
  simp only [visit, hs, hi, hr, hlu, hlv, Option.isSome_none, Bool.false_eq_true, if_false]

theorem visit_fresh_fault {rec : Nat → St → St} {u v : Nat} {s : St} {f : Fault} (hs : s.fault = none)
    (hi : mget s.index v = none) (hr : (rec v s).fault = some f) : visit rec u s v = rec v s := by
  simp only [visit, hs, hi, hr, Option.isSome_none, Option.isSome_some, Bool.false_eq_true, if_false, if_true]

/-- `visit` consults `rec` only at `(v, s)`, and only for an un-indexed `v` in a fault-free `s`. -/
theorem visit_congr {r1 r2 : Nat → St → St} {u v : Nat} {s : St}
    (h : s.fault = none → mget s.index v = none → r2 v s = r1 v s) : visit r2 u s v = visit r1 u s v := by
  cases hs : s.fault with
  | some f => rw [visit, visit, hs]; rfl
  | none =>
    cases hi : mget s.index v with
    | some w => simp only [visit, hs, hi]
    | none => simp only [visit, hs, hi, h hs hi]

theorem visit_fault (rec : Nat → St → St) (u : Nat) (s : St) (v : Nat) (f : Fault)
    (h : s.fault = some f) : visit rec u s v = s := by
  simp [visit, h]

theorem foldl_visit_fault (rec : Nat → St → St) (u : Nat) (l : List Nat) (s : St) (f : Fault)
    (h : s.fault = some f) : l.foldl (visit rec u) s = s :=
  Fold.foldl_fixed _ s l fun v _ => visit_fault rec u s v f h

theorem foldl_visit_nofault {rec : Nat → St → St} {u : Nat} {l : List Nat} {s : St}
    (h : (l.foldl (visit rec u) s).fault = none) : s.fault = none := by
  cases hs : s.fault with
  | none => rfl
  | some f => rw [foldl_visit_fault rec u l s f hs, hs] at h; cases h

theorem finish_fault (u : Nat) (s : St) : (finish u s).fault = s.fault := by
  unfold finish
  split
  · rfl
  · split <;> rfl

theorem finish_root {u : Nat} {s : St} (hs : s.fault = none) (h : mget s.index u = mget s.low u) :
    finish u s = { s with stack := (popTo u s.stack s.onStack []).1,
                          onStack := (popTo u s.stack s.onStack []).2.1,
                          comps := s.comps ++ [(popTo u s.stack s.onStack []).2.2] } := by
  simp only [finish, hs, h, Option.isSome_none, Bool.false_eq_true, if_false, if_true]

theorem finish_nonroot {u : Nat} {s : St} (hs : s.fault = none) (h : mget s.index u ≠ mget s.low u) :
    finish u s = s := by
  simp only [finish, hs, h, Option.isSome_none, Bool.false_eq_true, if_false]

theorem foldl_visit_congr (r1 r2 : Nat → St → St) (u : Nat)
    (hr : ∀ w t, (r1 w t).fault ≠ some .fuel → r2 w t = r1 w t) :
    ∀ (l : List Nat) (s : St), (l.foldl (visit r1 u) s).fault ≠ some .fuel →
      l.foldl (visit r2 u) s = l.foldl (visit r1 u) s := by
  intro l
  induction l with
  | nil => intro s _; rfl
  | cons v l ih =>
    intro s h
    simp only [List.foldl_cons] at h ⊢
    have hv : (visit r1 u s v).fault ≠ some .fuel := by
      intro hf
      rw [foldl_visit_fault r1 u l _ _ hf] at h
      exact h hf
    have heq : visit r2 u s v = visit r1 u s v :=
      visit_congr fun hs hi => hr v s fun hf => hv (by rw [visit_fresh_fault hs hi hf]; exact hf)
    rw [heq]
    exact ih _ h

theorem connect_succ (g : VGraph) (fuel u : Nat) (s : St) :
    connect g (fuel + 1) u s =
      if g.verts.contains u then finish u ((g.out u).foldl (visit (connect g fuel) u) (enter u s))
      else { enter u s with fault := some .panic } := rfl

theorem connect_fuel_succ (g : VGraph) :
    ∀ (fuel u : Nat) (s : St), (connect g fuel u s).fault ≠ some .fuel →
      connect g (fuel + 1) u s = connect g fuel u s := by
  intro fuel
  induction fuel with
  | zero => exact fun u s h => absurd rfl h
  | succ fuel ih =>
    intro u s h
    rw [connect_succ] at h
    rw [connect_succ g (fuel+1), connect_succ g fuel]
    split
    · rw [if_pos ‹_›, finish_fault] at h
      rw [foldl_visit_congr (connect g fuel) (connect g (fuel+1)) u ih _ _ h]
    · rfl

theorem connect_fuel_mono (g : VGraph) (fuel k u : Nat) (s : St)
    (h : (connect g fuel u s).fault ≠ some .fuel) : connect g (fuel + k) u s = connect g fuel u s := by
  induction k with
  | zero => rfl
  | succ k ih =>
    rw [← Nat.add_assoc, connect_fuel_succ g (fuel + k) u s (by rw [ih]; exact h), ih]

end GraafVerif.Tarjan
