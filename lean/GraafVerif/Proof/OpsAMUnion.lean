import GraafVerif.Proof.OpsAM
import GraafVerif.Proof.OpsMerge
import GraafVerif.Proof.OpsPartition
/-!
# `AdjacencyMap::union`: the result does not depend on the thread count (`mapUnion_spec`)

Semantics of an entry list (sorted or not, duplicate keys allowed): "`k` is a key" and "`v` is in
some set stored under `k`".  Both say that some entry satisfies a property that the union of two
entries of equal key has exactly when one of them has it (`Fuses`).  The per-thread merges, the
concatenation, the sort and the duplicate-key fold all preserve what such a property says, wherever
the partition boundaries fall (only `boundaries[0] = (0,0)` and `boundaries[t] = (n1,n2)` are used).
A strictly key-sorted entry list with sorted sets that says of every such property what one of the
operands says is a well-formed map denoting the union (`okAM_of_fuses`): so are the fold output and
the single merge `mergeEntries lhs rhs`, and a well-formed map is determined by what it denotes.
-/
namespace GraafVerif.Ops
open GraafVerif.Repr

def KM (l : List Entry) (k : Nat) : Prop := ∃ s, (k, s) ∈ l
def RowsSorted (l : List Entry) : Prop := ∀ e ∈ l, SortedS e.2

theorem KM_append {l r : List Entry} {k : Nat} : KM (l ++ r) k ↔ KM l k ∨ KM r k := by
  simp only [KM, List.mem_append, exists_or]

def Fuses (φ : Entry → Prop) : Prop :=
  ∀ a b : Entry, a.1 = b.1 → (φ (a.1, unionSets a.2 b.2) ↔ φ a ∨ φ b)

theorem fuses_key (k : Nat) : Fuses (fun e => e.1 = k) :=
  fun _ _ hab => ⟨Or.inl, fun h => h.elim id fun h => hab.trans h⟩

theorem fuses_mem (k v : Nat) : Fuses (fun e => e.1 = k ∧ v ∈ e.2) := fun a b hab => by
  show a.1 = k ∧ v ∈ unionSets a.2 b.2 ↔ _
  rw [mem_unionSets]
  exact ⟨fun ⟨h, hv⟩ => hv.elim (fun hv => Or.inl ⟨h, hv⟩) (fun hv => Or.inr ⟨hab.symm.trans h, hv⟩),
    fun h => h.elim (fun ⟨h, hv⟩ => ⟨h, Or.inl hv⟩) (fun ⟨h, hv⟩ => ⟨hab.trans h, Or.inr hv⟩)⟩

/-! ## The per-thread merge -/

theorem isMerge_mergeEntriesFuel :
    IsMerge (fun e : Entry => e.1) (fun a b => (a.1, unionSets a.2 b.2)) mergeEntriesFuel :=
  ⟨fun _ _ => rfl, fun _ _ => rfl, fun _ l => by cases l <;> rfl, fun _ _ _ _ _ => rfl⟩

theorem mergeEntriesFuel_adequate (fuel : Nat) (l r : List Entry) (h : l.length + r.length ≤ fuel) :
    mergeEntriesFuel fuel l r = mergeEntries l r :=
  isMerge_mergeEntriesFuel.adequate fuel _ l r h (Nat.le_refl _)

theorem mergeEntries_exists {φ : Entry → Prop} (hφ : Fuses φ) {l r : List Entry} :
    (∃ e ∈ mergeEntries l r, φ e) ↔ (∃ e ∈ l, φ e) ∨ ∃ e ∈ r, φ e :=
  isMerge_mergeEntriesFuel.exists_iff hφ _ l r (Nat.le_refl _)

theorem mergeEntriesFuel_rows (fuel : Nat) {l r : List Entry} (rl : RowsSorted l) (rr : RowsSorted r) :
    RowsSorted (mergeEntriesFuel fuel l r) :=
  isMerge_mergeEntriesFuel.forall_mem (ψ := fun e => SortedS e.2)
    (fun _ _ _ _ _ => sorted_unionSets _ _) fuel l r rl rr

theorem mergeEntries_sorted {l r : List Entry} (hl : SortedK l) (hr : SortedK r) (rl : RowsSorted l)
    (rr : RowsSorted r) : SortedK (mergeEntries l r) ∧ RowsSorted (mergeEntries l r) :=
  ⟨isMerge_mergeEntriesFuel.pairwise (fun _ _ _ => rfl) _ l r hl hr, mergeEntriesFuel_rows _ rl rr⟩

/-! ## The duplicate-key fold -/

theorem foldDupGo_exists {φ : Entry → Prop} (hφ : Fuses φ) : ∀ (es : List Entry) (cur : Entry),
    (∃ e ∈ foldDupGo cur es, φ e) ↔ φ cur ∨ ∃ e ∈ es, φ e := by
  intro es
  induction es with
  | nil => intro cur; simp only [foldDupGo, List.mem_singleton, exists_eq_left, List.not_mem_nil, false_and,
      exists_false, or_false]
  | cons e es ih =>
    intro cur
    unfold foldDupGo
    split
    · rename_i he
      rw [ih, hφ cur e he.symm, or_assoc]
      simp only [List.mem_cons, exists_eq_or_imp]
    · simp only [List.mem_cons, exists_eq_or_imp, ih]

theorem foldDup_exists {φ : Entry → Prop} (hφ : Fuses φ) (l : List Entry) :
    (∃ e ∈ foldDup l, φ e) ↔ ∃ e ∈ l, φ e := by
  cases l with
  | nil => rfl
  | cons c es => rw [foldDup, foldDupGo_exists hφ]; simp only [List.mem_cons, exists_eq_or_imp]

theorem foldDupGo_sorted : ∀ (es : List Entry) (cur : Entry),
    es.Pairwise (fun a b => a.1 ≤ b.1) → (∀ e ∈ es, cur.1 ≤ e.1) → SortedS cur.2 → RowsSorted es →
    SortedK (foldDupGo cur es) ∧ RowsSorted (foldDupGo cur es) ∧ ∀ e ∈ foldDupGo cur es, cur.1 ≤ e.1 := by
  intro es
  induction es with
  | nil =>
    intro cur _ _ hc _
    exact ⟨List.pairwise_singleton _ _, fun e he => List.mem_singleton.mp he ▸ hc,
      fun e he => List.mem_singleton.mp he ▸ Nat.le_refl _⟩
  | cons e es ih =>
    intro cur hp hle hc hrs
    have hp' := List.pairwise_cons.mp hp
    have hrs' := List.forall_mem_cons.mp hrs
    unfold foldDupGo
    split
    · exact ih (cur.1, unionSets cur.2 e.2) hp'.2 (fun x hx => hle x (List.mem_cons_of_mem _ hx))
        (sorted_unionSets _ _) hrs'.2
    · rename_i he
      obtain ⟨h1, h2, h3⟩ := ih e hp'.2 hp'.1 hrs'.1 hrs'.2
      have hce : cur.1 < e.1 := Nat.lt_of_le_of_ne (hle e List.mem_cons_self) (Ne.symm he)
      exact ⟨List.pairwise_cons.mpr ⟨fun x hx => Nat.lt_of_lt_of_le hce (h3 x hx), h1⟩,
        List.forall_mem_cons.mpr ⟨hc, h2⟩,
        List.forall_mem_cons.mpr ⟨Nat.le_refl _, fun x hx => Nat.le_trans (Nat.le_of_lt hce) (h3 x hx)⟩⟩

theorem foldDup_sorted {l : List Entry} (hp : l.Pairwise (fun a b => a.1 ≤ b.1)) (hr : RowsSorted l) :
    SortedK (foldDup l) ∧ RowsSorted (foldDup l) := by
  cases l with
  | nil => exact ⟨List.Pairwise.nil, fun _ he => nomatch he⟩
  | cons c es =>
    have hp' := List.pairwise_cons.mp hp
    have hr' := List.forall_mem_cons.mp hr
    obtain ⟨h1, h2, _⟩ := foldDupGo_sorted es c hp'.2 hp'.1 hr'.1 hr'.2
    exact ⟨h1, h2⟩

/-! ## The sort -/

theorem sortByKey_mem (l : List Entry) (e : Entry) : e ∈ sortByKey l ↔ e ∈ l := List.mem_mergeSort

theorem sortByKey_pairwise (l : List Entry) : (sortByKey l).Pairwise (fun a b => a.1 ≤ b.1) := by
  have := List.pairwise_mergeSort (le := fun (a b : Entry) => decide (a.1 ≤ b.1))
    (fun a b c h1 h2 => by simp only [decide_eq_true_eq] at h1 h2 ⊢; exact Nat.le_trans h1 h2)
    (fun a b => by simp only [Bool.or_eq_true, decide_eq_true_eq]; exact Nat.le_total _ _) l
  simpa only [sortByKey, decide_eq_true_eq] using this

/-! ## The workers' slices cover both inputs -/

theorem mergedAM_exists {φ : Entry → Prop} (hφ : Fuses φ) (lhs rhs : List Entry) {t : Nat} (ht : 0 < t) :
    (∃ e ∈ mergedAM lhs rhs t, φ e) ↔ (∃ e ∈ lhs, φ e) ∨ ∃ e ∈ rhs, φ e := by
  constructor
  · rintro ⟨e, he, h⟩
    obtain ⟨k, _, hk⟩ := List.mem_flatMap.mp he
    rcases (mergeEntries_exists hφ).mp ⟨e, hk, h⟩ with ⟨x, hx, hφx⟩ | ⟨x, hx, hφx⟩
    · exact Or.inl ⟨x, Par.mem_of_mem_slice hx, hφx⟩
    · exact Or.inr ⟨x, Par.mem_of_mem_slice hx, hφx⟩
  · -- an element of an input lies in some worker's slice, whose merge has what the element has
    have back : ∀ k, k < t → (∃ x ∈ workerAM lhs rhs (boundaries lhs rhs t) k, φ x) →
        ∃ e ∈ mergedAM lhs rhs t, φ e :=
      fun k hk ⟨x, hx, h⟩ => ⟨x, List.mem_flatMap.mpr ⟨k, List.mem_range.mpr hk, hx⟩, h⟩
    rintro (⟨e, he, h⟩ | ⟨e, he, h⟩)
    · obtain ⟨k, hk, hs⟩ := Par.exists_slice_of_mem (fun k => (boundary lhs rhs t k).1)
        (congrArg Prod.fst (boundary_zero lhs rhs t)) (congrArg Prod.fst (boundary_last lhs rhs ht)) he
      exact back k hk ((mergeEntries_exists hφ).mpr (Or.inl ⟨e, hs, h⟩))
    · obtain ⟨k, hk, hs⟩ := Par.exists_slice_of_mem (fun k => (boundary lhs rhs t k).2)
        (congrArg Prod.snd (boundary_zero lhs rhs t)) (congrArg Prod.snd (boundary_last lhs rhs ht)) he
      exact back k hk ((mergeEntries_exists hφ).mpr (Or.inr ⟨e, hs, h⟩))
theorem mergedAM_rows {lhs rhs : List Entry} (t : Nat) (rl : RowsSorted lhs) (rr : RowsSorted rhs) :
    RowsSorted (mergedAM lhs rhs t) := by
  intro e he
  obtain ⟨k, _, he⟩ := List.mem_flatMap.mp he
  exact mergeEntriesFuel_rows _ (fun x hx => rl x (Par.mem_of_mem_slice hx))
    (fun x hx => rr x (Par.mem_of_mem_slice hx)) e he

/-! ## `mapUnion_spec` -/

theorem wfAM_rowsSorted {d : AdjMap} (h : d.WF) : RowsSorted d.rows :=
  fun e he => (h.2 e.1 e.2 he).1

theorem okAM_of_fuses {a b : AdjMap} (ha : a.WF) (hb : b.WF) {m : List Entry} (hs : SortedK m) (hr : RowsSorted m)
    (hsem : ∀ φ, Fuses φ → ((∃ e ∈ m, φ e) ↔ (∃ e ∈ a.rows, φ e) ∨ ∃ e ∈ b.rows, φ e)) :
    (AdjMap.mk m).WF ∧ absAM ⟨m⟩ = specUnion (absAM a) (absAM b) := by
  refine okAM_of_rows hs (AdjMap.sortedS_row (d := ⟨m⟩) hr) (fun k => ?_) (fun k v => ?_)
    (specUnion_valid (absAM_valid ha) (absAM_valid hb))
  · show k ∈ keysAM m ↔ k ∈ keysAM a.rows ∨ k ∈ keysAM b.rows
    simp only [mem_keysAM_iff]
    exact hsem _ (fuses_key k)
  · show v ∈ rowAM m k ↔ (absAM a).A k v ∨ (absAM b).A k v
    rw [absAM_A, absAM_A, mem_rowAM_iff hs, mem_rowAM_iff ha.1, mem_rowAM_iff hb.1]
    exact hsem _ (fuses_mem k v)

theorem unionSeqAM_spec (a b : AdjMap) (ha : a.WF) (hb : b.WF) :
    (unionSeqAM a b).WF ∧ absAM (unionSeqAM a b) = specUnion (absAM a) (absAM b) :=
  have ⟨hms, hmr⟩ := mergeEntries_sorted ha.1 hb.1 (wfAM_rowsSorted ha) (wfAM_rowsSorted hb)
  okAM_of_fuses ha hb hms hmr fun _ hφ => mergeEntries_exists hφ

/-- The tail of `AdjacencyMap::union` (sort, duplicate-key fold, collect) turns what the workers
hand back into the single merge of the two inputs — for ANY sorting function that permutes its
input into key order.  `sort_unstable_by_key` leaves the relative order of equal keys unspecified;
nothing here depends on it. -/
theorem unionAM_tail_any_sort (sort : List Entry → List Entry)
    (hmem : ∀ l e, e ∈ sort l ↔ e ∈ l) (hsorted : ∀ l, (sort l).Pairwise (fun a b => a.1 ≤ b.1))
    (a b : AdjMap) (t : Nat) (ht : 0 < t) (ha : a.WF) (hb : b.WF) :
    toMap (foldDup (sort (mergedAM a.rows b.rows t))) = mergeEntries a.rows b.rows := by
  have hrs : RowsSorted (sort (mergedAM a.rows b.rows t)) := fun e he =>
    mergedAM_rows t (wfAM_rowsSorted ha) (wfAM_rowsSorted hb) e ((hmem _ e).mp he)
  obtain ⟨hfs, hfr⟩ := foldDup_sorted (hsorted _) hrs
  have hpar := okAM_of_fuses ha hb hfs hfr fun φ hφ => by
    rw [foldDup_exists hφ, ← mergedAM_exists hφ a.rows b.rows ht]
    simp only [hmem]
  have hseq := unionSeqAM_spec a b ha hb
  rw [toMap_of_sorted hfs]
  exact congrArg AdjMap.rows (canonAM hpar.1 hseq.1 (hpar.2.trans hseq.2.symm))

/-- `AdjacencyMap::union` returns the single merge of the two entry lists for every thread count:
the final sort + duplicate-key fold makes the result independent of where the partition
boundaries fall (equal keys straddling a boundary included). -/
theorem unionAM_par_eq_seq (a b : AdjMap) (ap : Nat) (hap : 0 < ap) (ha : a.WF) (hb : b.WF)
    (hn : 0 < a.rows.length + b.rows.length) : unionAM a b ap = some (unionSeqAM a b) := by
  have ht : 0 < min (a.rows.length + b.rows.length) ap := Nat.lt_min.mpr ⟨hn, hap⟩
  unfold unionAM unionSeqAM
  simp only []
  rw [if_neg (Nat.ne_of_gt hn), if_neg (Nat.ne_of_gt ht)]
  congr 2
  exact unionAM_tail_any_sort sortByKey sortByKey_mem sortByKey_pairwise a b _ ht ha hb

theorem unionAM_spec (a b : AdjMap) (ap : Nat) (hap : 0 < ap) (ha : a.WF) (hb : b.WF)
    (hn : 0 < a.order + b.order) :
    ∃ r, unionAM a b ap = some r ∧ r.WF ∧ absAM r = specUnion (absAM a) (absAM b) :=
  ⟨_, unionAM_par_eq_seq a b ap hap ha hb hn, unionSeqAM_spec a b ha hb⟩

end GraafVerif.Ops
