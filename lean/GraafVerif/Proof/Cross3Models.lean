import GraafVerif.Proof.PredTreeRoot
import GraafVerif.Thm.C05
import GraafVerif.Thm.C05Dijkstra
/-!
# C05's predecessor vectors are trees (tag `Cross3`)

`IsTree` is what C05 proves of the `BfsPred` and of the `DijkstraPred` vector alike (`inS v`: `v` is a
source, `R v`: `v` is reachable): `None` at the sources and the unreachable vertices, elsewhere an in-range
entry.  With a root path from every reachable vertex such a vector is acyclic (`IsTree.acyclic`); C05's
theorems make each of its two vectors an `IsTree` with those root paths.
-/
namespace GraafVerif.Cross3
open GraafVerif GraafVerif.PredTree

structure IsTree (pred : Pred) (n : Nat) (inS R : Nat → Prop) : Prop where
  len : pred.length = n
  root : ∀ v, v < n → inS v ∨ ¬ R v → pred[v]? = some none
  link : ∀ v, v < n → ¬ inS v → R v → ∃ u, pred[v]? = some (some u) ∧ u < n

namespace IsTree
variable {pred : Pred} {n : Nat} {inS R : Nat → Prop} (ht : IsTree pred n inS R)
include ht

theorem none_iff {v : Nat} (hv : v < n) : pred[v]? = some none ↔ (inS v ∨ ¬ R v) := by
  refine ⟨fun hn => Classical.byContradiction fun hc => ?_, ht.root v hv⟩
  obtain ⟨u, hu, _⟩ := ht.link v hv (fun h => hc (Or.inl h)) (Classical.not_not.mp fun h => hc (Or.inr h))
  cases hu.symm.trans hn

theorem inRange : InRange pred :=
  inRange_of_entries fun v u hget => by
    have hv : v < n := ht.len ▸ (List.getElem?_eq_some_iff.mp hget).1
    by_cases hc : inS v ∨ ¬ R v
    · cases (ht.root v hv hc).symm.trans hget
    · obtain ⟨u', hu', hlt⟩ :=
        ht.link v hv (fun h => hc (Or.inl h)) (Classical.not_not.mp fun h => hc (Or.inr h))
      cases hu'.symm.trans hget
      exact ht.len ▸ hlt

/-- **The tree is acyclic**: when the search for a root succeeds from every reachable vertex, then
from EVERY vertex the chain of predecessor links reaches an entry `None` after `k` steps, stops
there, and never repeats a vertex; hence for every predicate `search_by` returns `None` only when
no vertex of that finite root path is a target — the "already visited" `break` never fires. -/
theorem acyclic (hchain : ∀ v, R v → ∃ p, RootPath pred v p) {v : Nat} (hv : v < n) :
    ∃ p k r, searchBy pred v isRoot = .ret (some p) ∧ RootShape pred v p k r ∧
      (∀ isT, searchBy pred v isT = .ret none ↔ ∀ x ∈ p, target pred isT x = false) ∧
      (∀ isT q, searchBy pred v isT = .ret (some q) → q <+: p) := by
  obtain ⟨p, hp⟩ : ∃ p, RootPath pred v p := by
    by_cases hr : R v
    · exact hchain v hr
    · exact ⟨[v], rootPath_of_none (ht.root v hv (Or.inr hr))⟩
  obtain ⟨k, r, h⟩ := rooted ht.inRange hp
  exact ⟨p, k, r, hp, h⟩

end IsTree

theorem bfs_isTree {g : Graph} (hg : g.WF) {S : List Nat} {pred : Pred} (hsp : Bfs.PredSpec g S pred) :
    IsTree pred g.n (· ∈ S) (ReachFrom g S) :=
  ⟨hsp.len, fun v hv hc => hc.elim (hsp.src v) (hsp.unreach v hv), fun v _ hs hr => by
    obtain ⟨u, _, hu, ha, _⟩ := hsp.tree v hr hs
    exact ⟨u, hu, (hg u v ha).1⟩⟩

theorem bfs_rootPath {g : Graph} {S : List Nat} {pred : Pred} (hsp : Bfs.PredSpec g S pred) (v : Nat)
    (hr : ReachFrom g S v) : ∃ p, RootPath pred v p := by
  obtain ⟨d, hd⟩ := OracleProof.reach_hop hr
  obtain ⟨cs, hcs, _⟩ := hsp.chain v d hd
  exact ⟨cs, hcs⟩

theorem dijkstra_isTree {g : WGraph} {S : List Nat} (h : Dijkstra.Hyp g S) :
    IsTree (Dijkstra.predecessors g S) g.n (· ∈ S) (WReachFrom g S) := by
  obtain ⟨hlen, hnone, htree⟩ := C05Dijkstra.dijkstraPred_tree g S h
  exact ⟨hlen, hnone, fun v hv hs hr => by
    obtain ⟨u, w, _, _, hu, ha, _⟩ := htree v hv hs hr
    exact ⟨u, hu, (h.wf u v w ha).1⟩⟩

theorem dijkstra_rootPath {g : WGraph} {S : List Nat} (h : Dijkstra.Hyp g S) (v : Nat)
    (hr : WReachFrom g S v) : ∃ p, RootPath (Dijkstra.predecessors g S) v p := by
  obtain ⟨p, _, hp, _⟩ := C05Dijkstra.dijkstraPred_chain g S h v hr
  exact ⟨p, hp⟩

end GraafVerif.Cross3
