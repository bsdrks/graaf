import GraafVerif.Proof.OpsMerge
import GraafVerif.Proof.OpsPar
import GraafVerif.Proof.OpsAbs
/-!
# `AdjacencyList::{complement, converse, union}` compute their set definitions (`∀ ap ≥ 1`)

A result is well formed and denotes `S` as soon as its rows are ascending and hold the arcs of the valid digraph `S`
(`ok_of_reads` at `AdjList.WF_iff_simple`), and the set definitions keep validity; so each operation needs its rows'
members only.
-/
namespace GraafVerif.Ops
open GraafVerif.Repr

theorem absAL_V {d : AdjList} {v : Nat} : (absAL d).V v ↔ v < d.order := List.mem_range

theorem absAL_A {d : AdjList} {u v : Nat} : (absAL d).A u v ↔ v ∈ d.rows[u]?.getD [] := AdjList.mem_row.symm

theorem absAL_valid {d : AdjList} (h : d.WF) : (absAL d).Valid := h.simple

theorem canonAL {a b : AdjList} (ha : a.WF) (hb : b.WF) (h : absAL a = absAL b) : a = b :=
  canon_of_ext AdjList.WF_iff_simple AdjList.ext ha hb h

theorem okAL_of_rows {r : AdjList} {S : DG} (hn : 0 < r.order) (hs : ∀ u : Nat, SortedS (r.rows[u]?.getD []))
    (hV : ∀ v, v < r.order ↔ S.V v) (hA : ∀ u v, v ∈ r.rows[u]?.getD [] ↔ S.A u v) (hS : S.Valid) :
    r.WF ∧ absAL r = S :=
  ok_of_reads AdjList.WF_iff_simple ⟨hn, hs⟩ (fun v => absAL_V.trans (hV v)) (fun u v => absAL_A.trans (hA u v)) hS

/-- `okAL_of_rows` for a result given row by row over `0..n`: sortedness and membership are asked of the rows
`u < n` only, the rows past the end being empty on both sides (`S.Valid`). -/
theorem okAL_of_table {r : AdjList} {S : DG} {n : Nat} {f : Nat → List Nat} (hn : 0 < n) (hord : r.order = n)
    (hrow : ∀ u, r.rows[u]?.getD [] = if u < n then f u else []) (hs : ∀ u, u < n → SortedS (f u))
    (hV : ∀ v, v < n ↔ S.V v) (hA : ∀ u v, u < n → (v ∈ f u ↔ S.A u v)) (hS : S.Valid) : r.WF ∧ absAL r = S := by
  refine okAL_of_rows (hord ▸ hn) (fun u => ?_) (fun v => hord ▸ hV v) (fun u v => ?_) hS
  · rw [hrow]
    split
    · exact hs u ‹_›
    · exact List.Pairwise.nil
  · rw [hrow]
    by_cases hu : u < n
    · rw [if_pos hu]; exact hA u v hu
    · rw [if_neg hu]; exact ⟨nofun, fun h => absurd ((hV u).mpr (hS u v h).1) hu⟩

theorem diffLoop_cons_nil (u a : Nat) (full : List Nat) :
    diffLoop u (a :: full) [] = if a = u then diffLoop u full [] else a :: diffLoop u full [] := by
  rw [diffLoop]

theorem diffLoop_cons_cons (u a b : Nat) (full out : List Nat) :
    diffLoop u (a :: full) (b :: out) =
      if a = u then diffLoop u full (b :: out) else if a = b then diffLoop u full out
      else a :: diffLoop u full (b :: out) := by
  rw [diffLoop]

theorem diffLoop_cons_self (u a : Nat) (full out : List Nat) (h : a = u) :
    diffLoop u (a :: full) out = diffLoop u full out := by
  cases out with
  | nil => rw [diffLoop_cons_nil, if_pos h]
  | cons b out => rw [diffLoop_cons_cons, if_pos h]

theorem diffLoop_cons_cons_self {u a : Nat} (full out : List Nat) (h : a ≠ u) :
    diffLoop u (a :: full) (a :: out) = diffLoop u full out := by
  rw [diffLoop_cons_cons, if_neg h, if_pos rfl]

theorem diffLoop_cons_of_not_mem {u a : Nat} (full : List Nat) {out : List Nat} (h : a ≠ u) (ho : a ∉ out) :
    diffLoop u (a :: full) out = a :: diffLoop u full out := by
  cases out with
  | nil => rw [diffLoop_cons_nil, if_neg h]
  | cons b out => rw [diffLoop_cons_cons, if_neg h, if_neg fun (e : a = b) => ho (e ▸ List.mem_cons_self)]

theorem diffLoop_exit (u : Nat) (full vec : List Nat) (i j : Nat) (h : ¬ (i < full.length ∧ j < vec.length)) :
    diffLoop u (full.drop i) (vec.drop j) = diffLoop u (full.drop i) [] := by
  by_cases hi : i < full.length
  · rw [List.drop_eq_nil_of_le (Nat.le_of_not_lt fun hj => h ⟨hi, hj⟩)]
  · rw [List.drop_eq_nil_of_le (Nat.le_of_not_lt hi), diffLoop, diffLoop]

/-- one round of `diffLoop` on two cursors: `L i`, `R j` are what is left of the row of all vertices and of the row of
`u` at the cursors `i`, `j` (the first runs up to `A`); `a`, `b` the elements under them -/
theorem diff_round (u : Nat) {L R : Nat → List Nat} {A i j a b : Nat} (hL : L i = a :: L (i + 1)) (hR : R j = b :: R (j + 1))
    (hi : i < A) (out : List Nat) (s' : List Nat × Nat × Nat)
    (hs' : s' = if a = u then (out, i + 1, j) else if a = b then (out, i + 1, j + 1) else (out ++ [a], i + 1, j)) :
    A - s'.2.1 < A - i ∧ s'.1 ++ diffLoop u (L s'.2.1) (R s'.2.2) = out ++ diffLoop u (L i) (R j) := by
  rw [hL, hR, diffLoop_cons_cons]
  by_cases h1 : a = u
  · rw [if_pos h1] at hs' ⊢
    subst hs'
    exact ⟨Nat.sub_succ_lt_self A i hi, by rw [hR]⟩
  · rw [if_neg h1] at hs' ⊢
    by_cases h2 : a = b
    · rw [if_pos h2] at hs' ⊢
      subst hs'
      exact ⟨Nat.sub_succ_lt_self A i hi, rfl⟩
    · rw [if_neg h2] at hs' ⊢
      subst hs'
      exact ⟨Nat.sub_succ_lt_self A i hi, by rw [hR, List.append_assoc]; rfl⟩

theorem ne_and_not_contains_iff {u a : Nat} {out : List Nat} : (a != u && !out.contains a) = true ↔ a ≠ u ∧ a ∉ out := by
  simp

theorem diffLoop_spec (u : Nat) : ∀ (full out : List Nat), SortedS full → SortedS out →
    (∀ b ∈ out, b ∈ full ∧ b ≠ u) →
    diffLoop u full out = full.filter (fun a => a != u && !out.contains a) := by
  intro full
  induction full with
  | nil => intro out _ _ _; cases out <;> rfl
  | cons a full ih =>
    intro out hf ho hsub
    have hf' := List.pairwise_cons.mp hf
    -- members of `out` other than `a` lie in the tail
    have tail : ∀ out' : List Nat, (∀ b ∈ out', b ∈ out) → (∀ b ∈ out', b ≠ a) →
        ∀ b ∈ out', b ∈ full ∧ b ≠ u := fun out' h1 h2 b hb =>
      ⟨(List.mem_cons.mp (hsub b (h1 b hb)).1).resolve_left (h2 b hb), (hsub b (h1 b hb)).2⟩
    rw [List.filter_cons]
    by_cases hau : a = u
    · rw [diffLoop_cons_self u a full out hau, if_neg fun hk => (ne_and_not_contains_iff.mp hk).1 hau,
        ih out hf'.2 ho (tail out (fun _ h => h) fun b hb => hau ▸ (hsub b hb).2)]
    · by_cases hao : a ∈ out
      · -- `a`, the least member of `full`, can only be the head of `out`
        cases out with
        | nil => cases hao
        | cons b out =>
          have ho' := List.pairwise_cons.mp ho
          obtain rfl : a = b := by
            rcases List.mem_cons.mp hao with e | hm
            · exact e
            · rcases List.mem_cons.mp (hsub b List.mem_cons_self).1 with e | hm'
              · exact e.symm
              · exact absurd (hf'.1 b hm') (Nat.lt_asymm (ho'.1 a hm))
          rw [diffLoop_cons_cons_self full out hau, if_neg fun hk => (ne_and_not_contains_iff.mp hk).2 hao,
            ih out hf'.2 ho'.2 (tail out (fun _ h => List.mem_cons_of_mem _ h)
              fun b' hb' => Nat.ne_of_gt (ho'.1 b' hb'))]
          refine List.filter_congr fun x hx => ?_
          rw [List.contains_cons, beq_false_of_ne (Nat.ne_of_gt (hf'.1 x hx)), Bool.false_or]
      · rw [diffLoop_cons_of_not_mem full hau hao, if_pos (ne_and_not_contains_iff.mpr ⟨hau, hao⟩),
          ih out hf'.2 ho (tail out (fun _ h => h) fun b hb e => hao (e ▸ hb))]
theorem complementRowAL_eq {d : AdjList} (h : d.WF) (u : Nat) :
    complementRowAL d u = complementRowSeq d u := by
  unfold complementRowAL complementRowSeq
  rw [diffLoop_spec u _ _ List.pairwise_lt_range (h.shape.2 u) fun b hb =>
    have := absAL_valid h u b (absAL_A.mpr hb)
    ⟨this.2.1, fun e => this.2.2 e.symm⟩]
  exact toSet_of_sorted (List.Pairwise.filter _ List.pairwise_lt_range)

theorem mem_complementRowSeq {d : AdjList} {u v : Nat} :
    v ∈ complementRowSeq d u ↔ v < d.order ∧ v ≠ u ∧ v ∉ d.rows[u]?.getD [] :=
  List.mem_filter.trans (and_congr List.mem_range ne_and_not_contains_iff)

theorem complementSeqAL_spec {d : AdjList} (h : d.WF) :
    (complementSeqAL d).WF ∧ absAL (complementSeqAL d) = specComplement (absAL d) := by
  refine okAL_of_table (f := complementRowSeq d) h.1 ((List.length_map _).trans List.length_range)
    (fun u => by rw [complementSeqAL, Vec.getD_map_range, complementRowAL_eq h u])
    (fun u _ => List.Pairwise.filter _ List.pairwise_lt_range) (fun v => absAL_V.symm) (fun u v hu => ?_)
    (specComplement_valid _)
  rw [mem_complementRowSeq]
  simp only [specComplement, absAL_V, absAL_A]
  exact ⟨fun ⟨h1, h2, h3⟩ => ⟨hu, h1, fun e => h2 e.symm, h3⟩, fun ⟨_, h1, h2, h3⟩ => ⟨h1, fun e => h2 e.symm, h3⟩⟩

theorem complementAL_spec (d : AdjList) (ap : Nat) (hap : 0 < ap) (h : d.WF) :
    ∃ r, complementAL d ap = some r ∧ r.WF ∧ absAL r = specComplement (absAL d) :=
  ⟨_, complementAL_par_eq_seq d ap hap h.1, complementSeqAL_spec h⟩

theorem unionRowAL_eq (a b : AdjList) (u : Nat) :
    unionRowAL a b u = unionSets (a.rows[u]?.getD []) (b.rows[u]?.getD []) := by
  have drop : ∀ d : AdjList, (if u < d.order then d.rows[u]?.getD [] else []) = d.rows[u]?.getD [] :=
    fun d => by
      by_cases h : u < d.order
      · rw [if_pos h]
      · rw [if_neg h, getD_nil_of_le (Nat.le_of_not_lt h)]
  unfold unionRowAL unionSets
  simp only [drop]

theorem unionSeqAL_spec {a b : AdjList} (ha : a.WF) (hb : b.WF) :
    (unionSeqAL a b).WF ∧ absAL (unionSeqAL a b) = specUnion (absAL a) (absAL b) := by
  have hord : (unionSeqAL a b).order = max a.order b.order := (List.length_map _).trans List.length_range
  have hrow : ∀ u, (unionSeqAL a b).rows[u]?.getD [] =
      unionSets (a.rows[u]?.getD []) (b.rows[u]?.getD []) := fun u => by
    rw [unionSeqAL, Vec.getD_map_range]
    by_cases hu : u < max a.order b.order
    · rw [if_pos hu, unionRowAL_eq]
    · have hu' := Nat.max_le.mp (Nat.le_of_not_lt hu)
      rw [if_neg hu, getD_nil_of_le hu'.1, getD_nil_of_le hu'.2]; rfl
  exact okAL_of_rows (hord ▸ Nat.lt_of_lt_of_le ha.1 (Nat.le_max_left _ _)) (fun u => hrow u ▸ sorted_unionSets _ _)
    (fun v => by rw [hord]; exact lt_max_iff.trans (or_congr absAL_V.symm absAL_V.symm))
    (fun u v => by rw [hrow, mem_unionSets]; simp only [specUnion, absAL_A])
    (specUnion_valid (absAL_valid ha) (absAL_valid hb))

theorem unionAL_spec (a b : AdjList) (ap : Nat) (hap : 0 < ap) (ha : a.WF) (hb : b.WF) :
    ∃ r, unionAL a b ap = some r ∧ r.WF ∧ absAL r = specUnion (absAL a) (absAL b) :=
  ⟨_, unionAL_par_eq_seq a b ap hap (Nat.lt_of_lt_of_le ha.1 (Nat.le_max_left _ _)), unionSeqAL_spec ha hb⟩

theorem mem_arcsAL {d : AdjList} {u v : Nat} : (u, v) ∈ d.arcs ↔ v ∈ d.rows[u]?.getD [] := mem_flatRows_getD

theorem converseAL_rows {d : AdjList} (hn : 0 < d.order) :
    ∃ r, converseAL d = some r ∧ r.order = d.order ∧ ∀ v, r.rows[v]?.getD [] =
      if v < d.order then toSet ((d.arcs.filter (fun a => a.2 == v)).map (·.1)) else [] := by
  refine ⟨_, by rw [converseAL, if_neg (Nat.ne_of_gt hn)], (Vec.length_foldl_set _ _).trans List.length_replicate,
    fun v => ?_⟩
  rw [toSet, List.foldl_map]
  exact Vec.getD_foldl_set_replicate [] (fun a : Nat × Nat => a.2) (fun a r => sinsert a.1 r) d.arcs d.order v

theorem converseAL_spec (d : AdjList) (h : d.WF) :
    ∃ r, converseAL d = some r ∧ r.WF ∧ absAL r = specConverse (absAL d) := by
  obtain ⟨r, hr, hord, hrow⟩ := converseAL_rows h.1
  refine ⟨r, hr, okAL_of_table h.1 hord hrow (fun _ _ => sorted_toSet _) (fun v => absAL_V.symm) (fun u v _ => ?_)
    (specConverse_valid (absAL_valid h))⟩
  simp only [specConverse, absAL_A]
  rw [mem_toSet, List.mem_map]
  constructor
  · rintro ⟨⟨v', u'⟩, hm, rfl⟩
    obtain ⟨hm, he⟩ := List.mem_filter.mp hm
    exact mem_arcsAL.mp ((beq_iff_eq.mp he) ▸ hm)
  · exact fun hm => ⟨(v, u), List.mem_filter.mpr ⟨mem_arcsAL.mpr hm, beq_self_eq_true u⟩, rfl⟩

end GraafVerif.Ops
