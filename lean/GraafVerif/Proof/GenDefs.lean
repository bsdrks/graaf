import GraafVerif.Proof.FoldLemmas
import GraafVerif.Proof.GenSets
import GraafVerif.Proof.GenArcRepr
import GraafVerif.Spec.GenRealises
/-!
# The defining arc sets of C14, row by row

Each definition of `Spec/Gen.lean` relates only distinct vertices of `0..n` (`ValidOn`), and the
out-neighbour lists the closed-form generators write down have exactly the members it prescribes
(`cycle_row`, `wheel_row_rim`, …); the arithmetic is in `eq_pred_mod_iff` and `eq_rimPrev_iff`.
-/
namespace GraafVerif.Gen
open GraafVerif.Repr GraafVerif.GenSpec

theorem mem_rangeFT {a b x : Nat} : x ∈ rangeFT a b ↔ a ≤ x ∧ x < b := mem_range'_sub

theorem mem_rangeFT_zero {n x : Nat} : x ∈ rangeFT 0 n ↔ x < n :=
  mem_rangeFT.trans (and_iff_right (Nat.zero_le x))

theorem length_rangeFT (a b : Nat) : (rangeFT a b).length = b - a := List.length_range'

theorem nodup_rangeFT (a b : Nat) : (rangeFT a b).Nodup := List.nodup_range'

theorem rangeFT_zero (n : Nat) : rangeFT 0 n = List.range n := List.range_eq_range'.symm

theorem rangeFT_succ_left {a b : Nat} (h : a < b) : rangeFT a b = a :: rangeFT (a + 1) b := by
  unfold rangeFT
  rw [← Nat.succ_pred_eq_of_pos (Nat.sub_pos_of_lt h), List.range'_succ]
  rfl

theorem rangeFT_succ_right {a b : Nat} (h : a ≤ b) : rangeFT a (b + 1) = rangeFT a b ++ [b] := by
  unfold rangeFT
  rw [Nat.succ_sub h, List.range'_1_concat, Nat.add_sub_cancel' h]

theorem rangeFT_append {a b c : Nat} (h1 : a ≤ b) (h2 : b ≤ c) :
    rangeFT a b ++ rangeFT b c = rangeFT a c := by
  have := List.range'_append_1 (s := a) (m := b - a) (n := c - b)
  rwa [Nat.add_sub_cancel' h1, Nat.add_comm (b - a) (c - b), Nat.sub_add_sub_cancel h2 h1] at this

theorem range_eq_cons {n : Nat} (hn : 1 ≤ n) : List.range n = 0 :: rangeFT 1 n := by
  rw [← rangeFT_zero, rangeFT_succ_left hn]

theorem range_eq_concat {n : Nat} (hn : 1 ≤ n) : List.range n = rangeFT 0 (n - 1) ++ [n - 1] := by
  rw [← rangeFT_succ_right (Nat.zero_le _), Nat.sub_add_cancel hn, rangeFT_zero]

theorem range_eq_cons_cons_concat {n : Nat} (hn : 3 ≤ n) :
    List.range n = 0 :: 1 :: (rangeFT 2 (n - 1) ++ [n - 1]) := by
  obtain ⟨k, rfl⟩ := Nat.exists_eq_add_of_le' hn
  rw [range_eq_cons (Nat.le_add_left 1 _), rangeFT_succ_left (Nat.succ_lt_succ (Nat.succ_pos _)),
    rangeFT_succ_right (Nat.le_add_left 2 k)]
  rfl

theorem zipIdx_map_rangeFT {α : Type} (g : Nat → α) (a b : Nat) :
    ((rangeFT a b).map g).zipIdx a = (rangeFT a b).map (fun u => (g u, u)) := by
  unfold rangeFT
  generalize b - a = k
  induction k generalizing a with
  | zero => rfl
  | succ k ih => rw [List.range'_succ, List.map_cons, List.map_cons, List.zipIdx_cons, ih]

theorem map_rangeFT_succ {α : Type} (g : Nat → α) (a b : Nat) :
    (rangeFT (a + 1) (b + 1)).map g = (rangeFT a b).map (fun u => g (u + 1)) := by
  unfold rangeFT
  rw [Nat.add_sub_add_right]
  generalize b - a = k
  induction k generalizing a with
  | zero => rfl
  | succ k ih => rw [List.range'_succ, List.range'_succ, List.map_cons, List.map_cons, ih]

theorem zipIdx_replicate {α : Type} (x : α) (m k : Nat) :
    (List.replicate m x).zipIdx k = (rangeFT k (k + m)).map (fun u => (x, u)) := by
  unfold rangeFT
  rw [Nat.add_sub_cancel_left]
  induction m generalizing k with
  | zero => rfl
  | succ m ih => rw [List.replicate_succ, List.zipIdx_cons, ih, List.range'_succ, List.map_cons]

theorem mem_map_pair {l : List Nat} {f : Nat → Nat} {a b : Nat} :
    (a, b) ∈ l.map (fun u => (u, f u)) ↔ a ∈ l ∧ b = f a := by
  rw [List.mem_map]
  constructor
  · rintro ⟨u, hu, h⟩; cases h; exact ⟨hu, rfl⟩
  · rintro ⟨ha, rfl⟩; exact ⟨a, ha, rfl⟩

theorem mem_map_pair' {l : List Nat} {f : Nat → Nat} {a b : Nat} :
    (a, b) ∈ l.map (fun u => (f u, u)) ↔ b ∈ l ∧ a = f b := by
  rw [List.mem_map]
  constructor
  · rintro ⟨u, hu, h⟩; cases h; exact ⟨hu, rfl⟩
  · rintro ⟨hb, rfl⟩; exact ⟨b, hb, rfl⟩

/-- `arcs()` of the row-based representations: every stored row, paired with its vertex -/
theorem mem_flatMap_keyed {α β γ : Type} {l : List α} {key : α → β} {row : α → List γ} {b : β} {c : γ} :
    (b, c) ∈ l.flatMap (fun x => (row x).map (fun v => (key x, v))) ↔ ∃ x, x ∈ l ∧ key x = b ∧ c ∈ row x := by
  rw [List.mem_flatMap]
  constructor
  · rintro ⟨x, hx, h⟩
    obtain ⟨v, hv, e⟩ := List.mem_map.mp h
    cases e; exact ⟨x, hx, rfl, hv⟩
  · rintro ⟨x, hx, rfl, hc⟩; exact ⟨x, hx, List.mem_map.mpr ⟨c, hc, rfl⟩⟩

theorem mem_flatMap_pair {l : List Nat} {g : Nat → List Nat} {a b : Nat} :
    (a, b) ∈ l.flatMap (fun u => (g u).map (fun v => (u, v))) ↔ a ∈ l ∧ b ∈ g a :=
  (mem_flatMap_keyed (key := id) (row := g)).trans
    ⟨fun ⟨_, hx, e, h⟩ => e ▸ ⟨hx, h⟩, fun ⟨ha, hb⟩ => ⟨a, ha, rfl, hb⟩⟩

theorem mem_flatMap_two {α β : Type} {l : List α} {p q : α → β} {x : β} :
    x ∈ l.flatMap (fun u => [p u, q u]) ↔ x ∈ l.map p ∨ x ∈ l.map q := by
  simp only [List.mem_flatMap, List.mem_map, List.mem_cons, List.not_mem_nil, or_false]
  constructor
  · rintro ⟨u, hu, rfl | rfl⟩
    · exact Or.inl ⟨u, hu, rfl⟩
    · exact Or.inr ⟨u, hu, rfl⟩
  · rintro (⟨u, hu, rfl⟩ | ⟨u, hu, rfl⟩)
    · exact ⟨u, hu, Or.inl rfl⟩
    · exact ⟨u, hu, Or.inr rfl⟩

/-- the loops `for u in l { for v in g(u) { add_arc(u, v); add_arc(v, u) } }` -/
theorem mem_flatMap_sym {l : List Nat} {g : Nat → List Nat} {a b : Nat} :
    (a, b) ∈ l.flatMap (fun u => (g u).flatMap (fun v => [(u, v), (v, u)])) ↔
      (a ∈ l ∧ b ∈ g a) ∨ (b ∈ l ∧ a ∈ g b) := by
  rw [List.mem_flatMap]
  constructor
  · rintro ⟨u, hu, h⟩
    rcases mem_flatMap_two.mp h with h | h
    · obtain ⟨v, hv, e⟩ := List.mem_map.mp h; cases e; exact Or.inl ⟨hu, hv⟩
    · obtain ⟨v, hv, e⟩ := List.mem_map.mp h; cases e; exact Or.inr ⟨hu, hv⟩
  · rintro (⟨ha, hb⟩ | ⟨hb, ha⟩)
    · exact ⟨a, ha, mem_flatMap_two.mpr (Or.inl (List.mem_map.mpr ⟨b, hb, rfl⟩))⟩
    · exact ⟨b, hb, mem_flatMap_two.mpr (Or.inr (List.mem_map.mpr ⟨a, ha, rfl⟩))⟩

/-- the loop `for u in l { add_arc(u, f u); add_arc(f u, u) }` followed by one more such pair -/
theorem mem_symArcs {l : List Nat} {f : Nat → Nat} {c d a b : Nat} :
    (a, b) ∈ l.flatMap (fun u => [(u, f u), (f u, u)]) ++ [(c, d), (d, c)] ↔
      ((a ∈ l ∧ b = f a) ∨ (a = c ∧ b = d)) ∨ ((b ∈ l ∧ a = f b) ∨ (b = c ∧ a = d)) := by
  rw [List.mem_append, mem_flatMap_two, mem_map_pair, mem_map_pair', List.mem_cons, List.mem_singleton,
    Prod.mk.injEq, Prod.mk.injEq, and_comm (a := a = d)]
  exact or_or_or_comm

/-- `row` is the `BTreeSet` of the out-neighbours of `u` under `P`. -/
def IsRow (P : Nat → Nat → Prop) (u : Nat) (row : List Nat) : Prop :=
  SortedS row ∧ ∀ v, v ∈ row ↔ P u v

theorem isRow_ssetOf {P : Nat → Nat → Prop} {u : Nat} {l : List Nat} (h : ∀ v, v ∈ l ↔ P u v) :
    IsRow P u (ssetOf l) := ⟨sorted_ssetOf l, fun v => mem_ssetOf.trans (h v)⟩

/-- Rows reach `AL.realises_of_rows` through this (map entries through `isRow_map_pair`): against the
expected type `IsRow P (g u, u).2 (g u, u).1` elaboration unfolds `ssetOf` before it projects the pair. -/
theorem isRow_zipIdx_map {P : Nat → Nat → Prop} {g : Nat → List Nat} {a b : Nat}
    (h : ∀ u ∈ rangeFT a b, IsRow P u (g u)) : ∀ p ∈ ((rangeFT a b).map g).zipIdx a, IsRow P p.2 p.1 := by
  rw [zipIdx_map_rangeFT]; exact List.forall_mem_map.mpr h

theorem isRow_map_pair {P : Nat → Nat → Prop} {g : Nat → List Nat} {l : List Nat}
    (h : ∀ u ∈ l, IsRow P u (g u)) : ∀ p ∈ l.map (fun u => (u, g u)), IsRow P p.1 p.2 :=
  List.forall_mem_map.mpr h

theorem emptyDef_valid {n u v : Nat} (h : EmptyDef n u v) : u < n ∧ v < n ∧ u ≠ v := h.elim

theorem completeDef_valid {n : Nat} : ValidOn n (CompleteDef n) := fun _ _ h => h

theorem complete_row {n u v : Nat} (hu : u < n) :
    v ∈ serase u (ssetOf (rangeFT 0 n)) ↔ CompleteDef n u v := by
  rw [mem_serase (sorted_ssetOf _), mem_ssetOf, mem_rangeFT]
  exact ⟨fun h => ⟨hu, h.1.2, fun e => h.2 e.symm⟩, fun h => ⟨⟨Nat.zero_le v, h.2.1⟩, fun e => h.2.2 e.symm⟩⟩

theorem succ_mod_cases {n u : Nat} (hu : u < n) :
    (u + 1 < n ∧ (u + 1) % n = u + 1) ∨ (u + 1 = n ∧ (u + 1) % n = 0) :=
  (Nat.lt_or_eq_of_le (Nat.succ_le_of_lt hu)).imp (fun h => ⟨h, Nat.mod_eq_of_lt h⟩)
    (fun h => ⟨h, h ▸ Nat.mod_self _⟩)

theorem circuitDef_valid {n : Nat} : ValidOn n (CircuitDef n) := by
  rintro u v ⟨h2, hu, rfl⟩
  refine ⟨hu, Nat.mod_lt _ (Nat.zero_lt_of_lt hu), ?_⟩
  rcases succ_mod_cases hu with ⟨_, e⟩ | ⟨h, e⟩
  · rw [e]; exact Nat.ne_of_lt (Nat.lt_succ_self u)
  · rw [e]; intro hu0; subst hu0; subst h; exact absurd h2 (by decide)

theorem circuitDef_iff {n u v : Nat} (h2 : 2 ≤ n) :
    CircuitDef n u v ↔ (u ∈ rangeFT 0 (n - 1) ∧ v = u + 1) ∨ (u = n - 1 ∧ v = 0) := by
  have h1 : 1 ≤ n := Nat.le_of_succ_le h2
  rw [mem_rangeFT_zero, Nat.lt_sub_iff_add_lt]
  constructor
  · rintro ⟨_, hu, rfl⟩
    rcases succ_mod_cases hu with ⟨h, e⟩ | ⟨h, e⟩
    · exact Or.inl ⟨h, e⟩
    · exact Or.inr ⟨Nat.eq_sub_of_add_eq h, e⟩
  · rintro (⟨h, rfl⟩ | ⟨rfl, rfl⟩)
    · exact ⟨h2, Nat.lt_of_succ_lt h, (Nat.mod_eq_of_lt h).symm⟩
    · exact ⟨h2, Nat.sub_lt h1 Nat.one_pos, by rw [Nat.sub_add_cancel h1, Nat.mod_self]⟩

theorem circuit_row {n u v : Nat} (h2 : 2 ≤ n) (hu : u < n) : v ∈ [(u + 1) % n] ↔ CircuitDef n u v :=
  List.mem_singleton.trans ⟨fun h => ⟨h2, hu, h⟩, fun h => h.2.2⟩

theorem cycleDef_valid {n : Nat} : ValidOn n (CycleDef n) := circuitDef_valid.sym

theorem eq_pred_mod_iff {n u v : Nat} (hu : u < n) :
    v = (u + n - 1) % n ↔ v < n ∧ u = (v + 1) % n := by
  have hn : 1 ≤ n := Nat.zero_lt_of_lt hu
  constructor
  · rintro rfl
    refine ⟨Nat.mod_lt _ hn, ?_⟩
    rw [Nat.mod_add_mod, Nat.sub_add_cancel (Nat.le_trans hn (Nat.le_add_left n u)),
      Nat.add_mod_right, Nat.mod_eq_of_lt hu]
  · rintro ⟨hv, rfl⟩
    rw [Nat.add_sub_assoc hn, Nat.mod_add_mod, Nat.add_assoc, Nat.add_sub_cancel' hn, Nat.add_mod_right,
      Nat.mod_eq_of_lt hv]

theorem cycle_row {n u v : Nat} (h2 : 2 ≤ n) (hu : u < n) :
    v ∈ [(u + n - 1) % n, (u + 1) % n] ↔ CycleDef n u v := by
  rw [List.mem_cons, circuit_row h2 hu, eq_pred_mod_iff hu]
  exact or_comm.trans (or_congr_right ⟨fun h => ⟨h2, h⟩, fun h => h.2⟩)

theorem pathDef_valid {n : Nat} : ValidOn n (PathDef n) := fun u _ h =>
  ⟨Nat.lt_of_succ_lt h.1, h.2 ▸ h.1, h.2 ▸ Nat.ne_of_lt (Nat.lt_succ_self u)⟩

theorem pathDef_iff {n u v : Nat} : PathDef n u v ↔ u ∈ rangeFT 0 (n - 1) ∧ v = u + 1 := by
  rw [mem_rangeFT_zero, Nat.lt_sub_iff_add_lt]; rfl

theorem path_row {n u v : Nat} (h : u + 1 < n) : v ∈ [u + 1] ↔ PathDef n u v :=
  List.mem_singleton.trans ⟨fun e => ⟨h, e⟩, fun h => h.2⟩

theorem isRow_path_last {n : Nat} (hn : 1 ≤ n) : IsRow (PathDef n) (n - 1) [] :=
  ⟨List.Pairwise.nil, fun _ => ⟨fun h => absurd h List.not_mem_nil, fun h =>
    absurd h.1 (by rw [Nat.sub_add_cancel hn]; exact Nat.lt_irrefl n)⟩⟩

theorem starDef_valid {n : Nat} : ValidOn n (StarDef n) :=
  ValidOn.sym (Q := fun u v => u = 0 ∧ 1 ≤ v ∧ v < n) fun _ _ h =>
    ⟨h.1 ▸ Nat.zero_lt_of_lt h.2.2, h.2.2, h.1 ▸ Nat.ne_of_lt h.2.1⟩

theorem starDef_iff {n u v : Nat} :
    StarDef n u v ↔ (u = 0 ∧ v ∈ rangeFT 1 n) ∨ (v = 0 ∧ u ∈ rangeFT 1 n) := by
  rw [mem_rangeFT, mem_rangeFT]; rfl

theorem star_row_hub {n v : Nat} : v ∈ rangeFT 1 n ↔ StarDef n 0 v :=
  mem_rangeFT.trans ⟨fun h => Or.inl ⟨rfl, h⟩, fun h => h.elim (·.2) fun h => absurd h.2.1 (by decide)⟩

theorem star_row_leaf {n u v : Nat} (h1 : 1 ≤ u) (hu : u < n) : v ∈ [0] ↔ StarDef n u v :=
  List.mem_singleton.trans
    ⟨fun h => Or.inr ⟨h, h1, hu⟩, fun h => h.elim (fun h => absurd h.1 (Nat.ne_of_gt h1)) (·.1)⟩

theorem bicliqueDef_valid {m n : Nat} : ValidOn (m + n) (BicliqueDef m n) :=
  ValidOn.sym (Q := fun u v => u < m ∧ m ≤ v ∧ v < m + n) fun _ _ h =>
    ⟨Nat.lt_of_lt_of_le h.1 (Nat.le_add_right m n), h.2.2, Nat.ne_of_lt (Nat.lt_of_lt_of_le h.1 h.2.1)⟩

theorem bicliqueDef_iff {m n u v : Nat} :
    BicliqueDef m n u v ↔
      (u ∈ rangeFT 0 m ∧ v ∈ rangeFT m (m + n)) ∨ (v ∈ rangeFT 0 m ∧ u ∈ rangeFT m (m + n)) := by
  rw [mem_rangeFT_zero, mem_rangeFT_zero, mem_rangeFT, mem_rangeFT]; rfl

theorem biclique_row_left {m n u v : Nat} (hu : u < m) : v ∈ rangeFT m (m + n) ↔ BicliqueDef m n u v :=
  mem_rangeFT.trans ⟨fun h => Or.inl ⟨hu, h⟩, fun h => h.elim (·.2) fun h => absurd hu (Nat.not_lt.mpr h.2.1)⟩

theorem biclique_row_right {m n u v : Nat} (hm : m ≤ u) (hu : u < m + n) :
    v ∈ rangeFT 0 m ↔ BicliqueDef m n u v :=
  mem_rangeFT.trans ⟨fun h => Or.inr ⟨h.2, hm, hu⟩,
    fun h => h.elim (fun h => absurd h.1 (Nat.not_lt.mpr hm)) fun h => ⟨Nat.zero_le v, h.1⟩⟩

theorem rimNext_of_lt {n u : Nat} (h : u + 1 < n) : rimNext n u = u + 1 :=
  if_neg (Nat.ne_of_lt (Nat.lt_sub_iff_add_lt.mpr h))

theorem rimNext_last (u : Nat) : rimNext (u + 1) u = 1 := if_pos rfl

theorem rimNext_pos (n u : Nat) : 1 ≤ rimNext n u := by
  unfold rimNext; split
  · exact Nat.le_refl 1
  · exact Nat.le_add_left 1 u

theorem rimNext_cases {n u : Nat} (hu : u < n) :
    (u + 1 < n ∧ rimNext n u = u + 1) ∨ (u + 1 = n ∧ rimNext n u = 1) :=
  (Nat.lt_or_eq_of_le (Nat.succ_le_of_lt hu)).imp (fun h => ⟨h, rimNext_of_lt h⟩)
    (fun h => ⟨h, h ▸ rimNext_last u⟩)

/-- On the cyclic order `c → c+1 → … → n-1 → c` of at least three elements (`succ_mod_cases`: `c = 0`, `rimNext_cases`:
`c = 1`), two steps do not return. -/
theorem next_next_ne {n c u : Nat} {s : Nat → Nat}
    (hs : ∀ {x}, x < n → (x + 1 < n ∧ s x = x + 1) ∨ (x + 1 = n ∧ s x = c)) (hn : c + 3 ≤ n) (hu : u < n) :
    s (s u) ≠ u := by
  have hc : c + 1 < n := Nat.lt_of_succ_lt (Nat.lt_of_succ_le hn)
  rcases hs hu with ⟨a, e⟩ | ⟨a, e⟩
  · rcases hs a with ⟨_, e'⟩ | ⟨b, e'⟩
    · rw [e, e']; exact Nat.ne_of_gt (Nat.lt_succ_of_lt (Nat.lt_succ_self u))
    · rw [e, e']; subst b; exact Nat.ne_of_lt (Nat.lt_of_succ_lt_succ (Nat.lt_of_succ_lt_succ (Nat.lt_of_succ_le hn)))
  · rw [e, ((hs (Nat.lt_of_succ_lt hc)).resolve_right fun h => Nat.ne_of_lt hc h.1).2]
    subst a; exact Nat.ne_of_lt (Nat.lt_of_succ_lt_succ (Nat.lt_of_succ_le hn))

theorem rimArc_iff {n u v : Nat} (h2 : 2 ≤ n) :
    1 ≤ u ∧ u < n ∧ v = rimNext n u ↔ (u ∈ rangeFT 1 (n - 1) ∧ v = u + 1) ∨ (u = n - 1 ∧ v = 1) := by
  have h1 : 1 ≤ n := Nat.le_of_succ_le h2
  rw [mem_rangeFT, Nat.lt_sub_iff_add_lt]
  constructor
  · rintro ⟨hu1, hu, rfl⟩
    rcases rimNext_cases hu with ⟨h, e⟩ | ⟨h, e⟩
    · exact Or.inl ⟨⟨hu1, h⟩, e⟩
    · exact Or.inr ⟨Nat.eq_sub_of_add_eq h, e⟩
  · rintro (⟨⟨hu1, h⟩, rfl⟩ | ⟨rfl, rfl⟩)
    · exact ⟨hu1, Nat.lt_of_succ_lt h, (rimNext_of_lt h).symm⟩
    · exact ⟨Nat.le_sub_one_of_lt h2, Nat.sub_lt h1 Nat.one_pos, (if_pos rfl).symm⟩

theorem rimDef_valid {n : Nat} (hn : 3 ≤ n) : ValidOn n (RimDef n) :=
  ValidOn.sym (Q := fun u v => 1 ≤ u ∧ u < n ∧ v = rimNext n u) <| by
    rintro u v ⟨h1, hu, rfl⟩
    refine ⟨hu, ?_⟩
    rcases rimNext_cases hu with ⟨h, e⟩ | ⟨h, e⟩
    · rw [e]; exact ⟨h, Nat.ne_of_lt (Nat.lt_succ_self u)⟩
    · rw [e]; subst h
      exact ⟨Nat.lt_of_lt_of_le (by decide) hn, Nat.ne_of_gt (Nat.le_of_succ_le_succ hn)⟩

theorem wheelDef_valid {n : Nat} (hn : 3 ≤ n) : ValidOn n (WheelDef n) :=
  starDef_valid.or (rimDef_valid hn)

/-- predecessor on the rim, as the closed-form generators compute it -/
def rimPrev (n u : Nat) : Nat := if u = 1 then n - 1 else u - 1

theorem rimPrev_one (n : Nat) : rimPrev n 1 = n - 1 := if_pos rfl

theorem rimPrev_of_lt {n u : Nat} (h : 1 < u) : rimPrev n u = u - 1 := if_neg (Nat.ne_of_gt h)

theorem eq_rimPrev_iff {n u v : Nat} (hn : 3 ≤ n) (h1 : 1 ≤ u) (hu : u < n) :
    v = rimPrev n u ↔ 1 ≤ v ∧ v < n ∧ u = rimNext n v := by
  constructor
  · rintro rfl
    unfold rimPrev
    split
    · rename_i e
      obtain ⟨k, rfl⟩ := Nat.exists_eq_add_of_le' (Nat.le_of_succ_le (Nat.le_of_succ_le hn))
      exact ⟨Nat.le_of_succ_le_succ (Nat.le_of_succ_le hn), Nat.lt_succ_self k, e.trans (rimNext_last k).symm⟩
    · rename_i e
      obtain ⟨k, rfl⟩ := Nat.exists_eq_add_of_le' h1
      have hk : 1 ≤ k := Nat.pos_of_ne_zero fun h => e (by rw [h])
      exact ⟨hk, Nat.lt_of_succ_lt hu, (rimNext_of_lt hu).symm⟩
  · rintro ⟨hv1, hv, rfl⟩
    rcases rimNext_cases hv with ⟨_, e⟩ | ⟨h, e⟩
    · rw [e]; exact (if_neg (Nat.ne_of_gt (Nat.succ_lt_succ hv1))).symm
    · rw [e]; subst h; exact (if_pos rfl).symm

theorem wheel_row_hub {n v : Nat} : v ∈ rangeFT 1 n ↔ WheelDef n 0 v :=
  star_row_hub.trans ⟨Or.inl, fun h => h.elim id fun h =>
    h.elim (fun h => absurd h.1 (by decide)) fun h => absurd (h.2.2 ▸ rimNext_pos n v) (by decide)⟩

theorem wheel_row_rim {n u v : Nat} (hn : 3 ≤ n) (h1 : 1 ≤ u) (hu : u < n) :
    v ∈ [0, rimPrev n u, rimNext n u] ↔ WheelDef n u v := by
  rw [List.mem_cons, List.mem_cons, List.mem_singleton, ← List.mem_singleton (a := v) (b := 0),
    star_row_leaf h1 hu, eq_rimPrev_iff hn h1 hu]
  exact or_congr_right (or_comm.trans (or_congr_left ⟨fun h => ⟨h1, hu, h⟩, fun h => h.2.2⟩))

/-- `assert!(m > 0); assert!(n > 0)` -/
theorem none_of_guard₂ {α : Type} {p q : Prop} [Decidable p] [Decidable q] {x : Option α} (h : p ∨ q) :
    (if p then none else if q then none else x) = none := by
  split
  · rfl
  · split
    · rfl
    · exact absurd h (not_or.mpr ⟨‹¬ p›, ‹¬ q›⟩)

end GraafVerif.Gen
