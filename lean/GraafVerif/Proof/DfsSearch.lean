import GraafVerif.Spec.Dfs
import GraafVerif.Proof.FoldLemmas
/-!
# Lemmas of the specification of "depth-first preorder"

What `Spec/Dfs.lean` defines, read as propositions, and what every `Search` state reached from
`⟨[], []⟩` by `advance` satisfies (`Search.OK`).
-/
namespace GraafVerif.Dfs

variable {g : Graph} {S ys : List Nat} {s : Search}

theorem hasFresh_false {u : Nat} : hasFresh g ys u = false ↔ ∀ w ∈ g.out u, w ∈ ys := by
  simp [hasFresh]

theorem hasFresh_true {u : Nat} : hasFresh g ys u = true ↔ ∃ w ∈ g.out u, w ∉ ys := by
  simp [hasFresh]

theorem hasFresh_mono {ys' : List Nat} {u : Nat} (hsub : ∀ y ∈ ys, y ∈ ys')
    (h : hasFresh g ys u = false) : hasFresh g ys' u = false := by
  rw [hasFresh_false] at h ⊢
  exact fun w hw => hsub w (h w hw)

theorem expect_eq_some {x : Nat} {a : Option Nat × Nat} :
    expect g S s x = some a ↔ x ∉ s.yielded ∧
      match active g s with
      | [] => x ∈ S ∧ s.yielded.all (fun y => !hasFresh g s.yielded y) = true ∧ a = (none, 0)
      | d :: rest => x ∈ g.out d ∧ a = (some d, rest.length + 1) := by
  unfold expect
  rw [Option.ite_none_left_eq_some, List.contains_iff_mem]
  refine and_congr_right (fun _ => ?_)
  cases active g s with
  | nil =>
    show (if _ then _ else _) = _ ↔ _
    rw [Option.ite_none_right_eq_some, Bool.and_eq_true, List.contains_iff_mem, Option.some_inj, and_assoc]
    exact and_congr_right (fun _ => and_congr_right (fun _ => eq_comm))
  | cons d rest =>
    show (if _ then _ else _) = _ ↔ _
    rw [Option.ite_none_right_eq_some, List.contains_iff_mem, Option.some_inj]
    exact and_congr_right (fun _ => eq_comm)

theorem mem_dropWhile_or {α : Type} (p : α → Bool) (l : List α) (x : α) (hx : x ∈ l) :
    x ∈ l.dropWhile p ∨ p x = true := by
  rw [← List.takeWhile_append_dropWhile (p := p) (l := l)] at hx
  exact (List.mem_append.mp hx).symm.imp_right (List.all_eq_true.mp List.all_takeWhile x)

/-- What every state reached from `⟨[], []⟩` by `advance` satisfies. -/
structure Search.OK (g : Graph) (s : Search) : Prop where
  sub : ∀ d ∈ s.path, d ∈ s.yielded
  off : ∀ y ∈ s.yielded, y ∉ s.path → hasFresh g s.yielded y = false

theorem Search.OK.init (g : Graph) : Search.OK g ⟨[], []⟩ := ⟨nofun, nofun⟩

theorem Search.OK.quiet (h : Search.OK g s) {y : Nat} (hy : y ∈ s.yielded) (hn : y ∉ active g s) :
    hasFresh g s.yielded y = false := by
  by_cases hyp : y ∈ s.path
  · simpa using (mem_dropWhile_or (fun d => !hasFresh g s.yielded d) s.path y hyp).resolve_left hn
  · exact h.off y hy hyp

theorem Search.OK.advance (h : Search.OK g s) (x : Nat) : Search.OK g (advance g s x) where
  sub d hd := by
    rcases List.mem_cons.mp hd with rfl | hd
    · exact List.mem_append_right _ List.mem_cons_self
    · exact List.mem_append_left _ (h.sub d ((List.dropWhile_sublist _).subset hd))
  off y hy hnp := by
    have hnp := not_or.mp (fun e => hnp (List.mem_cons.mpr e))
    exact hasFresh_mono (fun z hz => List.mem_append_left _ hz) (h.quiet
      ((List.mem_append.mp hy).resolve_right (fun e => hnp.1 (List.mem_singleton.mp e))) hnp.2)

theorem Search.OK.all_quiet (h : Search.OK g s) (hA : active g s = []) :
    s.yielded.all (fun y => !hasFresh g s.yielded y) = true :=
  List.all_eq_true.mpr (fun y hy => by rw [h.quiet hy (hA ▸ List.not_mem_nil)]; rfl)

theorem annotateFrom_cons_iff {x : Nat} {xs : List Nat} {ann : List Ann} :
    annotateFrom g S s (x :: xs) = some ann ↔
      ∃ a ann', expect g S s x = some a ∧ annotateFrom g S (advance g s x) xs = some ann' ∧ ann = (x, a) :: ann' := by
  rw [annotateFrom]
  cases expect g S s x with
  | none => exact ⟨nofun, fun ⟨_, _, h, _⟩ => nomatch h⟩
  | some a =>
    refine Option.map_eq_some_iff.trans ⟨fun ⟨ann', h, e⟩ => ⟨a, ann', rfl, h, e.symm⟩, ?_⟩
    rintro ⟨_, ann', ⟨⟩, h, e⟩
    exact ⟨ann', h, e.symm⟩

theorem annotateFrom_fst (xs : List Nat) : ∀ (s : Search) (ann : List Ann),
    annotateFrom g S s xs = some ann → ann.map (·.1) = xs := by
  induction xs with
  | nil => intro s ann h; cases h; rfl
  | cons x rest ih =>
    intro s ann h
    obtain ⟨a, ann', _, hr, rfl⟩ := annotateFrom_cons_iff.mp h
    rw [List.map_cons, ih _ _ hr]

theorem annotateFrom_nodup (xs : List Nat) : ∀ (s : Search) (ann : List Ann),
    annotateFrom g S s xs = some ann → s.yielded.Nodup → (s.yielded ++ xs).Nodup := by
  induction xs with
  | nil => intro s ann _ h; rwa [List.append_nil]
  | cons x rest ih =>
    intro s ann h hnd
    obtain ⟨a, ann', he, hr, _⟩ := annotateFrom_cons_iff.mp h
    rw [List.append_cons]
    exact ih (advance g s x) ann' hr (nodup_snoc hnd (expect_eq_some.mp he).1)

theorem annotateFrom_take (xs : List Nat) : ∀ (s : Search) (zs : List Ann) (k : Nat),
    annotateFrom g S s xs = some zs → annotateFrom g S s (xs.take k) = some (zs.take k) := by
  induction xs with
  | nil => intro s zs k h; cases h; rw [List.take_nil, List.take_nil]; rfl
  | cons y xs ih =>
    intro s zs k h
    cases k with
    | zero => rfl
    | succ k =>
      obtain ⟨a, zs', he, hr, rfl⟩ := annotateFrom_cons_iff.mp h
      exact annotateFrom_cons_iff.mpr ⟨a, _, he, ih _ _ k hr, rfl⟩

end GraafVerif.Dfs
