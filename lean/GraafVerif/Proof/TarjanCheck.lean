import GraafVerif.Spec.Tarjan
import GraafVerif.Proof.OracleHopDist
import GraafVerif.Proof.VecLemmas
/-!
# The executable SCC-partition checker decides `IsSCCPartition`

`sccCheck_iff` lists what the checker tests, clause by clause; a `closure` row that contains its
vertex and is closed under out-neighbours is exactly the reachable set.
* Soundness (`sccCheck_sound`) needs no fuel argument: `closedB` is evaluated at run time.
* Completeness on closed digraphs (`sccCheck_complete`): the worklist finishes within
  `closureFuel g` steps.  Potential: `|todo| + Σ_{x ∈ verts, x ∉ seen} (1 + |out x|)`; popping an
  already seen vertex lowers it by 1, expanding a new one by 2.
-/
namespace GraafVerif.Tarjan
open GraafVerif

theorem closure_sound (g : VGraph) (u : Nat) :
    ∀ (fuel : Nat) (todo seen : List Nat), (∀ x ∈ todo, VReach g u x) → (∀ x ∈ seen, VReach g u x) →
      ∀ x ∈ closure g fuel todo seen, VReach g u x := by
  intro fuel
  induction fuel with
  | zero => intro todo seen _ hs x hx; exact hs x hx
  | succ fuel ih =>
    intro todo seen ht hs x hx
    cases todo with
    | nil => exact hs x hx
    | cons y todo =>
      simp only [closure] at hx
      split at hx
      · exact ih todo seen (fun z hz => ht z (List.mem_cons_of_mem _ hz)) hs x hx
      · have hy : VReach g u y := ht y List.mem_cons_self
        refine ih (g.out y ++ todo) (y :: seen) ?_ ?_ x hx
        · intro z hz
          rcases List.mem_append.mp hz with hz | hz
          · exact Reach.step hy hz
          · exact ht z (List.mem_cons_of_mem _ hz)
        · intro z hz
          rcases List.mem_cons.mp hz with rfl | hz
          · exact hy
          · exact hs z hz

theorem reachOf_sound (g : VGraph) (u x : Nat) (h : x ∈ reachOf g u) : VReach g u x :=
  closure_sound g u _ [u] [] (fun z hz => by rw [List.mem_singleton.mp hz]; exact Reach.refl u)
    (fun _ hz => absurd hz List.not_mem_nil) x h

theorem closedB_iff (g : VGraph) (S : List Nat) :
    closedB g S = true ↔ ∀ x ∈ S, ∀ y ∈ g.out x, y ∈ S := by
  simp only [closedB, List.all_eq_true, List.contains_eq_mem, decide_eq_true_eq]

theorem closed_complete (g : VGraph) (S : List Nat) (hc : closedB g S = true) (u v : Nat)
    (hu : u ∈ S) (h : VReach g u v) : v ∈ S :=
  OracleProof.reach_closed h hu fun x y hx a => (closedB_iff g S).mp hc x hx y a

theorem lookup_table (f : Nat → List Nat) (vs : List Nat) (u : Nat) (hu : u ∈ vs) :
    (vs.map (fun u => (u, f u))).lookup u = some (f u) := by
  induction vs with
  | nil => exact absurd hu List.not_mem_nil
  | cons w vs ih =>
    rw [List.map_cons, List.lookup_cons]
    by_cases h : u = w
    · rw [h, beq_self_eq_true]
    · rw [beq_false_of_ne h]
      exact ih ((List.mem_cons.mp hu).resolve_left h)

theorem disjointB_iff : ∀ cs : List (List Nat),
    disjointB cs = true ↔ cs.Pairwise (fun c d => ∀ x ∈ c, x ∉ d)
  | [] => by simp [disjointB]
  | c :: cs => by
    simp only [disjointB, Bool.and_eq_true, List.all_eq_true, List.pairwise_cons, disjointB_iff cs,
      Bool.not_eq_true', List.contains_eq_mem, decide_eq_false_iff_not]

theorem nodupB_iff : ∀ c : List Nat, nodupB c = true ↔ c.Nodup
  | [] => by simp [nodupB]
  | x :: xs => by
    simp only [nodupB, Bool.and_eq_true, List.nodup_cons, nodupB_iff xs, Bool.not_eq_true',
      List.contains_eq_mem, decide_eq_false_iff_not]

theorem sameBlock_iff (cs : List (List Nat)) (u v : Nat) :
    sameBlock cs u v = true ↔ ∃ c ∈ cs, u ∈ c ∧ v ∈ c := by
  simp only [sameBlock, List.any_eq_true, Bool.and_eq_true, List.contains_eq_mem, decide_eq_true_eq]

/-- What the checker tests, clause by clause (the reachability table resolved to `reachOf`). -/
theorem sccCheck_iff (g : VGraph) (cs : List (List Nat)) : sccCheck g cs = true ↔
    (∀ c ∈ cs, c ≠ []) ∧ (∀ c ∈ cs, c.Nodup) ∧ cs.Pairwise (fun c d => ∀ x ∈ c, x ∉ d) ∧
    (∀ c ∈ cs, ∀ x ∈ c, x ∈ g.verts) ∧ (∀ v ∈ g.verts, ∃ c ∈ cs, v ∈ c) ∧
    (∀ u ∈ g.verts, u ∈ reachOf g u ∧ closedB g (reachOf g u) = true) ∧
    (∀ u ∈ g.verts, ∀ v ∈ g.verts, (∃ c ∈ cs, u ∈ c ∧ v ∈ c) ↔ (v ∈ reachOf g u ∧ u ∈ reachOf g v)) := by
  have hlast : (g.verts.all fun u => g.verts.all fun v => sameBlock cs u v ==
        ((((g.verts.map fun u => (u, reachOf g u)).lookup u).getD []).contains v &&
          (((g.verts.map fun u => (u, reachOf g u)).lookup v).getD []).contains u)) = true ↔
      ∀ u ∈ g.verts, ∀ v ∈ g.verts, (∃ c ∈ cs, u ∈ c ∧ v ∈ c) ↔ (v ∈ reachOf g u ∧ u ∈ reachOf g v) := by
    simp only [List.all_eq_true]
    refine forall_congr' fun u => forall_congr' fun hu => forall_congr' fun v => forall_congr' fun hv => ?_
    rw [lookup_table (reachOf g) g.verts u hu, lookup_table (reachOf g) g.verts v hv, beq_iff_eq,
      Bool.eq_iff_iff, sameBlock_iff]
    simp only [Option.getD_some, Bool.and_eq_true, List.contains_eq_mem, decide_eq_true_eq]
  simp only [sccCheck, Bool.and_eq_true, hlast, and_assoc]
  simp only [List.all_eq_true, List.any_eq_true, nodupB_iff, disjointB_iff, List.mem_map,
    List.contains_eq_mem, decide_eq_true_eq, Bool.not_eq_true', List.isEmpty_eq_false_iff,
    forall_exists_index, and_imp, forall_apply_eq_imp_iff₂, Bool.and_eq_true]

theorem sccCheck_sound (g : VGraph) (cs : List (List Nat)) (h : sccCheck g cs = true) :
    IsSCCPartition g cs := by
  obtain ⟨hne, hnd, hdj, hsub, hcov, hrow, hsame⟩ := (sccCheck_iff g cs).1 h
  have hexact : ∀ u ∈ g.verts, ∀ v, v ∈ reachOf g u ↔ VReach g u v := fun u hu v =>
    ⟨reachOf_sound g u v, closed_complete g _ (hrow u hu).2 u v (hrow u hu).1⟩
  refine ⟨hne, hdj, hnd, fun v => ⟨hcov v, fun ⟨c, hc, hvc⟩ => hsub c hc v hvc⟩, fun u hu v hv => ?_⟩
  rw [hsame u hu v hv, hexact u hu v, hexact v hv u]

/-- The steps the worklist can still take: the unexpanded mass, as `Dfs.W` and `Dijkstra.pending`, with
the expansion step of a vertex counted beside the pops of its out-neighbours. -/
def pot (g : VGraph) (todo seen : List Nat) : Nat :=
  todo.length + ((g.verts.filter (fun a => !seen.contains a)).map (fun a => 1 + (g.out a).length)).sum

theorem pot_skip (g : VGraph) (x : Nat) (todo seen : List Nat) : pot g todo seen < pot g (x :: todo) seen :=
  Nat.add_lt_add_right (Nat.lt_succ_self _) _

theorem pot_expand (g : VGraph) {x : Nat} (todo : List Nat) {seen : List Nat} (hx : x ∈ g.verts)
    (hs : seen.contains x = false) : pot g (g.out x ++ todo) (x :: seen) < pot g (x :: todo) seen := by
  have h := Vec.sum_filter_remove (fun a => 1 + (g.out a).length) (fun a => !seen.contains a)
    (fun a => !(x :: seen).contains a) x (by rw [hs]; rfl)
    (fun a => by rw [List.contains_cons, Bool.not_or, Bool.and_comm]) g.verts
  have := Nat.le_mul_of_pos_left (1 + (g.out x).length) (List.count_pos_iff.mpr hx)
  unfold pot
  rw [List.length_append, List.length_cons, ← h]
  omega

theorem pot_init (g : VGraph) (u : Nat) : pot g [u] [] < closureFuel g := by
  have : ∀ l : List Nat, (l.map fun a => 1 + (g.out a).length).sum = l.length + (l.map fun u => (g.out u).length).sum := by
    intro l
    induction l with
    | nil => rfl
    | cons a l ih =>
      rw [List.map_cons, List.sum_cons, ih, List.map_cons, List.sum_cons, List.length_cons,
        Nat.add_add_add_comm, Nat.add_comm 1]
  unfold pot closureFuel
  rw [(List.filter_eq_self (p := fun a => !([] : List Nat).contains a)).mpr fun _ _ => rfl, this,
    List.length_singleton, Nat.add_comm 1]
  exact Nat.lt_succ_self _

theorem closure_complete (g : VGraph) (hclosed : g.Closed) :
    ∀ (fuel : Nat) (todo seen : List Nat), pot g todo seen < fuel →
      (∀ x ∈ todo, x ∈ g.verts) →
      (∀ x ∈ seen, ∀ y ∈ g.out x, y ∈ seen ∨ y ∈ todo) →
      (∀ x ∈ seen, x ∈ closure g fuel todo seen) ∧ (∀ x ∈ todo, x ∈ closure g fuel todo seen) ∧
        closedB g (closure g fuel todo seen) = true := by
  intro fuel
  induction fuel with
  | zero => intro todo seen h; exact absurd h (Nat.not_lt_zero _)
  | succ fuel ih =>
    intro todo seen hfuel hv hinv
    cases todo with
    | nil =>
      refine ⟨fun x hx => hx, fun _ hx => absurd hx List.not_mem_nil, (closedB_iff g seen).mpr ?_⟩
      exact fun x hx y hy => (hinv x hx y hy).resolve_right List.not_mem_nil
    | cons x todo =>
      simp only [closure]
      cases hs : seen.contains x with
      | true =>
        rw [if_pos rfl]
        have hxs : x ∈ seen := List.contains_iff_mem.mp hs
        obtain ⟨h1, h2, h3⟩ := ih todo seen
          (Nat.lt_of_lt_of_le (pot_skip g x todo seen) (Nat.le_of_lt_succ hfuel))
          (fun z hz => hv z (List.mem_cons_of_mem _ hz))
          (fun a ha y hy => (hinv a ha y hy).elim Or.inl fun h =>
            (List.mem_cons.mp h).elim (fun e => Or.inl (e ▸ hxs)) Or.inr)
        refine ⟨h1, fun z hz => ?_, h3⟩
        rcases List.mem_cons.mp hz with rfl | h
        · exact h1 z hxs
        · exact h2 z h
      | false =>
        rw [if_neg Bool.false_ne_true]
        have hxv : x ∈ g.verts := hv x List.mem_cons_self
        obtain ⟨h1, h2, h3⟩ := ih (g.out x ++ todo) (x :: seen)
          (Nat.lt_of_lt_of_le (pot_expand g todo hxv hs) (Nat.le_of_lt_succ hfuel))
          (fun z hz => (List.mem_append.mp hz).elim (hclosed x hxv z)
            fun h => hv z (List.mem_cons_of_mem _ h))
          (by
            intro a ha y hy
            rcases List.mem_cons.mp ha with rfl | h
            · exact Or.inr (List.mem_append_left _ hy)
            · rcases hinv a h y hy with h' | h'
              · exact Or.inl (List.mem_cons_of_mem _ h')
              · rcases List.mem_cons.mp h' with rfl | h''
                · exact Or.inl List.mem_cons_self
                · exact Or.inr (List.mem_append_right _ h''))
        refine ⟨fun z hz => h1 z (List.mem_cons_of_mem _ hz), fun z hz => ?_, h3⟩
        rcases List.mem_cons.mp hz with rfl | h
        · exact h1 z List.mem_cons_self
        · exact h2 z (List.mem_append_right _ h)

theorem reachOf_row (g : VGraph) (hclosed : g.Closed) (u : Nat) (hu : u ∈ g.verts) :
    u ∈ reachOf g u ∧ closedB g (reachOf g u) = true := by
  have := closure_complete g hclosed (closureFuel g) [u] [] (pot_init g u)
    (fun _ hx => List.mem_singleton.mp hx ▸ hu) (fun _ hx => absurd hx List.not_mem_nil)
  exact ⟨this.2.1 u List.mem_cons_self, this.2.2⟩

theorem reachOf_exact (g : VGraph) (hclosed : g.Closed) (u : Nat) (hu : u ∈ g.verts) (v : Nat) :
    v ∈ reachOf g u ↔ VReach g u v :=
  ⟨reachOf_sound g u v, closed_complete g _ (reachOf_row g hclosed u hu).2 u v (reachOf_row g hclosed u hu).1⟩

theorem sccCheck_complete (g : VGraph) (hclosed : g.Closed) (cs : List (List Nat))
    (h : IsSCCPartition g cs) : sccCheck g cs = true := by
  refine (sccCheck_iff g cs).2 ⟨h.nonempty, h.nodup, h.disjoint, fun c hc x hx => (h.cover x).2 ⟨c, hc, hx⟩,
    fun v hv => (h.cover v).1 hv, fun u hu => reachOf_row g hclosed u hu, fun u hu v hv => ?_⟩
  rw [h.scc u hu v hv, reachOf_exact g hclosed u hu v, reachOf_exact g hclosed v hv u]

end GraafVerif.Tarjan
