import GraafVerif.Proof.OracleFold
import GraafVerif.Proof.OracleHopDist
/-!
# The naive reachability oracle `reachSetB` is exact

Only reachable vertices are ever marked; a closure round that leaves its flag down changed nothing and
its marked set is closed under arcs; a round that raises it marked one more of the at most `n` vertices,
so the `n+1` rounds of fuel are not used up before a fixpoint.  For `g.WF` and sources in range.
-/
namespace GraafVerif.OracleProof

/-- `v` is marked. -/
def mk (a : Array Bool) (v : Nat) : Bool := a.getD v false

def cnt (a : Array Bool) : Nat := a.toList.count true

theorem cnt_le (a : Array Bool) : cnt a ≤ a.size := by
  unfold cnt
  have := List.count_le_length (a := true) (l := a.toList)
  simpa using this

theorem cnt_set {a : Array Bool} {v : Nat} (hv : v < a.size) (hm : mk a v = false) :
    cnt (a.setIfInBounds v true) = cnt a + 1 := by
  unfold cnt
  rw [Array.toList_setIfInBounds, List.count_set (by simpa using hv)]
  have : a.toList[v]'(by simpa using hv) = false := by
    unfold mk at hm
    simpa [Array.getD_eq_getD_getElem?, Array.getElem?_eq_getElem hv] using hm
  simp [this]

/-! ## The pieces of `reachSetB` (`Spec/Graph.lean`) under names -/

def rInit (g : Graph) (S : List Nat) : Array Bool :=
  S.foldl (fun vis s => vis.setIfInBounds s true) (Array.replicate g.n false)

def rIn (a : Array Bool × Bool) (v : Nat) : Array Bool × Bool :=
  if a.1.getD v false then a else (a.1.setIfInBounds v true, true)

def rOut (g : Graph) (acc : Array Bool × Bool) (u : Nat) : Array Bool × Bool :=
  if acc.1.getD u false then (g.out u).foldl rIn acc else acc

def rRound (g : Graph) (vis : Array Bool) : Array Bool × Bool :=
  (List.range g.n).foldl (rOut g) (vis, false)

theorem reachSetB_eq (g : Graph) (S : List Nat) :
    reachSetB g S = (reachSetB.go (rRound g) (g.n + 1) (rInit g S)).toList := rfl

theorem rIn_cases (a : Array Bool × Bool) (v : Nat) :
    (mk a.1 v = true ∧ rIn a v = a) ∨
    (mk a.1 v = false ∧ rIn a v = (a.1.setIfInBounds v true, true)) := by
  unfold rIn mk
  cases h : a.1.getD v false <;> simp

theorem rInit_size (g : Graph) (S : List Nat) : (rInit g S).size = g.n := by
  unfold rInit
  rw [size_marks, Array.size_replicate]

theorem rInit_mk (g : Graph) (S : List Nat) (x : Nat) :
    mk (rInit g S) x = true ↔ x ∈ S ∧ x < g.n := by
  unfold mk rInit
  rw [getD_marks, Array.size_replicate, getD_replicate]
  simp

/-- Inside a round started at `vis`. -/
structure RInv (g : Graph) (S : List Nat) (vis : Array Bool) (a : Array Bool × Bool) : Prop where
  size : a.1.size = g.n
  sound : ∀ x, mk a.1 x = true → ReachFrom g S x
  mono : ∀ x, mk vis x = true → mk a.1 x = true
  cle : cnt vis ≤ cnt a.1
  clt : a.2 = true → cnt vis < cnt a.1

theorem reachFrom_step {g : Graph} {S : List Nat} {u v : Nat} (h : ReachFrom g S u) (ha : g.A u v) :
    ReachFrom g S v := by
  obtain ⟨s, hs, hr⟩ := h
  exact ⟨s, hs, Reach.step hr ha⟩

theorem rIn_mono (a : Array Bool × Bool) (v x : Nat) (h : mk a.1 x = true) : mk (rIn a v).1 x = true := by
  rcases rIn_cases a v with ⟨_, h1⟩ | ⟨_, h1⟩ <;> rw [h1]
  · exact h
  · unfold mk
    rw [getD_set]
    split
    · rfl
    · exact h

theorem rInv_rIn {g : Graph} (hwf : g.WF) {S : List Nat} {vis : Array Bool} {a : Array Bool × Bool}
    {u v : Nat} (h : RInv g S vis a) (hu : mk a.1 u = true) (ha : g.A u v) : RInv g S vis (rIn a v) := by
  rcases rIn_cases a v with ⟨_, h1⟩ | ⟨hm, h1⟩
  · rw [h1]; exact h
  · rw [h1]
    have hv : v < a.1.size := by rw [h.size]; exact (hwf u v ha).2
    have hlt : cnt vis < cnt (a.1.setIfInBounds v true) := by
      rw [cnt_set hv hm]; exact Nat.lt_succ_of_le h.cle
    refine ⟨by simpa using h.size, ?_, fun x hx => (getD_set_true hv x).mpr (Or.inl (h.mono x hx)), Nat.le_of_lt hlt,
      fun _ => hlt⟩
    · intro x hx
      rcases (getD_set_true hv x).mp hx with hx | rfl
      · exact h.sound x hx
      · exact reachFrom_step (h.sound u hu) ha

theorem rInv_rOut {g : Graph} (hwf : g.WF) {S : List Nat} {vis : Array Bool} {a : Array Bool × Bool}
    (u : Nat) (h : RInv g S vis a) : RInv g S vis (rOut g a u) := by
  unfold rOut
  by_cases hu : a.1.getD u false = true
  · rw [if_pos hu]
    have := Fold.foldl_inv (fun b : Array Bool × Bool => RInv g S vis b ∧ mk b.1 u = true) (f := rIn) (l := g.out u)
      (fun b v hv hb => ⟨rInv_rIn hwf hb.1 hb.2 hv, rIn_mono b v u hb.2⟩) a ⟨h, hu⟩
    exact this.1
  · rw [if_neg hu]; exact h

theorem rInv_round {g : Graph} (hwf : g.WF) {S : List Nat} {vis : Array Bool}
    (hsize : vis.size = g.n) (hsound : ∀ x, mk vis x = true → ReachFrom g S x) :
    RInv g S vis (rRound g vis) := by
  unfold rRound
  refine Fold.foldl_inv (RInv g S vis) (fun a u _ h => rInv_rOut hwf u h) _ ?_
  exact ⟨hsize, hsound, fun _ h => h, Nat.le_refl _, fun h => by cases h⟩

theorem rIn_quiet (a : Array Bool × Bool) (v : Nat) (h : (rIn a v).2 = false) :
    rIn a v = a ∧ mk a.1 v = true := by
  rcases rIn_cases a v with ⟨hm, h1⟩ | ⟨_, h1⟩
  · exact ⟨h1, hm⟩
  · rw [h1] at h; cases h

theorem rOut_quiet (g : Graph) (a : Array Bool × Bool) (u : Nat) (h : (rOut g a u).2 = false) :
    rOut g a u = a ∧ (mk a.1 u = true → ∀ v ∈ g.out u, mk a.1 v = true) := by
  unfold rOut at h ⊢
  by_cases hm : a.1.getD u false = true
  · rw [if_pos hm] at h ⊢
    obtain ⟨e, hall⟩ := Fold.foldl_quiet rIn (fun a v => mk a.1 v = true) _ (fun a v _ => rIn_quiet a v) a h
    exact ⟨e, fun _ => hall⟩
  · rw [if_neg hm]
    exact ⟨rfl, fun h' => absurd h' hm⟩

def Closed (g : Graph) (a : Array Bool) : Prop :=
  ∀ u, mk a u = true → ∀ v ∈ g.out u, mk a v = true

theorem rRound_noupdate {g : Graph} {vis : Array Bool} (hsize : vis.size = g.n)
    (h : (rRound g vis).2 = false) : (rRound g vis).1 = vis ∧ Closed g vis := by
  unfold rRound at h ⊢
  obtain ⟨e, hall⟩ := Fold.foldl_quiet (rOut g) (fun a u => mk a.1 u = true → ∀ v ∈ g.out u, mk a.1 v = true) _
    (fun a u _ => rOut_quiet g a u) _ h
  rw [e]
  exact ⟨rfl, fun u hu => hall u (List.mem_range.mpr (hsize ▸ getD_lt hu (by decide))) hu⟩

/-- What the loop maintains and what it delivers. -/
structure Good (g : Graph) (S : List Nat) (a : Array Bool) : Prop where
  size : a.size = g.n
  sound : ∀ x, mk a x = true → ReachFrom g S x
  src : ∀ s ∈ S, s < g.n → mk a s = true

/-- The fuel argument of the closure loop: `n + 1 ≤ fuel + marked` cannot hold without fuel, and is kept
when a round uses one unit of fuel and marks one more vertex. -/
theorem fuel_zero {n c : Nat} (hc : n + 1 ≤ 0 + c) (h : c ≤ n) : False :=
  Nat.not_succ_le_self n (Nat.le_trans (Nat.zero_add c ▸ hc) h)

theorem fuel_step {n fuel c c' : Nat} (hc : n + 1 ≤ fuel + 1 + c) (h : c < c') : n + 1 ≤ fuel + c' :=
  Nat.le_trans (Nat.add_right_comm fuel 1 c ▸ hc) (Nat.add_le_add_left h fuel)

theorem go_spec {g : Graph} (hwf : g.WF) {S : List Nat} :
    ∀ (fuel : Nat) (vis : Array Bool), Good g S vis → g.n + 1 ≤ fuel + cnt vis →
      Good g S (reachSetB.go (rRound g) fuel vis) ∧ Closed g (reachSetB.go (rRound g) fuel vis) := by
  intro fuel
  induction fuel with
  | zero =>
    intro vis hg hc
    exact (fuel_zero hc (hg.size ▸ cnt_le vis)).elim
  | succ fuel ih =>
    intro vis hg hc
    have hinv := rInv_round hwf (S := S) hg.size hg.sound
    have hgood : Good g S (rRound g vis).1 :=
      ⟨hinv.size, hinv.sound, fun s hs hn => hinv.mono s (hg.src s hs hn)⟩
    rw [reachSetB.go]
    cases hf : (rRound g vis).2 with
    | true =>
      simp only [if_true]
      exact ih _ hgood (fuel_step hc (hinv.clt hf))
    | false =>
      simp only [Bool.false_eq_true, if_false]
      obtain ⟨e, hcl⟩ := rRound_noupdate hg.size hf
      rw [e]
      exact ⟨hg, hcl⟩

theorem good_init (g : Graph) (S : List Nat) : Good g S (rInit g S) := by
  refine ⟨rInit_size g S, ?_, ?_⟩
  · intro x hx
    exact ⟨x, ((rInit_mk g S x).mp hx).1, Reach.refl x⟩
  · intro s hs hn
    exact (rInit_mk g S s).mpr ⟨hs, hn⟩

theorem closed_complete {g : Graph} {S : List Nat} {a : Array Bool} (hS : ∀ s ∈ S, s < g.n)
    (hg : Good g S a) (hcl : Closed g a) {v : Nat} (h : ReachFrom g S v) : mk a v = true := by
  obtain ⟨s, hs, hr⟩ := h
  exact reach_closed hr (hg.src s hs (hS s hs)) fun x y hx ha => hcl x hx y ha

theorem rGo_final {g : Graph} (hwf : g.WF) (S : List Nat) :
    Good g S (reachSetB.go (rRound g) (g.n + 1) (rInit g S)) ∧
      Closed g (reachSetB.go (rRound g) (g.n + 1) (rInit g S)) :=
  go_spec hwf (g.n + 1) (rInit g S) (good_init g S) (Nat.le_add_right _ _)

theorem reachSetB_spec {g : Graph} (hwf : g.WF) {S : List Nat} (hS : ∀ s ∈ S, s < g.n) (v : Nat) :
    (reachSetB g S)[v]?.getD false = true ↔ ReachFrom g S v := by
  rw [reachSetB_eq, toList_getD]
  obtain ⟨hg, hcl⟩ := rGo_final hwf S
  exact ⟨hg.sound v, closed_complete hS hg hcl⟩

theorem reachSetB_length {g : Graph} (hwf : g.WF) (S : List Nat) : (reachSetB g S).length = g.n := by
  rw [reachSetB_eq, Array.length_toList]
  exact (rGo_final hwf S).1.size

end GraafVerif.OracleProof
