import GraafVerif.Proof.AlgoGen4Par
import GraafVerif.Model.Pred
/-!
# Generated `AdjacencyList::is_semicomplete` = the hand-written functional worker model `Pred.AL.isSemicomplete d t`

Under the reading of DESIGN.md §4.2 (every worker runs to completion at its spawn point, the `AtomicBool` is a plain
Boolean variable) the flag after the scope is the conjunction of the workers' verdicts.
-/
namespace GraafVerif.AlgoGenThm
open GraafVerif GraafVerif.AlgoGen GraafVerif.Repr

namespace AdjacencyList

theorem isSemicomplete_for2_eq (d : AdjList) (u v : Nat) (hu : u < d.rows.length) (hv : v < d.rows.length) :
    (AlgoGen.AdjacencyList.isSemicomplete_for2 d u true v : Blk Bool Bool Bool) = .ok (Pred.AL.pairOk d u v) ∨
      (Pred.AL.pairOk d u v = false ∧ (AlgoGen.AdjacencyList.isSemicomplete_for2 d u true v : Blk Bool Bool Bool) = brk false) := by
  unfold AlgoGen.AdjacencyList.isSemicomplete_for2 Pred.AL.pairOk Pred.AL.row
  simp only [Bool.true_eq_false, if_false, rd_lt _ _ _ hu, rd_lt _ _ _ hv, ok_bind, List.getElem?_eq_getElem hu,
    List.getElem?_eq_getElem hv, Option.getD_some]
  cases h1 : d.rows[u].contains v <;> cases h2 : d.rows[v].contains u <;> simp [brk, pure_eq_ok]

theorem isSemicomplete_for2_false (d : AdjList) (u v : Nat) :
    (AlgoGen.AdjacencyList.isSemicomplete_for2 d u false v : Blk Bool Bool Bool) = brk false := by
  unfold AlgoGen.AdjacencyList.isSemicomplete_for2
  simp

theorem isSemicomplete_for1_eq (d : AdjList) (u : Nat) (hu : u < d.order) :
    (AlgoGen.AdjacencyList.isSemicomplete_for1 d d.order true u : Blk Bool Bool Bool) = .ok (Pred.AL.rowOk d u) := by
  unfold AlgoGen.AdjacencyList.isSemicomplete_for1 Pred.AL.rowOk Pred.above
  simp only [Bool.true_eq_false, if_false]
  rw [forLoop_flag (β := Bool) (AlgoGen.AdjacencyList.isSemicomplete_for2 d u) (Pred.AL.pairOk d u) _
    (fun v hv => isSemicomplete_for2_eq d u v hu (mem_range_lt (Nat.le_refl d.order) hv))
    (fun v _ => Or.inl (isSemicomplete_for2_false d u v)) _ true (fun _ h => h)]
  rfl

theorem isSemicomplete_for1_false (d : AdjList) (u : Nat) :
    (AlgoGen.AdjacencyList.isSemicomplete_for1 d d.order false u : Blk Bool Bool Bool) = brk false := by
  unfold AlgoGen.AdjacencyList.isSemicomplete_for1
  simp

theorem isSemicomplete_for0_eq (d : AdjList) (chunk : Nat) (b : Bool) (start : Nat) :
    (AlgoGen.AdjacencyList.isSemicomplete_for0 d d.order chunk b start : Blk Bool Bool Bool) =
      .ok (b && Pred.AL.scanChunk d (start, min d.order (start + chunk))) := by
  unfold AlgoGen.AdjacencyList.isSemicomplete_for0 Pred.AL.scanChunk
  dsimp only
  rw [forLoop_flag (β := Bool) (AlgoGen.AdjacencyList.isSemicomplete_for1 d d.order) (Pred.AL.rowOk d) _
    (fun u hu => Or.inl (isSemicomplete_for1_eq d u (mem_range_lt (Nat.min_le_left _ _) hu)))
    (fun u _ => Or.inl (isSemicomplete_for1_false d u)) _ b (fun _ h => h)]
  rfl

/-- `AdjacencyList::is_semicomplete` with `available_parallelism() = ap ≥ 1` = the hand-written functional model
`Pred.AL.isSemicomplete d ap`, for every list of order `≥ 1` (no pointer read leaves the rows). -/
theorem isSemicomplete_eq (ap : Nat) (d : AdjList) (hap : 0 < ap) (hn : 0 < d.order) :
    AlgoGen.AdjacencyList.isSemicomplete ap d = .ok (Pred.AL.isSemicomplete d ap) := by
  unfold AlgoGen.AdjacencyList.isSemicomplete Pred.AL.isSemicomplete
  dsimp only
  by_cases h1 : d.order = 1
  · simp [h1]
  · have hb : (d.order == 1) = false := by simpa using h1
    simp only [h1, if_false, hb, Bool.false_eq_true, subP_le _ _ hn, ok_bind]
    by_cases hs : d.size < d.order * (d.order - 1) / 2
    · simp [hs]
    · have hc : 0 < (d.order + ap - 1) / ap := (Par.chunkCount_le d.order ap hap hn).1
      simp only [hs, if_false, divCeilP_pos _ _ hap, ok_bind, stepByP_range _ _ hc]
      rw [forLoop_flag (β := Empty) (AlgoGen.AdjacencyList.isSemicomplete_for0 d d.order ((d.order + ap - 1) / ap))
        (fun start => Pred.AL.scanChunk d (start, min d.order (start + (d.order + ap - 1) / ap))) _
        (fun start _ => Or.inl (by rw [isSemicomplete_for0_eq, Bool.true_and]))
        (fun start _ => Or.inr (by rw [isSemicomplete_for0_eq, Bool.false_and])) _ true (fun _ h => h),
        ranges_closed d.order ap hap hn, List.all_map, List.all_map]
      rfl

end AdjacencyList
end GraafVerif.AlgoGenThm
