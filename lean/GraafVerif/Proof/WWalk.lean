import GraafVerif.Spec.Bfm
import GraafVerif.Spec.Fw
import GraafVerif.Proof.OracleFold
/-!
# Weighted walks and distance vectors: what the shortest-path proofs (C03, C05, C07, C08, the oracles, the cross theorems) share

A notion carries the namespace of the property whose statements speak of it (`Dijkstra`: C03, `Cross`:
the theorems between algorithms, `Bfm`: C07); the proofs of the others use it from here.

* `WWalk.nonneg`, `WWalk.src_lt`, `WWalk.potential_le`, `IsMinDist.unique`, `WGraph.NonNeg.not_negCycleAt`,
  `negCycle_lt`: walks, minima and negative circuits over `Spec/Graph` (what they are on `g.toGraph` and on
  unit weights, in terms of `Reach` and `IsHopDist`, is in `Proof/Cross.lean`);
* `WGraph.NonNeg.noNegCycle`, `WGraph.NoNegCycle.not_negReachableFrom` / `.not_negReachable`,
  `WGraph.NoNegCycle.of_potential`: from non-negative weights (or potentials) to C08's precondition, and
  from there to C07's and the oracles' (`OracleProof.NegReachableFrom`, over a source list);
* `Dijkstra.SrcWalk g S v d`: `d` is the weight of a walk from a source to `v` (C03's invariant, the
  oracles' `WInv`);
* `Tab n P d`: a label vector as the table of a declarative relation, with `Tab.unique`, the one argument
  behind every equality between the outputs of two distance algorithms;
* `Cross.IsDistVec`: the distance vector from a source list, the weighted case of `Tab`; `Bfm.Exact` is
  its single-source case (`exact_of_isDistVec`, `isDistVec_of_exact`);
* `mem_arcList`: the arc list of a weighted digraph;
* namespace `Bfm`: what Bellman-Ford needs of walks, for the model (`Proof/Bfm.lean`) and the oracles
  (`Proof/OracleWDist.lean`) alike: where no negative circuit is reachable (`NoNegReach`) circuits can
  be cut out of a walk (`simple_walk`), which leaves at most `n - 1` arcs (`short_walk`).
-/
namespace GraafVerif
open GraafVerif.OracleProof (lk lk_eq_some lk_of_le)

theorem WWalk.nonneg {g : WGraph} (hnn : g.NonNeg) {u v k : Nat} {wt : Int} (h : WWalk g u v k wt) :
    0 ≤ wt := by
  induction h with
  | nil => exact Int.le_refl 0
  | snoc _ ha ih => exact Int.add_nonneg ih (hnn _ _ _ ha)

theorem WWalk.src_lt {g : WGraph} (hwf : g.WF) {s v k : Nat} {wt : Int} (h : WWalk g s v k wt)
    (hv : v < g.n) : s < g.n := by
  induction h with
  | nil => exact hv
  | snoc _ ha ih => exact ih (hwf _ _ _ ha).1

/-- A potential that no arc outruns telescopes along a walk. -/
theorem WWalk.potential_le {g : WGraph} {p : Nat → Int} (h : ∀ x y w, g.A x y w → p y ≤ p x + w)
    {u v k : Nat} {wt : Int} (hw : WWalk g u v k wt) : p v - p u ≤ wt := by
  induction hw with
  | nil => exact Int.le_of_eq (Int.sub_self _)
  | snoc _ a ih => have := h _ _ _ a; omega

theorem IsMinDist.unique {g : WGraph} {S : List Nat} {v : Nat} {x y : Int}
    (hx : IsMinDist g S v x) (hy : IsMinDist g S v y) : x = y := by
  obtain ⟨⟨s1, hs1, k1, hw1⟩, hmin1⟩ := hx
  obtain ⟨⟨s2, hs2, k2, hw2⟩, hmin2⟩ := hy
  exact Int.le_antisymm (hmin1 s2 hs2 k2 y hw2) (hmin2 s1 hs1 k1 x hw1)

namespace Dijkstra

/-- `d` is the weight of some walk from a source to `v`. -/
def SrcWalk (g : WGraph) (S : List Nat) (v : Nat) (d : Int) : Prop := ∃ s ∈ S, ∃ k, WWalk g s v k d

theorem SrcWalk.nonneg {g : WGraph} (hw : g.NonNeg) {S v d} (h : SrcWalk g S v d) : 0 ≤ d := by
  obtain ⟨s, _, k, hk⟩ := h; exact hk.nonneg hw

theorem SrcWalk.snoc {g : WGraph} {S v d x w} (h : SrcWalk g S v d) (ha : (x, w) ∈ g.out v) :
    SrcWalk g S x (d + w) := by
  obtain ⟨s, hs, k, hk⟩ := h; exact ⟨s, hs, k+1, WWalk.snoc hk ha⟩

theorem SrcWalk.src {g : WGraph} {S s} (h : s ∈ S) : SrcWalk g S s 0 := ⟨s, h, 0, WWalk.nil s⟩

end Dijkstra

theorem WGraph.NonNeg.not_negCycleAt {g : WGraph} (hnn : g.NonNeg) {x : Nat} : ¬ NegCycleAt g x := by
  rintro ⟨k, wt, _, hw, hlt⟩
  exact absurd (hw.nonneg hnn) (Int.not_le.mpr hlt)

theorem negCycle_lt {g : WGraph} (hwf : g.WF) {x : Nat} (h : NegCycleAt g x) : x < g.n := by
  obtain ⟨k, wt, hk, hw, _⟩ := h
  cases hw with
  | nil => exact absurd hk (Nat.lt_irrefl 0)
  | snoc _ ha => exact (hwf _ _ _ ha).2

/-- A negative circuit through a vertex that some source reaches.  `Bfm.NegReachable g s` unfolds to
the case `S = [s]`, and `Bfm.NoNegReach g s` is its negation. -/
def OracleProof.NegReachableFrom (g : WGraph) (S : List Nat) : Prop :=
  ∃ x, WReachFrom g S x ∧ NegCycleAt g x

/-! Non-negative weights ⇒ no negative circuit ⇒ none that a source reaches; potentials that no arc
outruns give the second. -/

theorem WGraph.NonNeg.noNegCycle {g : WGraph} (hnn : g.NonNeg) : g.NoNegCycle :=
  fun _ => hnn.not_negCycleAt

theorem WGraph.NoNegCycle.not_negReachableFrom {g : WGraph} (hnc : g.NoNegCycle) (S : List Nat) :
    ¬ OracleProof.NegReachableFrom g S :=
  fun ⟨x, _, hn⟩ => hnc x hn

theorem WGraph.NoNegCycle.not_negReachable {g : WGraph} (hnc : g.NoNegCycle) (s : Nat) :
    ¬ Bfm.NegReachable g s :=
  hnc.not_negReachableFrom [s]

theorem WGraph.NoNegCycle.of_potential {g : WGraph} (p : Nat → Int)
    (h : ∀ u v w, g.A u v w → 0 ≤ w + p u - p v) : g.NoNegCycle := by
  rintro x ⟨k, wt, _, hw, hneg⟩
  have := hw.potential_le (p := p) fun x y w a => by have := h x y w a; omega
  omega

/-! ## Label vectors as tables

Every exact output of a distance algorithm is a list of options that holds `some x` at `v` exactly when
`P v x`, for a declarative `P` (`IsMinDist g S`, `IsHopDist g S`, `IsMinIn g K` at the pair a flat index
stands for).  Two such lists are equal whatever `P` is: the one argument behind every equality between
the outputs of two models. -/

/-- `d` tabulates `P` on `0..n`: one entry per index, `some x` at `v` exactly when `P v x`. -/
structure Tab {α : Type} (n : Nat) (P : Nat → α → Prop) (d : List (Option α)) : Prop where
  len : d.length = n
  iff : ∀ v, v < n → ∀ x, lk d v = some x ↔ P v x

theorem Tab.unique {α : Type} {n : Nat} {P : Nat → α → Prop} {d d' : List (Option α)}
    (h : Tab n P d) (h' : Tab n P d') : d = d' :=
  Vec.ext_getD none (h.len.trans h'.len.symm) fun v =>
    if hv : v < n then Option.ext fun x => (h.iff v hv x).trans (h'.iff v hv x).symm
    else (lk_of_le (h.len ▸ Nat.le_of_not_lt hv)).trans (lk_of_le (h'.len ▸ Nat.le_of_not_lt hv)).symm

theorem Tab.of_getElem? {α : Type} {n : Nat} {P : Nat → α → Prop} {d : List (Option α)}
    (hlen : d.length = n) (h : ∀ v, v < n → ∀ x, d[v]? = some (some x) ↔ P v x) : Tab n P d :=
  ⟨hlen, fun v hv x => lk_eq_some.trans (h v hv x)⟩

namespace Cross

theorem isMinDist_reach {g : WGraph} {S : List Nat} {v : Nat} {d : Int} (h : IsMinDist g S v d) :
    WReachFrom g S v := by
  obtain ⟨⟨s, hs, k, hk⟩, _⟩ := h
  exact ⟨s, hs, k, d, hk⟩

/-- `d` is the distance vector from the sources `S` (`none` = the `MAX` sentinel). -/
def IsDistVec (g : WGraph) (S : List Nat) (d : List (Option Int)) : Prop :=
  d.length = g.n ∧
  (∀ v, v < g.n → ∀ x, d[v]? = some (some x) ↔ IsMinDist g S v x) ∧
  (∀ v, v < g.n → (d[v]? = some none ↔ ¬ WReachFrom g S v))

theorem exists_getElem? {α : Type} (l : List α) (v : Nat) (hv : v < l.length) : ∃ o, l[v]? = some o :=
  ⟨l[v], List.getElem?_eq_getElem hv⟩

theorem IsDistVec.lt {g : WGraph} {S : List Nat} {d : List (Option Int)} (h : IsDistVec g S d)
    {v : Nat} {o : Option Int} (ho : d[v]? = some o) : v < g.n :=
  h.1 ▸ (List.getElem?_eq_some_iff.mp ho).1

theorem IsDistVec.tab {g : WGraph} {S : List Nat} {d : List (Option Int)} (h : IsDistVec g S d) :
    Tab g.n (IsMinDist g S) d :=
  .of_getElem? h.1 h.2.1

theorem isDistVec_unique {g : WGraph} {S : List Nat} {d d' : List (Option Int)}
    (h : IsDistVec g S d) (h' : IsDistVec g S d') : d = d' :=
  h.tab.unique h'.tab

/-- The two clauses of `IsDistVec` are needed in one direction only: an entry that is not the
minimum would be another minimum or the sentinel, an entry that is not the sentinel a walk weight. -/
theorem isDistVec_of_sound {g : WGraph} {S : List Nat} {d : List (Option Int)} (hlen : d.length = g.n)
    (hfin : ∀ v x, d[v]? = some (some x) → IsMinDist g S v x)
    (hinf : ∀ v, d[v]? = some none → ¬ WReachFrom g S v) : IsDistVec g S d := by
  refine ⟨hlen, fun v hv x => ⟨hfin v x, fun hmin => ?_⟩, fun v hv => ⟨hinf v, fun hnr => ?_⟩⟩
  · obtain ⟨o, ho⟩ := exists_getElem? d v (hlen ▸ hv)
    cases o with
    | some y => rw [ho, hmin.unique (hfin v y ho)]
    | none => exact absurd (isMinDist_reach hmin) (hinf v ho)
  · obtain ⟨o, ho⟩ := exists_getElem? d v (hlen ▸ hv)
    cases o with
    | some y => exact absurd (isMinDist_reach (hfin v y ho)) hnr
    | none => exact ho

theorem exact_of_isDistVec {g : WGraph} {s : Nat} {d : List (Option Int)} (h : IsDistVec g [s] d) :
    Bfm.Exact g s d :=
  ⟨h.1, fun v x hx => (h.2.1 v (h.lt hx) x).mp hx, fun v hx => (h.2.2 v (h.lt hx)).mp hx⟩

theorem isDistVec_of_exact {g : WGraph} {s : Nat} {d : List (Option Int)} (h : Bfm.Exact g s d) :
    IsDistVec g [s] d :=
  isDistVec_of_sound h.1 h.2.1 h.2.2

end Cross

/-- Membership in `arcs_weighted()` (`Bfm.arcsOf` and `Fw.arcsWeighted` are this list). -/
theorem mem_arcList {n : Nat} {out : Nat → List (Nat × Int)} {u v : Nat} {w : Int} :
    (u, v, w) ∈ (List.range n).flatMap (fun u => (out u).map (fun vw => (u, vw.1, vw.2))) ↔
      u < n ∧ (v, w) ∈ out u := by
  simp only [List.mem_flatMap, List.mem_range, List.mem_map, Prod.mk.injEq]
  constructor
  · rintro ⟨_, hu, ⟨_, _⟩, hm, rfl, rfl, rfl⟩
    exact ⟨hu, hm⟩
  · rintro ⟨hu, hm⟩
    exact ⟨u, hu, (v, w), hm, rfl, rfl, rfl⟩

theorem arcList_lt {g : WGraph} (hwf : g.WF) {a : Nat × Nat × Int}
    (h : a ∈ (List.range g.n).flatMap (fun u => (g.out u).map (fun vw => (u, vw.1, vw.2)))) : a.1 < g.n ∧ a.2.1 < g.n :=
  hwf a.1 a.2.1 a.2.2 (mem_arcList.mp h).2

namespace Bfm

/-- No negative circuit through a vertex that `s` reaches. -/
def NoNegReach (g : WGraph) (s : Nat) : Prop := ¬ NegReachable g s

/-- A walk together with the list of the vertices it visits (start and end included). -/
inductive WWalkL (g : WGraph) : Nat → Nat → List Nat → Int → Prop
  | nil (u) : WWalkL g u u [u] 0
  | snoc {u v x l wt w} : WWalkL g u v l wt → g.A v x w → WWalkL g u x (l ++ [x]) (wt + w)

theorem WWalkL.toWWalk {g : WGraph} {u v : Nat} {l : List Nat} {wt : Int} (h : WWalkL g u v l wt) :
    ∃ k, l.length = k + 1 ∧ WWalk g u v k wt := by
  induction h with
  | nil => exact ⟨0, rfl, WWalk.nil u⟩
  | snoc _ ha ih =>
    obtain ⟨k, hk, hw⟩ := ih
    exact ⟨k+1, by rw [List.length_append, hk]; rfl, WWalk.snoc hw ha⟩

theorem WWalkL.mem_lt {g : WGraph} (hwf : g.WF) {u v : Nat} {l : List Nat} {wt : Int}
    (h : WWalkL g u v l wt) (hu : u < g.n) : ∀ x ∈ l, x < g.n := by
  induction h with
  | nil => intro x hx; rw [List.mem_singleton.mp hx]; exact hu
  | snoc _ ha ih =>
    intro y hy
    rcases List.mem_append.mp hy with hy | hy
    · exact ih y hy
    · rw [List.mem_singleton.mp hy]; exact (hwf _ _ _ ha).2

theorem WWalkL.split {g : WGraph} {u v : Nat} {l : List Nat} {wt : Int} (h : WWalkL g u v l wt)
    {x : Nat} (hx : x ∈ l) :
    ∃ l1 wt1 k2 wt2, WWalkL g u x l1 wt1 ∧ l1 <+: l ∧ WWalk g x v k2 wt2 ∧ wt = wt1 + wt2 := by
  induction h with
  | nil =>
    rw [List.mem_singleton.mp hx]
    exact ⟨[u], 0, 0, 0, WWalkL.nil u, List.prefix_refl _, WWalk.nil u, rfl⟩
  | @snoc v y l wt w hw ha ih =>
    by_cases hxl : x ∈ l
    · obtain ⟨l1, wt1, k2, wt2, h1, hp, h2, he⟩ := ih hxl
      exact ⟨l1, wt1, k2+1, wt2 + w, h1, hp.trans (List.prefix_append _ _), WWalk.snoc h2 ha,
        by rw [he, Int.add_assoc]⟩
    · have hxy : x = y := by
        rcases List.mem_append.mp hx with h | h
        · exact absurd h hxl
        · exact List.mem_singleton.mp h
      subst hxy
      exact ⟨l ++ [x], wt + w, 0, 0, WWalkL.snoc hw ha, List.prefix_refl _, WWalk.nil x, (Int.add_zero _).symm⟩

theorem simple_walk {g : WGraph} {s : Nat} (hnn : NoNegReach g s) {v k : Nat} {wt : Int}
    (hw : WWalk g s v k wt) : ∃ l wt', WWalkL g s v l wt' ∧ l.Nodup ∧ wt' ≤ wt := by
  induction hw with
  | nil => exact ⟨[s], 0, WWalkL.nil s, List.pairwise_singleton _ s, Int.le_refl 0⟩
  | @snoc v x k wt w _ ha ih =>
    obtain ⟨l, wt', hl, hnd, hle⟩ := ih
    by_cases hx : x ∈ l
    · -- the walk comes back to `x`: drop the closed walk at `x`, which is not negative
      obtain ⟨l1, wt1, k2, wt2, h1, hp, h2, he⟩ := hl.split hx
      obtain ⟨k1, _, hw1⟩ := h1.toWWalk
      have hcyc : ¬ (wt2 + w < 0) := fun hlt =>
        hnn ⟨x, ⟨s, List.mem_singleton_self s, k1, wt1, hw1⟩, k2+1, wt2 + w, Nat.succ_pos _, WWalk.snoc h2 ha, hlt⟩
      exact ⟨l1, wt1, h1, hp.sublist.nodup hnd, by omega⟩
    · exact ⟨l ++ [x], wt' + w, WWalkL.snoc hl ha, nodup_snoc hnd hx, Int.add_le_add_right hle w⟩

theorem short_walk {g : WGraph} (hwf : g.WF) {s : Nat} (hs : s < g.n) (hnn : NoNegReach g s)
    {v k : Nat} {wt : Int} (hw : WWalk g s v k wt) :
    ∃ k' wt', k' + 1 ≤ g.n ∧ wt' ≤ wt ∧ WWalk g s v k' wt' := by
  obtain ⟨l, wt', hl, hnd, hle⟩ := simple_walk hnn hw
  obtain ⟨k', hk', hw'⟩ := hl.toWWalk
  refine ⟨k', wt', ?_, hle, hw'⟩
  have := length_le_of_nodup_lt hnd (hl.mem_lt hwf hs)
  rwa [hk'] at this

theorem isMinDist_unique {g : WGraph} {S : List Nat} {v : Nat} {x y : Int}
    (hx : IsMinDist g S v x) (hy : IsMinDist g S v y) : x = y := hx.unique hy

end Bfm

end GraafVerif
