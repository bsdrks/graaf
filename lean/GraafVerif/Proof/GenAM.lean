import GraafVerif.Proof.GenDefs
import GraafVerif.Proof.GenAddArcMap
/-!
# C14, AdjacencyMap: the collected `(key, row)` sequences realise the defining arc sets

The generators emit the keys `0..n` in ascending order, so `collect::<BTreeMap>()` (`mapOf`) is the
emitted sequence itself; `AM.realises_of_rows` asks for that and for every entry `(u, row)` to carry
the out-neighbours of `u` (`IsRow`), with the row lemmas of the AdjacencyList generators.
-/
namespace GraafVerif.Gen
open GraafVerif.Repr GraafVerif.GenSpec

theorem mapOf_sorted {l : List (Nat × List Nat)} (h : SortedK l) : mapOf l = l := by
  induction l with
  | nil => rfl
  | cons x xs ih =>
    have h := List.pairwise_cons.mp h
    have : mapOf (x :: xs) = minsertNew x.1 x.2 (mapOf xs) := rfl
    rw [this, ih h.2]
    cases xs with
    | nil => rfl
    | cons y ys => exact if_pos (h.1 y (List.mem_cons_self ..))

theorem keys_map_pair {α : Type} (l : List Nat) (g : Nat → α) : (l.map (fun u => (u, g u))).map (·.1) = l := by
  rw [List.map_map]; exact List.map_id'' (fun _ => rfl) l

namespace AM

theorem mem_arcs {d : AdjMap} {u v : Nat} :
    (u, v) ∈ d.arcs ↔ ∃ row, (u, row) ∈ d.rows ∧ v ∈ row := mem_rowArcs

/-- `Realises` is `repr.Holds` with the vertex list spelled out -/
theorem realises_of_holds {d : AdjMap} {n : Nat} {P : Nat → Nat → Prop} (h : repr.Holds d n P) : Realises d n P :=
  ⟨h.1.1, h.2.1, h.2.1 ▸ h.1.2.1, h.2.2⟩

theorem holds_of_realises {d : AdjMap} {n : Nat} {P : Nat → Nat → Prop} (hn : 1 ≤ n) (h : Realises d n P) :
    repr.Holds d n P :=
  ⟨⟨h.1, h.2.2.1.trans (congrArg List.range h.2.1.symm), h.2.1 ▸ hn⟩, h.2.1, h.2.2.2⟩

theorem realises_of_rows {l : List (Nat × List Nat)} {n : Nat} {P : Nat → Nat → Prop}
    (hkeys : l.map (·.1) = List.range n) (hrows : ∀ p ∈ l, IsRow P p.1 p.2) (hvalid : ValidOn n P) :
    Realises ⟨l⟩ n P := by
  have hs := sortedK_of_keys hkeys
  have hkey : ∀ u, u < n → u ∈ l.map (·.1) := fun u hu => hkeys ▸ List.mem_range.mpr hu
  refine ⟨⟨hs, fun u row h => ⟨(hrows _ h).1, fun v hv => ?_⟩⟩, ?_, hkeys, fun u v => ?_⟩
  · have := hvalid u v (((hrows _ h).2 v).mp hv)
    exact ⟨fun e => this.2.2 e.symm, (mget_isSome_iff hs).mpr (hkey v this.2.1)⟩
  · have := congrArg List.length hkeys
    rwa [List.length_map, List.length_range] at this
  · rw [mem_arcs]
    constructor
    · rintro ⟨row, h, hv⟩; exact ((hrows _ h).2 v).mp hv
    · intro hP
      obtain ⟨⟨u', row⟩, h, rfl⟩ := List.mem_map.mp (hkey u (hvalid u v hP).1)
      exact ⟨row, h, ((hrows _ h).2 v).mpr hP⟩

/-- the generators return `some ⟨mapOf l⟩` with `l` key-ascending -/
theorem spec_of_rows {l : List (Nat × List Nat)} {n : Nat} {P : Nat → Nat → Prop}
    (hkeys : l.map (·.1) = List.range n) (hrows : ∀ p ∈ l, IsRow P p.1 p.2) (hvalid : ValidOn n P) :
    ∃ d, some (⟨mapOf l⟩ : AdjMap) = some d ∧ Realises d n P :=
  ⟨⟨l⟩, by rw [mapOf_sorted (sortedK_of_keys hkeys)], realises_of_rows hkeys hrows hvalid⟩

theorem empty_spec {n : Nat} (hn : 1 ≤ n) : ∃ d, empty n = some d ∧ Realises d n (EmptyDef n) :=
  (repr.yields_empty hn True.intro fun _ _ => id).imp fun _ h => ⟨h.1, realises_of_holds h.2⟩

/-- `assert!(order > 0); if order == 1 { return Self::trivial() }` -/
theorem spec_of_guard {x : Option AdjMap} {n : Nat} {P : Nat → Nat → Prop} (hn : 1 ≤ n) (hP : ValidOn n P)
    (h : 2 ≤ n → ∃ d, x = some d ∧ Realises d n P) :
    ∃ d, (if n = 0 then none else if n = 1 then trivial else x) = some d ∧ Realises d n P :=
  (repr.yields_guard hn True.intro hP fun h2 => (h h2).imp fun _ h => ⟨h.1, holds_of_realises hn h.2⟩).imp
    fun _ h => ⟨h.1, realises_of_holds h.2⟩

theorem circuit_spec {n : Nat} (hn : 1 ≤ n) : ∃ d, circuit n = some d ∧ Realises d n (CircuitDef n) :=
  spec_of_guard hn circuitDef_valid fun h2 =>
    spec_of_rows ((keys_map_pair _ _).trans (rangeFT_zero n))
      (isRow_map_pair fun _ hu => isRow_ssetOf fun _ => circuit_row h2 (mem_rangeFT.mp hu).2)
      circuitDef_valid

theorem cycle_spec {n : Nat} (hn : 1 ≤ n) : ∃ d, cycle n = some d ∧ Realises d n (CycleDef n) :=
  spec_of_guard hn cycleDef_valid fun h2 =>
    spec_of_rows ((keys_map_pair _ _).trans (rangeFT_zero n))
      (isRow_map_pair fun _ hu => isRow_ssetOf fun _ => cycle_row h2 (mem_rangeFT.mp hu).2)
      cycleDef_valid

theorem path_spec {n : Nat} (hn : 1 ≤ n) : ∃ d, path n = some d ∧ Realises d n (PathDef n) :=
  spec_of_guard hn pathDef_valid fun _ =>
    spec_of_rows (by rw [List.map_append, keys_map_pair, range_eq_concat hn]; rfl)
      (List.forall_mem_append.mpr ⟨isRow_map_pair fun u hu =>
          isRow_ssetOf fun _ => path_row (Nat.add_lt_of_lt_sub (mem_rangeFT.mp hu).2),
        List.forall_mem_singleton.mpr (isRow_path_last hn)⟩)
      pathDef_valid

theorem star_spec {n : Nat} (hn : 1 ≤ n) : ∃ d, star n = some d ∧ Realises d n (StarDef n) :=
  spec_of_guard hn starDef_valid fun _ =>
    spec_of_rows (by rw [List.map_cons, keys_map_pair, range_eq_cons hn])
      (List.forall_mem_cons.mpr ⟨isRow_ssetOf fun _ => star_row_hub, isRow_map_pair fun u hu =>
        isRow_ssetOf fun _ => star_row_leaf (mem_rangeFT.mp hu).1 (mem_rangeFT.mp hu).2⟩)
      starDef_valid

/-- The map generator spells out the rim's first and last vertex; these are their rows. -/
theorem wheel_rows {n : Nat} (hn : 4 ≤ n) :
    IsRow (WheelDef n) 1 (ssetOf [0, n - 1, 2]) ∧ IsRow (WheelDef n) (n - 1) (ssetOf [0, n - 2, 1]) ∧
    ∀ u ∈ rangeFT 2 (n - 1), IsRow (WheelDef n) u (ssetOf [0, u - 1, u + 1]) := by
  have h3 : 3 ≤ n := Nat.le_of_succ_le hn
  have hl : 1 < n - 1 := Nat.lt_sub_of_add_lt (show 1 + 1 < n from h3)
  have row := fun {u} (h1 : 1 ≤ u) (hu : u < n) => isRow_ssetOf fun v => wheel_row_rim (v := v) h3 h1 hu
  refine ⟨?_, ?_, fun u hu => ?_⟩
  · have := row (Nat.le_refl 1) (Nat.lt_of_succ_lt (Nat.lt_of_succ_lt hn))
    rwa [rimPrev_one, rimNext_of_lt h3] at this
  · have := row (Nat.le_of_lt hl) (Nat.sub_lt (Nat.lt_of_lt_of_le (by decide) hn) Nat.one_pos)
    rwa [rimPrev_of_lt hl, show rimNext n (n - 1) = 1 from if_pos rfl] at this
  · obtain ⟨h2, hu⟩ := mem_rangeFT.mp hu
    have := row (Nat.le_of_succ_le h2) (Nat.lt_of_lt_of_le hu (Nat.sub_le n 1))
    rwa [rimPrev_of_lt h2, rimNext_of_lt (Nat.add_lt_of_lt_sub hu)] at this

theorem wheel_spec {n : Nat} (hn : 4 ≤ n) : ∃ d, wheel n = some d ∧ Realises d n (WheelDef n) := by
  have h1 : 1 ≤ n := Nat.le_trans (by decide) hn
  obtain ⟨r1, rl, rm⟩ := wheel_rows hn
  rw [wheel, if_neg (not_not_intro hn)]
  refine spec_of_rows ?_ ?_ (wheelDef_valid (Nat.le_of_succ_le hn))
  · rw [List.map_append, List.map_append, keys_map_pair, range_eq_cons_cons_concat (Nat.le_of_succ_le hn)]
    rfl
  · exact List.forall_mem_append.mpr ⟨List.forall_mem_append.mpr
      ⟨List.forall_mem_cons.mpr ⟨isRow_ssetOf fun _ => wheel_row_hub, List.forall_mem_singleton.mpr r1⟩,
        isRow_map_pair rm⟩, List.forall_mem_singleton.mpr rl⟩

theorem biclique_spec {m n : Nat} (hm : 1 ≤ m) (hn : 1 ≤ n) :
    ∃ d, biclique m n = some d ∧ Realises d (m + n) (BicliqueDef m n) := by
  rw [biclique, if_neg (Nat.ne_of_gt hm), if_neg (Nat.ne_of_gt hn)]
  simp only [List.zipIdx_append, zipIdx_replicate, List.map_append, List.map_map, List.length_replicate,
    Function.comp_def, Nat.zero_add]
  refine spec_of_rows ?_ ?_ bicliqueDef_valid
  · rw [List.map_append, keys_map_pair, keys_map_pair, rangeFT_append (Nat.zero_le m) (Nat.le_add_right m n),
      rangeFT_zero]
  · exact List.forall_mem_append.mpr
      ⟨isRow_map_pair fun u hu => isRow_ssetOf fun _ => biclique_row_left (mem_rangeFT.mp hu).2,
        isRow_map_pair fun u hu =>
          isRow_ssetOf fun _ => biclique_row_right (mem_rangeFT.mp hu).1 (mem_rangeFT.mp hu).2⟩

theorem claw_spec : ∃ d, claw = some d ∧ Realises d 4 (BicliqueDef 1 3) :=
  biclique_spec (Nat.le_refl 1) (by decide)
theorem utility_spec : ∃ d, utility = some d ∧ Realises d 6 (BicliqueDef 3 3) :=
  biclique_spec (by decide) (by decide)

/-- the sequential `insert(u, g u)` loop over `0..k` -/
theorem complete_loop (g : Nat → List Nat) (k : Nat) :
    (List.range k).foldl (fun m u => minsert u (g u) m) [] = (List.range k).map (fun u => (u, g u)) :=
  (List.foldl_map (f := fun u => (u, g u)) (g := fun m kv => mupsert kv.1 kv.2 (fun _ => kv.2) m)).symm.trans
    (foldl_mupsert_sorted _ [] (sortedK_of_keys (keys_map_pair _ g)))

theorem complete_spec {n : Nat} (hn : 1 ≤ n) : ∃ d, complete n = some d ∧ Realises d n (CompleteDef n) :=
  spec_of_guard hn completeDef_valid fun _ =>
    ⟨_, rfl, by
      rw [rangeFT_zero, complete_loop]
      exact realises_of_rows (keys_map_pair _ _) (isRow_map_pair fun u hu =>
        ⟨sorted_serase (sorted_ssetOf _), fun _ => rangeFT_zero n ▸ complete_row (List.mem_range.mp hu)⟩)
        completeDef_valid⟩

end AM
end GraafVerif.Gen
