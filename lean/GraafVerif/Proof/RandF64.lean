import GraafVerif.Spec.Rand
/-! The integer comparisons of the model (`f64lt`, `mant`, `F64.inUnit`, `F64.gtHalf`, `F64.oneMinus`) and their reading
as rational numbers. -/
namespace GraafVerif.Rand

theorem mant_lt (w : UInt64) : mant w < 2^52 := by
  unfold mant
  have : (w &&& 0xFFFFFFFFFFFFF).toNat = w.toNat &&& 0xFFFFFFFFFFFFF := by simp
  rw [this]
  exact Nat.lt_of_le_of_lt Nat.and_le_right (by decide)

theorem f64lt_zero (w : UInt64) : f64lt w F64.zero = false := by
  simp only [f64lt, F64.zero, decide_eq_false_iff_not, Int.not_lt]
  exact Int.mul_nonneg (Int.natCast_nonneg _) (by decide)

theorem mul_two_pow_lt {m a : Nat} (h : m < 2^a) (b : Nat) : (m : Int) * 2^b < 2^(a+b) := by
  rw [Int.pow_add]
  exact Int.mul_lt_mul_of_pos_right (by exact_mod_cast h) (Int.pow_pos (by decide))

theorem f64lt_one (w : UInt64) : f64lt w F64.one = true := by
  rw [F64.one, f64lt, decide_eq_true_eq]
  exact mul_two_pow_lt (mant_lt w) 1022

theorem gtHalf_ne_zero {p : F64} (hh : p.gtHalf = true) : p ≠ F64.zero := by
  intro hz
  rw [hz, F64.zero, F64.gtHalf, decide_eq_true_eq] at hh
  exact Int.lt_irrefl _ (Int.lt_trans hh (Int.pow_pos (by decide)))

theorem sub_upper_half {T H x : Int} (hT : T = H + H) (h0 : 0 ≤ x) (h1 : x ≤ T) (hh : H < x) :
    (0 ≤ T - x ∧ T - x ≤ T) ∧ ¬ H < T - x := by
  refine ⟨⟨Int.sub_nonneg_of_le h1, Int.sub_le_self _ h0⟩, fun h => ?_⟩
  -- `H < 2H - x` and `H < x` add up to `2H < 2H`
  subst hT
  exact Int.lt_irrefl _ (Int.lt_trans (Int.add_lt_of_lt_sub_right h) (Int.add_lt_add_left hh H))

theorem oneMinus_facts (p : F64) (hp : p.inUnit = true) (hh : p.gtHalf = true) :
    p.oneMinus.inUnit = true ∧ p.oneMinus.gtHalf = false ∧ (p = F64.one → p.oneMinus = F64.zero) := by
  cases p with
  | nan => cases hp
  | inf neg => cases hp
  | fin num =>
    obtain ⟨h0, h1⟩ := Bool.and_eq_true_iff.1 hp
    -- `1.0 = 2 · 0.5`, with the exponent written `1073 + 1` so that no power is evaluated
    obtain ⟨⟨a, b⟩, c⟩ := sub_upper_half ((Int.pow_succ' 2 1073).trans (Int.two_mul _))
      (of_decide_eq_true h0) (of_decide_eq_true h1) (of_decide_eq_true hh)
    exact ⟨Bool.and_eq_true_iff.2 ⟨decide_eq_true a, decide_eq_true b⟩, decide_eq_false c,
      fun e => congrArg F64.fin ((F64.fin.inj e) ▸ Int.sub_self _)⟩

theorem nextF64_range (w : UInt64) : 0 ≤ nextF64 w ∧ nextF64 w < 1 := by
  unfold nextF64
  constructor
  · rw [Rat.div_def]
    apply Rat.mul_nonneg
    · exact_mod_cast Nat.zero_le _
    · exact Rat.le_of_lt (Rat.inv_pos.2 (Rat.pow_pos (by decide)))
  · rw [Rat.div_lt_iff (Rat.pow_pos (by decide))]
    simp
    exact_mod_cast mant_lt w

/-- the exponents are variables so that no power is evaluated -/
theorem natCast_div_two_pow_lt (m : Nat) (num : Int) (a b : Nat) :
    (m : Rat) / 2^a < (num : Rat) / 2^(a+b) ↔ (m : Int) * 2^b < num := by
  have ha : (0:Rat) < 2^a := Rat.pow_pos (by decide)
  have hb : (0:Rat) < 2^b := Rat.pow_pos (by decide)
  rw [Lean.Grind.Semiring.pow_add, Rat.lt_div_iff (Rat.mul_pos ha hb), ← Rat.mul_assoc,
    Rat.div_mul_cancel (Rat.ne_of_gt ha), ← Rat.intCast_lt_intCast, Rat.intCast_mul, Rat.intCast_pow,
    Rat.intCast_natCast]
  rfl

theorem f64lt_fin (w : UInt64) (num : Int) :
    f64lt w (.fin num) = true ↔ nextF64 w < (num : Rat) / 2^1074 :=
  decide_eq_true_iff.trans (natCast_div_two_pow_lt (mant w) num 52 1022).symm

end GraafVerif.Rand
