import GraafVerif.Proof.ChkHoare
import GraafVerif.Proof.OpsPar
/-!
# The worker ranges tile `0..n` for EVERY thread count

`expandRanges (threadRanges n t) = List.range n` and `expandRanges (stepRanges n chunk) = List.range n`:
the workers touch every index exactly once, in ascending order, none twice, none outside.
`threadRangesGo` is the loop of `Par.ranges` and `stepRangesGo` the loop of `Ops.stepRanges`, whose tiling
theorems are `Par.chunks_tile` and `Ops.stepRanges_tile`.
-/
namespace GraafVerif.Chk

theorem threadRangesGo_eq (n chunk : Nat) :
    ∀ fuel id, threadRangesGo n chunk fuel id = Par.ranges.go n chunk fuel id := by
  intro fuel
  induction fuel with
  | zero => intro id; rfl
  | succ fuel ih =>
    intro id
    unfold threadRangesGo Par.ranges.go
    rw [ih]

/-- `for thread_id in 0..t` idiom: every index of `0..n` exactly once, for every `t ≥ 1`. -/
theorem chunks_tile (n t : Nat) (ht : 0 < t) (hn : 0 < n) : expandRanges (threadRanges n t) = List.range n := by
  unfold threadRanges divCeil
  rw [threadRangesGo_eq]
  exact Par.chunks_tile n t ht hn

theorem stepRangesGo_eq (n chunk : Nat) :
    ∀ fuel start, stepRangesGo n chunk fuel start = Ops.stepRanges.go n chunk fuel start := by
  intro fuel
  induction fuel with
  | zero => intro start; rfl
  | succ fuel ih =>
    intro start
    unfold stepRangesGo Ops.stepRanges.go
    rw [ih, Nat.min_comm]

/-- `(0..n).step_by(chunk)` idiom: every index of `0..n` exactly once, for every `chunk ≥ 1`. -/
theorem steps_tile (n chunk : Nat) (hc : 0 < chunk) : expandRanges (stepRanges n chunk) = List.range n := by
  unfold stepRanges
  rw [stepRangesGo_eq]
  exact Ops.stepRanges_tile n chunk hc

/-! Without any hypothesis on the thread count, no range ends beyond `n`. -/

theorem stepRangesGo_le {n chunk : Nat} : ∀ {fuel start : Nat} {r : Nat × Nat}, r ∈ stepRangesGo n chunk fuel start → r.2 ≤ n := by
  intro fuel
  induction fuel with
  | zero => intro start r h; cases h
  | succ fuel ih =>
    intro start r h
    unfold stepRangesGo at h
    split at h
    · rcases List.mem_cons.mp h with rfl | h
      · exact Nat.min_le_left _ _
      · exact ih h
    · cases h

theorem threadRangesGo_le {n chunk fuel id : Nat} {r : Nat × Nat} (h : r ∈ threadRangesGo n chunk fuel id) : r.2 ≤ n :=
  (Par.go_mem_lt n chunk fuel id r (threadRangesGo_eq n chunk fuel id ▸ h)).2

theorem mem_expandRanges_lt {rs : List (Nat × Nat)} {n u : Nat} (hb : ∀ r ∈ rs, r.2 ≤ n)
    (hu : u ∈ expandRanges rs) : u < n := by
  obtain ⟨r, hr, hur⟩ := List.mem_flatMap.mp hu
  exact Nat.lt_of_lt_of_le (mem_forRange hur).2 (hb r hr)

theorem mem_threadRanges_lt {n t u : Nat} (hu : u ∈ expandRanges (threadRanges n t)) : u < n :=
  mem_expandRanges_lt (fun _ => threadRangesGo_le) hu

end GraafVerif.Chk
