import GraafVerif.Proof.ComposeRel
import GraafVerif.Proof.DfsSearch
/-!
# Compose — "depth-first preorder" (C06) over a bare arc relation

`Spec/Dfs.lean` reads the preorder clause of C06 as an executable annotator over the
out-neighbour ROWS of a `Graph` (`hasFresh`, `active`, `expect`, `annotateFrom`); it consults the
rows only through membership.  Here the same reading is given as inductive predicates over an arc
RELATION `A` and proved to be the same thing:
`annotateFrom g S ⟨ys, path⟩ xs = some anns ↔ RAnnotate g.A S ys path xs anns`.
-/
namespace GraafVerif.Compose
open GraafVerif GraafVerif.Dfs

/-- `u` still has an unyielded out-neighbour. -/
def RFresh (A : Rel) (ys : List Nat) (u : Nat) : Prop := ∃ w, A u w ∧ w ∉ ys

/-- The search path cut back to its deepest vertex with an unyielded out-neighbour. -/
inductive RActive (A : Rel) (ys : List Nat) : List Nat → List Nat → Prop
  | nil : RActive A ys [] []
  | here {d rest} : RFresh A ys d → RActive A ys (d :: rest) (d :: rest)
  | skip {d rest act} : ¬ RFresh A ys d → RActive A ys rest act → RActive A ys (d :: rest) act

/-- `x` may be yielded next (state: yielded `ys`, search path `path`); `act` is the cut-back path
and `a` the prescribed (parent, depth). -/
inductive RExpect (A : Rel) (S : List Nat) (ys path : List Nat) (x : Nat) : List Nat → Option Nat × Nat → Prop
  | root : x ∉ ys → RActive A ys path [] → x ∈ S → (∀ y ∈ ys, ¬ RFresh A ys y) →
      RExpect A S ys path x [] (none, 0)
  | child {d rest} : x ∉ ys → RActive A ys path (d :: rest) → A d x →
      RExpect A S ys path x (d :: rest) (some d, rest.length + 1)

/-- The sequence `xs`, continued from the state `(ys, path)`, is a depth-first preorder (prefix)
with annotations `anns`. -/
inductive RAnnotate (A : Rel) (S : List Nat) : List Nat → List Nat → List Nat → List Ann → Prop
  | nil (ys path) : RAnnotate A S ys path [] []
  | cons {ys path x act a xs anns} : RExpect A S ys path x act a →
      RAnnotate A S (ys ++ [x]) (x :: act) xs anns → RAnnotate A S ys path (x :: xs) ((x, a) :: anns)

/-- `xs` is (a prefix of) a depth-first preorder of the digraph with arc relation `A` from the
sources `S`, every vertex annotated with its prescribed parent and depth. -/
def RIsDfsPreorder (A : Rel) (S : List Nat) (xs : List Nat) (anns : List Ann) : Prop :=
  RAnnotate A S [] [] xs anns

theorem hasFresh_iff (g : Graph) (ys : List Nat) (u : Nat) : hasFresh g ys u = true ↔ RFresh g.A ys u := by
  simp only [hasFresh, RFresh, Graph.A, List.any_eq_true, Bool.not_eq_true', List.contains_eq_mem,
    decide_eq_false_iff_not]

theorem hasFresh_eq_false_iff (g : Graph) (ys : List Nat) (u : Nat) :
    hasFresh g ys u = false ↔ ¬ RFresh g.A ys u := by
  rw [← hasFresh_iff, Bool.not_eq_true]

theorem ractive_dropWhile (g : Graph) (ys : List Nat) :
    ∀ path, RActive g.A ys path (path.dropWhile (fun d => !hasFresh g ys d))
  | [] => .nil
  | d :: rest => by
    rw [List.dropWhile_cons]
    cases hh : hasFresh g ys d with
    | true => exact .here ((hasFresh_iff g ys d).1 hh)
    | false => exact .skip ((hasFresh_eq_false_iff g ys d).1 hh) (ractive_dropWhile g ys rest)

theorem ractive_active (g : Graph) (s : Search) : RActive g.A s.yielded s.path (active g s) :=
  ractive_dropWhile g s.yielded s.path

theorem ractive_unique {A : Rel} {ys path a₁ a₂ : List Nat} (h₁ : RActive A ys path a₁)
    (h₂ : RActive A ys path a₂) : a₁ = a₂ := by
  induction h₁ with
  | nil => cases h₂; rfl
  | here hf =>
    cases h₂ with
    | here _ => rfl
    | skip hn _ => exact absurd hf hn
  | skip hn _ ih =>
    cases h₂ with
    | here hf => exact absurd hf hn
    | skip _ h₂' => exact ih h₂'

/-- The side condition of a new root, in `expect` and in `RExpect.root`. -/
theorem rootOK_iff (g : Graph) (ys : List Nat) :
    ys.all (fun y => !hasFresh g ys y) = true ↔ ∀ y ∈ ys, ¬ RFresh g.A ys y := by
  simp only [List.all_eq_true, Bool.not_eq_true', hasFresh_eq_false_iff]

theorem expect_iff (g : Graph) (S : List Nat) (s : Search) (x : Nat) (a : Option Nat × Nat) :
    expect g S s x = some a ↔ RExpect g.A S s.yielded s.path x (active g s) a := by
  have hact := ractive_active g s
  rw [expect_eq_some]
  generalize active g s = act at hact ⊢
  constructor
  · rintro ⟨hx, h⟩
    cases act with
    | nil => obtain ⟨hS, hall, rfl⟩ := h; exact .root hx hact hS ((rootOK_iff g _).1 hall)
    | cons d rest => obtain ⟨hA, rfl⟩ := h; exact .child hx hact hA
  · intro h
    cases h with
    | root hx _ hS hall => exact ⟨hx, hS, (rootOK_iff g _).2 hall, rfl⟩
    | child hx _ hA => exact ⟨hx, hA, rfl⟩

theorem annotateFrom_iff (g : Graph) (S : List Nat) (xs : List Nat) :
    ∀ (s : Search) (anns : List Ann),
      annotateFrom g S s xs = some anns ↔ RAnnotate g.A S s.yielded s.path xs anns := by
  induction xs with
  | nil =>
    intro s anns
    exact ⟨fun h => by cases h; exact .nil _ _, fun h => by cases h; rfl⟩
  | cons x xs ih =>
    intro s anns
    rw [annotateFrom_cons_iff]
    constructor
    · rintro ⟨a, rest, he, hr, rfl⟩
      exact .cons ((expect_iff g S s x a).1 he) ((ih _ rest).1 hr)
    · intro h
      cases h with
      | @cons _ _ _ act a _ anns' h1 h2 =>
        -- the cut-back path is unique, so `act = active g s`
        obtain rfl : act = active g s := by
          cases h1 with
          | root _ ha _ _ => exact ractive_unique ha (ractive_active g s)
          | child _ ha _ => exact ractive_unique ha (ractive_active g s)
        exact ⟨a, anns', (expect_iff g S s x a).2 h1, (ih (advance g s x) anns').2 h2, rfl⟩

theorem annotate_iff (g : Graph) (S xs : List Nat) (anns : List Ann) :
    annotate g S xs = some anns ↔ RIsDfsPreorder g.A S xs anns :=
  annotateFrom_iff g S xs ⟨[], []⟩ anns

theorem validDfsPreorder_iff (g : Graph) (S xs : List Nat) :
    ValidDfsPreorder g S xs ↔ ∃ anns, RIsDfsPreorder g.A S xs anns := by
  unfold ValidDfsPreorder
  rw [Option.isSome_iff_exists]
  exact exists_congr (fun anns => annotate_iff g S xs anns)

theorem RIsDfsPreorder.unique_of_graph {g : Graph} {S xs : List Nat} {a₁ a₂ : List Ann}
    (h₁ : RIsDfsPreorder g.A S xs a₁) (h₂ : RIsDfsPreorder g.A S xs a₂) : a₁ = a₂ := by
  have e₁ := (annotate_iff g S xs a₁).2 h₁
  have e₂ := (annotate_iff g S xs a₂).2 h₂
  rw [e₁] at e₂
  exact Option.some.inj e₂

end GraafVerif.Compose
