import GraafVerif.Proof.WWalk
import GraafVerif.Proof.OracleHopDist
/-!
# Between `Graph` and `WGraph`; hop distance as a weighted distance (tag `Cross`)

`g.toGraph` forgets the weights: its arcs, walks and reachability are those of `g` (`toGraph_A`,
`wwalk_reach`, `reach_wwalk`, `wreachFrom_iff_reachFrom`).  `unitWeights g` weighs every arc 1: a walk with
`k` arcs weighs `k`, so hop distance is minimum walk weight and `ReachFrom` is `WReachFrom`.  No model is
mentioned.  (The distance vector `IsDistVec`, the conclusion of C03's `distances_spec`, stands in
`Proof/WWalk.lean`.)
-/
namespace GraafVerif.Cross
open GraafVerif

theorem toGraph_A {g : WGraph} {u v : Nat} : g.toGraph.A u v ↔ ∃ w, g.A u v w := by
  simp only [Graph.A, WGraph.toGraph, WGraph.A, List.mem_map]
  constructor
  · rintro ⟨⟨v', w⟩, hm, rfl⟩; exact ⟨w, hm⟩
  · rintro ⟨w, hm⟩; exact ⟨(v, w), hm, rfl⟩

theorem toGraph_wf {g : WGraph} (h : g.WF) : g.toGraph.WF := by
  intro u v hv
  obtain ⟨w, hw⟩ := toGraph_A.mp hv
  exact h u v w hw

theorem wwalk_reach {g : WGraph} {u v k : Nat} {wt : Int} (h : WWalk g u v k wt) :
    Reach g.toGraph u v := by
  induction h with
  | nil => exact Reach.refl _
  | snoc _ a ih => exact Reach.step ih (toGraph_A.mpr ⟨_, a⟩)

theorem reach_wwalk {g : WGraph} {u v : Nat} (h : Reach g.toGraph u v) : ∃ k wt, WWalk g u v k wt := by
  induction h with
  | refl => exact ⟨0, 0, WWalk.nil _⟩
  | step _ a ih =>
    obtain ⟨k, wt, hw⟩ := ih
    obtain ⟨w, ha⟩ := toGraph_A.mp a
    exact ⟨k + 1, wt + w, WWalk.snoc hw ha⟩

theorem wreachFrom_iff_reachFrom {g : WGraph} {S : List Nat} {v : Nat} :
    WReachFrom g S v ↔ ReachFrom g.toGraph S v :=
  ⟨fun ⟨s, hs, _, _, hw⟩ => ⟨s, hs, wwalk_reach hw⟩,
   fun ⟨s, hs, hr⟩ => ⟨s, hs, reach_wwalk hr⟩⟩

theorem wreachFrom_single_iff {g : WGraph} {u v : Nat} : WReachFrom g [u] v ↔ Reach g.toGraph u v :=
  wreachFrom_iff_reachFrom.trans OracleProof.reachFrom_single_iff

/-- A `Graph` viewed as a `WGraph`: every arc has weight 1. -/
def unitWeights (g : Graph) : WGraph := ⟨g.n, fun u => (g.out u).map (fun v => (v, 1))⟩

theorem unitWeights_A {g : Graph} {u v : Nat} {w : Int} :
    (unitWeights g).A u v w ↔ g.A u v ∧ w = 1 := by
  simp only [WGraph.A, unitWeights, Graph.A, List.mem_map, Prod.mk.injEq]
  constructor
  · rintro ⟨a, ha, rfl, rfl⟩; exact ⟨ha, rfl⟩
  · rintro ⟨ha, rfl⟩; exact ⟨v, ha, rfl, rfl⟩

theorem unitWeights_n (g : Graph) : (unitWeights g).n = g.n := rfl

theorem unitWeights_wf {g : Graph} (hg : g.WF) : (unitWeights g).WF :=
  fun u v _ h => hg u v (unitWeights_A.mp h).1

theorem unitWeights_nonneg (g : Graph) : (unitWeights g).NonNeg := by
  intro u v w h
  have := (unitWeights_A.mp h).2
  omega

theorem unitWeights_functional (g : Graph) : (unitWeights g).Functional := by
  intro u v w₁ w₂ h₁ h₂
  rw [(unitWeights_A.mp h₁).2, (unitWeights_A.mp h₂).2]

theorem unitWeights_toGraph (g : Graph) : (unitWeights g).toGraph = g := by
  cases g with
  | mk n out =>
    simp only [unitWeights, WGraph.toGraph, List.map_map]
    congr 1
    funext u
    simp [Function.comp_def]

theorem wwalk_unit {g : Graph} {u v k : Nat} {wt : Int} (h : WWalk (unitWeights g) u v k wt) :
    ReachIn g k u v ∧ wt = (k : Int) := by
  induction h with
  | nil => exact ⟨ReachIn.zero _, rfl⟩
  | snoc _ ha ih =>
    obtain ⟨harc, rfl⟩ := unitWeights_A.mp ha
    exact ⟨ReachIn.succ ih.1 harc, ih.2 ▸ rfl⟩

theorem reachIn_wwalk {g : Graph} {u v k : Nat} (h : ReachIn g k u v) :
    WWalk (unitWeights g) u v k (k : Int) := by
  induction h with
  | zero => exact WWalk.nil _
  | succ _ ha ih =>
    exact WWalk.snoc ih (unitWeights_A.mpr ⟨ha, rfl⟩)

theorem wwalk_unit_iff {g : Graph} {u v k : Nat} {wt : Int} :
    WWalk (unitWeights g) u v k wt ↔ ReachIn g k u v ∧ wt = (k : Int) :=
  ⟨wwalk_unit, fun ⟨h, he⟩ => he ▸ reachIn_wwalk h⟩

theorem isHopDist_iff_isMinDist {g : Graph} {S : List Nat} {v d : Nat} :
    IsHopDist g S v d ↔ IsMinDist (unitWeights g) S v (d : Int) := by
  constructor
  · rintro ⟨⟨s, hs, hr⟩, hmin⟩
    refine ⟨⟨s, hs, d, reachIn_wwalk hr⟩, fun s' hs' k wt hw => ?_⟩
    obtain ⟨hr', rfl⟩ := wwalk_unit hw
    exact Int.ofNat_le.mpr (Nat.le_of_not_lt fun hlt => hmin k hlt ⟨s', hs', hr'⟩)
  · rintro ⟨⟨s, hs, k, hw⟩, hmin⟩
    obtain ⟨hr, he⟩ := wwalk_unit hw
    cases Int.ofNat.inj he
    refine ⟨⟨s, hs, hr⟩, fun k' hlt ⟨s', hs', hr'⟩ => ?_⟩
    exact Nat.not_le_of_lt hlt (Int.ofNat_le.mp (hmin s' hs' k' _ (reachIn_wwalk hr')))

theorem isMinDist_unit_nat {g : Graph} {S : List Nat} {v : Nat} {x : Int}
    (h : IsMinDist (unitWeights g) S v x) : ∃ d : Nat, x = (d : Int) ∧ IsHopDist g S v d := by
  obtain ⟨⟨s, hs, k, hw⟩, _⟩ := id h
  obtain ⟨_, rfl⟩ := wwalk_unit hw
  exact ⟨k, rfl, isHopDist_iff_isMinDist.mpr h⟩

theorem reachFrom_iff_wreachFrom {g : Graph} {S : List Nat} {v : Nat} :
    ReachFrom g S v ↔ WReachFrom (unitWeights g) S v := by
  rw [wreachFrom_iff_reachFrom, unitWeights_toGraph]

end GraafVerif.Cross
