import GraafVerif.Thm.C19
/-!
# Rooted predecessor vectors: what a root path says about every search from its head

If `search_by(v, |_, b| b.is_none())` returns `p` on an in-range vector (`RootPath`), then `p` is the whole
chain of predecessor links from `v`, it repeats no vertex and ends at an entry `None` (`RootShape`, from
C19's statement), and every other search from `v` returns `None` or a prefix of `p` that ends at its first
target (`RootShape.searchBy_cases`): the "already visited" `break` of `search_by` cannot fire.  Users:
`Proof/Cross3Models.lean`, and the `cycles()` half of C05 (`Proof/BfsC05.lean`), which searches the tree for every
out-neighbour of the vertex just emitted.
-/
namespace GraafVerif.Cross3
open GraafVerif GraafVerif.PredTree

/-- `search_by(v, |_, b| b.is_none())` returns `p`. -/
def RootPath (pred : Pred) (v : Nat) (p : List Nat) : Prop := searchBy pred v isRoot = .ret (some p)

theorem rootPath_of_none {pred : Pred} {v : Nat} (h : pred[v]? = some none) : RootPath pred v [v] := by
  unfold RootPath searchBy searchByFuel
  simp [h, isRoot]

theorem lt_of_searchBy_ret {pred : Pred} {v : Nat} {isT : Nat → Option Nat → Bool} {r : Option (List Nat)}
    (h : searchBy pred v isT = .ret r) : v < pred.length := by
  refine Nat.lt_of_not_le fun hle => ?_
  unfold searchBy searchByFuel at h
  rw [List.getElem?_eq_none hle] at h
  cases h

theorem chainPath_prefix (pred : Pred) (v : Nat) {k' k : Nat} (h : k' ≤ k) :
    chainPath pred v k' <+: chainPath pred v k := by
  obtain ⟨m, rfl⟩ := Nat.exists_eq_add_of_le h
  rw [chainPath, chainPath, Nat.add_right_comm, List.range_add (n := k' + 1) (m := m)]
  exact List.IsPrefix.map _ (List.prefix_append _ _)

theorem inRange_of_entries {pred : Pred} (h : ∀ v u : Nat, pred[v]? = some (some u) → u < pred.length) :
    InRange pred := by
  intro x hx u hxu
  obtain ⟨v, hv, hget⟩ := List.getElem_of_mem hx
  exact h v u ((List.getElem?_eq_getElem hv).trans (by rw [hget, hxu]))

theorem target_isRoot {pred : Pred} {y : Nat} (hy : y < pred.length) :
    target pred isRoot y = true ↔ pred[y]? = some none := by
  rw [target, isRoot, List.getElem?_eq_getElem hy]
  cases pred[y] <;> simp

theorem target_isRoot_false {pred : Pred} {y : Nat} (hy : y < pred.length) :
    target pred isRoot y = false ↔ ∃ z, pred[y]? = some (some z) := by
  rw [target, isRoot, List.getElem?_eq_getElem hy]
  cases pred[y] <;> simp

structure RootShape (pred : Pred) (v : Nat) (p : List Nat) (k r : Nat) : Prop where
  path : p = chainPath pred v k
  last : chain pred v k = some r
  root : pred[r]? = some none
  stop : chain pred v (k + 1) = none
  distinct : ∀ i j, i < j → j ≤ k → chain pred v i ≠ chain pred v j
  inner : ∀ j, j < k → ∀ y, chain pred v j = some y → ∃ z, pred[y]? = some (some z)
  head : p.head? = some v
  getLast : p.getLast? = some r
  nodup : p.Nodup
  links : ∀ i a b, p[i]? = some a → p[i+1]? = some b → pred[a]? = some (some b)

theorem rootShape {pred : Pred} (hr : InRange pred) {v : Nat} (hv : v < pred.length) {p : List Nat}
    (h : RootPath pred v p) : ∃ k r, RootShape pred v p k r := by
  obtain ⟨_, _, _, _, hb, _⟩ := C19.statement_holds pred v isRoot hr hv
  obtain ⟨k, hp, ⟨r, hrk, htr⟩, hmin, hhead, _, _, hlinks, hnd⟩ := hb p h
  have hroot : pred[r]? = some none := (target_isRoot (chain_lt hr hv k r hrk)).mp htr
  refine ⟨k, r, hp, hrk, hroot, ?_, chain_distinct_before_first hrk htr hmin,
    fun j hj y hy => (target_isRoot_false (chain_lt hr hv j y hy)).mp (hmin j hj y hy), hhead,
    hp ▸ chainPath_last hrk, hnd, hlinks⟩
  rw [chain, hrk]
  simp [hroot]

theorem RootShape.le_of_chain {pred : Pred} {v : Nat} {p : List Nat} {k r : Nat}
    (hs : RootShape pred v p k r) {j x : Nat} (hj : chain pred v j = some x) : j ≤ k :=
  Nat.le_of_lt_succ <| Nat.lt_of_not_le fun hle => by
    obtain ⟨y, hy⟩ := chain_some_of_le hj hle
    cases hs.stop.symm.trans hy

theorem mem_rootPath_iff {pred : Pred} {v : Nat} {p : List Nat} {k r : Nat}
    (hs : RootShape pred v p k r) (x : Nat) : x ∈ p ↔ ∃ j, chain pred v j = some x := by
  rw [hs.path]
  constructor
  · intro hx
    obtain ⟨i, hi⟩ := List.getElem?_of_mem hx
    exact ⟨i, (chainPath_get_some hs.last hi).2⟩
  · rintro ⟨j, hj⟩
    apply List.mem_of_getElem? (i := j)
    rw [chainPath_getElem? hs.last, if_pos (hs.le_of_chain hj), hj]

section
variable {pred : Pred} (hr : InRange pred) {v : Nat} (hv : v < pred.length)
  {p : List Nat} {k r : Nat} (hs : RootShape pred v p k r)
include hr hv hs

theorem search_root_eq : search pred v r = .ret (some p) :=
  hs.path ▸ searchBy_first hr hv hs.last (beq_self_eq_true r) fun j hj _ hy =>
    beq_false_of_ne fun e => hs.distinct j k hj (Nat.le_refl k) (hy.trans (e ▸ hs.last.symm))

theorem searchBy_none_iff (isT : Nat → Option Nat → Bool) :
    searchBy pred v isT = .ret none ↔ ∀ x ∈ p, target pred isT x = false := by
  obtain ⟨⟨res, hres⟩, _, ha, _⟩ := C19.statement_holds pred v isT hr hv
  constructor
  · intro hnone x hx
    cases htx : target pred isT x with
    | false => rfl
    | true =>
      obtain ⟨j, hj⟩ := (mem_rootPath_iff hs x).mp hx
      obtain ⟨p', hp'⟩ := ha.mpr ⟨j, x, hj, htx⟩
      rw [hnone] at hp'; cases hp'
  · intro hall
    cases res with
    | none => exact hres
    | some p' =>
      obtain ⟨j, x, hj, htx⟩ := ha.mp ⟨p', hres⟩
      have := hall x ((mem_rootPath_iff hs x).mpr ⟨j, hj⟩)
      rw [htx] at this; cases this

theorem searchBy_some_prefix (isT : Nat → Option Nat → Bool)
    {q : List Nat} (hq : searchBy pred v isT = .ret (some q)) : q <+: p := by
  obtain ⟨_, _, _, _, hb, _⟩ := C19.statement_holds pred v isT hr hv
  obtain ⟨k', hqk, ⟨x, hxk', _⟩, _⟩ := hb q hq
  rw [hqk, hs.path]
  exact chainPath_prefix pred v (hs.le_of_chain hxk')

theorem RootShape.searchBy_cases (isT : Nat → Option Nat → Bool) :
    searchBy pred v isT = .ret none ∨ ∃ q x, searchBy pred v isT = .ret (some q) ∧ q <+: p ∧
      q.getLast? = some x ∧ target pred isT x = true := by
  obtain ⟨⟨res, hres⟩, _, _, _, hb, _⟩ := C19.statement_holds pred v isT hr hv
  cases res with
  | none => exact .inl hres
  | some q =>
    obtain ⟨_, _, _, _, _, ⟨x, hx, ht⟩, _⟩ := hb q hres
    exact .inr ⟨q, x, hres, searchBy_some_prefix hr hv hs isT hres, hx, ht⟩

end

section
variable {pred : Pred} (hr : InRange pred) {v : Nat} {p : List Nat} (h : RootPath pred v p)
include hr h

theorem rooted : ∃ k r, RootShape pred v p k r ∧
    (∀ isT, searchBy pred v isT = .ret none ↔ ∀ x ∈ p, target pred isT x = false) ∧
    (∀ isT q, searchBy pred v isT = .ret (some q) → q <+: p) := by
  have hv := lt_of_searchBy_ret h
  obtain ⟨k, r, hs⟩ := rootShape hr hv h
  exact ⟨k, r, hs, searchBy_none_iff hr hv hs, fun isT q hq => searchBy_some_prefix hr hv hs isT hq⟩

theorem search_of_last {s : Nat} (hlast : p.getLast? = some s) :
    search pred v s = .ret (some p) ∧ p.Nodup := by
  have hv := lt_of_searchBy_ret h
  obtain ⟨k, r, hs⟩ := rootShape hr hv h
  cases Option.some.inj (hs.getLast.symm.trans hlast)
  exact ⟨search_root_eq hr hv hs, hs.nodup⟩

end

end GraafVerif.Cross3
