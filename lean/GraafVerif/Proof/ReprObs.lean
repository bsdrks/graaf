import GraafVerif.Model.Repr
import GraafVerif.Proof.ReprSorted
import GraafVerif.Proof.ReprBits
/-!
# What the public reads show of a representation value, and what they determine

Every abstraction of the five representations (`Repr.X.abs`, `Query.X.abs`, `Ops.absX`, `Rand.viewX`,
`X.Arc`) is built from the same reads: `vertices`, `has_arc`, `arc_weight`, `arcs`.  Here, once per
representation and in terms of those reads alone:

* `X.Shape`: the part of `WF` that is about storage (sortedness, lengths, no residue bits);
* `X.WF_iff_simple : WF ↔ Shape ∧ Simple vertices hasArc`: the rest of `WF` says that arcs join
  distinct vertices (from `h : d.WF` the halves are `h.shape`, `h.simple`);
* `X.ext`: a value with `Shape` is determined by what it shows;
* how `has_arc` / `arc_weight` read a row, and that `arcs()` lists what `has_arc` accepts
  (`X.mem_arcs_iff`: the weighted list asks for `Shape`, the map for its key order `SortedK d.rows`, the
  first clause of `Shape` and of `WF` alike, the others for nothing), in ascending lexicographic order
  (`X.arcs_sorted`), `size()` of them (`X.size_eq`: of `arcs_weighted()` for the weighted list, under
  `Shape` for the matrix, whose population count sees residue bits).
-/
namespace GraafVerif.Repr

/-- Arcs join distinct vertices. -/
def Simple (verts : List Nat) (has : Nat → Nat → Bool) : Prop :=
  ∀ u v, has u v = true → u ∈ verts ∧ v ∈ verts ∧ u ≠ v

theorem eq_of_lt_iff_lt {n m : Nat} (h : ∀ v, v < n ↔ v < m) : n = m :=
  Nat.le_antisymm (Nat.le_of_not_lt fun hlt => Nat.lt_irrefl m ((h m).mp hlt))
    (Nat.le_of_not_lt fun hlt => Nat.lt_irrefl n ((h n).mpr hlt))

theorem range_eq_of_mem_iff {n m : Nat} (h : ∀ x, x ∈ List.range n ↔ x ∈ List.range m) : n = m :=
  eq_of_lt_iff_lt fun v => by rw [← List.mem_range, ← List.mem_range]; exact h v

theorem mem_range_congr {n m : Nat} (h : n = m) (x : Nat) : x ∈ List.range n ↔ x ∈ List.range m :=
  h ▸ Iff.rfl

theorem has_eq_of_arcs {a b : Nat → Nat → Bool} {l₁ l₂ : List (Nat × Nat)}
    (h₁ : ∀ u v, (u, v) ∈ l₁ ↔ a u v = true) (h₂ : ∀ u v, (u, v) ∈ l₂ ↔ b u v = true)
    (h : ∀ u v, (u, v) ∈ l₁ ↔ (u, v) ∈ l₂) (u v : Nat) : a u v = b u v :=
  Bool.eq_iff_iff.mpr ((h₁ u v).symm.trans ((h u v).trans (h₂ u v)))

/-! ## Tables `Vec<row>` (`AdjacencyList`, `AdjacencyListWeighted`)

An entry `p` of row `u` stands for the arc `u → key p` (`β = Nat`, `key = id`; `β = Nat × Int`,
`key = Prod.fst`). -/
section Rows
variable {β : Type}

/-- Strictly ascending in the key (`SortedS` for `key = id`, `SortedK` for `key = Prod.fst`). -/
abbrev SortedBy (key : β → Nat) (r : List β) : Prop := r.Pairwise (fun a b => key a < key b)

def RowsShape (key : β → Nat) (rows : List (List β)) : Prop :=
  0 < rows.length ∧ ∀ u : Nat, SortedBy key (rows[u]?.getD [])

def RowsWF (key : β → Nat) (rows : List (List β)) : Prop :=
  0 < rows.length ∧ ∀ u row, rows[u]? = some row →
    SortedBy key row ∧ ∀ p ∈ row, key p < rows.length ∧ key p ≠ u

theorem RowsShape.sorted_of_mem {key : β → Nat} {rows : List (List β)} (h : RowsShape key rows) :
    ∀ row ∈ rows, SortedBy key row := by
  intro row hrow
  obtain ⟨i, hi, rfl⟩ := List.mem_iff_getElem.mp hrow
  have := h.2 i
  rwa [List.getElem?_eq_getElem hi] at this

theorem RowsShape.replicate (key : β → Nat) {n : Nat} (hn : n ≠ 0) : RowsShape key (List.replicate n []) := by
  refine ⟨by rw [List.length_replicate]; exact Nat.pos_of_ne_zero hn, fun u => ?_⟩
  rw [List.getElem?_replicate]
  split <;> exact List.Pairwise.nil

theorem RowsShape.set {key : β → Nat} {rows : List (List β)} (h : RowsShape key rows) (u : Nat) {r : List β}
    (hr : SortedBy key r) : RowsShape key (rows.set u r) := by
  refine ⟨by rw [List.length_set]; exact h.1, fun a => ?_⟩
  rw [List.getElem?_set]
  split
  · split
    · exact hr
    · exact List.Pairwise.nil
  · exact h.2 a

theorem getD_nil_of_le {rows : List (List β)} {u : Nat} (h : rows.length ≤ u) : rows[u]?.getD [] = [] := by
  rw [List.getElem?_eq_none h]; rfl

theorem getElem?_eq_some_getD {rows : List (List β)} {u : Nat} (h : u < rows.length) :
    rows[u]? = some (rows[u]?.getD []) := by
  rw [List.getElem?_eq_getElem h]; rfl

theorem lt_length_of_mem_getD {rows : List (List β)} {u : Nat} {p : β} (h : p ∈ rows[u]?.getD []) :
    u < rows.length :=
  Nat.lt_of_not_le fun hle => by rw [getD_nil_of_le hle] at h; cases h

theorem rowsWF_iff (key : β → Nat) (rows : List (List β)) :
    RowsWF key rows ↔ RowsShape key rows ∧
      ∀ u : Nat, ∀ p ∈ rows[u]?.getD [], u < rows.length ∧ key p < rows.length ∧ key p ≠ u := by
  constructor
  · intro h
    have hrow : ∀ u : Nat, SortedBy key (rows[u]?.getD []) ∧
        ∀ p ∈ rows[u]?.getD [], key p < rows.length ∧ key p ≠ u := by
      intro u
      cases hu : rows[u]? with
      | none => exact ⟨List.Pairwise.nil, fun p hp => nomatch hp⟩
      | some row => exact h.2 u row hu
    exact ⟨⟨h.1, fun u => (hrow u).1⟩, fun u p hp => ⟨lt_length_of_mem_getD hp, (hrow u).2 p hp⟩⟩
  · rintro ⟨hs, hv⟩
    refine ⟨hs.1, fun u row hu => ?_⟩
    have e : rows[u]?.getD [] = row := by rw [hu]; rfl
    exact ⟨e ▸ hs.2 u, fun p hp => (hv u p (e ▸ hp)).2⟩

/-- Heads in range and off the diagonal (what `From<Vec<row>>` asserts), rows ascending (what the row type gives). -/
theorem rowsWF_of_valid {key : β → Nat} {rows : List (List β)} (hne : rows ≠ [])
    (hv : ∀ (u : Nat) (row : List β), rows[u]? = some row → ∀ p ∈ row, key p ≠ u ∧ key p < rows.length)
    (hs : ∀ row ∈ rows, SortedBy key row) : RowsWF key rows :=
  ⟨List.length_pos_iff.mpr hne, fun u row hrow =>
    ⟨hs row (List.mem_of_getElem? hrow), fun p hp => ⟨(hv u row hrow p hp).2, (hv u row hrow p hp).1⟩⟩⟩

end Rows

/-- The common shape of `AdjList.arcs` / `AdjListW.arcsWeighted` (`enumerate().flat_map(…)`): row `i`
contributes `(k + i, b)` for each entry `b`, in order. -/
def flatRows {β : Type} (k : Nat) (rows : List (List β)) : List (Nat × β) :=
  (rows.zipIdx k).flatMap (fun p => p.1.map (fun b => (p.2, b)))

theorem flatRows_nil {β : Type} (k : Nat) : flatRows k ([] : List (List β)) = [] := rfl

theorem flatRows_cons {β : Type} (k : Nat) (r : List β) (rs : List (List β)) :
    flatRows k (r :: rs) = r.map (fun b => (k, b)) ++ flatRows (k + 1) rs := by
  simp only [flatRows, List.zipIdx_cons, List.flatMap_cons]

theorem mem_flatRows {β : Type} {k u : Nat} {b : β} {rows : List (List β)} :
    (u, b) ∈ flatRows k rows ↔ k ≤ u ∧ ∃ row, rows[u - k]? = some row ∧ b ∈ row := by
  unfold flatRows
  rw [List.mem_flatMap]
  constructor
  · rintro ⟨⟨row, i⟩, hp, hm⟩
    obtain ⟨b', hb', e⟩ := List.mem_map.mp hm
    cases e
    have := List.mk_mem_zipIdx_iff_le_and_getElem?_sub.mp hp
    exact ⟨this.1, row, this.2, hb'⟩
  · rintro ⟨hk, row, hrow, hb⟩
    exact ⟨(row, u), List.mk_mem_zipIdx_iff_le_and_getElem?_sub.mpr ⟨hk, hrow⟩, List.mem_map.mpr ⟨b, hb, rfl⟩⟩

theorem mem_flatRows_zero {β : Type} {u : Nat} {b : β} {rows : List (List β)} :
    (u, b) ∈ flatRows 0 rows ↔ ∃ row, rows[u]? = some row ∧ b ∈ row := by
  rw [mem_flatRows]; exact and_iff_right (Nat.zero_le u)

theorem mem_flatRows_getD {β : Type} {u : Nat} {b : β} {rows : List (List β)} :
    (u, b) ∈ flatRows 0 rows ↔ b ∈ rows[u]?.getD [] := by
  rw [mem_flatRows_zero]
  cases rows[u]? with
  | none => exact ⟨fun ⟨_, e, _⟩ => (nomatch e), fun h => (nomatch h)⟩
  | some row => exact ⟨fun ⟨_, e, h⟩ => Option.some.inj e ▸ h, fun h => ⟨row, rfl, h⟩⟩

/-- Row-major order: by row index, then by the key of the entry. -/
theorem pairwise_flatRows {β : Type} (key : β → Nat) {k : Nat} {rows : List (List β)}
    (h : ∀ row ∈ rows, SortedBy key row) :
    (flatRows k rows).Pairwise fun a b => pairLt (a.1, key a.2) (b.1, key b.2) = true := by
  induction rows generalizing k with
  | nil => exact List.Pairwise.nil
  | cons r rs ih =>
    rw [flatRows_cons, List.pairwise_append]
    refine ⟨?_, ih (fun row hr => h row (List.mem_cons_of_mem _ hr)), ?_⟩
    · rw [List.pairwise_map]
      exact (h r List.mem_cons_self).imp fun {x y} hxy => (pairLt_iff (k, key x) (k, key y)).mpr (Or.inr ⟨rfl, hxy⟩)
    · intro a ha b hb
      obtain ⟨y, _, rfl⟩ := List.mem_map.mp ha
      exact (pairLt_iff _ _).mpr (Or.inl (mem_flatRows.mp hb).1)

theorem length_flatRows {β : Type} {k : Nat} {rows : List (List β)} :
    (flatRows k rows).length = (rows.map List.length).sum := by
  induction rows generalizing k with
  | nil => rfl
  | cons r rs ih => rw [flatRows_cons, List.length_append, List.length_map, ih, List.map_cons, List.sum_cons]

/-- The shape of `AdjMap.arcs` (rows stored under their key): the entry `(u, row)` contributes `(u, v)` for each
`v` of `row`, in order. -/
def rowArcs (l : List (Nat × List Nat)) : List (Nat × Nat) := l.flatMap fun ur => ur.2.map fun v => (ur.1, v)

theorem mem_rowArcs {l : List (Nat × List Nat)} {u v : Nat} :
    (u, v) ∈ rowArcs l ↔ ∃ row, (u, row) ∈ l ∧ v ∈ row := by
  unfold rowArcs
  rw [List.mem_flatMap]
  constructor
  · rintro ⟨⟨a, row⟩, hm, hx⟩
    obtain ⟨x, hx, e⟩ := List.mem_map.mp hx
    cases e
    exact ⟨row, hm, hx⟩
  · rintro ⟨row, hm, hx⟩
    exact ⟨(u, row), hm, List.mem_map.mpr ⟨v, hx, rfl⟩⟩

theorem pairwise_rowArcs {rows : List (Nat × List Nat)} (hs : SortedK rows)
    (hr : ∀ p ∈ rows, SortedS p.2) : SortedP (rowArcs rows) := by
  induction rows with
  | nil => exact List.Pairwise.nil
  | cons p rest ih =>
    have hp := List.pairwise_cons.mp hs
    show (p.2.map (fun v => (p.1, v)) ++ rowArcs rest).Pairwise _
    rw [List.pairwise_append]
    refine ⟨?_, ih hp.2 (fun q hq => hr q (List.mem_cons_of_mem _ hq)), ?_⟩
    · rw [List.pairwise_map]
      exact List.Pairwise.imp (fun {a b} (hab : a < b) => (pairLt_iff (p.1, a) (p.1, b)).mpr (Or.inr ⟨rfl, hab⟩))
        (hr p List.mem_cons_self)
    · intro a ha b hb
      obtain ⟨x, _, rfl⟩ := List.mem_map.mp ha
      obtain ⟨r, hm, _⟩ := mem_rowArcs.mp hb
      exact (pairLt_iff _ _).mpr (Or.inl (hp.1 _ hm))

theorem sortedP_flatMap_rows {us : List Nat} (hus : SortedS us) {row : Nat → List Nat}
    (hrow : ∀ u ∈ us, SortedS (row u)) : SortedP (us.flatMap fun u => (row u).map fun v => (u, v)) := by
  have := pairwise_rowArcs (rows := us.map fun u => (u, row u)) (List.pairwise_map.mpr hus) fun p hp => by
    obtain ⟨u, hu, rfl⟩ := List.mem_map.mp hp
    exact hrow u hu
  rwa [rowArcs, List.flatMap_map] at this

/-! ## AdjacencyList -/
namespace AdjList

theorem hasArc_eq (d : AdjList) (u v : Nat) : d.hasArc u v = (d.rows[u]?.getD []).contains v := by
  unfold hasArc; cases d.rows[u]? <;> rfl

theorem mem_row {d : AdjList} {u v : Nat} : v ∈ d.rows[u]?.getD [] ↔ d.hasArc u v = true := by
  rw [hasArc_eq, List.contains_iff_mem]

theorem mem_vertices {d : AdjList} {x : Nat} : x ∈ d.vertices ↔ x < d.order := List.mem_range

theorem arcs_eq (d : AdjList) : d.arcs = flatRows 0 d.rows := rfl

theorem mem_arcs_iff (d : AdjList) (u v : Nat) : (u, v) ∈ d.arcs ↔ d.hasArc u v = true :=
  mem_flatRows_getD.trans mem_row

/-- `WF` of a concrete value, in a form `decide` evaluates: the rows with their indices. -/
theorem WF_of_zipIdx {d : AdjList} (h0 : 0 < d.order)
    (h : ∀ p ∈ d.rows.zipIdx, p.1.Pairwise (· < ·) ∧ ∀ v ∈ p.1, v < d.order ∧ v ≠ p.2) : d.WF :=
  ⟨h0, fun u row hr => h (row, u) (List.mk_mem_zipIdx_iff_getElem?.mpr hr)⟩

/-- The structural part of `WF`: at least one vertex, every row strictly ascending. -/
def Shape (d : AdjList) : Prop := RowsShape id d.rows

theorem WF_iff_simple (d : AdjList) : d.WF ↔ d.Shape ∧ Simple d.vertices d.hasArc :=
  (rowsWF_iff id d.rows).trans <| and_congr_right fun _ =>
    ⟨fun h u v huv => have := h u v (mem_row.mpr huv)
      ⟨mem_vertices.mpr this.1, mem_vertices.mpr this.2.1, fun e => this.2.2 e.symm⟩,
     fun h u v hv => have := h u v (mem_row.mp hv)
      ⟨mem_vertices.mp this.1, mem_vertices.mp this.2.1, fun e => this.2.2 e.symm⟩⟩

theorem WF.shape {d : AdjList} (h : d.WF) : d.Shape := ((WF_iff_simple d).mp h).1

theorem WF.simple {d : AdjList} (h : d.WF) : Simple d.vertices d.hasArc := ((WF_iff_simple d).mp h).2

theorem arcs_sorted {d : AdjList} (h : d.Shape) : SortedP d.arcs :=
  pairwise_flatRows id h.sorted_of_mem

theorem size_eq (d : AdjList) : d.size = d.arcs.length := by
  rw [arcs_eq, length_flatRows]; rfl

theorem ext {a b : AdjList} (ha : a.Shape) (hb : b.Shape) (hV : ∀ x, x ∈ a.vertices ↔ x ∈ b.vertices)
    (hA : ∀ u v, a.hasArc u v = b.hasArc u v) : a = b :=
  congrArg AdjList.mk <| Vec.ext_getD [] (range_eq_of_mem_iff hV) fun u =>
    sortedS_ext (ha.2 u) (hb.2 u) fun v => by rw [mem_row, mem_row, hA]

theorem WF.row_lt {d : AdjList} (h : d.WF) : ∀ row ∈ d.rows, ∀ v ∈ row, v < d.order :=
  fun row hr v hv => let ⟨u, hu⟩ := List.getElem?_of_mem hr; ((h.2 u row hu).2 v hv).1

end AdjList

/-! ## AdjacencyListWeighted -/
namespace AdjListW

theorem arcWeight_eq (d : AdjListW) (u v : Nat) : d.arcWeight u v = mget v (d.rows[u]?.getD []) := by
  unfold arcWeight; cases d.rows[u]? <;> rfl

theorem hasArc_eq (d : AdjListW) (u v : Nat) : d.hasArc u v = (d.arcWeight u v).isSome := by
  unfold hasArc arcWeight; cases d.rows[u]? <;> rfl

theorem mem_vertices {d : AdjListW} {x : Nat} : x ∈ d.vertices ↔ x < d.order := List.mem_range

theorem arcsWeighted_eq (d : AdjListW) : d.arcsWeighted = flatRows 0 d.rows := rfl

/-- The structural part of `WF`: at least one vertex, every row strictly ascending in the key. -/
def Shape (d : AdjListW) : Prop := RowsShape Prod.fst d.rows

theorem mem_row {d : AdjListW} (h : d.Shape) {u v : Nat} {w : Int} :
    (v, w) ∈ d.rows[u]?.getD [] ↔ d.arcWeight u v = some w := by
  rw [arcWeight_eq, mget_eq_some_iff (h.2 u)]

theorem hasArc_iff_row {d : AdjListW} (h : d.Shape) {u v : Nat} :
    d.hasArc u v = true ↔ ∃ p ∈ d.rows[u]?.getD [], p.1 = v := by
  rw [hasArc_eq, arcWeight_eq, mget_isSome_iff (h.2 u)]; exact List.mem_map

theorem mem_arcsWeighted_iff {d : AdjListW} (h : d.Shape) (u v : Nat) (w : Int) :
    (u, v, w) ∈ d.arcsWeighted ↔ d.arcWeight u v = some w :=
  mem_flatRows_getD.trans (mem_row h)

theorem mem_arcs_iff {d : AdjListW} (h : d.Shape) (u v : Nat) : (u, v) ∈ d.arcs ↔ d.hasArc u v = true := by
  rw [hasArc_eq, Option.isSome_iff_exists]
  unfold arcs
  rw [List.mem_map]
  constructor
  · rintro ⟨⟨a, b, w⟩, hm, e⟩
    cases e
    exact ⟨w, (mem_arcsWeighted_iff h _ _ _).mp hm⟩
  · rintro ⟨w, hw⟩
    exact ⟨(u, v, w), (mem_arcsWeighted_iff h _ _ _).mpr hw, rfl⟩

theorem WF_iff_simple (d : AdjListW) : d.WF ↔ d.Shape ∧ Simple d.vertices d.hasArc :=
  (rowsWF_iff Prod.fst d.rows).trans <| and_congr_right fun hs =>
    ⟨fun h u v huv => by
      obtain ⟨p, hp, rfl⟩ := (hasArc_iff_row hs).mp huv
      have := h u p hp
      exact ⟨mem_vertices.mpr this.1, mem_vertices.mpr this.2.1, fun e => this.2.2 e.symm⟩,
     fun h u p hp => have := h u p.1 ((hasArc_iff_row hs).mpr ⟨p, hp, rfl⟩)
      ⟨mem_vertices.mp this.1, mem_vertices.mp this.2.1, fun e => this.2.2 e.symm⟩⟩

theorem WF.shape {d : AdjListW} (h : d.WF) : d.Shape := ((WF_iff_simple d).mp h).1

theorem WF.simple {d : AdjListW} (h : d.WF) : Simple d.vertices d.hasArc := ((WF_iff_simple d).mp h).2

theorem arcs_sorted {d : AdjListW} (h : d.Shape) : SortedP d.arcs :=
  List.pairwise_map.mpr (pairwise_flatRows Prod.fst h.sorted_of_mem)

theorem size_eq (d : AdjListW) : d.size = d.arcsWeighted.length := by
  rw [arcsWeighted_eq, length_flatRows]; rfl

theorem ext {a b : AdjListW} (ha : a.Shape) (hb : b.Shape) (hV : ∀ x, x ∈ a.vertices ↔ x ∈ b.vertices)
    (hA : ∀ u v, a.arcWeight u v = b.arcWeight u v) : a = b :=
  congrArg AdjListW.mk <| Vec.ext_getD [] (range_eq_of_mem_iff hV) fun u =>
    sortedK_ext (ha.2 u) (hb.2 u) fun v => by rw [← arcWeight_eq, ← arcWeight_eq, hA]

end AdjListW

/-! ## EdgeList -/
namespace EdgeList

theorem mem_arcs_iff (d : EdgeList) (u v : Nat) : (u, v) ∈ d.arcs ↔ d.hasArc u v = true :=
  List.contains_iff_mem.symm

theorem mem_vertices {d : EdgeList} {x : Nat} : x ∈ d.vertices ↔ x < d.order := List.mem_range

/-- The structural part of `WF`: at least one vertex, the arc set strictly ascending. -/
def Shape (d : EdgeList) : Prop := 0 < d.order ∧ SortedP d.arcs

theorem WF_iff_simple (d : EdgeList) : d.WF ↔ d.Shape ∧ Simple d.vertices d.hasArc :=
  ⟨fun ⟨h0, hs, hr⟩ => ⟨⟨h0, hs⟩, fun u v huv => have := hr (u, v) ((mem_arcs_iff d u v).mpr huv)
      ⟨mem_vertices.mpr this.1, mem_vertices.mpr this.2.1, this.2.2⟩⟩,
   fun ⟨⟨h0, hs⟩, hv⟩ => ⟨h0, hs, fun a ha => have := hv a.1 a.2 ((mem_arcs_iff d a.1 a.2).mp ha)
      ⟨mem_vertices.mp this.1, mem_vertices.mp this.2.1, this.2.2⟩⟩⟩

theorem WF.shape {d : EdgeList} (h : d.WF) : d.Shape := ((WF_iff_simple d).mp h).1

theorem WF.simple {d : EdgeList} (h : d.WF) : Simple d.vertices d.hasArc := ((WF_iff_simple d).mp h).2

theorem size_eq (d : EdgeList) : d.size = d.arcs.length := rfl

theorem ext {a b : EdgeList} (ha : a.Shape) (hb : b.Shape) (hV : ∀ x, x ∈ a.vertices ↔ x ∈ b.vertices)
    (hA : ∀ u v, a.hasArc u v = b.hasArc u v) : a = b := by
  have ho : a.order = b.order := range_eq_of_mem_iff hV
  have harcs : a.arcs = b.arcs := sortedP_ext ha.2 hb.2 fun p => by
    rw [mem_arcs_iff, mem_arcs_iff, hA]
  cases a; cases b; cases ho; cases harcs; rfl

end EdgeList

/-! ## AdjacencyMatrix -/
namespace AdjMatrix

theorem mem_vertices {d : AdjMatrix} {x : Nat} : x ∈ d.vertices ↔ x < d.order := List.mem_range

theorem mem_arcs_iff (d : AdjMatrix) (u v : Nat) : (u, v) ∈ d.arcs ↔ d.hasArc u v = true :=
  (mem_arcs_iff_cell d u v).trans (hasArc_iff d u v).symm

theorem lex_of_lt {n c₁ c₂ : Nat} (h : c₁ < c₂) : pairLt (c₁ / n, c₁ % n) (c₂ / n, c₂ % n) = true := by
  rw [pairLt_iff]
  rcases Nat.lt_or_eq_of_le (Nat.div_le_div_right (c := n) (Nat.le_of_lt h)) with hlt | e
  · exact Or.inl hlt
  · refine Or.inr ⟨e, ?_⟩
    rw [← Nat.div_add_mod c₁ n, ← Nat.div_add_mod c₂ n] at h
    exact Nat.lt_of_add_lt_add_left (e ▸ h)

/-- The arc iterator walks the cells in ascending order, which is the lexicographic order of the pairs. -/
theorem arcs_sorted (d : AdjMatrix) : SortedP d.arcs :=
  List.pairwise_map.mpr (List.Pairwise.imp lex_of_lt (List.Pairwise.filter _ List.pairwise_lt_range))

/-- The structural part of `WF`: block count fixed by the order, no residue bit at or above `order²`. -/
def Shape (d : AdjMatrix) : Prop :=
  0 < d.order ∧ d.blocks.length = (d.order * d.order + 63) / 64 ∧ ∀ c, d.order * d.order ≤ c → d.cell c = false

theorem Shape.cells_cover {d : AdjMatrix} (h : d.Shape) : d.order * d.order ≤ 64 * d.blocks.length :=
  h.2.1 ▸ le_ceil64 _

/-- The diagonal is clear exactly when no arc is a loop. -/
theorem WF_iff_simple (d : AdjMatrix) : d.WF ↔ d.Shape ∧ Simple d.vertices d.hasArc := by
  constructor
  · rintro ⟨h0, hl, hres, hdiag⟩
    refine ⟨⟨h0, hl, hres⟩, fun u v huv => ?_⟩
    obtain ⟨hu, hv, hc⟩ := (hasArc_iff d u v).mp huv
    refine ⟨mem_vertices.mpr hu, mem_vertices.mpr hv, fun e => ?_⟩
    rw [← e, hdiag u hu] at hc
    exact Bool.noConfusion hc
  · rintro ⟨⟨h0, hl, hres⟩, hv⟩
    refine ⟨h0, hl, hres, fun u hu => ?_⟩
    cases hc : d.cell (d.index u u) with
    | false => rfl
    | true => exact absurd rfl (hv u u ((hasArc_of_lt d hu hu).trans hc)).2.2

theorem WF.shape {d : AdjMatrix} (h : d.WF) : d.Shape := ((WF_iff_simple d).mp h).1

theorem WF.simple {d : AdjMatrix} (h : d.WF) : Simple d.vertices d.hasArc := ((WF_iff_simple d).mp h).2

/-- `size()` (sum of the population counts, modelled as the number of set cells) is `|A|`. -/
theorem size_eq {d : AdjMatrix} (h : d.Shape) : d.size = d.arcs.length := by
  unfold size arcs
  rw [List.length_map]
  refine congrArg List.length (List.filter_congr fun c _ => ?_)
  cases hc : d.cell c
  · rfl
  · rw [decide_eq_true (Nat.lt_of_not_le fun hle => Bool.noConfusion ((h.2.2 c hle).symm.trans hc))]; rfl

theorem cell_of_hasArc {d : AdjMatrix} (h : d.Shape) (c : Nat) :
    d.cell c = (decide (c < d.order * d.order) && d.hasArc (c / d.order) (c % d.order)) := by
  by_cases hc : c < d.order * d.order
  · obtain ⟨hu, hv, hi⟩ := flatIdx_decode hc
    rw [decide_eq_true hc, hasArc_of_lt d hu hv, index, hi]; rfl
  · rw [decide_eq_false hc]; exact h.2.2 c (Nat.le_of_not_lt hc)

theorem ext {a b : AdjMatrix} (ha : a.Shape) (hb : b.Shape) (hV : ∀ x, x ∈ a.vertices ↔ x ∈ b.vertices)
    (hA : ∀ u v, a.hasArc u v = b.hasArc u v) : a = b := by
  have ho : a.order = b.order := range_eq_of_mem_iff hV
  have hblocks : a.blocks = b.blocks :=
    List.ext_getElem (by rw [ha.2.1, hb.2.1, ho]) fun j h1 h2 => BitVec.eq_of_getLsbD_eq fun k hk => by
      have := cell_of_hasArc ha (j * 64 + k)
      rw [ho, hA, ← cell_of_hasArc hb, cell_mul_add _ j hk, cell_mul_add _ j hk,
        List.getElem?_eq_getElem h1, List.getElem?_eq_getElem h2] at this
      exact this
  cases a; cases b; cases ho; cases hblocks; rfl

end AdjMatrix

/-! ## AdjacencyMap -/
namespace AdjMap

/-- The out-row of `u` (empty when `u` is not a key). -/
def row (d : AdjMap) (u : Nat) : List Nat := (mget u d.rows).getD []

theorem row_of_mget_some {d : AdjMap} {u : Nat} {r : List Nat} (h : mget u d.rows = some r) : d.row u = r :=
  congrArg (Option.getD · []) h

theorem row_of_mget_none {d : AdjMap} {u : Nat} (h : mget u d.rows = none) : d.row u = [] :=
  congrArg (Option.getD · []) h

theorem hasArc_eq (d : AdjMap) (u v : Nat) : d.hasArc u v = (d.row u).contains v := by
  unfold hasArc row; cases mget u d.rows <;> rfl

theorem mem_row {d : AdjMap} {u v : Nat} : v ∈ d.row u ↔ d.hasArc u v = true := by
  rw [hasArc_eq, List.contains_iff_mem]

theorem row_of_mem {d : AdjMap} (hs : SortedK d.rows) {u : Nat} {r : List Nat} (h : (u, r) ∈ d.rows) :
    d.row u = r :=
  row_of_mget_some ((mget_eq_some_iff hs).mpr h)

theorem mem_of_mem_row {d : AdjMap} {u v : Nat} (hv : v ∈ d.row u) : (u, d.row u) ∈ d.rows := by
  unfold row at hv ⊢
  cases hg : mget u d.rows with
  | none => rw [hg] at hv; cases hv
  | some r => exact mem_of_mget_eq_some hg

theorem sortedS_row {d : AdjMap} (h : ∀ e ∈ d.rows, SortedS e.2) (a : Nat) : SortedS (d.row a) := by
  cases hr : d.row a with
  | nil => exact List.Pairwise.nil
  | cons x xs => exact hr ▸ h _ (mem_of_mem_row (hr ▸ List.mem_cons_self))

theorem mem_row_iff {d : AdjMap} (hs : SortedK d.rows) {u v : Nat} :
    v ∈ d.row u ↔ ∃ r, (u, r) ∈ d.rows ∧ v ∈ r :=
  ⟨fun hv => ⟨_, mem_of_mem_row hv, hv⟩, fun ⟨_, hm, hv⟩ => row_of_mem hs hm ▸ hv⟩

/-- `entry(u).or_default()`, then `f` on that row. -/
theorem row_mupsert (d : AdjMap) (u : Nat) (f : List Nat → List Nat) (a : Nat) :
    row ⟨mupsert u [] f d.rows⟩ a = if a = u then f (d.row u) else d.row a := by
  unfold row
  rw [mget_mupsert_eq]
  by_cases ha : a = u
  · rw [if_pos ha, if_pos ha]; rfl
  · rw [if_neg ha, if_neg ha]

theorem mem_vertices {d : AdjMap} (hs : SortedK d.rows) {x : Nat} :
    x ∈ d.vertices ↔ (mget x d.rows).isSome = true :=
  (mget_isSome_iff hs).symm

theorem arcs_eq (d : AdjMap) : d.arcs = rowArcs d.rows := rfl

theorem mem_arcs_iff {d : AdjMap} (hs : SortedK d.rows) (u v : Nat) : (u, v) ∈ d.arcs ↔ d.hasArc u v = true :=
  mem_rowArcs.trans ((mem_row_iff hs).symm.trans mem_row)

/-- The structural part of `WF`: keys and rows strictly ascending. -/
def Shape (d : AdjMap) : Prop := SortedK d.rows ∧ ∀ a, SortedS (d.row a)

theorem WF_iff_simple (d : AdjMap) : d.WF ↔ d.Shape ∧ Simple d.vertices d.hasArc := by
  constructor
  · rintro ⟨hs, h⟩
    refine ⟨⟨hs, sortedS_row fun e he => (h e.1 e.2 he).1⟩, fun u v huv => ?_⟩
    · have hv := mem_row.mpr huv
      have hm := mem_of_mem_row hv
      have := (h u _ hm).2 v hv
      exact ⟨List.mem_map.mpr ⟨_, hm, rfl⟩, (mget_isSome_iff hs).mp this.2, fun e => this.1 e.symm⟩
  · rintro ⟨⟨hs, hr⟩, hv⟩
    refine ⟨hs, fun u r hm => ?_⟩
    have e := row_of_mem hs hm
    refine ⟨e ▸ hr u, fun v hvr => ?_⟩
    have := hv u v (mem_row.mp (e ▸ hvr))
    exact ⟨fun e => this.2.2 e.symm, (mget_isSome_iff hs).mpr this.2.1⟩

theorem WF.shape {d : AdjMap} (h : d.WF) : d.Shape := ((WF_iff_simple d).mp h).1

theorem WF.simple {d : AdjMap} (h : d.WF) : Simple d.vertices d.hasArc := ((WF_iff_simple d).mp h).2

theorem arcs_sorted {d : AdjMap} (h : d.Shape) : SortedP d.arcs :=
  pairwise_rowArcs h.1 fun p hp => row_of_mem h.1 hp ▸ h.2 p.1

theorem size_eq (d : AdjMap) : d.size = d.arcs.length := by
  rw [arcs_eq]
  simp only [size, rowArcs, List.length_flatMap, List.length_map]

theorem ext {a b : AdjMap} (ha : a.Shape) (hb : b.Shape) (hV : ∀ x, x ∈ a.vertices ↔ x ∈ b.vertices)
    (hA : ∀ u v, a.hasArc u v = b.hasArc u v) : a = b := by
  -- every entry of one map is an entry of the other: same key set, and the row under a key is its arcs
  have key : ∀ {a b : AdjMap}, a.Shape → b.Shape → (∀ x, x ∈ a.vertices → x ∈ b.vertices) →
      (∀ u v, a.hasArc u v = b.hasArc u v) → ∀ e, e ∈ a.rows → e ∈ b.rows := by
    intro a b ha hb hV hA ⟨k, s⟩ he
    obtain ⟨⟨_, s'⟩, hs', rfl⟩ := List.mem_map.mp (hV k (List.mem_map.mpr ⟨_, he, rfl⟩))
    have : s = s' := sortedS_ext (row_of_mem ha.1 he ▸ ha.2 _) (row_of_mem hb.1 hs' ▸ hb.2 _) fun v => by
      rw [← row_of_mem ha.1 he, ← row_of_mem hb.1 hs', mem_row, mem_row, hA]
    rw [this]; exact hs'
  exact congrArg AdjMap.mk <| sortedK_ext_mem ha.1 hb.1 fun e =>
    ⟨key ha hb (fun x => (hV x).mp) hA e, key hb ha (fun x => (hV x).mpr) (fun u v => (hA u v).symm) e⟩

end AdjMap

end GraafVerif.Repr
