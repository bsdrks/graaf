import GraafVerif.Spec.OracleFast
import GraafVerif.Driver.H03
import GraafVerif.Driver.H04
import GraafVerif.Driver.H08
/-!
# The drivers' own fast oracles ARE the canonical ones of `Spec/OracleFast.lean`

The drivers define their fast oracles locally (`let`-bound rounds, `let rec` loops).  Each is the
same function as the canonical oracle: the rounds are definitionally equal, the loops start alike
and take the same step (`loop_ext`).  So the theorems of `Thm/OraclesFast.lean` are theorems about the functions
the compiled driver runs, not about copies.
-/
namespace GraafVerif.OracleFastProof
open GraafVerif GraafVerif.OracleFast GraafVerif.Driver

/-- Two loops over fuel that start alike and whose next value is the same function `F` of the present one
(for a `let rec go` and its top-level twin both equations hold by `rfl`) are the same loop. -/
theorem loop_ext {γ : Type} (F : γ → γ) {f f' : Nat → γ} (h0 : f 0 = f' 0) (hf : ∀ n, f (n+1) = F (f n))
    (hf' : ∀ n, f' (n+1) = F (f' n)) : ∀ n, f n = f' n
  | 0 => h0
  | n+1 => by rw [hf, hf', loop_ext F h0 hf hf' n]

theorem h03_go_eq (g : WGraph) : ∀ fuel, H03.fastDist.go (wfRound g) fuel = wfGo g fuel :=
  loop_ext (fun go d => match wfRound g d with
    | (d', true) => go d'
    | (d', false) => d') rfl (fun _ => rfl) (fun _ => rfl)

/-- `H03.fastDist` (Dijkstra checks, orders above 60) is `wdistFast`. -/
theorem h03_fastDist_eq : H03.fastDist = wdistFast := by
  funext g S
  show (H03.fastDist.go (wfRound g) (g.n + 1) (wfInit g.n S)).toList = _
  rw [h03_go_eq]; rfl

theorem h04_go_eq (g : Graph) : ∀ fuel, H04.hopDistFast.go g fuel = hfGo g fuel :=
  loop_ext (fun go k front d => if front.isEmpty then d else let r := hfRound g k front d; go (k+1) r.2 r.1)
    rfl (fun _ => rfl) (fun _ => rfl)

/-- `H04.hopDistFast` (BFS checks, orders above 130) is `hopDistFastA`. -/
theorem h04_hopDistFast_eq : H04.hopDistFast = hopDistFastA := by
  funext g S
  show (H04.hopDistFast.go g (g.n + 1) 0 S (hfInit g.n S)).toList = _
  rw [h04_go_eq]; rfl

theorem h08_go_eq (arcs : List (Nat × Nat × Int)) : ∀ fuel, H08.bfA.go (abRound arcs) fuel = abGo arcs fuel :=
  loop_ext (fun go d => let r := abRound arcs d; if r.2 then go r.1 else (d, false)) rfl (fun _ => rfl) (fun _ => rfl)

/-- `H08.bfA` (distance-matrix checks, orders above 40) is `wdistArcsFast`. -/
theorem h08_bfA_eq : H08.bfA = wdistArcsFast := by
  funext g arcs s
  unfold H08.bfA wdistArcsFast
  simp only []
  rw [← h08_go_eq]
  rfl

/-- The arc list `H08.ssOracle` passes to `bfA`. -/
theorem fw_arcsWeighted_eq (g : WGraph) : Fw.arcsWeighted g = wgraphArcs g := rfl

end GraafVerif.OracleFastProof
