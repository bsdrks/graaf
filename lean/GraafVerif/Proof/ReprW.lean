import GraafVerif.Proof.ReprRows
/-!
# `AdjacencyListWeighted` refines the abstract weighted digraph (C01) and is determined by it (C20)

An instance of the row-indexed scheme of `Proof/ReprRows.lean` with `mapLook` as the row lookup.
-/
namespace GraafVerif.Repr

/-- The answer of a row to "the weight at `v`". -/
def mapLook {X : Type} (r : List (Nat × X)) (v : Nat) : Option X := mget v r

end GraafVerif.Repr

namespace GraafVerif.Repr.AdjListW
open GraafVerif.ReprSpec GraafVerif.Repr

theorem abs_A (d : AdjListW) (u v : Nat) : d.abs.A u v = d.hasArc u v := (hasArc_eq d u v).symm

theorem abs_eq (d : AdjListW) : d.abs = rowsAbs mapLook d.rows :=
  SpecState.ext (fun _ => rfl) (arcWeight_eq d)

theorem vertices_spec (d : AdjListW) :
    d.vertices = List.range d.order ∧ ∀ x, x ∈ d.vertices ↔ d.abs.V x = true :=
  ⟨rfl, fun _ => List.mem_range.trans decide_eq_true_iff.symm⟩

theorem WF_iff (d : AdjListW) : d.WF ↔ d.Shape ∧ d.abs.Valid :=
  (WF_iff_simple d).trans <| and_congr_right fun _ => (valid_iff_simple (vertices_spec d).2 (abs_A d)).symm

theorem abs_empty {n : Nat} {d : AdjListW} (h : empty n = some d) : d.abs = emptySpec Int n := by
  obtain ⟨_, ⟨⟩⟩ := Option.ite_none_left_eq_some.mp h
  rw [abs_eq]; exact rowsAbs_replicate mapLook (fun _ => rfl) n

theorem empty_WF {n : Nat} {d : AdjListW} (h : empty n = some d) : d.WF := by
  refine (WF_iff d).mpr ⟨?_, abs_empty h ▸ emptySpec_valid Int n⟩
  obtain ⟨hn, ⟨⟩⟩ := Option.ite_none_left_eq_some.mp h
  exact RowsShape.replicate _ hn

theorem addArcWeighted_eq (d : AdjListW) (u v : Nat) (w : Int) :
    d.addArcWeighted u v w = if rejected .fixed d.abs u v = true then none
      else some ⟨d.rows.set u (mupsert v w (fun _ => w) (d.rows[u]?.getD []))⟩ :=
  fixed_guard d.order _ u v _

/-- `remove_arc` on a vertex without a row rewrites nothing: `List.set` past the end is the identity. -/
theorem removeArc_eq (d : AdjListW) (u v : Nat) :
    d.removeArc u v = (⟨d.rows.set u (merase v (d.rows[u]?.getD []))⟩, (mget v (d.rows[u]?.getD [])).isSome) := by
  unfold removeArc
  cases h : d.rows[u]? with
  | none => rw [List.set_eq_of_length_le (List.getElem?_eq_none_iff.mp h)]; rfl
  | some row => rfl

theorem step_spec (d : AdjListW) (op : Op Int) (h : d.Shape) :
    Refines Shape abs (d.step op) (specStep .fixed d.abs op) := by
  cases op with
  | add u v w =>
    rw [step, addArcWeighted_eq]
    refine guarded_refines h fun hrej => ?_
    refine ⟨h.set u (sortedK_mupsert (h.2 u)), ?_⟩
    rw [abs_eq, abs_eq]
    exact rowsAbs_set mapLook (Or.inl (accepted_fixed_range hrej).2.1) fun b => mget_mupsert_eq v b w _ _
  | rem u v =>
    rw [step, removeArc_eq]
    refine ⟨h.set u (sortedK_merase (h.2 u)), ?_, ?_⟩
    · show abs ⟨_⟩ = ⟨d.abs.V, setW d.abs.W u v none⟩
      rw [abs_eq, abs_eq]
      exact rowsAbs_set mapLook (Or.inr rfl) fun _ => mget_merase (h.2 u)
    · show Out.bool _ = Out.bool (d.abs.A u v)
      rw [abs_eq]; rfl

theorem step_WF (d : AdjListW) (op : Op Int) (h : d.WF) : (d.step op).1.WF :=
  step_WF_of_shape WF_iff (specStep_valid .fixed) step_spec d op h

theorem step_refines (d : AdjListW) (op : Op Int) (h : d.WF) :
    (d.step op).1.abs = (specStep .fixed d.abs op).1 ∧ (d.step op).2 = (specStep .fixed d.abs op).2 :=
  (step_spec d op ((WF_iff d).mp h).1).2

theorem step_rejects (d : AdjListW) (u v : Nat) (w : Int) (h : rejected .fixed d.abs u v = true) :
    d.step (.add u v w) = (d, .panic) := by
  rw [step, addArcWeighted_eq, if_pos h]; rfl

theorem run_refines (ops : List (Op Int)) (d : AdjListW) (h : d.WF) :
    (run step d ops).1.WF ∧ (run step d ops).1.abs = (run (specStep .fixed) d.abs ops).1 ∧
    (run step d ops).2 = (run (specStep .fixed) d.abs ops).2 :=
  run_refines_gen step (specStep .fixed) WF abs step_WF step_refines ops d h

theorem mem_arcsWeighted (d : AdjListW) (h : d.WF) (u v : Nat) (w : Int) :
    (u, v, w) ∈ d.arcsWeighted ↔ d.abs.W u v = some w :=
  mem_arcsWeighted_iff ((WF_iff d).mp h).1 u v w

theorem arcsWeighted_sorted (d : AdjListW) (h : d.WF) :
    d.arcsWeighted.Pairwise (fun a b => pairLt (a.1, a.2.1) (b.1, b.2.1) = true) :=
  pairwise_flatRows Prod.fst ((WF_iff d).mp h).1.sorted_of_mem

theorem mem_arcs (d : AdjListW) (h : d.WF) (u v : Nat) : (u, v) ∈ d.arcs ↔ d.abs.A u v = true := by
  rw [abs_A]; exact mem_arcs_iff ((WF_iff d).mp h).1 u v

theorem arcs_sorted_nodup (d : AdjListW) (h : d.WF) :
    d.arcs.Pairwise (fun a b => pairLt a b = true) ∧ d.arcs.Nodup ∧
    ∀ u v, (u, v) ∈ d.arcs ↔ d.abs.A u v = true := by
  have hp := arcs_sorted ((WF_iff d).mp h).1
  exact ⟨hp, sortedP_nodup hp, mem_arcs d h⟩

theorem abs_valid (d : AdjListW) (h : d.WF) : d.abs.Valid := ((WF_iff d).mp h).2

/-- C20: a well-formed `AdjacencyListWeighted` is determined by its abstract weighted digraph. -/
theorem abs_injective (d₁ d₂ : AdjListW) (h₁ : d₁.WF) (h₂ : d₂.WF) : d₁.abs = d₂.abs ↔ d₁ = d₂ :=
  ⟨fun h => ext ((WF_iff d₁).mp h₁).1 ((WF_iff d₂).mp h₂).1
    (fun x => by rw [(vertices_spec d₁).2, (vertices_spec d₂).2, h])
    (fun u v => congrFun (congrFun (congrArg SpecState.W h) u) v), fun h => h ▸ rfl⟩

end GraafVerif.Repr.AdjListW
