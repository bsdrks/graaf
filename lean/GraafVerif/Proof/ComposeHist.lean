import GraafVerif.Proof.ComposeViewIs
/-!
# Compose — representation × mutation history × algorithm

`ReprModel` captures what the composition needs of one representation: the invariant `WF`, the
abstraction `abs` to C01's mathematical digraph (`SpecState`), the model's transition function
`step` and the spec's `sstep`, the views handed to the traversals, and the three proved facts
`step_WF`, `step_refines` (C01) and `view_spec` / `vview_spec` (C02 + `Proof/ComposeView`).

The generic theorems then say: for EVERY well-formed start value, EVERY finite list of mutating
calls (valid or rejected), the algorithms run on the view of the FINAL MODEL STATE satisfy their
properties with respect to the arc relation of the FINAL SPEC STATE — the plain arc set obtained
by applying the same calls to the abstract digraph.  Nothing on the specification side mentions
rows, bit blocks, sorted containers or out-neighbour lists.

`view_spec` makes the final view a `ViewHas` without loops and with duplicate-free rows, which is
what `AlgorithmsHold.of_viewHas` asks: `algorithms_after_any_history` is the whole record, and
`traversals_` / `johnson_after_any_history` are its fields.  (`view_spec` does not say that rows
are ascending, so no `ViewIs` of the final view follows from a `ReprModel` alone; per
representation it is `X.viewIs` at `M.after r ops`.)
-/
namespace GraafVerif.Compose
open GraafVerif GraafVerif.Repr GraafVerif.ReprSpec

def _root_.GraafVerif.ReprSpec.SpecState.Arc {ω : Type} (s : SpecState ω) : Rel := fun u v => s.A u v = true
def _root_.GraafVerif.ReprSpec.SpecState.WArc (s : SpecState Int) : WRel := fun u v w => s.W u v = some w

theorem run_V_eq {ο ω : Type} {sstep : SpecState ω → ο → SpecState ω × Out} {V₀ : Nat → Bool} {ops : List ο}
    (h : ∀ s, s.V = V₀ → ∀ op ∈ ops, (sstep s op).1.V = s.V) :
    ∀ s, s.V = V₀ → (run sstep s ops).1.V = V₀ := by
  induction ops with
  | nil => exact fun _ hs => hs
  | cons op ops ih =>
    intro s hs
    exact ih (fun s' hs' op' hop' => h s' hs' op' (List.mem_cons_of_mem _ hop')) _
      ((h s hs op List.mem_cons_self).trans hs)

theorem specStep_fixed_V {ω : Type} (s : SpecState ω) (op : Op ω) : (specStep .fixed s op).1.V = s.V := by
  cases op with
  | add u v w => simp only [specStep]; split <;> rfl
  | rem u v => rfl

theorem specStepMx_V (s : SpecState Unit) (op : MxOp) : (specStepMx s op).1.V = s.V := by
  cases op with
  | add u v => exact specStep_fixed_V s _
  | rem u v => rfl
  | tog u v => simp only [specStepMx]; split <;> rfl

def opIds {ω : Type} : Op ω → List Nat
  | .add u v _ => [u, v]
  | .rem u v => [u, v]

theorem specStep_growing_V {ω : Type} (s : SpecState ω) (op : Op ω) (h : ∀ x ∈ opIds op, s.V x = true) :
    (specStep .growing s op).1.V = s.V := by
  cases op with
  | add u v w =>
    simp only [specStep]
    split
    · rfl
    · show addV (addV s.V u) v = s.V
      rw [addV_of_mem (h u List.mem_cons_self), addV_of_mem (h v (List.mem_cons_of_mem _ List.mem_cons_self))]
  | rem u v => rfl

theorem specRun_growing_V {ω : Type} (ops : List (Op ω)) (s : SpecState ω)
    (h : ∀ op ∈ ops, ∀ x ∈ opIds op, s.V x = true) : (run (specStep .growing) s ops).1.V = s.V :=
  run_V_eq (fun s' hs' op hop => specStep_growing_V s' op fun x hx => hs' ▸ h op hop x hx) s rfl

/-- What the composition needs of one representation (`σ` its model type, `ο` its mutating
calls, `ω` its weight type). -/
structure ReprModel (σ ο ω : Type) where
  WF : σ → Prop
  abs : σ → SpecState ω
  step : σ → ο → σ × Out
  sstep : SpecState ω → ο → SpecState ω × Out
  order : σ → Nat
  /-- what `Bfs`, `Dfs`, `Johnson75` see: `order()` + `out_neighbors()` -/
  view : σ → Graph
  /-- what `Tarjan` sees: `vertices()` + `out_neighbors()` -/
  vview : σ → Tarjan.VGraph
  /-- side condition under which the positional view is meaningful
  (`True` except for the map, where it is "the key set is `0..order`") -/
  viewOK : σ → Prop
  step_WF : ∀ r op, WF r → WF (step r op).1
  step_refines : ∀ r op, WF r →
    abs (step r op).1 = (sstep (abs r) op).1 ∧ (step r op).2 = (sstep (abs r) op).2
  view_spec : ∀ r, WF r → viewOK r →
    (view r).n = order r ∧ (view r).WF ∧ (∀ u v, (view r).A u v ↔ (abs r).Arc u v) ∧
    Johnson.NoLoops (view r) ∧ Johnson.RowsNodup (view r)
  vview_spec : ∀ r, WF r →
    (vview r).Closed ∧ (∀ x, x ∈ (vview r).verts ↔ (abs r).V x = true) ∧
    (vview r).verts.Pairwise (· < ·) ∧ ∀ u v, v ∈ (vview r).out u ↔ (abs r).Arc u v

namespace ReprModel
variable {σ ο ω : Type} (M : ReprModel σ ο ω)

def after (r : σ) (ops : List ο) : σ := (run M.step r ops).1
/-- The SPEC digraph after the same history: the plain arc set obtained by applying the same
calls to the abstract digraph of `r`. -/
def specAfter (r : σ) (ops : List ο) : SpecState ω := (run M.sstep (M.abs r) ops).1

/-- C01 for `M`: the final model state is well-formed, denotes the final spec state, and the
calls returned what the spec says. -/
theorem run_refines (r : σ) (hr : M.WF r) (ops : List ο) :
    M.WF (M.after r ops) ∧ M.abs (M.after r ops) = M.specAfter r ops ∧
    (run M.step r ops).2 = (run M.sstep (M.abs r) ops).2 :=
  run_refines_gen M.step M.sstep M.WF M.abs M.step_WF M.step_refines ops r hr

/-- Everything the algorithm theorems say of a view (`AlgorithmsHold`) holds of the view of the
final model state w.r.t. the arc set of the final SPEC state (`n` is the order of the final model
state).  Its Tarjan fields speak of the vertex list `0..n` over the rows of `view`; for `vview`
with whatever keys it has, `tarjan_after_any_history`. -/
theorem algorithms_after_any_history (r : σ) (hr : M.WF r) (ops : List ο)
    (hok : M.viewOK (M.after r ops)) {n : Nat} (hn : M.order (M.after r ops) = n) :
    AlgorithmsHold (M.view (M.after r ops)) ⟨List.range n, (M.view (M.after r ops)).out⟩ n
      (M.specAfter r ops).Arc := by
  obtain ⟨hw, ha, _⟩ := M.run_refines r hr ops
  obtain ⟨hn', hwf, harc, hl, hrn⟩ := M.view_spec _ hw hok
  exact .of_viewHas ⟨hn'.trans hn, hwf, ha ▸ harc, rfl, rfl⟩ hl hrn

/-- C04, C05 (BFS half), C06. -/
theorem traversals_after_any_history (r : σ) (hr : M.WF r) (ops : List ο)
    (hok : M.viewOK (M.after r ops)) {n : Nat} (hn : M.order (M.after r ops) = n) (S : List Nat)
    (hS : ∀ s ∈ S, s < n) (hnd : S.Nodup) :
    TraversalsHold (M.specAfter r ops).Arc n S (M.view (M.after r ops)) :=
  (M.algorithms_after_any_history r hr ops hok hn).traversals S hS hnd

/-- C10, and every one of `k` calls of `circuits()` on one `Johnson75` object built on the final
model state. -/
theorem johnson_after_any_history (r : σ) (hr : M.WF r) (ops : List ο)
    (hok : M.viewOK (M.after r ops)) :
    JohnsonHolds (M.specAfter r ops).Arc (M.view (M.after r ops)) ∧
    JohnsonRepeatHolds (M.specAfter r ops).Arc (M.view (M.after r ops)) :=
  have a := M.algorithms_after_any_history r hr ops hok rfl
  ⟨a.johnson, a.johnsonRepeat⟩

/-- C09: `Tarjan` on the vertex-id view of the final model state returns the partition of the
final SPEC vertex set into the strongly connected components of the final SPEC arc set — no
contiguity needed; and so does EVERY call of `components()` on that object. -/
theorem tarjan_after_any_history (r : σ) (hr : M.WF r) (ops : List ο) :
    (∀ x, x ∈ (M.vview (M.after r ops)).verts ↔ (M.specAfter r ops).V x = true) ∧
    (M.vview (M.after r ops)).verts.Pairwise (· < ·) ∧
    TarjanHolds (M.vview (M.after r ops)).verts (M.specAfter r ops).Arc (M.vview (M.after r ops)) ∧
    TarjanEveryCallHolds (M.vview (M.after r ops)).verts (M.specAfter r ops).Arc (M.vview (M.after r ops)) := by
  obtain ⟨hw, ha, _⟩ := M.run_refines r hr ops
  obtain ⟨hcl, hv, hasc, harc⟩ := M.vview_spec _ hw
  exact ⟨ha ▸ hv, hasc, tarjanHolds_of (ha ▸ harc) hcl, tarjanEveryCallHolds_of (ha ▸ harc) hcl⟩

/-- The vertex set is `0..order` and no call changes it. -/
structure Fixed : Prop where
  abs_V : ∀ r, (M.abs r).V = fun x => decide (x < M.order r)
  sstep_V : ∀ s op, (M.sstep s op).1.V = s.V
  viewOK : ∀ r, M.viewOK r

namespace Fixed
variable {M}

theorem order_after (hM : M.Fixed) (r : σ) (hr : M.WF r) (ops : List ο) :
    M.order (M.after r ops) = M.order r := by
  have hV := congrArg SpecState.V (M.run_refines r hr ops).2.1
  rw [specAfter, run_V_eq (fun s _ op _ => hM.sstep_V s op) _ rfl, hM.abs_V, hM.abs_V] at hV
  exact lt_of_decide_lt_eq hV

theorem traversals_after_any_history (hM : M.Fixed) (r : σ) (hr : M.WF r) (ops : List ο)
    (S : List Nat) (hS : ∀ s ∈ S, s < M.order r) (hnd : S.Nodup) :
    TraversalsHold (M.specAfter r ops).Arc (M.order r) S (M.view (M.after r ops)) :=
  M.traversals_after_any_history r hr ops (hM.viewOK _) (hM.order_after r hr ops) S hS hnd

/-- From `empty(n)` (`he` is what C01 says of it): the spec side is `emptySpec ω n` with the calls applied. -/
theorem traversals_from_empty (hM : M.Fixed) {r : σ} {n : Nat} (he : M.WF r ∧ M.abs r = emptySpec ω n)
    (ops : List ο) (S : List Nat) (hS : ∀ s ∈ S, s < n) (hnd : S.Nodup) :
    TraversalsHold (run M.sstep (emptySpec ω n) ops).1.Arc n S (M.view (M.after r ops)) := by
  obtain rfl : M.order r = n := lt_of_decide_lt_eq (hM.abs_V r ▸ congrArg SpecState.V he.2)
  exact he.2 ▸ hM.traversals_after_any_history r he.1 ops S hS hnd

end Fixed

end ReprModel

/-- The `view_spec` field from a `ViewSpec` whose arcs are those of the spec state `s`. -/
theorem ViewSpec.toModel {g : Graph} {n : Nat} {a : List (Nat × Nat)} {o : Nat → Option (List Nat)}
    (vs : ViewSpec g n a o) {ω : Type} {s : SpecState ω} (ha : ∀ u v, (u, v) ∈ a ↔ s.Arc u v) :
    g.n = n ∧ g.WF ∧ (∀ u v, g.A u v ↔ s.Arc u v) ∧ Johnson.NoLoops g ∧ Johnson.RowsNodup g :=
  ⟨vs.order, vs.wf, fun u v => (vs.arc_iff u v).trans (ha u v), fun u hu => vs.irrefl u hu, vs.nodup⟩

/-- The `vview_spec` field from a `VViewSpec` whose vertices and arcs are those of `s`. -/
theorem VViewSpec.toModel {g : Tarjan.VGraph} {vs : List Nat} {a : List (Nat × Nat)} (h : VViewSpec g vs a)
    {ω : Type} {s : SpecState ω} (hV : ∀ x, x ∈ vs ↔ s.V x = true) (ha : ∀ u v, (u, v) ∈ a ↔ s.Arc u v) :
    g.Closed ∧ (∀ x, x ∈ g.verts ↔ s.V x = true) ∧ g.verts.Pairwise (· < ·) ∧
      ∀ u v, v ∈ g.out u ↔ s.Arc u v :=
  ⟨h.closed, fun x => h.verts_eq ▸ hV x, h.verts_asc, fun u v => (h.arc_iff u v).trans (ha u v)⟩

theorem VViewSpec.tarjan {g : Tarjan.VGraph} {verts : List Nat} {arcs : List (Nat × Nat)}
    (vs : VViewSpec g verts arcs) {A : Rel} (hA : ∀ u v, (u, v) ∈ arcs ↔ A u v) :
    TarjanHolds verts A g ∧ TarjanEveryCallHolds verts A g :=
  have harc : ∀ u v, v ∈ g.out u ↔ A u v := fun u v => (vs.arc_iff u v).trans (hA u v)
  vs.verts_eq ▸ ⟨tarjanHolds_of harc vs.closed, tarjanEveryCallHolds_of harc vs.closed⟩

def alModel : ReprModel AdjList (Op Unit) Unit where
  WF := AdjList.WF
  abs := AdjList.abs
  step := AdjList.step
  sstep := specStep .fixed
  order := AdjList.order
  view := AdjList.view
  vview := AdjList.vview
  viewOK := fun _ => True
  step_WF := AdjList.step_WF
  step_refines := AdjList.step_refines
  view_spec := fun d h _ => (d.view_spec h).toModel d.arc_iff_abs
  vview_spec := fun d h => (d.vview_spec h).toModel (AdjList.vertices_spec d).2 d.arc_iff_abs

def mxModel : ReprModel AdjMatrix MxOp Unit where
  WF := AdjMatrix.WF
  abs := AdjMatrix.abs
  step := AdjMatrix.step
  sstep := specStepMx
  order := AdjMatrix.order
  view := AdjMatrix.view
  vview := AdjMatrix.vview
  viewOK := fun _ => True
  step_WF := AdjMatrix.step_WF
  step_refines := AdjMatrix.step_refines
  view_spec := fun d h _ => (d.view_spec h).toModel (d.arc_iff_abs h)
  vview_spec := fun d h => (d.vview_spec h).toModel (AdjMatrix.vertices_spec d).2 (d.arc_iff_abs h)

def elModel : ReprModel EdgeList (Op Unit) Unit where
  WF := EdgeList.WF
  abs := EdgeList.abs
  step := EdgeList.step
  sstep := specStep .fixed
  order := EdgeList.order
  view := EdgeList.view
  vview := EdgeList.vview
  viewOK := fun _ => True
  step_WF := EdgeList.step_WF
  step_refines := EdgeList.step_refines
  view_spec := fun d h _ => (d.view_spec h).toModel d.arc_iff_abs
  vview_spec := fun d h => (d.vview_spec h).toModel (EdgeList.vertices_spec d).2 d.arc_iff_abs

/-- `AdjacencyListWeighted` seen by the UNWEIGHTED traversals (`out_neighbors` = the keys). -/
def wlModel : ReprModel AdjListW (Op Int) Int where
  WF := AdjListW.WF
  abs := AdjListW.abs
  step := AdjListW.step
  sstep := specStep .fixed
  order := AdjListW.order
  view := AdjListW.view
  vview := AdjListW.vview
  viewOK := fun _ => True
  step_WF := AdjListW.step_WF
  step_refines := AdjListW.step_refines
  view_spec := fun d h _ => (d.view_spec h).toModel (d.arc_iff_abs h)
  vview_spec := fun d h => (d.vview_spec h).toModel (AdjListW.vertices_spec d).2 (d.arc_iff_abs h)

/-- `AdjacencyMap` (growing vertex set).  The positional view needs the key set `0..order`;
the vertex-id view (Tarjan) does not. -/
def amModel : ReprModel AdjMap (Op Unit) Unit where
  WF := AdjMap.WF
  abs := AdjMap.abs
  step := AdjMap.step
  sstep := specStep .growing
  order := AdjMap.order
  view := AdjMap.view
  vview := AdjMap.vview
  viewOK := Gen.AM.Contiguous
  step_WF := AdjMap.step_WF
  step_refines := AdjMap.step_refines
  view_spec := fun d h hc => (d.view_spec h hc).toModel (d.arc_iff_abs h)
  vview_spec := fun d h => (d.vview_spec h).toModel (AdjMap.vertices_spec d h).2.2 (d.arc_iff_abs h)

theorem alModel_fixed : alModel.Fixed := ⟨fun _ => rfl, specStep_fixed_V, fun _ => trivial⟩
theorem mxModel_fixed : mxModel.Fixed := ⟨fun _ => rfl, specStepMx_V, fun _ => trivial⟩
theorem elModel_fixed : elModel.Fixed := ⟨fun _ => rfl, specStep_fixed_V, fun _ => trivial⟩
theorem wlModel_fixed : wlModel.Fixed := ⟨fun _ => rfl, specStep_fixed_V, fun _ => trivial⟩

theorem _root_.GraafVerif.Repr.AdjMap.contiguous_after (d : AdjMap) (h : d.WF) (ops : List (Op Unit)) (k : Nat)
    (hV : ∀ x, (amModel.specAfter d ops).V x = true ↔ x < k) :
    Gen.AM.Contiguous (amModel.after d ops) ∧ (amModel.after d ops).order = k := by
  obtain ⟨hw, ha, _⟩ := amModel.run_refines d h ops
  have ha' : (amModel.after d ops).abs = amModel.specAfter d ops := ha
  exact (Gen.AM.contiguous_iff hw k).mpr (ha' ▸ hV)

theorem _root_.GraafVerif.Repr.AdjMap.contiguous_after_inrange (d : AdjMap) (h : d.WF) (hc : Gen.AM.Contiguous d)
    (ops : List (Op Unit)) (hops : ∀ op ∈ ops, ∀ x ∈ opIds op, x < d.order) :
    Gen.AM.Contiguous (amModel.after d ops) ∧ (amModel.after d ops).order = d.order := by
  have hV0 := (Gen.AM.contiguous_iff h d.order).mp ⟨hc, rfl⟩
  have hV : (amModel.specAfter d ops).V = d.abs.V :=
    specRun_growing_V ops d.abs fun op hop y hy => (hV0 y).2 (hops op hop y hy)
  exact d.contiguous_after h ops d.order (hV ▸ hV0)

end GraafVerif.Compose
