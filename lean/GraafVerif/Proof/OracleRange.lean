import GraafVerif.Proof.OracleReach
import GraafVerif.Proof.OracleHop
import GraafVerif.Proof.OracleWDist
/-!
# The oracles without the "sources in range" hypothesis

An out-of-range source is ignored by all three oracles (`set` / `setIfInBounds` beyond the end is a
no-op) and, in a well-formed digraph, reaches nothing but itself.  So the oracle on `S` is the oracle on
`S.filter (· < g.n)`, and the declarative notions at a vertex `v < g.n` do not see the other sources.
-/
namespace GraafVerif.OracleProof

def inR (n : Nat) (S : List Nat) : List Nat := S.filter (· < n)

theorem inR_lt {n : Nat} {S : List Nat} : ∀ s ∈ inR n S, s < n := by
  intro s hs
  simpa using (List.mem_filter.mp hs).2

theorem mem_inR {n : Nat} {S : List Nat} {s : Nat} : s ∈ inR n S ↔ s ∈ S ∧ s < n := by
  simp [inR, List.mem_filter]

theorem array_marks_filter {α : Type} (z z' : α) (n : Nat) (S : List Nat) :
    S.foldl (fun a s => a.setIfInBounds s z) (Array.replicate n z')
      = (inR n S).foldl (fun a s => a.setIfInBounds s z) (Array.replicate n z') :=
  Fold.foldl_filter_noop (fun a : Array α => a.size = n) (· < n) _ (fun a s h => by simpa using h)
    (fun a s h hs => Array.setIfInBounds_eq_of_size_le (by simp at hs; omega)) S _ Array.size_replicate

theorem list_marks_filter {α : Type} (z z' : α) (n : Nat) (S : List Nat) :
    S.foldl (fun d s => d.set s z) (List.replicate n z') = (inR n S).foldl (fun d s => d.set s z) (List.replicate n z') := by
  rw [← Array.toList_replicate, ← toList_marks, ← toList_marks, array_marks_filter]

theorem reachSetB_filter (g : Graph) (S : List Nat) : reachSetB g S = reachSetB g (inR g.n S) := by
  rw [reachSetB_eq, reachSetB_eq]
  unfold rInit
  rw [array_marks_filter]

theorem hopDistB_filter (g : Graph) (S : List Nat) : hopDistB g S = hopDistB g (inR g.n S) := by
  rw [hopDistB_eq, hopDistB_eq]
  unfold hInit
  rw [list_marks_filter]

theorem wdistB_filter (g : WGraph) (S : List Nat) : wdistB g S = wdistB g (inR g.n S) := by
  rw [wdistB_eq, wdistB_eq]
  unfold wInit
  rw [list_marks_filter]

theorem exists_src_filter {n : Nat} (S : List Nat) {P : Nat → Prop} (hP : ∀ s, P s → s < n) :
    (∃ s ∈ S, P s) ↔ ∃ s ∈ inR n S, P s := by
  constructor
  · rintro ⟨s, hs, h⟩; exact ⟨s, mem_inR.mpr ⟨hs, hP s h⟩, h⟩
  · rintro ⟨s, hs, h⟩; exact ⟨s, (mem_inR.mp hs).1, h⟩

theorem reachFrom_filter {g : Graph} (hwf : g.WF) (S : List Nat) {v : Nat} (hv : v < g.n) :
    ReachFrom g S v ↔ ReachFrom g (inR g.n S) v :=
  exists_src_filter S (fun _ hr => reach_src_lt hwf hr hv)

theorem reachInFrom_filter {g : Graph} (hwf : g.WF) (S : List Nat) {v : Nat} (hv : v < g.n) (k : Nat) :
    (∃ s ∈ S, ReachIn g k s v) ↔ (∃ s ∈ inR g.n S, ReachIn g k s v) :=
  exists_src_filter S (fun _ hr => reachIn_src_lt hwf hr hv)

theorem isHopDist_filter {g : Graph} (hwf : g.WF) (S : List Nat) {v : Nat} (hv : v < g.n) (d : Nat) :
    IsHopDist g S v d ↔ IsHopDist g (inR g.n S) v d :=
  and_congr (reachInFrom_filter hwf S hv d)
    (forall_congr' fun k => imp_congr_right fun _ => not_congr (reachInFrom_filter hwf S hv k))

theorem wReachFrom_filter {g : WGraph} (hwf : g.WF) (S : List Nat) {v : Nat} (hv : v < g.n) :
    WReachFrom g S v ↔ WReachFrom g (inR g.n S) v :=
  exists_src_filter S (fun _ ⟨_, _, hw⟩ => hw.src_lt hwf hv)

theorem isMinDist_filter {g : WGraph} (hwf : g.WF) (S : List Nat) {v : Nat} (hv : v < g.n) (d : Int) :
    IsMinDist g S v d ↔ IsMinDist g (inR g.n S) v d :=
  and_congr (exists_src_filter S (fun _ ⟨_, hw⟩ => hw.src_lt hwf hv))
    ⟨fun hmin s hs k wt hw => hmin s (mem_inR.mp hs).1 k wt hw,
     fun hmin s hs k wt hw => hmin s (mem_inR.mpr ⟨hs, hw.src_lt hwf hv⟩) k wt hw⟩

theorem negReachableFrom_filter {g : WGraph} (hwf : g.WF) (S : List Nat) :
    NegReachableFrom g S ↔ NegReachableFrom g (inR g.n S) :=
  exists_congr fun _ => and_congr_left fun hneg => wReachFrom_filter hwf S (negCycle_lt hwf hneg)

end GraafVerif.OracleProof
