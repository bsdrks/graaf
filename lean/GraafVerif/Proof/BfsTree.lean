import GraafVerif.Proof.BfsCore
import GraafVerif.Proof.BfsSim
/-!
# The predecessor component of the BFS invariant (basis of C05)

Over the level-and-predecessor labelling `labFull` an item is `(v, (level, pred))`.
`TreeList`: every item of `emitted ++ queue` is either a source item `(s, (0, none))` or was
discovered from an item that stands *earlier* in the list, through an arc, one level deeper.
It is maintained by `next` (new items are appended, their parent is the popped item).

An *ancestor chain* (`AncChain`) is a list of items, each next one the recorded predecessor of the
one before, one level up, down to a source item; reversed, its vertices are a walk of the digraph
from a source with as many arcs as the level of the first item.  That every item heads one, and
that `search_by` finds it, is `Proof/PredForest.lean` applied in `Proof/BfsC05.lean`.
-/
namespace GraafVerif.Bfs
open GraafVerif GraafVerif.PredTree

variable {g : Graph} {S : List Nat}

abbrev FItem := Nat × (Nat × Option Nat)

def Par (g : Graph) (S : List Nat) (pre : List FItem) (x : FItem) : Prop :=
  (x.2.2 = none ∧ x.1 ∈ S ∧ x.2.1 = 0) ∨
  (∃ y ∈ pre, x.2.2 = some y.1 ∧ g.A y.1 x.1 ∧ x.2.1 = y.2.1 + 1)

def TreeList (g : Graph) (S : List Nat) (xs : List FItem) : Prop :=
  ∀ pre x post, xs = pre ++ x :: post → Par g S pre x

theorem Par.mono {pre pre' : List FItem} {x : FItem}
    (h : Par g S pre x) (hsub : ∀ y ∈ pre, y ∈ pre') : Par g S pre' x := by
  rcases h with h | ⟨y, hy, h⟩
  · exact Or.inl h
  · exact Or.inr ⟨y, hsub y hy, h⟩

theorem TreeList.prefix {g : Graph} {S : List Nat} {xs ys : List FItem} (h : TreeList g S (xs ++ ys)) :
    TreeList g S xs := by
  intro pre x post hd
  exact h pre x (post ++ ys) (by rw [hd]; simp)

theorem TreeList.append {xs new : List FItem} (h : TreeList g S xs)
    (hnew : ∀ x ∈ new, ∃ y ∈ xs, x.2.2 = some y.1 ∧ g.A y.1 x.1 ∧ x.2.1 = y.2.1 + 1) :
    TreeList g S (xs ++ new) := by
  intro pre x post hd
  rcases List.append_eq_append_iff.mp hd with ⟨a', rfl, rfl⟩ | ⟨c', rfl, hc⟩
  · obtain ⟨y, hy, hp⟩ := hnew x (List.mem_append_right _ List.mem_cons_self)
    exact Or.inr ⟨y, List.mem_append_left _ hy, hp⟩
  · rcases List.cons_eq_append_iff.mp hc with ⟨rfl, rfl⟩ | ⟨cs, rfl, _⟩
    · obtain ⟨y, hy, hp⟩ := hnew x List.mem_cons_self
      exact Or.inr ⟨y, by rwa [List.append_nil] at hy, hp⟩
    · exact h pre x cs rfl

theorem TreeList.mem {xs : List FItem} (h : TreeList g S xs) :
    ∀ x ∈ xs, Par g S xs x := by
  intro x hx
  obtain ⟨pre, post, rfl⟩ := List.append_of_mem hx
  exact (h pre x post rfl).mono (fun y hy => by simp [hy])

theorem step_tree (hg : g.WF) {E : List FItem} {st st' : St (Nat × Option Nat)} {x : FItem}
    (hlen : st.visited.length = g.n) (h : TreeList g S (E ++ st.queue))
    (hn : nextP g labFull st = some (x, st')) : TreeList g S ((E ++ [x]) ++ st'.queue) := by
  obtain ⟨q, new, hq, h3, _, _, h4, _, _⟩ := nextP_spec hg hlen hn
  rw [append_step hq h3]
  refine h.append (fun p hp => ?_)
  obtain ⟨hmem, _, hlab⟩ := h4 p hp
  exact ⟨x, mem_of_head hq, by rw [hlab]; rfl, hmem, by rw [hlab]; rfl⟩

theorem run_tree (hg : g.WF) :
    ∀ (fuel : Nat) {E : List FItem} {st : St (Nat × Option Nat)}, st.visited.length = g.n →
      TreeList g S (E ++ st.queue) →
      TreeList g S ((E ++ (runP g labFull fuel st).1) ++ (runP g labFull fuel st).2.queue) := by
  intro fuel
  induction fuel with
  | zero => intro E st _ h; rwa [runP, List.append_nil]
  | succ f ih =>
    intro E st hlen h
    simp only [runP]
    cases hn : nextP g labFull st with
    | none => rwa [List.append_nil]
    | some p =>
      obtain ⟨x, st'⟩ := p
      have := ih ((nextP_len hn).trans hlen) (step_tree hg hlen h hn)
      rw [List.append_assoc E [x]] at this
      exact this

theorem init_tree (hS : ∀ s ∈ S, s < g.n) : TreeList g S ([] ++ (newP g labFull S).queue) := by
  rw [(newP_spec labFull hS).1]
  intro pre x post hd
  have hx : x ∈ [] ++ S.map (fun s => (s, labFull.init)) := hd ▸ List.mem_append_right _ List.mem_cons_self
  obtain ⟨s, hs, rfl⟩ := List.mem_map.mp hx
  exact Or.inl ⟨rfl, hs, rfl⟩

structure FullSpec (g : Graph) (S : List Nat) (out : List FItem) : Prop where
  nodup : (out.map (·.1)).Nodup
  mem_iff : ∀ v, v ∈ out.map (·.1) ↔ ReachFrom g S v
  exact : ∀ x ∈ out, IsHopDist g S x.1 x.2.1
  sorted : (out.map (fun x => x.2.1)).Pairwise (· ≤ ·)
  lt : ∀ x ∈ out, x.1 < g.n ∧ x.2.1 < g.n
  tree : TreeList g S out

theorem runP_fullSpec (hg : g.WF) (hS : ∀ s ∈ S, s < g.n) (hnd : S.Nodup) {fuel : Nat} (hf : g.n < fuel) :
    FullSpec g S (runP g labFull fuel (newP g labFull S)).1 := by
  obtain ⟨h1, h2, h3, h4, h5⟩ := runP_levelSpec hg isLevel_full hS hnd hf
  have ht := run_tree hg fuel (newP_spec labFull hS).2.1 (init_tree hS)
  rw [(run_final hg isLevel_full hS hnd hf).2, List.append_nil, List.nil_append] at ht
  exact ⟨h1, h2, h3, h4, h5, ht⟩

def proj (x : FItem) : Nat × Option Nat := (x.1, x.2.2)

theorem full_run (hg : g.WF) (hS : ∀ s ∈ S, s < g.n) (hnd : S.Nodup) :
    ∃ out, FullSpec g S out ∧ (runP g labPred (fuelFor g S) (newP g labPred S)).1 = out.map proj := by
  refine ⟨_, runP_fullSpec hg hS hnd (fuel := fuelFor g S) (Nat.lt_succ_of_le (Nat.le_add_right _ _)), ?_⟩
  have h2 := iter_map g hom_full_pred S
  rw [iter_eq hg labPred hS, iter_eq hg labFull hS] at h2
  exact Res.ok.inj h2

theorem predOf_map_proj (n : Nat) (P : List FItem) :
    predOf n (P.map proj) = Vec.written (·.1) (·.2.2) none n P :=
  List.foldl_map

theorem predOf_spec (n : Nat) (P : List FItem) (hnd : (P.map (·.1)).Nodup) (hlt : ∀ x ∈ P, x.1 < n) :
    (predOf n (P.map proj)).length = n ∧
    (∀ x ∈ P, (predOf n (P.map proj))[x.1]? = some x.2.2) ∧
    (∀ v, v < n → v ∉ P.map (·.1) → (predOf n (P.map proj))[v]? = some none) := by
  rw [predOf_map_proj]
  exact ⟨Vec.written_length _ n P, fun x hx => Vec.written_mem hnd hx (hlt x hx),
    fun _ hv hnot => Vec.written_not_mem hv hnot⟩

def AncChain (g : Graph) (S : List Nat) : List FItem → Prop
  | [] => False
  | [z] => z.2.2 = none ∧ z.1 ∈ S ∧ z.2.1 = 0
  | a :: b :: r => a.2.2 = some b.1 ∧ g.A b.1 a.1 ∧ a.2.1 = b.2.1 + 1 ∧ AncChain g S (b :: r)

/-- Consecutive vertices are arcs in the *reverse* direction (`b → a` for `… a, b …`). -/
def RevWalk (g : Graph) : List Nat → Prop
  | [] => True
  | [_] => True
  | a :: b :: r => g.A b a ∧ RevWalk g (b :: r)

theorem AncChain.spec : ∀ {r : List FItem} {a : FItem}, AncChain g S (a :: r) →
    ((a :: r).map (·.1)).length = a.2.1 + 1 ∧ RevWalk g ((a :: r).map (·.1)) ∧
    ∀ z, ((a :: r).map (·.1)).getLast? = some z → z ∈ S := by
  intro r
  induction r with
  | nil => exact fun h => ⟨by rw [h.2.2]; rfl, trivial, fun z hz => Option.some.inj hz ▸ h.2.1⟩
  | cons b r ih =>
    intro a h
    obtain ⟨hlen, hw, hlast⟩ := ih h.2.2.2
    exact ⟨by rw [List.map_cons, List.length_cons, hlen, h.2.2.1], ⟨h.2.1, hw⟩,
      fun z hz => hlast z (by rwa [List.map_cons, List.map_cons, List.getLast?_cons_cons] at hz)⟩

theorem AncChain.length {g : Graph} {S : List Nat} : ∀ {r : List FItem} {a : FItem},
    AncChain g S (a :: r) → (a :: r).length = a.2.1 + 1 :=
  fun h => List.length_map .. ▸ (AncChain.spec h).1

theorem RevWalk.isWalk_reverse : ∀ {l : List Nat}, RevWalk g l → IsWalk g l.reverse := by
  intro l
  induction l with
  | nil => exact fun _ => trivial
  | cons a l ih =>
    cases l with
    | nil => exact fun _ => trivial
    | cons b r =>
      intro h
      rw [List.reverse_cons]
      refine OracleProof.isWalk_snoc.mpr ⟨ih h.2, fun z hz => ?_⟩
      rw [List.getLast?_reverse] at hz
      cases hz
      exact h.1

theorem RevWalk.prefix {g : Graph} : ∀ {l1 l2 : List Nat}, RevWalk g (l1 ++ l2) → RevWalk g l1 := by
  intro l1
  induction l1 with
  | nil => exact fun _ => trivial
  | cons a l1 ih =>
    cases l1 with
    | nil => exact fun _ => trivial
    | cons b r => exact fun h => ⟨h.1, ih h.2⟩

end GraafVerif.Bfs
