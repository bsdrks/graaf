import GraafVerif.Model.AlgoGen3
import GraafVerif.Proof.AlgoGenCall
import GraafVerif.Proof.ReprSorted
/-!
# Generated sequential operations (`Model/AlgoGen3.lean`) = hand-written `Model/Ops.lean` (C11)

`complement`, `converse`, `union` of `AdjacencyMatrix` and `EdgeList`, `converse` of
`AdjacencyList` and `AdjacencyListWeighted`, `complement`, `converse`, `filter_vertices` of
`AdjacencyMap`.  `optR` reads the `Option` of the hand-written models (`none` = the Rust code panics).
-/
namespace GraafVerif.AlgoGenThm
open GraafVerif GraafVerif.AlgoGen GraafVerif.Repr

namespace AdjacencyMatrix

/-- the pair `(u, v)`: `add_arc(u, v)` unless present, then `add_arc(v, u)` unless present -/
def cstep (d : AdjMatrix) (u : Nat) (g : AdjMatrix) (v : Nat) : Option AdjMatrix := do
  let g ← if !d.hasArc u v then g.addArc u v else pure g
  if !d.hasArc v u then g.addArc v u else pure g

theorem complement_for1_eq (d : AdjMatrix) (u : Nat) (g : AdjMatrix) (v : Nat) :
    (AlgoGen.AdjacencyMatrix.complement_for1 d u g v : Blk AdjMatrix AdjMatrix AdjMatrix) = optP (cstep d u g v) := by
  unfold AlgoGen.AdjacencyMatrix.complement_for1 cstep
  simp only [bind_pure_blk, optP_unless, optP_bind]
  cases d.hasArc u v <;> rfl

theorem complement_for0_eq (d : AdjMatrix) (n : Nat) (g : AdjMatrix) (u : Nat) :
    (AlgoGen.AdjacencyMatrix.complement_for0 d n g u : Blk AdjMatrix AdjMatrix AdjMatrix) =
      optP ((List.range' (u + 1) (n - (u + 1))).foldlM (cstep d u) g) := by
  unfold AlgoGen.AdjacencyMatrix.complement_for0
  rw [forLoop_optP _ _ (complement_for1_eq d u)]
  rfl

theorem complement_eq (d : AdjMatrix) : AlgoGen.AdjacencyMatrix.complement d = optR (Ops.complementMX d) := by
  unfold AlgoGen.AdjacencyMatrix.complement Ops.complementMX
  simp only [forLoop_optP _ _ (complement_for0_eq d d.order)]
  exact fnBody_optP_bind _ _

theorem converse_for0_eq (g : AdjMatrix) (x : Nat × Nat) :
    (AlgoGen.AdjacencyMatrix.converse_for0 g x : Blk AdjMatrix AdjMatrix AdjMatrix) = optP (g.addArc x.2 x.1) := by
  unfold AlgoGen.AdjacencyMatrix.converse_for0
  dsimp only
  exact bind_pure_blk _

theorem converse_eq (d : AdjMatrix) : AlgoGen.AdjacencyMatrix.converse d = optR (Ops.converseMX d) := by
  unfold AlgoGen.AdjacencyMatrix.converse Ops.converseMX
  simp only [forLoop_optP _ _ converse_for0_eq]
  exact fnBody_optP_bind _ _

theorem union_for0_eq (g : AdjMatrix) (x : Nat × Nat) :
    (AlgoGen.AdjacencyMatrix.union_for0 g x : Blk AdjMatrix AdjMatrix AdjMatrix) = optP (g.addArc x.1 x.2) := by
  unfold AlgoGen.AdjacencyMatrix.union_for0
  dsimp only
  exact bind_pure_blk _

theorem union_eq (a b : AdjMatrix) : AlgoGen.AdjacencyMatrix.union a b = optR (Ops.unionMX a b) := by
  unfold AlgoGen.AdjacencyMatrix.union Ops.unionMX
  simp only [forLoop_optP _ _ union_for0_eq]
  exact optP_optR _

end AdjacencyMatrix

namespace EdgeList

theorem union_for0_eq (g : Repr.EdgeList) (x : Nat × Nat) :
    (AlgoGen.EdgeList.union_for0 g x : Blk Repr.EdgeList Repr.EdgeList Repr.EdgeList) = optP (g.addArc x.1 x.2) := by
  unfold AlgoGen.EdgeList.union_for0
  dsimp only
  exact bind_pure_blk _

theorem union_eq (a b : Repr.EdgeList) : AlgoGen.EdgeList.union a b = optR (Ops.unionEL a b) := by
  unfold AlgoGen.EdgeList.union Ops.unionEL
  simp only [forLoop_optP _ _ union_for0_eq]
  exact optP_optR _

theorem converse_eq (d : Repr.EdgeList) : AlgoGen.EdgeList.converse d = .ok (Ops.converseEL d) := rfl

theorem complement_eq (d : Repr.EdgeList) : AlgoGen.EdgeList.complement d = .ok (Ops.complementEL d) := rfl

end EdgeList

namespace AdjacencyList

/-- `(*conv_ptr.add(v)).insert(u)` -/
def vstep (conv : List (List Nat)) (a : Nat × Nat) : List (List Nat) :=
  conv.set a.2 (sinsert a.1 (conv[a.2]?.getD []))

theorem vstep_length (conv : List (List Nat)) (a : Nat × Nat) : (vstep conv a).length = conv.length := by
  simp [vstep]

theorem converse_for1_eq (u : Nat) (conv : List (List Nat)) (v : Nat) (hv : v < conv.length) :
    (AlgoGen.AdjacencyList.converse_for1 u conv v : Blk (List (List Nat)) AdjList (List (List Nat))) =
      .ok (vstep conv (u, v)) :=
  rd_wr_lt _ conv v (sinsert u) [] hv

theorem mem_arcs_of_row (d : AdjList) (x : Nat × List Nat)
    (hx : x ∈ List.map (fun p : List Nat × Nat => (p.2, p.1)) d.rows.zipIdx) (v : Nat) (hv : v ∈ x.2) :
    (x.1, v) ∈ d.arcs := by
  unfold AdjList.arcs
  rw [List.mem_map] at hx
  obtain ⟨p, hp, rfl⟩ := hx
  rw [List.mem_flatMap]
  exact ⟨p, hp, List.mem_map.2 ⟨v, hv, rfl⟩⟩

/-- one row: every `*conv_ptr.add(v)` of it is inside the allocation -/
theorem converse_for0_eq (n : Nat) (conv : List (List Nat)) (x : Nat × List Nat) (hc : conv.length = n)
    (hx : ∀ v ∈ x.2, v < n) :
    (AlgoGen.AdjacencyList.converse_for0 conv x : Blk (List (List Nat)) AdjList (List (List Nat))) =
        .ok (x.2.foldl (fun c v => vstep c (x.1, v)) conv) ∧
      (x.2.foldl (fun c v => vstep c (x.1, v)) conv).length = n :=
  forLoop_update [] id (fun _ t => sinsert x.1 t) (fun _ _ => rfl) hc hx

/-- `AdjacencyList::converse` = the hand-written `converseAL` when every head is a vertex (part of
`AdjList.WF`): then no `*conv_ptr.add(v)` is out of bounds.  (Outside this hypothesis the Rust code has
UB and the generated definition says so, while the hand-written model skips the write.) -/
theorem converse_eq (d : AdjList) (hin : ∀ a ∈ d.arcs, a.2 < d.order) :
    AlgoGen.AdjacencyList.converse d = optR (Ops.converseAL d) := by
  unfold AlgoGen.AdjacencyList.converse Ops.converseAL
  by_cases h0 : d.order = 0
  · simp [h0, optR]
  · have hp : d.order > 0 := Nat.pos_of_ne_zero h0
    simp only [hp, decide_true, assert_true, ok_bind, h0, if_false]
    rw [(forLoop_ok (β := Empty) (I := fun c : List (List Nat) => c.length = d.order) List.length_replicate
      fun c hcl x hx => converse_for0_eq d.order c x hcl fun v hv => hin _ (mem_arcs_of_row d x hx v hv)).1]
    simp only [ok_bind, pure_eq_ok, fnBody_ok, optR]
    congr 2
    unfold AdjList.arcs
    rw [foldl_flatMap, List.foldl_map]
    congr 1
    funext c p
    rw [List.foldl_map]
    rfl

end AdjacencyList

namespace AdjacencyListWeighted

/-- `arcs[v].insert(u, w)` (checked indexing) -/
def wstep (rows : List (List (Nat × Int))) (a : Nat × Nat × Int) : Option (List (List (Nat × Int))) :=
  if a.2.1 < rows.length then some (rows.set a.2.1 (Ops.minsert a.1 a.2.2 (rows[a.2.1]?.getD []))) else none

theorem converse_for1_eq (u : Nat) (rows : List (List (Nat × Int))) (x : Nat × Int) :
    (AlgoGen.AdjacencyListWeighted.converse_for1 u rows x : Blk (List (List (Nat × Int))) AdjListW (List (List (Nat × Int)))) =
      optP (wstep rows (u, x.1, x.2)) := by
  unfold AlgoGen.AdjacencyListWeighted.converse_for1 wstep
  dsimp only
  by_cases hv : x.1 < rows.length
  · simp only [idx_lt _ _ hv, ok_bind, pure_eq_ok, hv, if_true, List.getElem?_eq_getElem hv, Option.getD_some]
    rfl
  · simp only [idx_ge _ _ (Nat.le_of_not_lt hv), hv, if_false]
    rfl

theorem converse_for0_eq (rows : List (List (Nat × Int))) (x : Nat × List (Nat × Int)) :
    (AlgoGen.AdjacencyListWeighted.converse_for0 rows x : Blk (List (List (Nat × Int))) AdjListW (List (List (Nat × Int)))) =
      optP ((x.2.map fun vw => (x.1, vw.1, vw.2)).foldlM wstep rows) := by
  unfold AlgoGen.AdjacencyListWeighted.converse_for0
  dsimp only
  rw [forLoop_optP _ _ (converse_for1_eq x.1), List.foldlM_map]

theorem converse_eq (d : AdjListW) : AlgoGen.AdjacencyListWeighted.converse d = optR (Ops.converseW d) := by
  unfold AlgoGen.AdjacencyListWeighted.converse Ops.converseW
  dsimp only
  rw [forLoop_optP _ _ converse_for0_eq]
  have hfold : ∀ rows0, (List.map (fun p : List (Nat × Int) × Nat => (p.2, p.1)) d.rows.zipIdx).foldlM
      (fun rows x => (x.2.map fun vw => (x.1, vw.1, vw.2)).foldlM wstep rows) rows0 =
      d.arcsWeighted.foldlM (fun (rows : List (List (Nat × Int))) a =>
        if a.2.1 < rows.length then some (rows.set a.2.1 (Ops.minsert a.1 a.2.2 (rows[a.2.1]?.getD []))) else none) rows0 := by
    intro rows0
    unfold AdjListW.arcsWeighted
    rw [foldlM_flatMap, List.foldlM_map]
    rfl
  rw [hfold]
  cases d.arcsWeighted.foldlM (fun (rows : List (List (Nat × Int))) a =>
        if a.2.1 < rows.length then some (rows.set a.2.1 (Ops.minsert a.1 a.2.2 (rows[a.2.1]?.getD []))) else none)
      (List.replicate d.order []) <;> rfl

end AdjacencyListWeighted

namespace AdjacencyMap

theorem complement_eq (d : AdjMap) : AlgoGen.AdjacencyMap.complement d = .ok (Ops.complementAM d) := rfl

theorem converse_for1_eq (u : Nat) (m : List (Nat × List Nat)) (v : Nat) :
    (AlgoGen.AdjacencyMap.converse_for1 u m v : Blk (List (Nat × List Nat)) AdjMap (List (Nat × List Nat))) =
      .ok (mupsert v [] (sinsert u) m) := rfl

theorem converse_for0_eq (m : List (Nat × List Nat)) (x : Nat × List Nat) :
    (AlgoGen.AdjacencyMap.converse_for0 m x : Blk (List (Nat × List Nat)) AdjMap (List (Nat × List Nat))) =
      .ok (x.2.foldl (fun m v => mupsert v [] (sinsert x.1) m) m) := by
  unfold AlgoGen.AdjacencyMap.converse_for0
  dsimp only
  rw [forLoop_pure _ _ (converse_for1_eq x.1)]

theorem converse_eq (d : AdjMap) : AlgoGen.AdjacencyMap.converse d = .ok (Ops.converseAM d) := by
  unfold AlgoGen.AdjacencyMap.converse Ops.converseAM
  dsimp only
  rw [forLoop_pure _ _ converse_for0_eq]
  simp only [ok_bind, pure_eq_ok, fnBody_ok, List.map_map]
  congr 2
  unfold AdjMap.arcs
  rw [foldl_flatMap]
  congr 1
  funext m x
  rw [List.foldl_map]

theorem mget_of_mem {X : Type} {k : Nat} {x : X} : ∀ {l : List (Nat × X)}, SortedK l → (k, x) ∈ l → mget k l = some x :=
  fun hs h => (Repr.mget_eq_some_iff hs).2 h

theorem filterVertices_for1_eq (p : Nat → Bool) (u : Nat) (m : List (Nat × List Nat)) (v : Nat) :
    (AlgoGen.AdjacencyMap.filterVertices_for1 p u m v : Blk (List (Nat × List Nat)) AdjMap (List (Nat × List Nat))) =
      .ok (if p v then mupsert v [] id (mupsert u [] (sinsert v) m) else m) := by
  unfold AlgoGen.AdjacencyMap.filterVertices_for1
  by_cases hp : p v = true
  · simp only [hp, if_true]; rfl
  · simp only [hp, if_false, Bool.false_eq_true]; rfl

/-- the vertex `e.1` with its row `e.2` (`out_neighbors(e.1)` finds the row of a key-sorted map) -/
theorem filterVertices_for0_eq (d : AdjMap) (p : Nat → Bool) (m : List (Nat × List Nat)) (e : Nat × List Nat)
    (hget : mget e.1 d.rows = some e.2) :
    (AlgoGen.AdjacencyMap.filterVertices_for0 d p m e.1 : Blk (List (Nat × List Nat)) AdjMap _) =
      .ok (if p e.1 then
        e.2.foldl (fun m v => if p v then mupsert v [] id (mupsert e.1 [] (sinsert v) m) else m)
          (mupsert e.1 [] id m)
      else m) := by
  unfold AlgoGen.AdjacencyMap.filterVertices_for0
  by_cases hp : p e.1 = true
  · simp only [hp, if_true, hget, optP, ok_bind, forLoop_pure _ _ (filterVertices_for1_eq p e.1), pure_eq_ok]
  · simp only [hp, if_false, Bool.false_eq_true, pure_eq_ok]

/-- `AdjacencyMap::filter_vertices` = the hand-written `filterAM` for a key-sorted map (the `BTreeMap`
invariant, part of `AdjMap.WF`: `out_neighbors(u)` of a key `u` is its row), for every predicate. -/
theorem filterVertices_eq (d : AdjMap) (p : Nat → Bool) (hs : SortedK d.rows) :
    AlgoGen.AdjacencyMap.filterVertices d p = .ok (Ops.filterAM d p) := by
  unfold AlgoGen.AdjacencyMap.filterVertices Ops.filterAM AdjMap.vertices
  dsimp only
  rw [forLoop_map, (forLoop_ok (β := Empty) (I := fun _ => True) trivial fun m _ e he =>
    ⟨filterVertices_for0_eq d p m e (mget_of_mem hs he), trivial⟩).1]
  rfl

end AdjacencyMap
end GraafVerif.AlgoGenThm
