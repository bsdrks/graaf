import GraafVerif.Proof.JohnsonSound
/-!
# Johnson's B-list invariant; completeness of a call said by paths

`Inv2.c2` (Johnson's B-list invariant): a vertex `x` that is blocked and not on the stack has no
arc to `s`, all its out-neighbours `w` are blocked, and `x ∈ B[w]` — so unblocking any `w`
cascades to `x`.  Consequence (`free_of_c2`): a vertex from which `s` can be reached avoiding
the stack is not blocked.

`CPath comp s S v ext`: `v :: ext` is a simple path of the component that avoids `S` and closes to `s`;
inside a component it is the enumerator's `Ext` of the path `S ++ [v]` (`cpath_iff_ext`,
`Proof/JohnsonEmit.lean`).  `Post2` says of a call `circuit … st v` that it has emitted
`st.stack ++ v :: ext` for every such `ext` (`Emits.post2`); `FoldPost2` says the same of the
out-neighbours `ws` of `v` that the neighbour loop has gone through.
-/
namespace GraafVerif.Johnson
open GraafVerif

/-- `c2` is Johnson's B-list invariant. -/
structure Inv2 (comp : AM) (s N : Nat) (st : JState) : Prop where
  c2 : ∀ x ∈ st.blocked, x ∉ st.stack → ∀ w ∈ comp.out x, w ≠ s ∧ w ∈ st.blocked ∧ x ∈ st.Bof w
  bnd : st.blocked.Nodup
  blt : ∀ x ∈ st.blocked, x < N
  blen : st.B.length = N

/-- `v :: ext` is a simple path of the component that avoids `S`, never returns to `s`, and
whose last vertex has an arc to `s`. -/
structure CPath (comp : AM) (s : Nat) (S : List Nat) (v : Nat) (ext : List Nat) : Prop where
  walk : IsWalk comp.gr (v :: ext)
  close : s ∈ comp.out ((v :: ext).getLast (List.cons_ne_nil _ _))
  fresh : ∀ x ∈ ext, x ∉ S ∧ x ≠ v ∧ x ≠ s
  nd : ext.Nodup

theorem free_of_c2 {comp : AM} {s N : Nat} {st : JState} (h : Inv2 comp s N st) (ext : List Nat) (x : Nat)
    (hw : IsWalk comp.gr (x :: ext)) (hc : s ∈ comp.out ((x :: ext).getLast (List.cons_ne_nil _ _)))
    (hav : ∀ y ∈ x :: ext, y ∉ st.stack) : x ∉ st.blocked := by
  induction ext generalizing x with
  | nil => exact fun hb => (h.c2 x hb (hav x List.mem_cons_self) s hc).1 rfl
  | cons y ext ih =>
    intro hb
    rw [List.getLast_cons_cons] at hc
    exact ih y hw.2 hc (fun z hz => hav z (List.mem_cons_of_mem _ hz))
      (h.c2 x hb (hav x List.mem_cons_self) y hw.1).2.1

structure Post2 (comp : AM) (s N : Nat) (st : JState) (v : Nat) (r : Bool × JState) : Prop where
  inv2 : Inv2 comp s N r.2
  complete : ∀ ext, CPath comp s st.stack v ext → st.stack ++ v :: ext ∈ r.2.result

structure FoldPost2 (comp : AM) (s N : Nat) (S : List Nat) (v : Nat) (ws : List Nat)
    (acc r : Bool × JState) : Prop where
  inv2 : Inv2 comp s N r.2
  mono : ∀ c ∈ acc.2.result, c ∈ r.2.result
  complete : ∀ w ∈ ws, (w = s → S ++ [v] ∈ r.2.result) ∧
    (w ≠ s → w ∉ S ++ [v] → ∀ ext, CPath comp s (S ++ [v]) w ext → S ++ v :: w :: ext ∈ r.2.result)

theorem Inv2.congr {comp : AM} {s N : Nat} {st st' : JState} (hb : st'.blocked = st.blocked)
    (hB : st'.B = st.B) (hs : st'.stack = st.stack) (h : Inv2 comp s N st) : Inv2 comp s N st' := by
  have hBof : ∀ y, st'.Bof y = st.Bof y := by intro y; simp [JState.Bof, hB]
  refine ⟨?_, by rw [hb]; exact h.bnd, by rw [hb]; exact h.blt, by rw [hB]; exact h.blen⟩
  intro x hx hxs w hw
  rw [hb] at hx ⊢
  rw [hs] at hxs
  rw [hBof]
  exact h.c2 x hx hxs w hw

theorem Inv2.push {comp : AM} {s N : Nat} {st : JState} {v : Nat} (h : Inv2 comp s N st)
    (hv : v ∉ st.blocked) (hvN : v < N) :
    Inv2 comp s N { st with stack := st.stack ++ [v], blocked := insBlocked v st.blocked } := by
  have hmem := mem_insBlocked v st.blocked
  have hins : insBlocked v st.blocked = v :: st.blocked := by
    unfold insBlocked
    simp [hv]
  refine ⟨?_, ?_, ?_, h.blen⟩
  · intro x hx hxs w hw
    have hxs' : x ∉ st.stack ∧ x ≠ v := by
      constructor
      · intro hm; exact hxs (by simp [hm])
      · intro e; exact hxs (by simp [e])
    have hxb : x ∈ st.blocked := by
      rcases (hmem x).1 hx with e | hb
      · exact absurd e hxs'.2
      · exact hb
    obtain ⟨h1, h2, h3⟩ := h.c2 x hxb hxs'.1 w hw
    exact ⟨h1, (hmem w).2 (Or.inr h2), h3⟩
  · show (insBlocked v st.blocked).Nodup
    rw [hins]
    exact List.nodup_cons.2 ⟨hv, h.bnd⟩
  · intro x hx
    rcases (hmem x).1 hx with e | hb
    · subst e; exact hvN
    · exact h.blt x hb

end GraafVerif.Johnson
