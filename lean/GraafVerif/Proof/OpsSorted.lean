import GraafVerif.Model.Ops
import GraafVerif.Proof.ReprSorted
/-!
# Container lemmas used by the C11 proofs

The laws of `sinsert / serase / pinsert / mget / mupsert` are those of `Proof/ReprSorted.lean`.
Here: the collectors `toSet / toPSet / toMap` of `Model/Ops.lean` (membership, sortedness,
collecting an already sorted sequence keeps it).
-/
namespace GraafVerif.Ops
open GraafVerif.Repr

theorem exists_mem_cons_iff {α : Type} {p : α → Prop} {a : α} {l : List α} :
    (∃ x ∈ a :: l, p x) ↔ p a ∨ ∃ x ∈ l, p x := by
  simp only [List.mem_cons, exists_eq_or_imp]

/-! ## `BTreeSet<usize>` -/

theorem mem_toSet {a : Nat} {l : List Nat} : a ∈ toSet l ↔ a ∈ l := mem_foldl_insert_nil mem_sinsert l

theorem sorted_toSet (l : List Nat) : SortedS (toSet l) :=
  sorted_foldl_sinsert l [] List.Pairwise.nil

theorem toSet_of_sorted {l : List Nat} (h : SortedS l) : toSet l = l :=
  sortedS_ext (sorted_toSet l) h fun _ => mem_toSet

/-! ## `BTreeSet<(usize, usize)>` -/

def PSorted (l : List (Nat × Nat)) : Prop := l.Pairwise (fun a b => pairLt a b = true)

theorem mem_toPSet {a : Nat × Nat} {l : List (Nat × Nat)} : a ∈ toPSet l ↔ a ∈ l := mem_foldl_insert_nil mem_pinsert l

theorem sorted_toPSet (l : List (Nat × Nat)) : PSorted (toPSet l) :=
  sorted_foldl_pinsert l [] List.Pairwise.nil

theorem toPSet_of_sorted {l : List (Nat × Nat)} (h : PSorted l) : toPSet l = l :=
  sortedP_ext (sorted_toPSet l) h fun _ => mem_toPSet

/-! ## `BTreeMap<usize, X>` -/

theorem toMap_of_sorted {X : Type} {l : List (Nat × X)} (h : SortedK l) : toMap l = l :=
  foldl_mupsert_sorted l [] h

end GraafVerif.Ops

namespace GraafVerif.AlgoGenThm
open GraafVerif

theorem toSet_range (n : Nat) : Ops.toSet (List.range n) = List.range n :=
  Ops.toSet_of_sorted List.pairwise_lt_range

end GraafVerif.AlgoGenThm
