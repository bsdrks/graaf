import GraafVerif.Proof.AlgoGen3Prng
import GraafVerif.Proof.AlgoGenCall
import GraafVerif.Proof.RandSched
import GraafVerif.Proof.RandPairs
import GraafVerif.Proof.RandPrng
/-!
# Generated sequential seeded generators (`Model/AlgoGen3.lean`) = hand-written `Model/Rand.lean`

The generated definitions thread the PRNG value through their loops (one draw per iteration); the
hand-written model takes the draws as a stream and gives the `i`-th iteration the draw `s i`
(`List.zipIdx`).  `draws x` is the stream of the PRNG state `x` (`Proof/RandPrng.lean`); `forLoop_stream` is the bridge (a loop
whose every iteration takes `m` draws = the indexed fold over `draws x`; `forLoop_draws`, `forLoop_drawsL`,
`forLoop_blocks` are its instances for the two layouts of the loop state); `forLoop_flat` (`Proof/AlgoGenCall.lean`)
flattens the nested `for u { for v { .. } }` loops into the hand-written iteration lists.
-/
namespace GraafVerif.AlgoGenThm
open GraafVerif GraafVerif.AlgoGen GraafVerif.Repr
open Xoshiro256StarStar (ofX)

/-- `none` of a step = `panic`, in a loop that also carries the PRNG -/
def optS {σ β ρ : Type} (x' : Rand.Xo) : Option σ → Blk β ρ (σ × AlgoGen.Xoshiro256StarStar)
  | some s => .ok (s, ofX x')
  | none => .error (.err (.fault .panic))

def optSL {σ β ρ : Type} (x' : Rand.Xo) : Option σ → Blk β ρ (AlgoGen.Xoshiro256StarStar × σ)
  | some s => .ok (ofX x', s)
  | none => .error (.err (.fault .panic))

theorem optS_eq {σ β ρ : Type} (x' : Rand.Xo) (o : Option σ) :
    (optS x' o : Blk β ρ _) = optP (o.map (·, ofX x')) := by
  cases o <;> rfl

theorem optSL_eq {σ β ρ : Type} (x' : Rand.Xo) (o : Option σ) :
    (optSL x' o : Blk β ρ _) = optP (o.map (ofX x', ·)) := by
  cases o <;> rfl

/-- a function that returns the digraph of a PRNG-threading loop and drops the PRNG -/
theorem fnBody_optS_fst {σ : Type} (x' : Rand.Xo) (o : Option σ) :
    fnBody (optS x' o >>= fun t => pure t.1) = optR o := by
  cases o <;> rfl

theorem succ_mul_add (i m j : Nat) : (i + 1) * m + j = m + (i * m + j) := by
  rw [Nat.succ_mul, Nat.add_comm (i * m) m, Nat.add_assoc]

/-- A loop over states `mk s x` (`x` the threaded PRNG, `s` the rest) whose every iteration takes exactly
`m` draws and may panic = the indexed fold over the stream of `x`: iteration `i` sees the draws from
`i * m` on.  `P` is an invariant of `s` that the body may rely on.
All steps rewrite with `iter_add` / `draws_iter`: `Xo.next` must never be unfolded (64-bit arithmetic). -/
theorem forLoop_stream {σ τ α β ρ : Type} (mk : σ → Rand.Xo → τ) (m : Nat) (P : σ → Prop)
    (body : τ → α → Blk τ ρ τ) (f : σ → α → Rand.Stream → Option σ) :
    ∀ (l : List α) (s : σ) (x : Rand.Xo), P s →
      (∀ s a x, a ∈ l → P s →
        body (mk s x) a = optP ((f s a (draws x)).map (mk · (x.iter m))) ∧ ∀ s', f s a (draws x) = some s' → P s') →
      (forLoop body l (mk s x) : Blk β ρ τ) =
        optP ((l.zipIdx.foldlM (fun s ai => f s ai.1 fun j => draws x (ai.2 * m + j)) s).map
          (mk · (x.iter (l.length * m)))) := by
  intro l
  induction l with
  | nil =>
    intro s x _ _
    rw [List.length_nil, Nat.zero_mul]
    rfl
  | cons a l ih =>
    intro s x hs h
    obtain ⟨hb, hP⟩ := h s a x List.mem_cons_self hs
    have htail := fun s a x ha => h s a x (List.mem_cons_of_mem _ ha)
    rw [List.zipIdx_cons, List.foldlM_cons]
    simp only [Nat.zero_mul, Nat.zero_add]
    cases hf : f s a (draws x) with
    | none =>
      rw [hf] at hb
      exact forLoop_cons_err _ _ _ _ _ hb
    | some s' =>
      rw [hf] at hb
      rw [forLoop_cons_ok _ _ _ _ _ hb, ih s' _ (hP s' hf) htail, Option.bind_eq_bind, Option.bind_some,
        List.zipIdx_succ, List.foldlM_map, iter_add, List.length_cons, Nat.succ_mul, Nat.add_comm m]
      simp only [draws_iter, succ_mul_add]

theorem forLoop_draws {σ α β ρ : Type} (P : σ → Prop) (l : List α)
    (body : σ × AlgoGen.Xoshiro256StarStar → α → Blk (σ × AlgoGen.Xoshiro256StarStar) ρ (σ × AlgoGen.Xoshiro256StarStar))
    (f : σ → α → UInt64 → Option σ)
    (hbody : ∀ s a x, a ∈ l → P s → body (s, ofX x) a = optS x.next.2 (f s a x.next.1))
    (hP : ∀ s a w s', a ∈ l → P s → f s a w = some s' → P s') :
    ∀ (l' : List α) (s : σ) (x : Rand.Xo), (∀ a ∈ l', a ∈ l) → P s →
      (forLoop body l' (s, ofX x) : Blk β ρ _) =
        optS (x.iter l'.length) (l'.zipIdx.foldlM (fun s ai => f s ai.1 (draws x ai.2)) s) := by
  intro l' s x hsub hs
  have := forLoop_stream (β := β) (fun s x => (s, ofX x)) 1 P body (fun s a S => f s a (S 0)) l' s x hs
    (fun s a x ha hs => ⟨(hbody s a x (hsub a ha) hs).trans (optS_eq _ _), fun s' => hP s a _ s' (hsub a ha) hs⟩)
  simpa only [Nat.mul_one, Nat.add_zero, ← optS_eq] using this

theorem forLoop_drawsL {σ α β ρ : Type} (P : σ → Prop) (l : List α)
    (body : AlgoGen.Xoshiro256StarStar × σ → α → Blk (AlgoGen.Xoshiro256StarStar × σ) ρ (AlgoGen.Xoshiro256StarStar × σ))
    (f : σ → α → UInt64 → Option σ)
    (hbody : ∀ s a x, a ∈ l → P s → body (ofX x, s) a = optSL x.next.2 (f s a x.next.1))
    (hP : ∀ s a w s', a ∈ l → P s → f s a w = some s' → P s') :
    ∀ (l' : List α) (s : σ) (x : Rand.Xo), (∀ a ∈ l', a ∈ l) → P s →
      (forLoop body l' (ofX x, s) : Blk β ρ _) =
        optSL (x.iter l'.length) (l'.zipIdx.foldlM (fun s ai => f s ai.1 (draws x ai.2)) s) := by
  intro l' s x hsub hs
  have := forLoop_stream (β := β) (fun s x => (ofX x, s)) 1 P body (fun s a S => f s a (S 0)) l' s x hs
    (fun s a x ha hs => ⟨(hbody s a x (hsub a ha) hs).trans (optSL_eq _ _), fun s' => hP s a _ s' (hsub a ha) hs⟩)
  simpa only [Nat.mul_one, Nat.add_zero, ← optSL_eq] using this

theorem forLoop_blocks {σ α β ρ : Type} (m : Nat) (l : List α)
    (body : AlgoGen.Xoshiro256StarStar × σ → α → Blk (AlgoGen.Xoshiro256StarStar × σ) ρ (AlgoGen.Xoshiro256StarStar × σ))
    (f : σ → α → Rand.Stream → σ)
    (hbody : ∀ s a x, a ∈ l → body (ofX x, s) a = .ok (ofX (x.iter m), f s a (draws x))) :
    ∀ (l' : List α) (s : σ) (x : Rand.Xo), (∀ a ∈ l', a ∈ l) →
      (forLoop body l' (ofX x, s) : Blk β ρ _) =
        .ok (ofX (x.iter (l'.length * m)), l'.zipIdx.foldl (fun s ai => f s ai.1 (fun j => draws x (ai.2 * m + j))) s) := by
  intro l' s x hsub
  rw [forLoop_stream (β := β) (fun s x => (ofX x, s)) m (fun _ => True) body (fun s a S => some (f s a S)) l' s x trivial
    (fun s a x ha _ => ⟨hbody s a x (hsub a ha), fun _ _ => trivial⟩), foldlM_some]
  rfl

theorem forLoop_flat_draws {σ α γ β ρ : Type} (P : σ → Prop) (us : List α) (vs : α → List γ)
    (outer : σ × AlgoGen.Xoshiro256StarStar → α → Blk (σ × AlgoGen.Xoshiro256StarStar) ρ (σ × AlgoGen.Xoshiro256StarStar))
    (inner : α → σ × AlgoGen.Xoshiro256StarStar → γ → Blk (σ × AlgoGen.Xoshiro256StarStar) ρ (σ × AlgoGen.Xoshiro256StarStar))
    (f : σ → α × γ → UInt64 → Option σ)
    (houter : ∀ s u, outer s u = forLoop (inner u) (vs u) s)
    (hexit : ∀ u s v, NoBrk (inner u s v))
    (hinner : ∀ s p x, p ∈ (us.flatMap fun u => (vs u).map fun v => (u, v)) → P s →
      inner p.1 (s, ofX x) p.2 = optS x.next.2 (f s p x.next.1))
    (hP : ∀ s p w s', p ∈ (us.flatMap fun u => (vs u).map fun v => (u, v)) → P s → f s p w = some s' → P s')
    (s : σ) (x : Rand.Xo) (hs : P s) :
    (forLoop outer us (s, ofX x) : Blk β ρ _) =
      optS (x.iter (us.flatMap fun u => (vs u).map fun v => (u, v)).length)
        ((us.flatMap fun u => (vs u).map fun v => (u, v)).zipIdx.foldlM (fun s ai => f s ai.1 (draws x ai.2)) s) := by
  rw [forLoop_flat outer inner vs houter hexit]
  exact forLoop_draws P _ (fun s p => inner p.1 s p.2) f hinner hP _ s x (fun _ h => h) hs

/-- one pair `(u, v)` of `random_tournament`: a draw, then `add_arc(u, v)` or `add_arc(v, u)` -/
def orientStep {R : Type} (add : R → Nat → Nat → Option R) (g : R) (p : Nat × Nat) (w : UInt64) : Option R :=
  if Rand.nextBool w then add g p.1 p.2 else add g p.2 p.1

/-- The inner loop body of `random_tournament` over the target's `add_arc`: the generated `randomTournament_for1` of
`AdjacencyMatrix` and `EdgeList` are this block by definition. -/
theorem orient_block {R ρ : Type} (add : R → Nat → Nat → Option R) (u v : Nat) (g : R) (x : Rand.Xo) :
    ((do
        let t ← call (AlgoGen.Xoshiro256StarStar.nextBool (ofX x))
        let rng := t.2
        let digraph ← (if t.1 = true then do
            let t3 ← optP (add g u v)
            let digraph := t3
            pure digraph
          else do
            let t4 ← optP (add g v u)
            let digraph := t4
            pure digraph)
        pure (digraph, rng)) : Blk (R × AlgoGen.Xoshiro256StarStar) ρ (R × AlgoGen.Xoshiro256StarStar)) =
      optS x.next.2 (orientStep add g (u, v) x.next.1) := by
  unfold orientStep
  rw [Xoshiro256StarStar.nextBool_eq, call_ok, ok_bind]
  cases Rand.nextBool (Rand.Xo.next x).1
  · cases add g v u <;> rfl
  · cases add g u v <;> rfl

/-- The two nested loops of `random_tournament` over the target's `add_arc` = `add_arc` over the hand-written
oriented `pairs`, with the draws of the threaded PRNG. -/
theorem orient_loops {R ρ : Type} (add : R → Nat → Nat → Option R) (n : Nat)
    (outer : R × AlgoGen.Xoshiro256StarStar → Nat → Blk (R × AlgoGen.Xoshiro256StarStar) ρ (R × AlgoGen.Xoshiro256StarStar))
    (inner : Nat → R × AlgoGen.Xoshiro256StarStar → Nat →
      Blk (R × AlgoGen.Xoshiro256StarStar) ρ (R × AlgoGen.Xoshiro256StarStar))
    (houter : ∀ s u, outer s u = forLoop (inner u) (AlgoGen.range (u + 1) n) s) (hexit : ∀ u s v, NoBrk (inner u s v))
    (hinner : ∀ u g x v, inner u (g, ofX x) v = optS x.next.2 (orientStep add g (u, v) x.next.1)) (g : R) (x : Rand.Xo) :
    (forLoop outer (List.range n) (g, ofX x) : Blk Empty ρ _) =
      optS (x.iter (Rand.pairs n).length) ((Rand.tournamentArcs (draws x) n).foldlM (fun g a => add g a.1 a.2) g) := by
  rw [forLoop_flat_draws (β := Empty) (fun _ => True) (List.range n) (fun u => AlgoGen.range (u + 1) n) outer inner
    (orientStep add) houter hexit
    (fun g p x _ _ => hinner p.1 g x p.2) (fun _ _ _ _ _ _ _ => trivial) g x trivial]
  refine congrArg (optS _) ?_
  show _ = ((Rand.pairs n).zipIdx.map (Rand.orient (draws x))).foldlM _ g
  rw [List.foldlM_map]
  refine congrArg (fun F => List.foldlM F g _) (funext fun g => funext fun ai => ?_)
  unfold orientStep Rand.orient
  cases Rand.nextBool (draws x ai.2) <;> rfl

namespace AdjacencyList

theorem mem_pairs {n : Nat} {p : Nat × Nat} (h : p ∈ Rand.pairs n) : p.1 < n ∧ p.2 < n :=
  have h' := (Rand.mem_pairs n p.1 p.2).1 h
  ⟨Nat.lt_trans h'.1 h'.2, h'.2⟩

/-- one pair `(u, v)`: a draw, then `rows[u].insert(v)` or `rows[v].insert(u)` -/
def tstep (rows : List (List Nat)) (p : Nat × Nat) (w : UInt64) : Option (List (List Nat)) :=
  some (if Rand.nextBool w then Rand.rowInsert rows (p.1, p.2) else Rand.rowInsert rows (p.2, p.1))

/-- inside the allocation neither `get_unchecked_mut` is out of bounds: no UB -/
theorem randomTournament_for1_eq (u : Nat) (rows : List (List Nat)) (x : Rand.Xo) (v : Nat)
    (hu : u < rows.length) (hv : v < rows.length) :
    (AlgoGen.AdjacencyList.randomTournament_for1 u (rows, ofX x) v : Blk _ AdjList _) =
      optS x.next.2 (tstep rows (u, v) x.next.1) := by
  unfold AlgoGen.AdjacencyList.randomTournament_for1 tstep Rand.rowInsert
  simp only [Xoshiro256StarStar.nextBool_eq, call_ok, ok_bind]
  by_cases hb : Rand.nextBool (Rand.Xo.next x).1 = true
  · simp only [hb, if_true, rd_lt _ _ _ hu, wr_lt _ _ _ _ hu, ok_bind, pure_eq_ok,
      List.getElem?_eq_getElem hu, Option.getD_some]
    rfl
  · simp only [hb, if_false, Bool.false_eq_true, rd_lt _ _ _ hv, wr_lt _ _ _ _ hv, ok_bind, pure_eq_ok,
      List.getElem?_eq_getElem hv, Option.getD_some]
    rfl

theorem randomTournament_for1_exits (u : Nat) (s : List (List Nat) × AlgoGen.Xoshiro256StarStar) (v : Nat) :
    (∃ s', AlgoGen.AdjacencyList.randomTournament_for1 u s v = (.ok s' : Blk _ AdjList _)) ∨
      (∃ e, AlgoGen.AdjacencyList.randomTournament_for1 u s v = (.error (.err e) : Blk _ AdjList _)) :=
  noBrk_bind (noBrk_call _) fun _ => noBrk_bind
    (noBrk_ite (noBrk_bind (noBrk_liftChk _) fun _ => noBrk_bind (noBrk_liftChk _) fun _ => noBrk_ok _)
      (noBrk_bind (noBrk_liftChk _) fun _ => noBrk_bind (noBrk_liftChk _) fun _ => noBrk_ok _))
    fun _ => noBrk_ok _

theorem rowInsert_length (rows : List (List Nat)) (a : Nat × Nat) : (Rand.rowInsert rows a).length = rows.length :=
  Rand.rowInsert_length rows a

theorem tstep_length {rows rows' : List (List Nat)} {p : Nat × Nat} {w : UInt64} (h : tstep rows p w = some rows') :
    rows'.length = rows.length := by
  cases h
  split <;> exact rowInsert_length _ _

theorem tstep_fold (S : Rand.Stream) (l : List ((Nat × Nat) × Nat)) (rows : List (List Nat)) :
    l.foldlM (fun s ai => tstep s ai.1 (S ai.2)) rows = some ((l.map (Rand.orient S)).foldl Rand.rowInsert rows) := by
  rw [List.foldl_map, ← foldlM_some]
  refine congrArg (fun F => l.foldlM F rows) (funext fun s => funext fun ai => ?_)
  unfold tstep Rand.orient
  cases Rand.nextBool (S ai.2) <;> rfl

theorem randomTournament_for0_eq (n : Nat) (rows : List (List Nat)) (x : Rand.Xo) (hlen : rows.length = n) :
    (forLoop (AlgoGen.AdjacencyList.randomTournament_for0 n) (List.range n) (rows, ofX x) : Blk Empty AdjList _) =
      .ok ((Rand.tournamentArcs (draws x) n).foldl Rand.rowInsert rows, ofX (x.iter (Rand.pairs n).length)) := by
  rw [forLoop_flat_draws (β := Empty) (fun r : List (List Nat) => r.length = n) (List.range n)
    (fun u => AlgoGen.range (u + 1) n) (AlgoGen.AdjacencyList.randomTournament_for0 n)
    AlgoGen.AdjacencyList.randomTournament_for1 tstep
    (fun _ _ => bind_pair_eta _) randomTournament_for1_exits
    (fun r p x hp hr => randomTournament_for1_eq p.1 r x p.2 (hr ▸ (mem_pairs hp).1) (hr ▸ (mem_pairs hp).2))
    (fun _ _ _ _ _ hr h => (tstep_length h).trans hr) rows x hlen, tstep_fold]
  rfl

/-- `AdjacencyList::random_tournament(order, seed)` = the hand-written `tournamentAL` on the stream of
`Xoshiro256StarStar::new(seed)`, for every order and seed; in particular no `get_unchecked_mut` is UB. -/
theorem randomTournament_eq (n : Nat) (seed : UInt64) :
    AlgoGen.AdjacencyList.randomTournament n seed = optR (Rand.tournamentAL (Rand.xoStream seed) n) := by
  unfold AlgoGen.AdjacencyList.randomTournament Rand.tournamentAL
  by_cases h0 : n = 0
  · subst h0; rfl
  · have hpos : n > 0 := Nat.pos_of_ne_zero h0
    by_cases h1 : n = 1
    · subst h1; rfl
    · simp only [hpos, h0, h1, decide_true, assert_true, ok_bind, if_false, Xoshiro256StarStar.new_eq, call_ok,
        randomTournament_for0_eq n _ _ List.length_replicate, draws_new]
      rfl

end AdjacencyList

namespace AdjacencyMatrix

abbrev tstep : AdjMatrix → Nat × Nat → UInt64 → Option AdjMatrix := orientStep AdjMatrix.addArc

theorem randomTournament_for1_eq (u : Nat) (g : AdjMatrix) (x : Rand.Xo) (v : Nat) :
    (AlgoGen.AdjacencyMatrix.randomTournament_for1 u (g, ofX x) v : Blk _ AdjMatrix _) = optS x.next.2 (tstep g (u, v) x.next.1) :=
  orient_block AdjMatrix.addArc u v g x

theorem randomTournament_for1_exits (u : Nat) (s : AdjMatrix × AlgoGen.Xoshiro256StarStar) (v : Nat) :
    (∃ s', AlgoGen.AdjacencyMatrix.randomTournament_for1 u s v = (.ok s' : Blk _ AdjMatrix _)) ∨
      (∃ e, AlgoGen.AdjacencyMatrix.randomTournament_for1 u s v = (.error (.err e) : Blk _ AdjMatrix _)) :=
  noBrk_bind (noBrk_call _) fun _ => noBrk_bind
    (noBrk_ite (noBrk_bind (noBrk_optP _) fun _ => noBrk_ok _) (noBrk_bind (noBrk_optP _) fun _ => noBrk_ok _))
    fun _ => noBrk_ok _

theorem randomTournament_for0_eq (n : Nat) (g : AdjMatrix) (x : Rand.Xo) :
    (forLoop (AlgoGen.AdjacencyMatrix.randomTournament_for0 n) (List.range n) (g, ofX x) : Blk Empty AdjMatrix _) =
      optS (x.iter (Rand.pairs n).length)
        ((Rand.tournamentArcs (draws x) n).foldlM (fun g a => g.addArc a.1 a.2) g) :=
  orient_loops AdjMatrix.addArc n _ _ (fun _ _ => bind_pair_eta _) randomTournament_for1_exits randomTournament_for1_eq g x

/-- `AdjacencyMatrix::random_tournament(order, seed)` = the hand-written `tournamentMX` on the stream of
`Xoshiro256StarStar::new(seed)`, for every order and seed. -/
theorem randomTournament_eq (n : Nat) (seed : UInt64) :
    AlgoGen.AdjacencyMatrix.randomTournament n seed = optR (Rand.tournamentMX (Rand.xoStream seed) n) := by
  unfold AlgoGen.AdjacencyMatrix.randomTournament Rand.tournamentMX
  cases he : AdjMatrix.empty n with
  | none => rfl
  | some e =>
    simp only [optP, ok_bind, Xoshiro256StarStar.new_eq, call_ok, randomTournament_for0_eq, draws_new,
      Option.bind_eq_bind, Option.bind_some]
    cases (Rand.tournamentArcs (Rand.xoStream seed) n).foldlM (fun g a => g.addArc a.1 a.2) e <;> rfl

end AdjacencyMatrix

namespace EdgeList

abbrev tstep : Repr.EdgeList → Nat × Nat → UInt64 → Option Repr.EdgeList := orientStep Repr.EdgeList.addArc

theorem randomTournament_for1_eq (u : Nat) (g : Repr.EdgeList) (x : Rand.Xo) (v : Nat) :
    (AlgoGen.EdgeList.randomTournament_for1 u (g, ofX x) v : Blk _ Repr.EdgeList _) = optS x.next.2 (tstep g (u, v) x.next.1) :=
  orient_block Repr.EdgeList.addArc u v g x

theorem randomTournament_for1_exits (u : Nat) (s : Repr.EdgeList × AlgoGen.Xoshiro256StarStar) (v : Nat) :
    (∃ s', AlgoGen.EdgeList.randomTournament_for1 u s v = (.ok s' : Blk _ Repr.EdgeList _)) ∨
      (∃ e, AlgoGen.EdgeList.randomTournament_for1 u s v = (.error (.err e) : Blk _ Repr.EdgeList _)) :=
  noBrk_bind (noBrk_call _) fun _ => noBrk_bind
    (noBrk_ite (noBrk_bind (noBrk_optP _) fun _ => noBrk_ok _) (noBrk_bind (noBrk_optP _) fun _ => noBrk_ok _))
    fun _ => noBrk_ok _

theorem randomTournament_for0_eq (n : Nat) (g : Repr.EdgeList) (x : Rand.Xo) :
    (forLoop (AlgoGen.EdgeList.randomTournament_for0 n) (List.range n) (g, ofX x) : Blk Empty Repr.EdgeList _) =
      optS (x.iter (Rand.pairs n).length)
        ((Rand.tournamentArcs (draws x) n).foldlM (fun g a => g.addArc a.1 a.2) g) :=
  orient_loops Repr.EdgeList.addArc n _ _ (fun _ _ => bind_pair_eta _) randomTournament_for1_exits randomTournament_for1_eq g x

/-- `EdgeList::random_tournament(order, seed)` = the hand-written `tournamentEL` on the stream of
`Xoshiro256StarStar::new(seed)`, for every order and seed. -/
theorem randomTournament_eq (n : Nat) (seed : UInt64) :
    AlgoGen.EdgeList.randomTournament n seed = optR (Rand.tournamentEL (Rand.xoStream seed) n) := by
  unfold AlgoGen.EdgeList.randomTournament Rand.tournamentEL
  by_cases h1 : n = 1
  · subst h1; rfl
  · simp only [h1, if_false]
    cases he : EdgeList.empty n with
    | none => rfl
    | some e =>
      simp only [optP, ok_bind, Xoshiro256StarStar.new_eq, call_ok, randomTournament_for0_eq, draws_new,
        Option.bind_eq_bind, Option.bind_some]
      cases (Rand.tournamentArcs (Rand.xoStream seed) n).foldlM (fun g a => g.addArc a.1 a.2) e <;> rfl

end EdgeList

end GraafVerif.AlgoGenThm
