import GraafVerif.Proof.PredAL
/-!
# C12 — `AdjacencyList::is_semicomplete` as a labelled transition system over the shared flag

`rest d w` is the verdict worker `w` would still reach if left alone with the flag up: the pairs of its
current row from `v` on and the rows after it.  A step of any worker leaves `flag && (every worker's rest)`
as it is (`stepWorker_rest`): a tested pair moves from `rest` into the flag, and a worker that breaks
early does so with the flag down, where the product is `false` whatever it skips.  At the start the product
is the conjunction of the workers' verdicts of the functional model, in a terminal state it is the flag.
-/
namespace GraafVerif.Pred
open GraafVerif.Query GraafVerif.Repr
namespace AL

theorem all_range'_done (p : Nat → Bool) {s e : Nat} (h : e ≤ s) : (List.range' s (e - s)).all p = true := by
  rw [Nat.sub_eq_zero_of_le h]; rfl

theorem all_range'_step (p : Nat → Bool) {s e : Nat} (h : s < e) :
    (List.range' s (e - s)).all p = (p s && (List.range' (s + 1) (e - (s + 1))).all p) := by
  rw [show e - s = e - (s + 1) + 1 from (Nat.succ_pred_eq_of_pos (Nat.sub_pos_of_lt h)).symm ▸ rfl,
    List.range'_succ, List.all_cons]

/-- The verdict of `w` on what it has not looked at yet. -/
def rest (d : AdjList) (w : Worker) : Bool :=
  w.done ||
    match w.v with
    | none => (List.range' w.u (w.stop - w.u)).all (rowOk d)
    | some v => (List.range' v (d.order - v)).all (pairOk d w.u) &&
        (List.range' (w.u + 1) (w.stop - (w.u + 1))).all (rowOk d)

theorem stepW_none (d : AdjList) (f : Bool) (u stop : Nat) :
    stepWorker d f ⟨u, stop, none, false⟩ =
      if u ≥ stop then (f, ⟨u, stop, none, true⟩) else if !f then (f, ⟨u, stop, none, true⟩)
      else (f, ⟨u, stop, some (u + 1), false⟩) := by
  unfold stepWorker; rw [if_neg Bool.false_ne_true]

theorem stepW_some (d : AdjList) (f : Bool) (u stop v : Nat) :
    stepWorker d f ⟨u, stop, some v, false⟩ =
      if v ≥ d.order then (f, ⟨u + 1, stop, none, false⟩) else if !f then (f, ⟨u + 1, stop, none, false⟩)
      else if !pairOk d u v then (false, ⟨u + 1, stop, none, false⟩) else (f, ⟨u, stop, some (v + 1), false⟩) := by
  unfold stepWorker; rw [if_neg Bool.false_ne_true]

theorem rest_done (d : AdjList) (u stop : Nat) (v : Option Nat) : rest d ⟨u, stop, v, true⟩ = true := rfl
theorem rest_none (d : AdjList) (u stop : Nat) :
    rest d ⟨u, stop, none, false⟩ = (List.range' u (stop - u)).all (rowOk d) := rfl
theorem rest_some (d : AdjList) (u stop v : Nat) :
    rest d ⟨u, stop, some v, false⟩ =
      ((List.range' v (d.order - v)).all (pairOk d u) && rest d ⟨u + 1, stop, none, false⟩) := rfl

def pend (d : AdjList) (r : Bool × Worker) : Bool := r.1 && rest d r.2

theorem stepWorker_rest (d : AdjList) (f : Bool) (w : Worker) : pend d (stepWorker d f w) = (f && rest d w) := by
  obtain ⟨u, stop, v, done⟩ := w
  cases done with
  | true => rfl
  | false =>
    cases v with
    | none =>
      rw [stepW_none, rest_none]
      by_cases h1 : u ≥ stop
      · rw [if_pos h1, all_range'_done _ h1, pend, rest_done]
      · rw [if_neg h1, all_range'_step _ (Nat.lt_of_not_le h1)]
        cases f with
        | false => rfl
        | true => exact Bool.true_and _
    | some v =>
      rw [stepW_some, rest_some]
      by_cases h1 : v ≥ d.order
      · rw [if_pos h1, all_range'_done _ h1, Bool.true_and]; rfl
      · rw [if_neg h1, all_range'_step _ (Nat.lt_of_not_le h1)]
        cases f with
        | false => rfl
        | true =>
          -- the pair `(u, v)` moves from the rest into the flag
          cases pairOk d u v
          · rfl
          · exact Bool.true_and _

def pending (d : AdjList) (s : State) : Bool := s.flag && s.workers.all (rest d)

theorem pending_step (d : AdjList) (s : State) (k : Nat) : pending d (step d s k) = pending d s := by
  unfold step
  cases hk : s.workers[k]? with
  | none => rfl
  | some w => exact Vec.and_all_set (rest d) (stepWorker_rest d s.flag w) s.workers k hk

theorem pending_run (d : AdjList) (sched : List Nat) : ∀ s, pending d (run d s sched) = pending d s := by
  induction sched with
  | nil => exact fun _ => rfl
  | cons k sched ih => exact fun s => (ih (step d s k)).trans (pending_step d s k)

theorem pending_init (d : AdjList) (t : Nat) : pending d (initState d t) = (Par.ranges d.order t).all (scanChunk d) :=
  List.all_map

theorem pending_terminal (d : AdjList) {s : State} (h : terminal s = true) : pending d s = s.flag := by
  have : s.workers.all (rest d) = true :=
    List.all_eq_true.2 fun w hw => (congrArg (· || _) (List.all_eq_true.1 h w hw)).trans (Bool.true_or _)
  rw [pending, this, Bool.and_true]

/-- Every schedule that lets all workers finish ends with the verdict of the functional worker model
(termination itself is a property of `std::thread::scope` joining). -/
theorem sched_eq_functional (d : AdjList) (t : Nat) (sched : List Nat) (b : Bool)
    (hb : isSemicompleteSched d t sched = some b) : b = isSemicomplete d t := by
  unfold isSemicompleteSched at hb
  unfold isSemicomplete
  split
  · rw [if_pos ‹_›] at hb; exact (Option.some.inj hb).symm
  · rw [if_neg ‹_›] at hb
    split
    · rw [if_pos ‹_›] at hb; exact (Option.some.inj hb).symm
    · rw [if_neg ‹_›] at hb
      by_cases hterm : terminal (run d (initState d t) sched) = true
      · rw [← pending_init, ← pending_run d sched, pending_terminal d hterm]
        exact (Option.some.inj ((if_pos hterm).symm.trans hb)).symm
      · exact nomatch (if_neg hterm).symm.trans hb

theorem semicomplete_all_schedules {d : AdjList} (h : d.WF) (t : Nat) (ht : 0 < t) (sched : List Nat) (b : Bool)
    (hb : isSemicompleteSched d t sched = some b) : b = true ↔ Def.IsSemicomplete (Query.AL.abs d) :=
  sched_eq_functional d t sched b hb ▸ isSemicomplete_correct h t ht

/-- Worker `w`, started at row `start`, has found no missing pair in the rows `start..w.u` nor, inside the
inner loop, in the pairs `(w.u, x)` with `x` below its position; once done it has passed `w.stop`. -/
structure Progress (d : AdjList) (start : Nat) (w : Worker) : Prop where
  lo : start ≤ w.u
  rowsOk : ∀ r, start ≤ r → r < w.u → rowOk d r = true
  inner : ∀ v', w.v = some v' → w.u < v' ∧ ∀ x, w.u < x → x < v' → pairOk d w.u x = true
  fin : w.done = true → w.stop ≤ w.u

def Witness (d : AdjList) : Prop := ∃ u v, u < v ∧ v < d.order ∧ pairOk d u v = false

def WInv (d : AdjList) (flag : Bool) (start : Nat) (w : Worker) : Prop := flag = false ∨ Progress d start w

/-- A state over the per-thread ranges `rs`: the flag is down only after a missing pair, worker `k` runs to the end
of range `k` and its progress record is truthful while the flag is up. -/
structure Inv (d : AdjList) (rs : List (Nat × Nat)) (s : State) : Prop where
  wit : s.flag = false → Witness d
  len : s.workers.length = rs.length
  workers : ∀ k (hk : k < rs.length) (hk' : k < s.workers.length),
    s.workers[k].stop = rs[k].2 ∧ WInv d s.flag rs[k].1 s.workers[k]

end AL
end GraafVerif.Pred
