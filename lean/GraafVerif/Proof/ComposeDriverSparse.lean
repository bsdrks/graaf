import GraafVerif.Proof.ComposeDriverAM
import GraafVerif.Proof.Bisect
/-!
# Compose — `H09.vgraphSparse` (binary search over id-keyed rows, used for ids ≥ 4096) is
`H09.vgraphOf` (rows indexed by id)

For an `[am …]` description both constructions have the vertex list `vertsOf d`; here: for every id
`u`, vertex or not, row `u` of `vgraphSparse d` is ascending and holds exactly the heads of the
described arcs with tail `u` (`vgraphSparse_row`) — as does row `u` of `vgraphOf d`
(`vgraphOf_row`, `Proof/ComposeDriverAM.lean`), so the two are the SAME `VGraph`.
-/
namespace GraafVerif.Compose
open GraafVerif GraafVerif.Repr GraafVerif.Driver GraafVerif.Driver.H09

abbrev SRows := Array (Nat × List Nat)

def keyAt (rows : SRows) (j : Nat) : Nat := (rows.getD j (0, [])).1
def rowAt (rows : SRows) (j : Nat) : List Nat := (rows.getD j (0, [])).2

def KeysAsc (rows : SRows) : Prop := ∀ i j, i < j → j < rows.size → keyAt rows i < keyAt rows j

theorem bsearch_of_le (rows : SRows) (u f : Nat) {lo hi : Nat} (h : hi ≤ lo) : bsearch rows u f lo hi = none := by
  cases f with
  | zero => rfl
  | succ f => exact if_pos h

theorem bsearch_step (rows : SRows) (u f : Nat) {lo hi : Nat} (h : lo < hi) : bsearch rows u (f + 1) lo hi =
    if (keyAt rows ((lo + hi) / 2) == u) = true then some ((lo + hi) / 2)
    else if keyAt rows ((lo + hi) / 2) < u then bsearch rows u f ((lo + hi) / 2 + 1) hi
    else bsearch rows u f lo ((lo + hi) / 2) :=
  if_neg (Nat.not_le_of_lt h)

theorem bsearch_sound (rows : SRows) (u : Nat) :
    ∀ (fuel lo hi i : Nat), bsearch rows u fuel lo hi = some i → lo ≤ i ∧ i < hi ∧ keyAt rows i = u := by
  intro fuel
  induction fuel with
  | zero => exact fun _ _ _ h => nomatch h
  | succ f ih =>
    intro lo hi i h
    by_cases hlt : lo < hi
    · rw [bsearch_step rows u f hlt] at h
      obtain ⟨hm1, hm2⟩ := mid_bounds hlt
      generalize (lo + hi) / 2 = mid at h hm1 hm2
      by_cases hk : (keyAt rows mid == u) = true
      · rw [if_pos hk] at h
        cases h
        exact ⟨hm1, hm2, eq_of_beq hk⟩
      · rw [if_neg hk] at h
        by_cases hku : keyAt rows mid < u
        · rw [if_pos hku] at h
          obtain ⟨h1, h2, h3⟩ := ih _ _ _ h
          exact ⟨Nat.le_trans hm1 (Nat.le_of_succ_le h1), h2, h3⟩
        · rw [if_neg hku] at h
          obtain ⟨h1, h2, h3⟩ := ih _ _ _ h
          exact ⟨h1, Nat.lt_trans h2 hm2, h3⟩
    · rw [bsearch_of_le rows u _ (Nat.le_of_not_lt hlt)] at h
      cases h

/-- On ascending keys binary search finds the position of every key in its window: comparing the
probe's POSITION with `i` decides, by `KeysAsc`, how its key compares. -/
theorem bsearch_complete {rows : SRows} (hs : KeysAsc rows) {i : Nat} (hi : i < rows.size) :
    ∀ (fuel lo hi' : Nat), hi' ≤ rows.size → hi' < lo + fuel → lo ≤ i → i < hi' →
      bsearch rows (keyAt rows i) fuel lo hi' = some i := by
  intro fuel
  induction fuel with
  | zero => exact fun _ _ _ hf h1 h2 => absurd (Nat.lt_of_le_of_lt h1 h2) (Nat.lt_asymm hf)
  | succ f ih =>
    intro lo hi' hh hf h1 h2
    obtain ⟨hm1, hm2⟩ := mid_bounds (Nat.lt_of_le_of_lt h1 h2)
    rw [bsearch_step rows _ f (Nat.lt_of_le_of_lt h1 h2)]
    generalize (lo + hi') / 2 = mid at hm1 hm2
    rcases Nat.lt_trichotomy mid i with h | h | h
    · have hk := hs _ _ h hi
      rw [if_neg (by rw [beq_iff_eq]; exact Nat.ne_of_lt hk), if_pos hk]
      -- the fuel `f` still exceeds the width of `[mid + 1, hi')`
      exact ih _ _ hh (Nat.lt_of_lt_of_le hf (Nat.succ_add mid f ▸ Nat.succ_le_succ (Nat.add_le_add_right hm1 f)))
        h h2
    · rw [h, if_pos (beq_self_eq_true _)]
    · have hk := hs _ _ h (Nat.lt_of_lt_of_le hm2 hh)
      rw [if_neg (by rw [beq_iff_eq]; exact Nat.ne_of_gt hk), if_neg (Nat.lt_asymm hk)]
      exact ih _ _ (Nat.le_trans (Nat.le_of_lt hm2) hh) (Nat.lt_of_lt_of_le hm2 (Nat.le_of_lt_succ hf)) h1 h

theorem rankOf_spec (rows : SRows) (u : Nat) (hs : KeysAsc rows) (i : Nat) :
    rankOf rows u = some i ↔ (i < rows.size ∧ keyAt rows i = u) :=
  ⟨fun h => (bsearch_sound rows u _ _ _ i h).2,
   fun ⟨hi, hk⟩ => hk ▸ bsearch_complete hs hi _ 0 _ (Nat.le_refl _) ((Nat.zero_add _).symm ▸ Nat.lt_succ_self _)
    (Nat.zero_le _) hi⟩

def sstep (rows : SRows) (a : Nat × Nat) : SRows :=
  match rankOf rows a.1 with
  | some i => rows.modify i (fun r => (r.1, Tarjan.insertAsc a.2 r.2))
  | none => rows

theorem KeysAsc.inj {rows : SRows} (hs : KeysAsc rows) {i j : Nat} (hi : i < rows.size) (hj : j < rows.size)
    (h : keyAt rows i = keyAt rows j) : i = j := by
  rcases Nat.lt_trichotomy i j with hlt | heq | hgt
  · exact absurd h (Nat.ne_of_lt (hs i j hlt hj))
  · exact heq
  · exact absurd h (Nat.ne_of_gt (hs j i hgt hi))

theorem keyAt_modify_row (rows : SRows) (i j : Nat) (g : List Nat → List Nat) (hi : i < rows.size) :
    keyAt (rows.modify i (fun r => (r.1, g r.2))) j = keyAt rows j :=
  (congrArg Prod.fst (OracleProof.getD_modify_if rows i j _ _ fun e => e ▸ hi)).trans ((apply_ite Prod.fst ..).trans (ite_self _))

theorem rowAt_modify_row (rows : SRows) (i j : Nat) (g : List Nat → List Nat) (hi : i < rows.size) :
    rowAt (rows.modify i (fun r => (r.1, g r.2))) j = if i = j then g (rowAt rows j) else rowAt rows j :=
  (congrArg Prod.snd (OracleProof.getD_modify_if rows i j _ _ fun e => e ▸ hi)).trans (apply_ite Prod.snd ..)

theorem sstep_spec (rows : SRows) (a : Nat × Nat) (hs : KeysAsc rows) :
    (sstep rows a).size = rows.size ∧ (∀ j, keyAt (sstep rows a) j = keyAt rows j) ∧
    ∀ j, j < rows.size →
      ((rowAt rows j).Pairwise (· < ·) → (rowAt (sstep rows a) j).Pairwise (· < ·)) ∧
      ∀ v, v ∈ rowAt (sstep rows a) j ↔ (v ∈ rowAt rows j ∨ (keyAt rows j = a.1 ∧ v = a.2)) := by
  unfold sstep
  cases hr : rankOf rows a.1 with
  | none =>
    -- no position holds the key `a.1`
    refine ⟨rfl, fun _ => rfl, fun j hj => ⟨id, fun v => (or_iff_left fun h => ?_).symm⟩⟩
    have := (rankOf_spec rows a.1 hs j).2 ⟨hj, h.1⟩
    rw [hr] at this
    cases this
  | some i =>
    obtain ⟨hi, hki⟩ := (rankOf_spec rows a.1 hs i).1 hr
    refine ⟨Array.size_modify .., fun j => keyAt_modify_row rows i j _ hi, fun j hj => ?_⟩
    rw [rowAt_modify_row rows i j _ hi]
    by_cases h : i = j
    · subst h
      rw [if_pos rfl]
      refine ⟨Tarjan.sorted_insertAsc, fun v => ?_⟩
      rw [Tarjan.mem_insertAsc, or_comm, and_iff_right hki]
    · rw [if_neg h]
      -- only position `i` holds the key `a.1`
      exact ⟨id, fun v => (or_iff_left fun h' => h (hs.inj hi hj (hki.trans h'.1.symm))).symm⟩

theorem keysAsc_congr {r r' : SRows} (h : KeysAsc r) (hsz : r'.size = r.size) (hk : ∀ j, keyAt r' j = keyAt r j) :
    KeysAsc r' := by
  intro i j hij hj
  rw [hk i, hk j]
  exact h i j hij (hsz ▸ hj)

theorem sfold_spec (arcs : List (Nat × Nat)) : ∀ rows : SRows, KeysAsc rows →
    (arcs.foldl sstep rows).size = rows.size ∧ (∀ j, keyAt (arcs.foldl sstep rows) j = keyAt rows j) ∧
    ∀ j, j < rows.size →
      ((rowAt rows j).Pairwise (· < ·) → (rowAt (arcs.foldl sstep rows) j).Pairwise (· < ·)) ∧
      ∀ v, v ∈ rowAt (arcs.foldl sstep rows) j ↔ (v ∈ rowAt rows j ∨ (keyAt rows j, v) ∈ arcs) := by
  induction arcs with
  | nil => intro rows _; exact ⟨rfl, fun _ => rfl, fun j _ => ⟨id, fun v => by simp⟩⟩
  | cons a as ih =>
    intro rows hs
    obtain ⟨s1, k1, r1⟩ := sstep_spec rows a hs
    obtain ⟨s2, k2, r2⟩ := ih (sstep rows a) (keysAsc_congr hs s1 k1)
    refine ⟨s2.trans s1, fun j => (k2 j).trans (k1 j), fun j hj => ?_⟩
    obtain ⟨a1, m1⟩ := r1 j hj
    obtain ⟨a2, m2⟩ := r2 j (s1 ▸ hj)
    refine ⟨fun h => a2 (a1 h), fun v => ?_⟩
    rw [List.foldl_cons, m2 v, m1 v, k1 j, List.mem_cons, or_assoc, Prod.ext_iff]

/-- The id-keyed rows `vgraphSparse` builds. -/
def sparseRows (d : GDesc) : SRows :=
  d.arcs.foldl sstep ((vertsOf d).map (fun v => (v, ([] : List Nat)))).toArray

theorem vgraphSparse_out (d : GDesc) (u : Nat) : (vgraphSparse d).out u =
    match rankOf (sparseRows d) u with
    | some i => rowAt (sparseRows d) i
    | none => [] := by rfl

theorem startRows_spec {vs : List Nat} (hs : vs.Pairwise (· < ·)) :
    let rows0 : SRows := (vs.map (fun v => (v, ([] : List Nat)))).toArray
    rows0.size = vs.length ∧ (∀ j (hj : j < vs.length), keyAt rows0 j = vs[j]) ∧ (∀ j, rowAt rows0 j = []) ∧
      KeysAsc rows0 := by
  intro rows0
  have hsz : rows0.size = vs.length := by simp [rows0]
  have hkey : ∀ j (hj : j < vs.length), keyAt rows0 j = vs[j] := fun j hj => by
    simp [keyAt, rows0, Array.getD_eq_getD_getElem?, hj]
  refine ⟨hsz, hkey, fun j => ?_, fun i j hij hj => ?_⟩
  · simp only [rowAt, rows0, Array.getD_eq_getD_getElem?, List.getElem?_toArray, List.getElem?_map]
    cases vs[j]? <;> rfl
  · rw [hsz] at hj
    rw [hkey i (Nat.lt_trans hij hj), hkey j hj]
    exact List.pairwise_iff_getElem.1 hs i j (Nat.lt_trans hij hj) hj hij

theorem sparseRows_spec (d : GDesc) (hrepr : (d.repr == "am") = true) :
    KeysAsc (sparseRows d) ∧ (∀ u, u ∈ vertsOf d → ∃ j, j < (sparseRows d).size ∧ keyAt (sparseRows d) j = u) ∧
    ∀ j, j < (sparseRows d).size → (rowAt (sparseRows d) j).Pairwise (· < ·) ∧
      ∀ v, v ∈ rowAt (sparseRows d) j ↔ (keyAt (sparseRows d) j, v) ∈ d.arcs := by
  obtain ⟨hsz0, hkey0, hrow0, hasc0⟩ := startRows_spec (vertsOf_am d hrepr).1
  obtain ⟨hsz, hkeys, hrows⟩ := sfold_spec d.arcs _ hasc0
  refine ⟨keysAsc_congr hasc0 hsz hkeys, fun u hu => ?_, fun j hj => ?_⟩
  · obtain ⟨j, hj, e⟩ := List.mem_iff_getElem.1 hu
    exact ⟨j, hsz ▸ hsz0 ▸ hj, (hkeys j).trans ((hkey0 j hj).trans e)⟩
  · obtain ⟨ha, hm⟩ := hrows j (hsz ▸ hj)
    rw [hrow0 j] at ha hm
    exact ⟨ha .nil, fun v => ((hm v).trans (or_iff_right List.not_mem_nil)).trans (by rw [← hkeys j]; rfl)⟩

theorem vgraphSparse_row (d : GDesc) (hrepr : (d.repr == "am") = true) (u : Nat) :
    ((vgraphSparse d).out u).Pairwise (· < ·) ∧ ∀ v, v ∈ (vgraphSparse d).out u ↔ (u, v) ∈ d.arcs := by
  obtain ⟨hasc, hkey, hrows⟩ := sparseRows_spec d hrepr
  rw [vgraphSparse_out]
  cases hr : rankOf (sparseRows d) u with
  | some i =>
    obtain ⟨hi, hk⟩ := (rankOf_spec _ u hasc i).1 hr
    exact hk ▸ hrows i hi
  | none =>
    -- the tail of a described arc is a key, so the search finds its row
    refine ⟨.nil, fun v => ⟨nofun, fun harc => ?_⟩⟩
    obtain ⟨j, hj⟩ := hkey u (((vertsOf_am d hrepr).2 u).2 (.inl (.inr (List.mem_map_of_mem (f := (·.1)) harc))))
    have := (rankOf_spec _ u hasc j).2 hj
    rw [hr] at this
    cases this

end GraafVerif.Compose
