import GraafVerif.Proof.ChkGenRt
import GraafVerif.Proof.AlgoGen2Johnson
/-!
# C13 on the regenerated `Johnson75` (`Model/AlgoGen2.lean`, generated from `src/algo/johnson_75.rs`)

The safety statement is TRANSPORTED through `Proof/AlgoGen2Johnson.lean`: `circuits`, `circuit`, `unblock` `Agree` with the
hand-written functions (the generated call returns the hand-written value or is out of fuel), and neither is a `ub` value.
`Thm/C13Gen.lean` has the statements.
-/
namespace GraafVerif.C13Gen
open GraafVerif GraafVerif.AlgoGen GraafVerif.AlgoGenThm

theorem noUB_of_agree {α : Type} {r : Res α} {h : α} (ha : Johnson75.Agree r h) : NoUB r := by
  rcases ha with e | e
  · exact e ▸ noUB_div
  · exact e ▸ noUB_ok _

/-- `Johnson75::circuits` on every digraph whose out-neighbours are vertices (the `AdjacencyMap` invariant),
contiguous or not (the leading `assert!` rejects the others), on every object satisfying `JInv` — in
particular the one `Johnson75::new` returns. -/
theorem johnsonCircuits_noUB (a : GraafVerif.Johnson.AM) (hclosed : ∀ u ∈ a.verts, ∀ v ∈ a.out u, v ∈ a.verts)
    (F : Nat) (hF : F ≤ a.order + 1) (st : GraafVerif.Johnson.JState) (hinv : Johnson75.JInv a.order st) :
    NoUB (AlgoGen.Johnson75.circuits a F (Johnson75.ofH st)) := by
  cases hall : a.verts.all (fun u => decide (u < a.order)) with
  | false => rw [Johnson75.circuits_panic a F _ hall]; exact noUB_panic
  | true =>
    have hlt : ∀ u ∈ a.verts, u < a.order := fun u hu => of_decide_eq_true (List.all_eq_true.mp hall u hu)
    exact noUB_of_agree (Johnson75.circuits_eq a ⟨hlt, hclosed⟩ F hF st hinv)

end GraafVerif.C13Gen
