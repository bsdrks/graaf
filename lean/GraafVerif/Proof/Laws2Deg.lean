import GraafVerif.Proof.LawsDeg
/-!
# Laws2 — sizes and degree facts of `star`, `wheel`, `path`, `biclique` (exact order conditions)

`symmetric ⇒ balanced`; out-degrees of the generated digraphs from their defining arc sets; `is_regular`
as an `⇔` in the parameters; `size`.  Generic over a `Rep` bundle, as `Proof/LawsGen.lean`.
-/
namespace GraafVerif.Laws2
open GraafVerif.Ops GraafVerif.Query GraafVerif.Pred GraafVerif.GenSpec GraafVerif.Gen GraafVerif.Laws

theorem symmetric_balanced {G : Digraph} (h : Def.IsSymmetric G) : Def.IsBalanced G := fun u _ => symmetric_indeg h u

theorem regular_in_out {G : Digraph} {n : Nat} (hv : G.verts = List.range n) (h : Def.IsRegular G) {a : Nat}
    (ha : a < n) : Spec.indegree G a = Spec.outdegree G a := regular_balanced h a (by rw [hv]; exact List.mem_range.mpr ha)

/-! ## a hub: vertex `0` joined to all others, every other vertex of out-degree `c` (`star`: `c = 1`, `wheel`: `c = 3`) -/

theorem hub_size {G : Digraph} {n c : Nat} (hn : 1 ≤ n) (hv : G.verts = List.range n)
    (ho : ∀ u, u < n → Spec.outdegree G u = if u = 0 then n - 1 else c) : Spec.size G = (c + 1) * (n - 1) := by
  rw [size_of_two_valued hv (· = 0) ho (List.pairwise_singleton _ 0) fun u =>
      List.mem_singleton.trans ⟨fun e => ⟨e ▸ hn, e⟩, And.right⟩,
    List.length_singleton, Nat.one_mul, Nat.succ_mul, Nat.mul_comm, Nat.add_comm]

theorem hub_regular_iff {G : Digraph} {n c : Nat} (hn : 2 ≤ n) (hv : G.verts = List.range n) (hs : Def.IsSymmetric G)
    (ho : ∀ u, u < n → Spec.outdegree G u = if u = 0 then n - 1 else c) : Def.IsRegular G ↔ n = c + 1 :=
  (regular_iff_of_two_valued hv hs (· = 0) ho (u₀ := 0) (u₁ := 1) (Nat.lt_of_lt_of_le (by decide) hn) hn rfl
    (by decide)).trans (Nat.sub_eq_iff_eq_add (Nat.le_of_succ_le hn))

theorem star_outdeg {G : Digraph} {n : Nat} (h : IsGen G n (StarDef n)) (u : Nat) (hu : u < n) :
    Spec.outdegree G u = if u = 0 then n - 1 else 1 := by
  split
  · next h0 =>
    subst h0
    rw [h.outdegree_row starDef_valid 0 (nodup_rangeFT 1 n) fun _ => star_row_hub, length_rangeFT]
  · next h0 =>
    exact h.outdegree_row starDef_valid u (List.pairwise_singleton _ 0) fun _ =>
      star_row_leaf (Nat.pos_of_ne_zero h0) hu

theorem star_regular_iff {G : Digraph} {n : Nat} (hn : 1 ≤ n) (h : IsGen G n (StarDef n)) : Def.IsRegular G ↔ n ≤ 2 := by
  have hs := h.symmetric (star_symmetric n)
  rcases Nat.eq_or_lt_of_le hn with h1 | h2
  · subst h1
    exact iff_of_true (regular_of_symmetric h.verts hs fun u hu => by
      rw [star_outdeg h u hu, if_pos (Nat.lt_one_iff.mp hu)]) (by decide)
  · exact (hub_regular_iff h2 h.verts hs (star_outdeg h)).trans ⟨Nat.le_of_eq, fun h => Nat.le_antisymm h h2⟩

theorem path_regular_iff {G : Digraph} {n : Nat} (hn : 1 ≤ n) (h : IsGen G n (PathDef n)) :
    (Def.IsRegular G ↔ n = 1) ∧ (Def.IsBalanced G ↔ n = 1) := by
  have hb : Def.IsBalanced G → n = 1 := fun hb => Classical.byContradiction fun hne => by
    have := hb 0 ((mem_verts h.verts).mpr hn)
    rw [h.indegree_zero fun y x => Nat.succ_ne_zero y x.2.symm, path_outdeg h 0,
      if_pos (Nat.lt_of_le_of_ne hn (Ne.symm hne))] at this
    cases this
  have hr : n = 1 → Def.IsRegular G := fun e => by
    subst e
    exact (h.arcless fun a b x => Nat.not_succ_le_zero a (Nat.le_of_succ_le_succ x.1)).1
  exact ⟨⟨fun x => hb (regular_balanced x), hr⟩, ⟨hb, fun e => regular_balanced (hr e)⟩⟩

theorem biclique_regular_iff {G : Digraph} {m n : Nat} (hm : 1 ≤ m) (hn : 1 ≤ n) (h : IsGen G (m + n) (BicliqueDef m n)) :
    Def.IsRegular G ↔ m = n :=
  (regular_iff_of_two_valued h.verts (h.symmetric (biclique_symmetric m n)) (· < m) (biclique_outdeg h) (u₀ := 0) (u₁ := m)
    (Nat.lt_of_lt_of_le hm (Nat.le_add_right m n)) (Nat.lt_add_of_pos_right hn) hm (Nat.lt_irrefl m)).trans eq_comm

theorem rimNext_rimNext_ne {n u : Nat} (hn : 4 ≤ n) (hu : u < n) : rimNext n (rimNext n u) ≠ u :=
  next_next_ne rimNext_cases hn hu

/-- the hub sees all of `1..n-1`; a rim vertex sees the hub and its two neighbours on the rim -/
theorem wheel_outdeg {G : Digraph} {n : Nat} (hn : 4 ≤ n) (h : IsGen G n (WheelDef n)) (u : Nat) (hu : u < n) :
    Spec.outdegree G u = if u = 0 then n - 1 else 3 := by
  split
  · next h0 =>
    subst h0
    rw [h.outdegree_row (wheelDef_valid (Nat.le_of_succ_le hn)) 0 (nodup_rangeFT 1 n) fun _ => wheel_row_hub,
      length_rangeFT]
  · next h0 =>
    have h1 : 1 ≤ u := Nat.pos_of_ne_zero h0
    have h3 : 3 ≤ n := Nat.le_of_succ_le hn
    obtain ⟨p1, _, pe⟩ := (eq_rimPrev_iff h3 h1 hu).mp rfl
    refine h.outdegree_row (wheelDef_valid h3) u (row := [0, rimPrev n u, rimNext n u]) ?_ fun _ =>
      wheel_row_rim h3 h1 hu
    refine List.nodup_cons.mpr ⟨fun x => ?_, List.pairwise_pair.mpr fun e => rimNext_rimNext_ne hn hu ?_⟩
    · rw [List.mem_cons, List.mem_singleton] at x
      exact x.elim (fun c => absurd (c ▸ p1) (by decide)) fun c => absurd (c ▸ rimNext_pos n u) (by decide)
    · rw [← e, ← pe]

theorem wheel_regular_iff {G : Digraph} {n : Nat} (hn : 4 ≤ n) (h : IsGen G n (WheelDef n)) : Def.IsRegular G ↔ n = 4 :=
  hub_regular_iff (Nat.le_trans (by decide) hn) h.verts (h.symmetric (wheel_symmetric n)) (wheel_outdeg hn h)

theorem wheel4_of_complete : ∀ u, u < 4 → ∀ v, v < 4 → u ≠ v → WheelDef 4 u v := by decide

theorem wheel4_eq_complete : genDG 4 (WheelDef 4) = genDG 4 (CompleteDef 4) :=
  DG.ext_iff'.mpr ⟨fun _ => Iff.rfl, fun u v =>
    ⟨wheelDef_valid (by decide) u v, fun x => wheel4_of_complete u x.1 v x.2.1 x.2.2⟩⟩

namespace Rep
open GraafVerif.Laws.Rep
variable {R : Type} {M : Laws.Rep R}

theorem symmetric_balanced' {g : R} (hg : M.WF g) (h : M.isSymmetric g = true) : M.isBalanced g = some true :=
  (balanced_iff hg).mpr (symmetric_balanced ((M.unary g hg).symmetric.mp h))

theorem gen_star_degrees {n : Nat} (hn : 1 ≤ n) (hf : M.fits n) :
    ∃ s, M.fam.star n = some s ∧ M.size s = 2 * (n - 1) ∧ M.isBalanced s = some true ∧
      (M.isRegular s = some true ↔ n ≤ 2) := by
  obtain ⟨s, e, hs, hg⟩ := g_star (M := M) hn hf
  exact ⟨s, e, (size_eq hs).trans (hub_size hn hg.verts (star_outdeg hg)),
    (balanced_iff hs).mpr (symmetric_balanced (hg.symmetric (star_symmetric n))),
    (regular_iff hs).trans (star_regular_iff hn hg)⟩

theorem gen_path_degrees {n : Nat} (hn : 1 ≤ n) (hf : M.fits n) :
    ∃ p, M.fam.path n = some p ∧ (M.isRegular p = some true ↔ n = 1) ∧ (M.isBalanced p = some true ↔ n = 1) := by
  obtain ⟨p, e, hp, hg⟩ := g_path (M := M) hn hf
  exact ⟨p, e, (regular_iff hp).trans (path_regular_iff hn hg).1, (balanced_iff hp).trans (path_regular_iff hn hg).2⟩

theorem gen_biclique_degrees {m n : Nat} (hm : 1 ≤ m) (hn : 1 ≤ n) (hf : M.fits (m + n)) :
    ∃ b, M.fam.biclique m n = some b ∧ M.isBalanced b = some true ∧ (M.isRegular b = some true ↔ m = n) := by
  obtain ⟨b, e, hb, hg⟩ := g_biclique (M := M) hm hn hf
  exact ⟨b, e, (balanced_iff hb).mpr (symmetric_balanced (hg.symmetric (biclique_symmetric m n))),
    (regular_iff hb).trans (biclique_regular_iff hm hn hg)⟩

theorem gen_wheel_degrees {n : Nat} (hn : 4 ≤ n) (hf : M.fits n) :
    ∃ w k, M.fam.wheel n = some w ∧ M.fam.complete n = some k ∧ M.size w = 4 * (n - 1) ∧ M.isBalanced w = some true ∧
      (M.isRegular w = some true ↔ n = 4) ∧ (w = k ↔ n = 4) := by
  have hn1 : 1 ≤ n := Nat.le_trans (by decide) hn
  obtain ⟨w, e, hw, hg⟩ := g_wheel (M := M) hn hf
  obtain ⟨k, e2, hk, gk⟩ := g_complete (M := M) hn1 hf
  have sw : M.size w = 4 * (n - 1) := (size_eq hw).trans (hub_size hn1 hg.verts (wheel_outdeg hn hg))
  refine ⟨w, k, e, e2, sw, (balanced_iff hw).mpr (symmetric_balanced (hg.symmetric (wheel_symmetric n))),
    (regular_iff hw).trans (wheel_regular_iff hn hg), fun ewk => ?_, fun e4 => ?_⟩
  · -- equal digraphs have equally many arcs: `4(n-1) = n(n-1)`
    rw [ewk, size_eq hk, size_of_const gk.verts (complete_outdeg gk)] at sw
    exact Nat.eq_of_mul_eq_mul_right (Nat.sub_pos_of_lt (Nat.lt_of_lt_of_le (by decide) hn)) sw
  · subst e4
    exact eq_of_abs hw hk (by rw [abs_gen hg, abs_gen gk, wheel4_eq_complete])

end Rep
end GraafVerif.Laws2
