import GraafVerif.Proof.ChkGenPredTree
import GraafVerif.Proof.AlgoGenBfs
import GraafVerif.Proof.AlgoGenDfs
/-!
# C13 on the regenerated BFS and DFS families (`Model/AlgoGen.lean`, generated from `src/algo/{bfs*,dfs*}.rs`)

`Proof/AlgoGenBfs.lean` / `AlgoGenDfs.lean` prove `new` and `next` equal to the lifted hand-written functions for EVERY
digraph (`g.out` arbitrary: successors may exceed the order), source list, state and fuel, and the hand-written models have no `ub` outcome.  So a generated `next` is safe in every state, and it keeps what
the hand-written `next` keeps: `AlgoGenThm.QInv` (`visited.len() = n`, queued vertices below `n`) for the breadth-first
family, the length of `visited` for the depth-first one — read through `toH`.  `distances` / `predecessors` are equal to
lifted hand-written values under that invariant, for every fuel.  `shortest_path` and `cycles` are walked through with the
calculus of `Proof/ChkGenRt.lean`: their equalities hold from `order + 2 ≤ fuel` on only; the calls into
`PredecessorTree` are those of `Proof/ChkGenPredTree.lean`.
-/
namespace GraafVerif.C13Gen
open GraafVerif GraafVerif.AlgoGen GraafVerif.AlgoGenThm

theorem rsafe_liftBR {α σ : Type} {f : α → σ} {r : GraafVerif.Bfs.Res α} {Q : σ → Prop}
    (h : ∀ a, r = .ok a → Q (f a)) : RSafe (liftBR f r) Q := by
  cases r with
  | panic => trivial
  | ok a => exact h a rfl

end GraafVerif.C13Gen

/-! No lifted result of a hand-written model is a `ub`: stated with `AlgoGenThm.NoUB`, the four serve `Thm/AlgoGen.lean` too. -/
namespace GraafVerif.AlgoGenThm
open GraafVerif GraafVerif.AlgoGen

theorem noUB_liftBR {α σ : Type} (f : α → σ) (r : GraafVerif.Bfs.Res α) : NoUB (liftBR f r) :=
  C13Gen.noUB_iff.2 (C13Gen.rsafe_liftBR (Q := fun _ => True) fun _ _ => trivial).noUB
theorem noUB_liftStep {L ι S : Type} (item : Nat × L → ι) (ofH : GraafVerif.Bfs.St L → S) (s0 : S)
    (r : GraafVerif.Bfs.Step L) : NoUB (liftStep item ofH s0 r) := by
  intro site h; cases r <;> cases h
theorem noUB_liftNext {α ι S : Type} (item : Nat × α → ι) (ofH : GraafVerif.Dfs.St α → S) (s0 : S)
    (r : GraafVerif.Dfs.Next α) : NoUB (liftNext item ofH s0 r) := by
  intro site h; cases r <;> cases h
theorem noUB_liftP (r : PredTree.Res) : NoUB (PredecessorTree.liftP r) :=
  C13Gen.noUB_iff.2 (C13Gen.PredecessorTree.rsafe_liftP r).noUB

end GraafVerif.AlgoGenThm

namespace GraafVerif.C13Gen
open GraafVerif GraafVerif.AlgoGen GraafVerif.AlgoGenThm

section bfs
variable {L ι S : Type} {item : Nat × L → ι} {toH : S → GraafVerif.Bfs.St L} {ofH : GraafVerif.Bfs.St L → S}
  {g : Graph} {lab : GraafVerif.Bfs.Lab L} {next : S → Res (Option ι × S)}

theorem bfsNext_noUB (hnext : ∀ s, next s = liftStep item ofH s (GraafVerif.Bfs.next g lab (toH s))) (s : S) :
    NoUB (next s) :=
  hnext s ▸ noUB_iff.1 (noUB_liftStep _ _ _ _)

variable (h2 : ∀ st, toH (ofH st) = st)
include h2

theorem bfsNew_safe {new : Res S} {Srcs : List Nat} (hnew : new = liftBR ofH (GraafVerif.Bfs.new g lab Srcs)) :
    RSafe new (fun s => QInv g.n (toH s)) :=
  hnew ▸ rsafe_liftBR fun st e => (h2 st).symm ▸ new_qinv g lab Srcs st e

theorem bfsNext_safe (hnext : ∀ s, next s = liftStep item ofH s (GraafVerif.Bfs.next g lab (toH s))) {n : Nat} (s : S)
    (h : QInv n (toH s)) :
    RSafe (next s) (fun r => QInv n (toH r.2) ∧ ∀ y, r.1 = some y → ∃ x : Nat × L, y = item x ∧ x.1 < n) := by
  rw [hnext s]
  cases hn : GraafVerif.Bfs.next g lab (toH s) with
  | done => exact ⟨h, nofun⟩
  | panic => trivial
  | yield x st =>
    obtain ⟨h3, h4⟩ := next_qinv g lab n _ _ _ h hn
    exact ⟨(h2 st).symm ▸ h3, fun y hy => ⟨x, (Option.some.inj hy).symm, h4⟩⟩

end bfs

section dfs
variable {α ι S : Type} {item : Nat × α → ι} {toH : S → GraafVerif.Dfs.St α} {ofH : GraafVerif.Dfs.St α → S}
  {g : Graph} {child : Nat → α → α} {next : S → Res (Option ι × S)}

theorem dfsNext_noUB (hnext : ∀ s, next s = liftNext item ofH s (GraafVerif.Dfs.next g child (toH s))) (s : S) :
    NoUB (next s) :=
  hnext s ▸ noUB_iff.1 (noUB_liftNext _ _ _ _)

theorem dfsNext_safe (h2 : ∀ st, toH (ofH st) = st)
    (hnext : ∀ s, next s = liftNext item ofH s (GraafVerif.Dfs.next g child (toH s))) {n : Nat} (s : S)
    (h : (toH s).visited.length = n) :
    RSafe (next s) (fun r => (toH r.2).visited.length = n ∧ ∀ y, r.1 = some y → ∃ x : Nat × α, y = item x ∧ x.1 < n) := by
  rw [hnext s]
  have hl := dfs_next_len g child (toH s)
  cases hn : GraafVerif.Dfs.next g child (toH s) with
  | done => exact ⟨h, nofun⟩
  | panic => trivial
  | stale st =>
    rw [hn] at hl
    exact ⟨(h2 st).symm ▸ hl.trans h, nofun⟩
  | item x st =>
    rw [hn] at hl
    exact ⟨(h2 st).symm ▸ hl.2.trans h, fun y hy => ⟨x, (Option.some.inj hy).symm, h ▸ hl.1⟩⟩

end dfs

/-! ## `BfsPred::{shortest_path, cycles}` on every state satisfying the invariant, every fuel -/

namespace BfsPred

/-- The invariant of `new` / `next`, on the generated state. -/
abbrev Inv (n : Nat) (s : AlgoGen.BfsPred) : Prop := QInv n (AlgoGenThm.BfsPred.toH s)

theorem next_safe (g : Graph) {n : Nat} (s : AlgoGen.BfsPred) (h : Inv n s) :
    RSafe (AlgoGen.BfsPred.next g s) (fun r => Inv n r.2 ∧ ∀ y, r.1 = some y → y.2 < n) :=
  (bfsNext_safe AlgoGenThm.BfsPred.toH_ofH (AlgoGenThm.BfsPred.next_eq g) s h).mono
    fun _ hr => ⟨hr.1, fun y hy => by obtain ⟨x, rfl, hx⟩ := hr.2 y hy; exact hx⟩

theorem shortestPath_safe (g : Graph) (fuel : Nat) (s : AlgoGen.BfsPred) (isT : Nat → Bool) (h : Inv g.n s) :
    RSafe (AlgoGen.BfsPred.shortestPath g fuel s isT) (fun _ => True) := by
  unfold AlgoGen.BfsPred.shortestPath
  refine safe_fnBody ?_
  refine safe_bind (safe_call (PredecessorTree.new_safe g.n)) (fun t0 ht0 => ?_)
  refine safe_bind (safe_iterLoopS (Inv g.n) (fun x => x.2 < g.n) (fun p => p.pred.length = g.n)
    (fun t ht => next_safe g t ht) (fun t p x _ hp hx => ?_) fuel s _ h ht0) (fun t1 _ => safe_pure trivial)
  unfold AlgoGen.BfsPred.shortestPath_for0
  refine safe_bind (safe_wr_len _ _ _ _ _ hp hx) (fun t1 ht1 => ?_)
  refine safe_ite (fun _ => ?_) (fun _ => safe_pure ht1)
  exact safe_bind (safe_call (PredecessorTree.searchBy_safe _ _ _ _)) (fun _ _ => safe_ret trivial)

theorem cycles_for0_safe {R : List (List Nat) × AlgoGen.BfsPred → Prop} (fuel : Nat) (pred : AlgoGen.PredecessorTree) (v : Nat)
    (cycles : List (List Nat)) (x : Nat) :
    Safe (AlgoGen.BfsPred.cycles_for0 fuel pred v cycles x) (fun _ => True) (fun _ => True) R := by
  unfold AlgoGen.BfsPred.cycles_for0
  refine safe_bind (safe_call (PredecessorTree.search_safe _ _ _ _)) (fun t4 _ => ?_)
  cases t4 <;> exact safe_pure trivial

theorem cycles_safe (g : Graph) (fuel : Nat) (s : AlgoGen.BfsPred) (h : Inv g.n s) :
    RSafe (AlgoGen.BfsPred.cycles g fuel s) (fun _ => True) := by
  unfold AlgoGen.BfsPred.cycles
  refine safe_fnBody ?_
  refine safe_bind (safe_call (PredecessorTree.new_safe g.n)) (fun t0 ht0 => ?_)
  refine safe_bind (safe_whileLoop (fun st => Inv g.n st.1 ∧ st.2.1.pred.length = g.n) (fun st hst => ?_) fuel _ ⟨h, ht0⟩)
    (fun _ _ => safe_pure trivial)
  obtain ⟨hs, hp⟩ := hst
  unfold AlgoGen.BfsPred.cycles_while0
  refine safe_bind (safe_call (next_safe g st.1 hs)) (fun t1 ht1 => ?_)
  cases ho : t1.1 with
  | none => exact safe_brk ⟨ht1.1, hp⟩
  | some t2 =>
    refine safe_bind (safe_wr_len _ _ _ _ _ hp (ht1.2 t2 ho)) (fun t3 ht3 => ?_)
    refine safe_bind (safe_forLoop (fun _ => True) trivial (fun c x _ _ => cycles_for0_safe _ _ _ c x)) (fun _ _ => ?_)
    exact safe_pure ⟨ht1.1, ht3⟩

end BfsPred

end GraafVerif.C13Gen
