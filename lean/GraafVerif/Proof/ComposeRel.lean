import GraafVerif.Spec.Graph
/-!
# Compose — the declarative notions over a bare arc relation

The algorithm theorems (C03 … C10) speak about `Reach g`, `IsHopDist g`, `IsMinDist g` … of a
`Graph` / `WGraph` (an order and an out-neighbour LIST function).  Here the notions are restated
over a plain arc relation `A : Nat → Nat → Prop` (resp. `W : Nat → Nat → Int → Prop`) and shown to
be the very same predicates (`reach_eq : Reach g = RReach g.A` …), so that a statement over a
`Graph` can be transported along `g.A = A` by rewriting.
-/
namespace GraafVerif.Compose
open GraafVerif

abbrev Rel := Nat → Nat → Prop
/-- A weighted arc relation: `W u v w` = "`u → v` is an arc of weight `w`". -/
abbrev WRel := Nat → Nat → Int → Prop

inductive RReach (A : Rel) : Nat → Nat → Prop
  | refl (u) : RReach A u u
  | step {u v w} : RReach A u v → A v w → RReach A u w

def RReachFrom (A : Rel) (S : List Nat) (v : Nat) : Prop := ∃ s ∈ S, RReach A s v

/-- There is a walk with exactly `k` arcs from `u` to `v`. -/
inductive RReachIn (A : Rel) : Nat → Nat → Nat → Prop
  | zero (u) : RReachIn A 0 u u
  | succ {k u v w} : RReachIn A k u v → A v w → RReachIn A (k+1) u w

/-- `d` is the hop distance from the nearest source in `S` to `v`. -/
def RIsHopDist (A : Rel) (S : List Nat) (v d : Nat) : Prop :=
  (∃ s ∈ S, RReachIn A d s v) ∧ ∀ k, k < d → ¬ ∃ s ∈ S, RReachIn A k s v

def RIsWalk (A : Rel) : List Nat → Prop
  | [] => True
  | [_] => True
  | u :: v :: rest => A u v ∧ RIsWalk A (v :: rest)

theorem reach_eq (g : Graph) : Reach g = RReach g.A := by
  funext u v
  apply propext
  constructor
  · intro h; induction h with
    | refl => exact .refl _
    | step _ ha ih => exact .step ih ha
  · intro h; induction h with
    | refl => exact .refl _
    | step _ ha ih => exact .step ih ha

theorem reachIn_eq (g : Graph) : ReachIn g = RReachIn g.A := by
  funext k u v
  apply propext
  constructor
  · intro h; induction h with
    | zero u => exact .zero u
    | succ _ ha ih => exact .succ ih ha
  · intro h; induction h with
    | zero u => exact .zero u
    | succ _ ha ih => exact .succ ih ha

theorem reachFrom_eq (g : Graph) : ReachFrom g = RReachFrom g.A := by
  funext S v; simp only [ReachFrom, RReachFrom, reach_eq]

theorem isHopDist_eq (g : Graph) : IsHopDist g = RIsHopDist g.A := by
  funext S v d; simp only [IsHopDist, RIsHopDist, reachIn_eq]

theorem isWalk_eq (g : Graph) : IsWalk g = RIsWalk g.A := by
  funext p
  induction p with
  | nil => rfl
  | cons u rest ih =>
    cases rest with
    | nil => rfl
    | cons v rest => exact congrArg (g.A u v ∧ ·) ih

theorem rel_ext {A B : Rel} (h : ∀ u v, A u v ↔ B u v) : A = B := by
  funext u v; exact propext (h u v)

theorem RReach.mono {A B : Rel} (h : ∀ u v, A u v → B u v) {u v : Nat} (r : RReach A u v) : RReach B u v := by
  induction r with
  | refl => exact .refl _
  | step _ ha ih => exact .step ih (h _ _ ha)

theorem RReach.trans {A : Rel} {u v w : Nat} (h₁ : RReach A u v) (h₂ : RReach A v w) : RReach A u w := by
  induction h₂ with
  | refl => exact h₁
  | step _ ha ih => exact .step ih ha

theorem RReachIn.toReach {A : Rel} {k u v : Nat} (h : RReachIn A k u v) : RReach A u v := by
  induction h with
  | zero u => exact .refl u
  | succ _ ha ih => exact .step ih ha

/-- `RWWalk W u v k wt`: a walk from `u` to `v` with `k` arcs and total weight `wt`. -/
inductive RWWalk (W : WRel) : Nat → Nat → Nat → Int → Prop
  | nil (u) : RWWalk W u u 0 0
  | snoc {u v x k wt w} : RWWalk W u v k wt → W v x w → RWWalk W u x (k+1) (wt + w)

/-- `d` is the minimum weight of a walk from some source in `S` to `v`. -/
def RIsMinDist (W : WRel) (S : List Nat) (v : Nat) (d : Int) : Prop :=
  (∃ s ∈ S, ∃ k, RWWalk W s v k d) ∧ ∀ s ∈ S, ∀ k wt, RWWalk W s v k wt → d ≤ wt

def RWReachFrom (W : WRel) (S : List Nat) (v : Nat) : Prop := ∃ s ∈ S, ∃ k wt, RWWalk W s v k wt

def RNegCycleAt (W : WRel) (x : Nat) : Prop := ∃ k wt, 0 < k ∧ RWWalk W x x k wt ∧ wt < 0

theorem wwalk_eq (g : WGraph) : WWalk g = RWWalk g.A := by
  funext u v k wt
  apply propext
  constructor
  · intro h; induction h with
    | nil => exact .nil _
    | snoc _ ha ih => exact .snoc ih ha
  · intro h; induction h with
    | nil => exact .nil _
    | snoc _ ha ih => exact .snoc ih ha

theorem isMinDist_eq (g : WGraph) : IsMinDist g = RIsMinDist g.A := by
  funext S v d; simp only [IsMinDist, RIsMinDist, wwalk_eq]

theorem wreachFrom_eq (g : WGraph) : WReachFrom g = RWReachFrom g.A := by
  funext S v; simp only [WReachFrom, RWReachFrom, wwalk_eq]

theorem negCycleAt_eq (g : WGraph) : NegCycleAt g = RNegCycleAt g.A := by
  funext x; simp only [NegCycleAt, RNegCycleAt, wwalk_eq]

theorem wrel_ext {A B : WRel} (h : ∀ u v w, A u v w ↔ B u v w) : A = B := by
  funext u v w; exact propext (h u v w)

end GraafVerif.Compose
