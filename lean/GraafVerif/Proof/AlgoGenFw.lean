import GraafVerif.Model.AlgoGen
import GraafVerif.Proof.AlgoGenRt
import GraafVerif.Proof.AlgoGenSentinel
import GraafVerif.Proof.WWalk
import GraafVerif.Model.Fw
/-!
# Generated `FloydWarshall::distances` (`Model/AlgoGen.lean`) = hand-written `Fw.call` (`Model/Fw.lean`)

`Fw.call g m` is one call of `distances()` on an object whose matrix currently is `m` (flat,
`none` = `isize::MAX`): arc weights, zero diagonal, the triple loop.  The generated definition works
on the `DistanceMatrix` struct (`dist`, `infinity`, `order`; only `dist` changes) with numbers and
the sentinel `inf`.  Equality holds for every digraph whose arcs are in range and every matrix of
length `order²` without a finite entry equal to the sentinel, PROVIDED no arc weight is the
sentinel and no sum `a + b` computed along the hand-written execution reaches it (`CallOk`,
stated with `FoldOk` along the hand-written folds; the encoding and `forLoop_foldOk` are in `Proof/AlgoGenSentinel.lean`).
-/
namespace GraafVerif.AlgoGenThm
open GraafVerif GraafVerif.AlgoGen
open GraafVerif.Fw (Mat get put cell rowJ iterI loopTo setArcs zeroDiag)
open BellmanFordMoore (DInv FoldOk foldOk_true)

namespace FloydWarshall

theorem idx_lt {n u v : Nat} (hu : u < n) (hv : v < n) : u * n + v < n * n :=
  flatIdx_lt hu hv

/-- the generated struct around an encoded matrix (`infinity`, `order` are never touched) -/
def mk (inf : Int) (dm : AlgoGen.DistanceMatrix) (m : Mat) : AlgoGen.FloydWarshall :=
  ⟨{ dm with dist := encD inf m }⟩

/-- `dist[u * order + v] = x` on the structure around an encoded matrix. -/
theorem put_step {β ρ : Type} (site : String) (inf : Int) (n : Nat) (dm : AlgoGen.DistanceMatrix) (m : Mat)
    (u v : Nat) (x : Int) (hidx : u * n + v < m.length) :
    ((do let t ← wr site (encD inf m) (u * n + v) x
         pure (⟨{ dm with dist := t }⟩ : AlgoGen.FloydWarshall)) : Blk β ρ AlgoGen.FloydWarshall) =
      .ok (mk inf dm (put n m u v (some x))) := by
  rw [wr_lt site _ _ _ ((encD_length inf m).symm ▸ hidx), encD_set]
  rfl

/-- `dist[u * order + v]` read on an encoded matrix. -/
theorem rd_get {β ρ : Type} (site : String) (inf : Int) (n : Nat) (m : Mat) (u v : Nat) (h : u * n + v < m.length) :
    (rd site (encD inf m) (u * n + v) : Blk β ρ Int) = .ok ((get n m u v).getD inf) :=
  encD_rd site inf m (u * n + v) h

/-- `for (u, v, &w) in arcs_weighted() { dist[u * order + v] = w }` = the hand-written `setArcs`. -/
theorem distances_for0_eq (inf : Int) (n : Nat) (dm : AlgoGen.DistanceMatrix) (arcs : List (Nat × Nat × Int))
    (m : Mat) (hm : DInv inf (n * n) m) (harcs : ∀ a ∈ arcs, a.1 < n ∧ a.2.1 < n ∧ a.2.2 ≠ inf) :
    (forLoop (AlgoGen.FloydWarshall.distances_for0 n) arcs (mk inf dm m) :
        Blk Empty (AlgoGen.DistanceMatrix × AlgoGen.FloydWarshall) _) = .ok (mk inf dm (setArcs n m arcs)) ∧
      DInv inf (n * n) (setArcs n m arcs) := by
  refine forLoop_foldOk (mk inf dm) (AlgoGen.FloydWarshall.distances_for0 n)
    (fun m (a : Nat × Nat × Int) => put n m a.1 a.2.1 (some a.2.2)) (fun _ _ => True) (DInv inf (n * n)) arcs
    ?_ arcs m (fun _ h => h) hm (foldOk_true _ _ _)
  intro m a ha hi _
  obtain ⟨hu, hv, hw⟩ := harcs a ha
  exact ⟨put_step _ inf n dm m _ _ _ (hi.len ▸ flatIdx_lt hu hv), hi.set _ hw⟩

/-- `for i in 0..order { dist[i * order + i] = 0 }` = the hand-written `zeroDiag`. -/
theorem distances_for1_eq (inf : Int) (hinf : inf ≠ 0) (n : Nat) (dm : AlgoGen.DistanceMatrix)
    (m : Mat) (hm : DInv inf (n * n) m) :
    (forLoop (AlgoGen.FloydWarshall.distances_for1 n) (List.range n) (mk inf dm m) :
        Blk Empty (AlgoGen.DistanceMatrix × AlgoGen.FloydWarshall) _) = .ok (mk inf dm (zeroDiag n m)) ∧
      DInv inf (n * n) (zeroDiag n m) := by
  refine forLoop_foldOk (mk inf dm) (AlgoGen.FloydWarshall.distances_for1 n)
    (fun m (i : Nat) => put n m i i (some 0)) (fun _ _ => True) (DInv inf (n * n)) (List.range n)
    ?_ (List.range n) m (fun _ h => h) hm (foldOk_true _ _ _)
  intro m i hi' hi _
  have hin : i < n := List.mem_range.1 hi'
  exact ⟨put_step _ inf n dm m _ _ _ (hi.len ▸ flatIdx_lt hin hin), hi.set _ (Ne.symm hinf)⟩

/-- The sum of the `k` step stays below the sentinel. -/
def CellOk (inf : Int) (n i : Nat) (a : Int) (m : Mat) (k : Nat) : Prop :=
  ∀ b, get n m i k = some b → a + b < inf

/-- … at every `k` of the `j` step. -/
def RowOk (inf : Int) (n i : Nat) (m : Mat) (j : Nat) : Prop :=
  ∀ a, get n m j i = some a → FoldOk (CellOk inf n i a) (cell n i j a) (List.range n) m

/-- … at every `j` of the `i` step. -/
def IterOk (inf : Int) (n : Nat) (m : Mat) (i : Nat) : Prop :=
  FoldOk (RowOk inf n i) (rowJ n i) (List.range n) m

/-- `cell` on a finite `dist[i][k]`: the relaxation test of the Dijkstra model. -/
theorem cell_some {n i j k : Nat} {a b : Int} {m : Mat} (h : get n m i k = some b) :
    cell n i j a m k =
      if GraafVerif.Dijkstra.improves (a + b) (get n m j k) = true then put n m j k (some (a + b)) else m := by
  rw [cell, h]
  cases get n m j k with
  | none => rfl
  | some c => simp [GraafVerif.Dijkstra.improves]

/-- `for k in vertices() { .. }` for fixed `i`, `j`, `a` = the fold of the hand-written `cell`. -/
theorem distances_for4_eq {β : Type} (inf : Int) (n : Nat) (dm : AlgoGen.DistanceMatrix) (i j : Nat) (a : Int)
    (hi : i < n) (hj : j < n)
    (m : Mat) (hm : DInv inf (n * n) m) (hok : FoldOk (CellOk inf n i a) (cell n i j a) (List.range n) m) :
    (forLoop (AlgoGen.FloydWarshall.distances_for4 inf n i j a) (List.range n) (mk inf dm m) :
        Blk β (AlgoGen.DistanceMatrix × AlgoGen.FloydWarshall) _) =
        .ok (mk inf dm ((List.range n).foldl (cell n i j a) m)) ∧
      DInv inf (n * n) ((List.range n).foldl (cell n i j a) m) := by
  refine forLoop_foldOk (β := β) (ρ := AlgoGen.DistanceMatrix × AlgoGen.FloydWarshall) (mk inf dm)
    (AlgoGen.FloydWarshall.distances_for4 inf n i j a) (cell n i j a) (CellOk inf n i a) (DInv inf (n * n)) (List.range n)
    ?_ (List.range n) m (fun _ h => h) hm hok
  intro m k hk' hmi hcell
  have hk : k < n := List.mem_range.1 hk'
  have hjk : j * n + k < m.length := hmi.len ▸ flatIdx_lt hj hk
  unfold AlgoGen.FloydWarshall.distances_for4
  simp only [mk, rd_get _ inf n m i k (hmi.len ▸ flatIdx_lt hi hk), ok_bind]
  cases hgik : get n m i k with
  | none =>
    rw [cell, hgik]
    exact ⟨if_pos rfl, hmi⟩
  | some b =>
    have hsum := hcell b hgik
    rw [cell_some hgik]
    simp only [Option.getD_some, if_neg (hmi.ne_inf hgik), rd_get _ inf n m j k hjk, ok_bind,
      improves_iff_enc inf _ _ hsum]
    by_cases hc : GraafVerif.Dijkstra.improves (a + b) (get n m j k) = true
    · simp only [if_pos hc]
      exact ⟨put_step _ inf n dm m j k (a + b) hjk, hmi.set _ (Int.ne_of_lt hsum)⟩
    · simp only [if_neg hc]
      exact ⟨rfl, hmi⟩

/-- `for j in vertices() { let a = dist[j * order + i]; if a == MAX { continue } for k .. }` for
fixed `i` = the fold of the hand-written `rowJ`. -/
theorem distances_for3_eq {β : Type} (inf : Int) (dm : AlgoGen.DistanceMatrix) (i : Nat) (g : WGraph)
    (hi : i < g.n) (m : Mat) (hm : DInv inf (g.n * g.n) m) (hok : IterOk inf g.n m i) :
    (forLoop (AlgoGen.FloydWarshall.distances_for3 g inf g.n i) (List.range g.n) (mk inf dm m) :
        Blk β (AlgoGen.DistanceMatrix × AlgoGen.FloydWarshall) _) = .ok (mk inf dm (iterI g.n m i)) ∧
      DInv inf (g.n * g.n) (iterI g.n m i) := by
  refine forLoop_foldOk (β := β) (ρ := AlgoGen.DistanceMatrix × AlgoGen.FloydWarshall) (mk inf dm)
    (AlgoGen.FloydWarshall.distances_for3 g inf g.n i) (rowJ g.n i) (RowOk inf g.n i) (DInv inf (g.n * g.n)) (List.range g.n)
    ?_ (List.range g.n) m (fun _ h => h) hm hok
  intro m j hj' hmi hrow
  have hj : j < g.n := List.mem_range.1 hj'
  unfold AlgoGen.FloydWarshall.distances_for3
  simp only [mk, rd_get _ inf g.n m j i (hmi.len ▸ flatIdx_lt hj hi), ok_bind]
  rw [rowJ]
  cases hgji : get g.n m j i with
  | none => exact ⟨if_pos rfl, hmi⟩
  | some a =>
    simp only [Option.getD_some, if_neg (hmi.ne_inf hgji)]
    exact distances_for4_eq inf g.n dm i j a hi hj m hmi (hrow a hgji)

/-- `for i in vertices() { for j .. }` = the hand-written `loopTo`. -/
theorem distances_for2_eq {β : Type} (inf : Int) (dm : AlgoGen.DistanceMatrix) (g : WGraph) :
    ∀ (l : List Nat) (m : Mat), (∀ i ∈ l, i < g.n) → DInv inf (g.n * g.n) m → FoldOk (IterOk inf g.n) (iterI g.n) l m →
      (forLoop (AlgoGen.FloydWarshall.distances_for2 g inf g.n) l (mk inf dm m) :
          Blk β (AlgoGen.DistanceMatrix × AlgoGen.FloydWarshall) _) = .ok (mk inf dm (l.foldl (iterI g.n) m)) ∧
        DInv inf (g.n * g.n) (l.foldl (iterI g.n) m) := by
  intro l m hl hm hok
  refine forLoop_foldOk (β := β) (ρ := AlgoGen.DistanceMatrix × AlgoGen.FloydWarshall) (mk inf dm)
    (AlgoGen.FloydWarshall.distances_for2 g inf g.n) (iterI g.n) (IterOk inf g.n) (DInv inf (g.n * g.n)) l
    ?_ l m (fun _ h => h) hm hok
  intro m i hi' hmi hit
  obtain ⟨h1, h2⟩ := distances_for3_eq (β := AlgoGen.FloydWarshall) inf dm i g (hl i hi') m hmi hit
  unfold AlgoGen.FloydWarshall.distances_for2
  exact ⟨h1, h2⟩

/-- No sum of the whole call reaches the sentinel (along the hand-written execution). -/
def CallOk (inf : Int) (g : WGraph) (m : Mat) : Prop :=
  FoldOk (IterOk inf g.n) (iterI g.n) (List.range g.n) (zeroDiag g.n (setArcs g.n m (GraafVerif.Fw.arcsWeighted g)))

/-- `FloydWarshall::distances` (one call on an object whose matrix is `m`) = the hand-written
`Fw.call`: the returned `&DistanceMatrix` and the object afterwards. -/
theorem distances_eq (g : WGraph) (inf : Int) (hinf : inf ≠ 0) (dm : AlgoGen.DistanceMatrix) (m : Mat)
    (hwf : g.WF) (hw : ∀ u, ∀ vw ∈ g.out u, vw.2 ≠ inf) (hm : DInv inf (g.n * g.n) m) (hok : CallOk inf g m) :
    AlgoGen.FloydWarshall.distances g inf (mk inf dm m) =
      .ok ((mk inf dm (GraafVerif.Fw.call g m)).dist, mk inf dm (GraafVerif.Fw.call g m)) := by
  unfold AlgoGen.FloydWarshall.distances GraafVerif.Fw.call
  have harcs : arcsWeighted g = GraafVerif.Fw.arcsWeighted g := rfl
  have hA : ∀ a ∈ GraafVerif.Fw.arcsWeighted g, a.1 < g.n ∧ a.2.1 < g.n ∧ a.2.2 ≠ inf :=
    fun a ha => ⟨(arcList_lt hwf ha).1, (arcList_lt hwf ha).2, hw a.1 (a.2.1, a.2.2) (mem_arcList.mp ha).2⟩
  obtain ⟨h0, d0⟩ := distances_for0_eq inf g.n dm _ m hm hA
  obtain ⟨h1, d1⟩ := distances_for1_eq inf hinf g.n dm _ d0
  obtain ⟨h2, _⟩ := distances_for2_eq (β := Empty) inf dm g (List.range g.n) _ (fun i hi => List.mem_range.1 hi) d1 hok
  simp only [harcs, h0, ok_bind, h1, h2, pure_eq_ok, fnBody_ok, loopTo]

/-- On a freshly constructed object (`FloydWarshall::new`: every entry the sentinel) the call
computes the hand-written `Fw.distances g` — the matrix C08 is about. -/
theorem distances_fresh_eq (g : WGraph) (inf : Int) (hinf : inf ≠ 0) (dm : AlgoGen.DistanceMatrix)
    (hwf : g.WF) (hw : ∀ u, ∀ vw ∈ g.out u, vw.2 ≠ inf) (hok : CallOk inf g (List.replicate (g.n * g.n) none)) :
    AlgoGen.FloydWarshall.distances g inf ⟨{ dm with dist := List.replicate (g.n * g.n) inf }⟩ =
      .ok ((mk inf dm (GraafVerif.Fw.distances g)).dist, mk inf dm (GraafVerif.Fw.distances g)) := by
  have h := distances_eq g inf hinf dm (List.replicate (g.n * g.n) none) hwf hw
    ⟨by simp, fun x hx => by rw [List.eq_of_mem_replicate hx]; simp⟩ hok
  simp only [mk, encD_replicate] at h
  exact h

end FloydWarshall

end GraafVerif.AlgoGenThm
