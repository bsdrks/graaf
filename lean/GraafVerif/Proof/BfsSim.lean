import GraafVerif.Model.Bfs
/-!
# Simulation between labellings

If `f` commutes with two labellings then the iterator over the second labelling is, item by
item, the `f`-image of the iterator over the first — including panics, for every input.
Consequences: `Bfs` is the vertex projection of `BfsDist`; `BfsDist` and `BfsPred` are the two
projections of the level-and-predecessor labelling `labFull` used in the proofs.
-/
namespace GraafVerif.Bfs
open GraafVerif

variable {L L' : Type}

def Res.map {α β : Type} (f : α → β) : Res α → Res β
  | .panic => .panic
  | .ok a => .ok (f a)

structure LabHom (lab : Lab L) (lab' : Lab L') (f : L → L') : Prop where
  init : f lab.init = lab'.init
  child : ∀ u l, f (lab.child u l) = lab'.child u (f l)

def mapItem (f : L → L') (p : Nat × L) : Nat × L' := (p.1, f p.2)

def mapSt (f : L → L') (st : St L) : St L' := ⟨st.queue.map (mapItem f), st.visited⟩

theorem discover_map (f : L → L') (lab : L) (st : St L) (v : Nat) :
    discover (f lab) (mapSt f st) v = mapSt f (discover lab st v) := by
  unfold discover
  by_cases h : isVis st.visited v = true <;> simp [mapSt, mapItem, h]

theorem scan_map (f : L → L') (lab : L) (vs : List Nat) (st : St L) :
    scan (f lab) vs (mapSt f st) = (scan lab vs st).map (mapSt f) := by
  induction vs generalizing st with
  | nil => rfl
  | cons v vs ih =>
    rw [scan, scan, show (mapSt f st).visited = st.visited from rfl]
    split
    · rw [discover_map, ih]
    · rfl

theorem newFrom_map (f : L → L') (lab0 : L) (S : List Nat) (st : St L) :
    newFrom (f lab0) S (mapSt f st) = (newFrom lab0 S st).map (mapSt f) := by
  induction S generalizing st with
  | nil => rfl
  | cons s S ih =>
    rw [newFrom, newFrom, show (mapSt f st).visited = st.visited from rfl]
    split
    · rw [← ih, mapSt, mapSt, List.map_append]
      rfl
    · rfl

theorem new_map (g : Graph) {lab : Lab L} {lab' : Lab L'} {f : L → L'} (hf : LabHom lab lab' f) (S : List Nat) :
    new g lab' S = (new g lab S).map (mapSt f) := by
  unfold new
  rw [← hf.init]
  exact newFrom_map f lab.init S ⟨[], List.replicate g.n false⟩

def Step.map (f : L → L') : Step L → Step L'
  | .done => .done
  | .panic => .panic
  | .yield x st => .yield (mapItem f x) (mapSt f st)

theorem next_map (g : Graph) {lab : Lab L} {lab' : Lab L'} {f : L → L'} (hf : LabHom lab lab' f) (st : St L) :
    next g lab' (mapSt f st) = (next g lab st).map f := by
  unfold next
  cases hq : st.queue with
  | nil => simp [mapSt, hq, Step.map]
  | cons p q =>
    obtain ⟨u, l⟩ := p
    simp only [mapSt, hq, List.map_cons, mapItem]
    rw [← hf.child]
    have := scan_map f (lab.child u l) (g.out u) ⟨q, st.visited⟩
    simp only [mapSt] at this
    rw [this]
    cases scan (lab.child u l) (g.out u) ⟨q, st.visited⟩ <;> simp [Res.map, Step.map, mapSt, mapItem]

theorem run_map (g : Graph) {lab : Lab L} {lab' : Lab L'} {f : L → L'} (hf : LabHom lab lab' f) :
    ∀ (fuel : Nat) (st : St L), run g lab' fuel (mapSt f st) = (run g lab fuel st).map (List.map (mapItem f)) := by
  intro fuel
  induction fuel with
  | zero => intro st; rfl
  | succ n ih =>
    intro st
    rw [run, run, next_map g hf]
    cases next g lab st with
    | done => rfl
    | panic => rfl
    | yield x st' =>
      simp only [Step.map, ih st']
      cases run g lab n st' <;> rfl

theorem iter_map (g : Graph) {lab : Lab L} {lab' : Lab L'} {f : L → L'} (hf : LabHom lab lab' f) (S : List Nat) :
    iter g lab' S = (iter g lab S).map (List.map (mapItem f)) := by
  unfold iter
  rw [new_map g hf S]
  cases new g lab S with
  | panic => rfl
  | ok st => simp only [Res.map]; exact run_map g hf _ st

theorem hom_dist_unit : LabHom labDist labUnit (fun _ => ()) := ⟨rfl, fun _ _ => rfl⟩
theorem hom_full_dist : LabHom labFull labDist (·.1) := ⟨rfl, fun _ _ => rfl⟩
theorem hom_full_pred : LabHom labFull labPred (·.2) := ⟨rfl, fun _ _ => rfl⟩

theorem bfs_eq_map_fst (g : Graph) (S : List Nat) :
    bfs g S = (bfsDist g S).map (List.map (·.1)) := by
  unfold bfs bfsDist
  rw [iter_map g hom_dist_unit S]
  cases iter g labDist S <;> simp [Res.map, mapItem, Function.comp_def]

theorem bfsDist_eq_full (g : Graph) (S : List Nat) :
    bfsDist g S = (iter g labFull S).map (List.map (fun p => (p.1, p.2.1))) :=
  iter_map g hom_full_dist S

theorem bfsPred_eq_full (g : Graph) (S : List Nat) :
    bfsPred g S = (iter g labFull S).map (List.map (fun p => (p.1, p.2.2))) :=
  iter_map g hom_full_pred S

end GraafVerif.Bfs
