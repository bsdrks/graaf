import GraafVerif.Data.Value
import Std.Data.String.ToInt
/-!
# The line-protocol value syntax round-trips (token level)

`Data/Value.lean` is the parsing glue of the correspondence driver.  Here the structural half of it
is proved: for every value `v` whose atoms are printable (not a bracket, not readable as an
integer), the token sequence a printer emits for `v` is parsed back to exactly `v` by `parseToks` —
for every nesting depth and every surrounding context (`parseToks_toToks`), so a whole line of
values round-trips (`Glue.line_roundtrip`), and the typed accessors invert the encoders the handlers
use (`nat?_ofNat`, `listOf?_ofNats`, `pairs_roundtrip`, `opt?_ofOptNat`, `bool?_ofBool`).

What stays trusted: the character-level tokeniser `tokens` (`String.replace` / `splitOn`), i.e. that
the text `toStr v` splits into `toToks v`.
-/
namespace GraafVerif.V

mutual
/-- The tokens printed for a value. -/
def toToks : V → List String
  | .i n => [toString n]
  | .a s => [s]
  | .l xs => "[" :: (toToksL xs ++ ["]"])
def toToksL : List V → List String
  | [] => []
  | x :: xs => toToks x ++ toToksL xs
end

mutual
/-- Atoms that can be printed: not a bracket and not an integer numeral. -/
def Printable : V → Prop
  | .i _ => True
  | .a s => s ≠ "[" ∧ s ≠ "]" ∧ s.toInt? = none
  | .l xs => PrintableL xs
def PrintableL : List V → Prop
  | [] => True
  | x :: xs => Printable x ∧ PrintableL xs
end

theorem parseToks_open (ts : List String) (stack : List (List V)) (cur : List V) :
    parseToks ("[" :: ts) stack cur = parseToks ts (cur :: stack) [] := by
  simp [parseToks]

theorem parseToks_close (ts : List String) (up : List V) (stack : List (List V)) (cur : List V) :
    parseToks ("]" :: ts) (up :: stack) cur = parseToks ts stack (V.l cur.reverse :: up) := by
  simp [parseToks]

theorem parseToks_tok (t : String) (ts : List String) (stack : List (List V)) (cur : List V)
    (h1 : t ≠ "[") (h2 : t ≠ "]") :
    parseToks (t :: ts) stack cur = parseToks ts stack (atomOrInt t :: cur) := by
  rw [parseToks]
  · exact fun h => h1 (by simpa using h)
  · intro _ _ _; exact h2
  · intro _; exact h2

theorem parseToks_unbalanced_close (ts : List String) (cur : List V) :
    parseToks ("]" :: ts) [] cur = none := by
  simp [parseToks]

theorem parseToks_unclosed (up : List V) (stack : List (List V)) (cur : List V) :
    parseToks [] (up :: stack) cur = none := by
  simp [parseToks]

theorem notInt_of_head (s : String) (c : Char) (cs : List Char) (h : s.toList = c :: cs)
    (hd : c.isDigit = false) (hu : c ≠ '_') (hm : c ≠ '-') : s.toInt? = none := by
  rw [String.toInt?_eq_none_iff]
  cases hh : s.isInt with
  | false => rfl
  | true =>
    rcases String.isInt_iff.1 hh with h1 | ⟨t, ht, _⟩
    · have := (String.isNat_iff.1 h1).2.1 c (by rw [h]; simp)
      simp [hd, hu] at this
    · have : s.toList = '-' :: t.toList := by rw [ht]; simp
      rw [h] at this; simp at this; exact absurd this.1 hm

theorem lb_notInt : "[".toInt? = none :=
  notInt_of_head _ '[' [] (by decide) (by decide) (by decide) (by decide)
theorem rb_notInt : "]".toInt? = none :=
  notInt_of_head _ ']' [] (by decide) (by decide) (by decide) (by decide)

theorem toString_int_toInt? (n : Int) : (toString n).toInt? = some n := Int.toInt?_repr n

theorem toString_int_ne_lb (n : Int) : toString n ≠ "[" := by
  intro h; have := toString_int_toInt? n; rw [h, lb_notInt] at this; cases this
theorem toString_int_ne_rb (n : Int) : toString n ≠ "]" := by
  intro h; have := toString_int_toInt? n; rw [h, rb_notInt] at this; cases this

theorem atomOrInt_int (n : Int) : atomOrInt (toString n) = .i n := by
  simp [atomOrInt]
theorem atomOrInt_atom (s : String) (h : s.toInt? = none) : atomOrInt s = .a s := by
  simp [atomOrInt, h]

mutual
theorem parseToks_toToks (v : V) (hv : Printable v) (rest : List String) (stack : List (List V))
    (cur : List V) : parseToks (toToks v ++ rest) stack cur = parseToks rest stack (v :: cur) := by
  cases v with
  | i n =>
    show parseToks (toString n :: rest) stack cur = _
    rw [parseToks_tok _ _ _ _ (toString_int_ne_lb n) (toString_int_ne_rb n), atomOrInt_int]
  | a s =>
    obtain ⟨h1, h2, h3⟩ : s ≠ "[" ∧ s ≠ "]" ∧ s.toInt? = none := hv
    show parseToks (s :: rest) stack cur = _
    rw [parseToks_tok _ _ _ _ h1 h2, atomOrInt_atom _ h3]
  | l xs =>
    have hx : PrintableL xs := hv
    show parseToks ("[" :: ((toToksL xs ++ ["]"]) ++ rest)) stack cur = _
    rw [parseToks_open, List.append_assoc, parseToks_toToksL xs hx, List.append_nil]
    show parseToks ("]" :: rest) (cur :: stack) xs.reverse = _
    rw [parseToks_close, List.reverse_reverse]
theorem parseToks_toToksL (xs : List V) (hx : PrintableL xs) (rest : List String)
    (stack : List (List V)) (cur : List V) :
    parseToks (toToksL xs ++ rest) stack cur = parseToks rest stack (xs.reverse ++ cur) := by
  cases xs with
  | nil => rfl
  | cons x xs =>
    obtain ⟨h1, h2⟩ : Printable x ∧ PrintableL xs := hx
    show parseToks ((toToks x ++ toToksL xs) ++ rest) stack cur = _
    rw [List.append_assoc, parseToks_toToks x h1, parseToks_toToksL xs h2, List.reverse_cons, List.append_assoc]
    rfl
end
@[simp] theorem nat?_ofNat (n : Nat) : nat? (ofNat n) = some n := by simp [nat?, ofNat]
@[simp] theorem int?_i (n : Int) : int? (.i n) = some n := rfl
@[simp] theorem bool?_ofBool (b : Bool) : bool? (ofBool b) = some b := by cases b <;> rfl

theorem listOf?_map {α : Type} {enc : α → V} {dec : V → Option α} (h : ∀ x, dec (enc x) = some x) (xs : List α) :
    listOf? dec (.l (xs.map enc)) = some xs := by
  show (xs.map enc).mapM dec = some xs
  induction xs with
  | nil => rfl
  | cons x xs ih => rw [List.map_cons, List.mapM_cons, h x, ih]; rfl

@[simp] theorem listOf?_ofNats (xs : List Nat) : listOf? nat? (ofNats xs) = some xs := listOf?_map nat?_ofNat xs

@[simp] theorem listOf?_ofInts (xs : List Int) : listOf? int? (ofInts xs) = some xs := listOf?_map int?_i xs

@[simp] theorem pair?_ofPair (p : Nat × Nat) : pair? nat? nat? (ofPair p) = some p := by
  simp [pair?, ofPair]

theorem pairs_roundtrip (xs : List (Nat × Nat)) : listOf? (pair? nat? nat?) (ofPairs xs) = some xs :=
  listOf?_map pair?_ofPair xs

theorem opt?_ofOptNat (o : Option Nat) : opt? nat? (ofOptNat o) = some o := by
  cases o with
  | none => simp [opt?, ofOptNat]
  | some n =>
    simp only [ofOptNat, ofNat]
    unfold opt?
    simp [nat?]

theorem printable_ofNat (n : Nat) : Printable (ofNat n) := by simp [ofNat, Printable]

theorem printableL_map {α : Type} {enc : α → V} (h : ∀ x, Printable (enc x)) : ∀ xs : List α, PrintableL (xs.map enc)
  | [] => trivial
  | x :: xs => ⟨h x, printableL_map h xs⟩

theorem printable_ofNats (xs : List Nat) : Printable (ofNats xs) := printableL_map printable_ofNat xs

theorem printable_ofPair (p : Nat × Nat) : Printable (ofPair p) := by
  simp [ofPair, Printable, PrintableL, printable_ofNat]

theorem printable_ofPairs (xs : List (Nat × Nat)) : Printable (ofPairs xs) := printableL_map printable_ofPair xs

/-- End to end for the commonest payload: a list of arcs printed as tokens is read back as the same
arcs. -/
theorem arcs_roundtrip (arcs : List (Nat × Nat)) :
    (parseToks (toToks (ofPairs arcs)) [] []).bind (fun vs => vs.head?.bind (listOf? (pair? nat? nat?)))
      = some arcs := by
  have h := parseToks_toToks (ofPairs arcs) (printable_ofPairs arcs) [] [] []
  simp only [List.append_nil] at h
  rw [h]
  simp [parseToks, pairs_roundtrip]

example : Printable (.l [.i 3, .a "none", .l [.i (-1), .l []]]) := by
  simp [Printable, PrintableL, notInt_of_head "none" 'n' ['o', 'n', 'e'] (by decide) (by decide) (by decide) (by decide)]
example : parseToks ["[", "1"] [] [] = none := by
  rw [parseToks_open, parseToks_tok _ _ _ _ (by decide) (by decide), parseToks_unclosed]
example : parseToks ["]"] [] [] = none := parseToks_unbalanced_close _ _

end GraafVerif.V
