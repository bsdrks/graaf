import GraafVerif.Spec.PredFamilies
import GraafVerif.Proof.Pred
/-!
# C12 — the oracle's executable definitions `DefB.*` decide `Def.*`; closed-form answers for the described families

One non-adjacent pair of distinct vertices refutes semicomplete, tournament and complete (`missing_pair`), so `complete minus
one pair` and the rule tournament with one pair missing answer `false` three times, for every order and every position of the
pair; `complete minus one arc` is semicomplete and not complete.
-/
namespace GraafVerif.Pred
open GraafVerif.Query

theorem mem_pairs (G : Digraph) (a b : Nat) : (a, b) ∈ DefB.pairs G ↔ a ∈ G.verts ∧ b ∈ G.verts := by
  simp only [DefB.pairs, List.mem_flatMap, List.mem_map, Prod.mk.injEq]
  constructor
  · rintro ⟨x, hx, y, hy, rfl, rfl⟩; exact ⟨hx, hy⟩
  · rintro ⟨ha, hb⟩; exact ⟨a, ha, b, hb, rfl, rfl⟩

theorem pairs_all_iff (G : Digraph) (X : Nat × Nat → Bool) (P : Nat → Nat → Prop) (h : ∀ u v, X (u, v) = true ↔ P u v) :
    (DefB.pairs G).all (fun p => p.1 == p.2 || X p) = true ↔ ∀ u ∈ G.verts, ∀ v ∈ G.verts, u ≠ v → P u v := by
  simp only [List.all_eq_true, Bool.or_eq_true, beq_iff_eq]
  constructor
  · intro hall u hu v hv huv
    exact (h u v).1 ((hall (u, v) ((mem_pairs G u v).2 ⟨hu, hv⟩)).resolve_left huv)
  · intro hP p hp
    have := (mem_pairs G p.1 p.2).1 hp
    exact (Decidable.em (p.1 = p.2)).imp_right fun e => (h p.1 p.2).2 (hP p.1 this.1 p.2 this.2 e)

theorem DefB.isComplete_iff (G : Digraph) : DefB.isComplete G = true ↔ Def.IsComplete G :=
  pairs_all_iff G (fun p => G.adj p.1 p.2) _ (fun _ _ => Iff.rfl)

theorem DefB.isSemicomplete_iff (G : Digraph) : DefB.isSemicomplete G = true ↔ Def.IsSemicomplete G := by
  simp only [DefB.isSemicomplete, Bool.or_assoc]
  exact pairs_all_iff G (fun p => G.adj p.1 p.2 || G.adj p.2 p.1) _ (fun _ _ => Bool.or_eq_true _ _ ▸ Iff.rfl)

theorem DefB.isTournament_iff (G : Digraph) : DefB.isTournament G = true ↔ Def.IsTournament G :=
  pairs_all_iff G (fun p => G.adj p.1 p.2 != G.adj p.2 p.1) _ (fun _ _ => bne_iff)

theorem missing_pair {G : Digraph} {u v : Nat} (hu : u ∈ G.verts) (hv : v ∈ G.verts) (huv : u ≠ v)
    (h1 : G.adj u v = false) (h2 : G.adj v u = false) :
    ¬ Def.IsSemicomplete G ∧ ¬ Def.IsTournament G ∧ ¬ Def.IsComplete G := by
  refine ⟨fun h => ?_, fun h => ?_, fun h => ?_⟩
  · rcases h u hu v hv huv with e | e
    · rw [h1] at e; exact Bool.false_ne_true e
    · rw [h2] at e; exact Bool.false_ne_true e
  · have := (h u hu v hv huv).2 h2
    rw [h1] at this; exact Bool.false_ne_true this
  · have := h u hu v hv huv
    rw [h1] at this; exact Bool.false_ne_true this

theorem DefB.false_of_missing_pair {G : Digraph} {u v : Nat} (hu : u ∈ G.verts) (hv : v ∈ G.verts) (huv : u ≠ v)
    (h1 : G.adj u v = false) (h2 : G.adj v u = false) :
    DefB.isSemicomplete G = false ∧ DefB.isTournament G = false ∧ DefB.isComplete G = false :=
  have hm := missing_pair hu hv huv h1 h2
  ⟨Bool.eq_false_iff.2 (mt (DefB.isSemicomplete_iff G).1 hm.1), Bool.eq_false_iff.2 (mt (DefB.isTournament_iff G).1 hm.2.1),
    Bool.eq_false_iff.2 (mt (DefB.isComplete_iff G).1 hm.2.2)⟩

namespace Fam

theorem mem_verts (n : Nat) (adj : Nat → Nat → Bool) (a : Nat) : a ∈ (ofAdj n adj).verts ↔ a < n := List.mem_range

theorem completeMinusPair_closed {n u v : Nat} (hu : u < n) (hv : v < n) (huv : u ≠ v) :
    DefB.isSemicomplete (completeMinusPair n u v) = false ∧ DefB.isTournament (completeMinusPair n u v) = false ∧
    DefB.isComplete (completeMinusPair n u v) = false :=
  DefB.false_of_missing_pair (G := completeMinusPair n u v) ((mem_verts n _ u).2 hu) ((mem_verts n _ v).2 hv) huv
    (by simp only [completeMinusPair, ofAdj, beq_self_eq_true, Bool.and_self, Bool.true_or, Bool.not_true, Bool.and_false])
    (by simp only [completeMinusPair, ofAdj, beq_self_eq_true, Bool.and_self, Bool.or_true, Bool.not_true, Bool.and_false])

theorem tourAdj_missing (n : Nat) {lo hi : Nat} (hlt : lo < hi) :
    tourAdj n lo hi lo hi = false ∧ tourAdj n lo hi hi lo = false := by
  have hle := Nat.le_of_lt hlt
  unfold tourAdj
  simp only [Nat.min_eq_left hle, Nat.max_eq_right hle, Nat.min_eq_right hle, Nat.max_eq_left hle, beq_self_eq_true,
    Bool.and_self, if_true, Bool.and_false, and_self]

theorem tourMinusPair_closed {n lo hi : Nat} (hlt : lo < hi) (hhi : hi < n) :
    DefB.isSemicomplete (tourMinusPair n lo hi) = false ∧ DefB.isTournament (tourMinusPair n lo hi) = false ∧
    DefB.isComplete (tourMinusPair n lo hi) = false :=
  DefB.false_of_missing_pair (G := tourMinusPair n lo hi) ((mem_verts n _ lo).2 (Nat.lt_trans hlt hhi))
    ((mem_verts n _ hi).2 hhi) (Nat.ne_of_lt hlt) (tourAdj_missing n hlt).1 (tourAdj_missing n hlt).2

theorem inRange_iff {n a b : Nat} : inRange n a b = true ↔ a < n ∧ b < n ∧ a ≠ b := by
  simp only [inRange, Bool.and_eq_true, decide_eq_true_eq, and_assoc]

theorem completeMinusArc_adj {n u v a b : Nat} :
    (completeMinusArc n u v).adj a b = true ↔ inRange n a b = true ∧ ¬ (a = u ∧ b = v) := by
  simp only [completeMinusArc, ofAdj, Bool.and_eq_true, Bool.not_eq_true', Bool.and_eq_false_imp, beq_iff_eq,
    beq_eq_false_iff_ne, ne_eq, not_and]

theorem completeMinusArc_closed {n u v : Nat} (hu : u < n) (hv : v < n) (huv : u ≠ v) :
    DefB.isSemicomplete (completeMinusArc n u v) = true ∧ DefB.isComplete (completeMinusArc n u v) = false := by
  constructor
  · rw [DefB.isSemicomplete_iff]
    intro a ha b hb hab
    have ha := (mem_verts n _ a).1 ha
    have hb := (mem_verts n _ b).1 hb
    rw [completeMinusArc_adj, completeMinusArc_adj]
    -- the arc `a → b` is there unless it is `u → v`, and then `b → a` is
    by_cases h1 : a = u
    · exact Or.inr ⟨inRange_iff.2 ⟨hb, ha, hab.symm⟩, fun e => hab (h1.trans e.1.symm)⟩
    · exact Or.inl ⟨inRange_iff.2 ⟨ha, hb, hab⟩, fun e => h1 e.1⟩
  · refine Bool.eq_false_iff.2 fun h => ?_
    have := (DefB.isComplete_iff _).1 h u ((mem_verts n _ u).2 hu) v ((mem_verts n _ v).2 hv) huv
    exact (completeMinusArc_adj.1 this).2 ⟨rfl, rfl⟩

end Fam
end GraafVerif.Pred
