import GraafVerif.Model.PredTree
/-! Lemmas for C19 (`PredecessorTree::search_by`): the chain of predecessor links, one iteration of
the loop, soundness of a returned path. -/
namespace GraafVerif.PredTree

theorem chain_succ_of_link {pred : Pred} {s v' : Nat} (h : (pred[s]?).getD none = some v') (k : Nat) :
    chain pred s (k+1) = chain pred v' k := by
  induction k with
  | zero => rw [chain, chain]; exact h
  | succ k ih => rw [chain, ih]; rfl

theorem chain_add {pred : Pred} {s x : Nat} {i : Nat} (h : chain pred s i = some x) (m : Nat) :
    chain pred s (i + m) = chain pred x m := by
  induction m with
  | zero => exact h
  | succ m ih => rw [← Nat.add_assoc, chain, ih]; rfl

theorem searchByFuel_of_get {pred : Pred} {s : Nat} {ps : Option Nat} (h : pred[s]? = some ps)
    (isT : Nat → Option Nat → Bool) (fuel : Nat) :
    searchByFuel pred s isT fuel =
      if isT s ps then .ret (some [s])
      else .ret (loop pred isT fuel s (List.replicate pred.length false) [s]) := by
  rw [searchByFuel, h]

theorem loop_succ_some {pred : Pred} {isT : Nat → Option Nat → Bool} {fuel s : Nat} {vis : List Bool}
    {path p : List Nat} :
    loop pred isT (fuel+1) s vis path = some p ↔
      ∃ v, pred[s]? = some v ∧
        ((isT s v = true ∧ p = path) ∨
         (isT s v = false ∧ ∃ v', v = some v' ∧ vis[v']? = some false ∧
            loop pred isT fuel v' (vis.set v' true) (if v' ≠ s then path ++ [v'] else path) = some p)) := by
  rw [loop]
  cases pred[s]? with
  | none => exact ⟨fun h => (nomatch h), fun h => h.elim fun _ h' => nomatch h'.1⟩
  | some v =>
    simp only []
    cases ht : isT s v with
    | true =>
      rw [if_pos rfl]
      refine ⟨fun h => ⟨v, rfl, .inl ⟨ht, (Option.some.inj h).symm⟩⟩, ?_⟩
      rintro ⟨_, ⟨rfl⟩, ⟨_, rfl⟩ | ⟨h, _⟩⟩
      · rfl
      · rw [ht] at h; cases h
    | false =>
      rw [if_neg Bool.false_ne_true]
      constructor
      · intro h
        refine ⟨v, rfl, .inr ⟨ht, ?_⟩⟩
        cases v with
        | none => cases h
        | some v' =>
          simp only [] at h
          cases hv : vis[v']? with
          | none => rw [hv] at h; cases h
          | some b =>
            rw [hv] at h
            cases b with
            | true => cases h
            | false => exact ⟨v', rfl, hv, h⟩
      · rintro ⟨_, ⟨rfl⟩, ⟨h, _⟩ | ⟨_, v', rfl, hv, h⟩⟩
        · rw [ht] at h; cases h
        · simp only [hv]; exact h

theorem loop_sound (pred : Pred) (isT) :
    ∀ (fuel s : Nat) (vis : List Bool) (path p : List Nat),
      vis.length = pred.length →
      loop pred isT fuel s vis path = some p →
      ∃ k, p = path ++ (List.range k).map (fun j => (chain pred s (j+1)).getD 0)
        ∧ (∃ x, chain pred s k = some x ∧ target pred isT x = true)
        ∧ ∀ j, j < k → ∀ y, chain pred s j = some y → target pred isT y = false := by
  intro fuel
  induction fuel with
  | zero => intro s vis path p _ h; cases h
  | succ fuel ih =>
    intro s vis path p hlen h
    obtain ⟨v, hv, ⟨ht, rfl⟩ | ⟨ht, v', rfl, hvis, h⟩⟩ := loop_succ_some.mp h
    · exact ⟨0, (List.append_nil _).symm, ⟨s, rfl, by rw [target, hv]; exact ht⟩,
        fun j hj => absurd hj (Nat.not_lt_zero j)⟩
    · have hlink : (pred[s]?).getD none = some v' := by rw [hv]; rfl
      have hts : target pred isT s = false := by rw [target, hv]; exact ht
      by_cases hvs : v' = s
      · -- self-reference: the next iteration finds `s` marked
        subst hvs
        cases fuel with
        | zero => cases h
        | succ f =>
          obtain ⟨_, hv2, ⟨ht2, _⟩ | ⟨_, _, h2, hvis2, _⟩⟩ := loop_succ_some.mp h
          · cases hv.symm.trans hv2
            rw [ht] at ht2; cases ht2
          · cases hv.symm.trans hv2
            cases h2
            rw [List.getElem?_set_self (List.getElem?_eq_some_iff.mp hvis).1] at hvis2
            cases hvis2
      · rw [if_pos hvs] at h
        obtain ⟨k, hp, ⟨x, hx, hxt⟩, hmin⟩ := ih v' (vis.set v' true) (path ++ [v']) p
          ((List.length_set ..).trans hlen) h
        refine ⟨k+1, ?_, ⟨x, (chain_succ_of_link hlink k).trans hx, hxt⟩, ?_⟩
        · rw [hp, List.range_succ_eq_map, List.map_cons, List.map_map, List.append_assoc,
            List.singleton_append]
          refine congrArg (path ++ ·) (congr (congrArg _ ?_) (List.map_congr_left fun j _ => ?_))
          · show v' = ((pred[s]?).getD none).getD 0
            rw [hlink]; rfl
          · exact congrArg (·.getD 0) (chain_succ_of_link hlink (j+1)).symm
        · intro j hj y hy
          cases j with
          | zero => cases hy; exact hts
          | succ j => exact hmin j (Nat.lt_of_succ_lt_succ hj) y ((chain_succ_of_link hlink j).symm.trans hy)

end GraafVerif.PredTree
