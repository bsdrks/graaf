import GraafVerif.Proof.OpsSorted
import GraafVerif.Proof.OpsAbs
import GraafVerif.Proof.OpsArc
import GraafVerif.Proof.GenAddArc
/-!
# `EdgeList::{complement, converse, union}` compute their set definitions

`complement` and `converse` collect a list of pairs into the arc set; `union` adds the arcs of one operand to the other
with `add_arc`, which is the fold of `Proof/OpsArc.lean` at `Gen.EL.repr`.
-/
namespace GraafVerif.Ops
open GraafVerif.Repr GraafVerif.Gen

theorem wfEL_sorted {d : EdgeList} (h : d.WF) : PSorted d.arcs := h.2.1

theorem absEL_V {d : EdgeList} {v : Nat} : (absEL d).V v ↔ v < d.order := List.mem_range

theorem absEL_A {d : EdgeList} {u v : Nat} : (absEL d).A u v ↔ (u, v) ∈ d.arcs := List.contains_iff_mem

theorem absEL_valid {d : EdgeList} (h : d.WF) : (absEL d).Valid := h.simple

theorem canonEL {a b : EdgeList} (ha : a.WF) (hb : b.WF) (h : absEL a = absEL b) : a = b :=
  canon_of_ext EdgeList.WF_iff_simple EdgeList.ext ha hb h

theorem okEL_of_arcs {r : EdgeList} {S : DG} (hn : 0 < r.order) (hs : PSorted r.arcs) (hV : ∀ v, v < r.order ↔ S.V v)
    (hA : ∀ u v, (u, v) ∈ r.arcs ↔ S.A u v) (hS : S.Valid) : r.WF ∧ absEL r = S :=
  ok_of_reads EdgeList.WF_iff_simple ⟨hn, hs⟩ (fun v => absEL_V.trans (hV v)) (fun u v => absEL_A.trans (hA u v)) hS

theorem mem_allPairs {n u v : Nat} : (u, v) ∈ allPairs n ↔ u < n ∧ v < n ∧ u ≠ v := by
  unfold allPairs
  simp only [List.mem_flatMap, List.mem_range, List.mem_map, Prod.mk.injEq]
  constructor
  · rintro ⟨u', hu', v', hv', rfl, rfl⟩
    exact ⟨hu', ((mem_range_skip hu').mp hv').imp_right Ne.symm⟩
  · rintro ⟨hu, hv, huv⟩
    exact ⟨u, hu, v, (mem_range_skip hu).mpr ⟨hv, huv.symm⟩, rfl, rfl⟩

theorem mem_complementEL {d : EdgeList} {u v : Nat} :
    (u, v) ∈ (complementEL d).arcs ↔ u < d.order ∧ v < d.order ∧ u ≠ v ∧ (u, v) ∉ d.arcs := by
  simp only [complementEL, mem_toPSet, List.mem_filter, mem_allPairs, Bool.not_eq_true',
    Bool.eq_false_iff, ne_eq, List.contains_iff_mem, and_assoc]

theorem complementEL_spec (d : EdgeList) (h : d.WF) :
    (complementEL d).WF ∧ absEL (complementEL d) = specComplement (absEL d) :=
  okEL_of_arcs h.1 (sorted_toPSet _) (fun _ => absEL_V.symm)
    (fun u v => by rw [mem_complementEL]; simp only [specComplement, absEL_V, absEL_A]) (specComplement_valid _)

theorem mem_converseEL {d : EdgeList} {u v : Nat} : (u, v) ∈ (converseEL d).arcs ↔ (v, u) ∈ d.arcs := by
  simp only [converseEL, mem_toPSet, List.mem_map, Prod.mk.injEq]
  exact ⟨fun ⟨⟨_, _⟩, hm, rfl, rfl⟩ => hm, fun hm => ⟨(v, u), hm, rfl, rfl⟩⟩

theorem converseEL_spec (d : EdgeList) (h : d.WF) :
    (converseEL d).WF ∧ absEL (converseEL d) = specConverse (absEL d) :=
  okEL_of_arcs h.1 (sorted_toPSet _) (fun _ => absEL_V.symm) (fun _ _ => mem_converseEL.trans absEL_A.symm)
    (specConverse_valid (absEL_valid h))

theorem _root_.GraafVerif.Repr.EdgeList.dgIs (d : EdgeList) : DGIs (absEL d) d.order (ofList d.arcs) :=
  ⟨fun _ => absEL_V, fun _ _ => absEL_A⟩

theorem unionEL_spec (a b : EdgeList) (ha : a.WF) (hb : b.WF) :
    ∃ r, unionEL a b = some r ∧ r.WF ∧ absEL r = specUnion (absEL a) (absEL b) :=
  EL.repr.union_spec EdgeList.dgIs (fun _ => absEL_valid) a b ha hb

end GraafVerif.Ops
