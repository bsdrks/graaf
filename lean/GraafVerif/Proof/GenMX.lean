import GraafVerif.Proof.GenAddArcMX
import GraafVerif.Proof.GenDefs
/-!
# C14, AdjacencyMatrix: `empty` + `add_arc` loops realise the defining arc sets

`ArcRepr.yields_build_of` at `MX.repr` reduces each generator to a statement about the list of arcs
its loops add: `(u, v) ∈ xArcs n ↔ Def n u v`.  The matrix needs `n * n < 2^64` (`empty` panics otherwise).
-/
namespace GraafVerif.Gen
open GraafVerif.Repr GraafVerif.GenSpec

namespace MX

theorem empty_realises {n : Nat} (hn : 1 ≤ n) (hfit : n * n < 2 ^ 64) :
    ∃ d, empty n = some d ∧ Realises d n (EmptyDef n) :=
  repr.yields_empty hn hfit fun _ _ => id

theorem mem_bicliqueArcs {m n u v : Nat} : (u, v) ∈ bicliqueArcs m n ↔ BicliqueDef m n u v :=
  mem_flatMap_sym.trans bicliqueDef_iff.symm

theorem mem_circuitArcs {n u v : Nat} (hn : 2 ≤ n) : (u, v) ∈ circuitArcs n ↔ CircuitDef n u v := by
  rw [circuitArcs, List.mem_append, mem_map_pair, List.mem_singleton, Prod.mk.injEq, circuitDef_iff hn]

theorem mem_completeArcs {n u v : Nat} : (u, v) ∈ completeArcs n ↔ CompleteDef n u v := by
  rw [completeArcs, mem_flatMap_sym, mem_rangeFT_zero, mem_rangeFT_zero, mem_rangeFT, mem_rangeFT]
  constructor
  · rintro (⟨hu, huv, hv⟩ | ⟨hv, hvu, hu⟩)
    · exact ⟨hu, hv, Nat.ne_of_lt huv⟩
    · exact ⟨hu, hv, Nat.ne_of_gt hvu⟩
  · rintro ⟨hu, hv, hne⟩
    exact (Nat.lt_or_gt_of_ne hne).imp (fun h => ⟨hu, h, hv⟩) (fun h => ⟨hv, h, hu⟩)

theorem mem_cycleArcs {n u v : Nat} (hn : 2 ≤ n) : (u, v) ∈ cycleArcs n ↔ CycleDef n u v :=
  mem_symArcs.trans (or_congr (circuitDef_iff hn).symm (circuitDef_iff hn).symm)

theorem mem_pathArcs {n u v : Nat} : (u, v) ∈ pathArcs n ↔ PathDef n u v :=
  mem_map_pair.trans pathDef_iff.symm

theorem mem_starArcs {n u v : Nat} : (u, v) ∈ starArcs n ↔ StarDef n u v := by
  rw [starArcs, mem_flatMap_two, mem_map_pair, mem_map_pair', starDef_iff]
  exact or_comm.trans (or_congr and_comm and_comm)

theorem mem_wheelArcs {n u v : Nat} (hn : 4 ≤ n) : (u, v) ∈ wheelArcs n ↔ WheelDef n u v := by
  have h2 : 2 ≤ n := Nat.le_trans (by decide) hn
  rw [wheelArcs, List.mem_append, mem_symArcs, mem_flatMap_two, mem_map_pair', mem_map_pair, WheelDef,
    starDef_iff]
  exact or_comm.trans (or_congr (or_congr and_comm and_comm) (or_congr (rimArc_iff h2).symm (rimArc_iff h2).symm))

theorem biclique_spec {m n : Nat} (hm : 1 ≤ m) (hn : 1 ≤ n) (hfit : (m + n) * (m + n) < 2 ^ 64) :
    ∃ d, biclique m n = some d ∧ Realises d (m + n) (BicliqueDef m n) := by
  rw [biclique, if_neg (Nat.ne_of_gt hm), if_neg (Nat.ne_of_gt hn)]
  exact repr.yields_build_of (Nat.add_pos_left hm n) hfit (fun _ _ => mem_bicliqueArcs) bicliqueDef_valid

theorem claw_spec : ∃ d, claw = some d ∧ Realises d 4 (BicliqueDef 1 3) :=
  biclique_spec (Nat.le_refl 1) (by decide) (by decide)
theorem utility_spec : ∃ d, utility = some d ∧ Realises d 6 (BicliqueDef 3 3) :=
  biclique_spec (by decide) (by decide) (by decide)

theorem circuit_spec {n : Nat} (hn : 1 ≤ n) (hfit : n * n < 2 ^ 64) :
    ∃ d, circuit n = some d ∧ Realises d n (CircuitDef n) :=
  repr.yields_guard₁ hn fits_one circuitDef_valid fun h2 =>
    repr.yields_build_of hn hfit (fun _ _ => mem_circuitArcs h2) circuitDef_valid

theorem complete_spec {n : Nat} (hn : 1 ≤ n) (hfit : n * n < 2 ^ 64) :
    ∃ d, complete n = some d ∧ Realises d n (CompleteDef n) :=
  repr.yields_guard₁ hn fits_one completeDef_valid fun _ =>
    repr.yields_build_of hn hfit (fun _ _ => mem_completeArcs) completeDef_valid

theorem cycle_spec {n : Nat} (hn : 1 ≤ n) (hfit : n * n < 2 ^ 64) :
    ∃ d, cycle n = some d ∧ Realises d n (CycleDef n) :=
  repr.yields_guard₁ hn fits_one cycleDef_valid fun h2 =>
    repr.yields_build_of hn hfit (fun _ _ => mem_cycleArcs h2) cycleDef_valid

/-- `path` calls `empty(order)` before the test for order 1 and returns that digraph, which is what
the loop over the (empty) arc list of order 1 returns. -/
theorem path_eq_build (n : Nat) : path n = build n (pathArcs n) := by
  unfold path build
  cases AdjMatrix.empty n with
  | none => rfl
  | some e =>
    by_cases h1 : n = 1
    · subst h1; rfl
    · exact if_neg h1

theorem path_spec {n : Nat} (hn : 1 ≤ n) (hfit : n * n < 2 ^ 64) :
    ∃ d, path n = some d ∧ Realises d n (PathDef n) := by
  rw [path_eq_build]
  exact repr.yields_build_of hn hfit (fun _ _ => mem_pathArcs) pathDef_valid

theorem star_spec {n : Nat} (hn : 1 ≤ n) (hfit : n * n < 2 ^ 64) :
    ∃ d, star n = some d ∧ Realises d n (StarDef n) :=
  repr.yields_guard₁ hn fits_one starDef_valid fun _ =>
    repr.yields_build_of hn hfit (fun _ _ => mem_starArcs) starDef_valid

theorem wheel_spec {n : Nat} (hn : 4 ≤ n) (hfit : n * n < 2 ^ 64) :
    ∃ d, wheel n = some d ∧ Realises d n (WheelDef n) := by
  rw [wheel, if_neg (not_not_intro hn)]
  exact repr.yields_build_of (Nat.le_trans (by decide) hn) hfit (fun _ _ => mem_wheelArcs hn)
    (wheelDef_valid (Nat.le_of_succ_le hn))

end MX
end GraafVerif.Gen
