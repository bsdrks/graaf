import GraafVerif.Proof.AlgoGen3Gen2
import GraafVerif.Proof.OpsSorted
/-! `AlgoGen` set 3, generators, part 3: the generators whose Rust text is an iterator pipeline with a
closure that draws from the PRNG (`random_recursive_tree` of `AdjacencyList`, `EdgeList`, `AdjacencyMap`,
`erdos_renyi` of `AdjacencyList`, `EdgeList`); the translator emits the loop `collect` runs (docs/AlgoGen.md,
"Set 3").  Here the PRNG is the first component of the loop state. -/
namespace GraafVerif.AlgoGenThm
open GraafVerif GraafVerif.AlgoGen GraafVerif.Repr
open Xoshiro256StarStar (ofX)

theorem sel_shift (C : Nat → Bool) (b : Nat) : ∀ (c : List Nat) (k : Nat),
    (((c.zipIdx k).filter fun vi => C (b + vi.2)).map (·.1)) = (((c.zipIdx (b + k)).filter fun vi => C vi.2).map (·.1)) := by
  intro c k
  rw [← List.map_snd_add_zipIdx_eq_zipIdx, List.filter_map, List.map_map]
  simp only [Function.comp_def, Prod.map_snd, Prod.map_fst, id, Nat.add_comm b]

theorem erRow_shift (S : Rand.Stream) (p : Rand.F64) (b : Nat) (c : List Nat) (k : Nat) :
    Rand.erRow (fun j => S (b + j)) p k c = Rand.erRow S p (b + k) c :=
  sel_shift (fun i => Rand.f64lt (S i) p) b c k

namespace AdjacencyMap

/-- a loop over candidates, one draw each, that updates the state with `g` for the selected ones; the body need only be
known on the candidates -/
theorem forLoop_select' {σ β ρ : Type} (p : Rand.F64) (g : σ → Nat → σ) (c : List Nat)
    (body : AlgoGen.Xoshiro256StarStar × σ → Nat → Blk (AlgoGen.Xoshiro256StarStar × σ) ρ (AlgoGen.Xoshiro256StarStar × σ))
    (hbody : ∀ s v x, v ∈ c → body (ofX x, s) v = .ok (ofX x.next.2, if Rand.f64lt x.next.1 p then g s v else s))
    (s : σ) (x : Rand.Xo) :
    (forLoop body c (ofX x, s) : Blk β ρ _) = .ok (ofX (x.iter c.length), (Rand.erRow (draws x) p 0 c).foldl g s) := by
  rw [forLoop_drawsL (β := β) (fun _ => True) c body (fun s v w => some (if Rand.f64lt w p then g s v else s))
    (fun s v x hv _ => hbody s v x hv) (fun _ _ _ _ _ _ _ => trivial) c s x (fun _ h => h) trivial, foldlM_some,
    Rand.erRow, List.foldl_map, List.foldl_filter]
  rfl

end AdjacencyMap

theorem forLoop_select {σ β ρ : Type} (p : Rand.F64) (g : σ → Nat → σ)
    (body : AlgoGen.Xoshiro256StarStar × σ → Nat → Blk (AlgoGen.Xoshiro256StarStar × σ) ρ (AlgoGen.Xoshiro256StarStar × σ))
    (hbody : ∀ s v x, body (ofX x, s) v = .ok (ofX x.next.2, if Rand.f64lt x.next.1 p then g s v else s))
    (c : List Nat) (s : σ) (x : Rand.Xo) :
    (forLoop body c (ofX x, s) : Blk β ρ _) = .ok (ofX (x.iter c.length), (Rand.erRow (draws x) p 0 c).foldl g s) :=
  AdjacencyMap.forLoop_select' p g c body (fun s v x _ => hbody s v x) s x

theorem erRow_sublist (S : Rand.Stream) (p : Rand.F64) (b : Nat) (c : List Nat) : (Rand.erRow S p b c).Sublist c :=
  Rand.erRow_sublist S p b c

theorem othersChain_sorted (n u : Nat) : SortedS (Rand.othersChain n u) :=
  pairwise_range_skip u n

theorem toSet_erRow (S : Rand.Stream) (p : Rand.F64) (b n u : Nat) :
    (Rand.erRow S p b (Rand.othersChain n u)).foldl (fun s v => sinsert v s) [] = Rand.erRow S p b (Rand.othersChain n u) := by
  have hs : SortedS (Rand.erRow S p b (Rand.othersChain n u)) :=
    List.Pairwise.sublist (erRow_sublist S p b _) (othersChain_sorted n u)
  exact Ops.toSet_of_sorted hs

namespace AdjacencyList

/-- vertex `u`: a draw `w`, then the row `{w % u}` is pushed (`% 0` panics) -/
def rstep (acc : List (List Nat)) (u : Nat) (w : UInt64) : Option (List (List Nat)) :=
  if u = 0 then none else some (acc ++ [[w.toNat % u]])

/-- the item of `once(BTreeSet::new())` is pushed -/
theorem randomRecursiveTree_for0_eq (acc : List (List Nat)) (row : List Nat) :
    (AlgoGen.AdjacencyList.randomRecursiveTree_for0 acc row : Blk (List (List Nat)) AdjList _) = .ok (acc ++ [row]) := rfl

theorem randomRecursiveTree_for1_eq (acc : List (List Nat)) (x : Rand.Xo) (u : Nat) :
    (AlgoGen.AdjacencyList.randomRecursiveTree_for1 (ofX x, acc) u : Blk _ AdjList _) =
      optSL x.next.2 (rstep acc u x.next.1) := by
  unfold AlgoGen.AdjacencyList.randomRecursiveTree_for1 rstep
  simp only [Xoshiro256StarStar.next_eq, call_ok, ok_bind, unwrapO]
  by_cases hu : u = 0
  · subst hu; rfl
  · simp only [hu, if_false, modP_pos _ _ (Nat.pos_of_ne_zero hu), ok_bind]; rfl

theorem rstep_fold (S : Rand.Stream) : ∀ (M : List (Nat × Nat)), (∀ ai ∈ M, ai.1 ≠ 0) → ∀ acc,
    M.foldlM (fun s ai => rstep s ai.1 (S ai.2)) acc = some (acc ++ M.map fun ai => [(S ai.2).toNat % ai.1]) := by
  intro M h acc
  rw [← foldl_snoc_map, ← foldlM_some]
  exact foldlM_congr_mem M _ _ (fun s ai hai => if_neg (h ai hai)) acc

/-- `AdjacencyList::random_recursive_tree(order, seed)` = the hand-written `rrtAL` on the stream of
`Xoshiro256StarStar::new(seed)`, for every order and seed. -/
theorem randomRecursiveTree_eq (n : Nat) (seed : UInt64) :
    AlgoGen.AdjacencyList.randomRecursiveTree n seed = optR (Rand.rrtAL (Rand.xoStream seed) n) := by
  unfold AlgoGen.AdjacencyList.randomRecursiveTree Rand.rrtAL
  by_cases h0 : n = 0
  · subst h0; rfl
  · have hpos : n > 0 := Nat.pos_of_ne_zero h0
    by_cases h1 : n = 1
    · subst h1; rfl
    · simp only [hpos, h0, h1, decide_true, assert_true, ok_bind, if_false, Xoshiro256StarStar.new_eq, call_ok]
      have hfirst : (forLoop AlgoGen.AdjacencyList.randomRecursiveTree_for0 [([] : List Nat)] ([] : List (List Nat)) :
          Blk Empty AdjList _) = .ok [[]] := rfl
      rw [hfirst]
      simp only [ok_bind]
      rw [forLoop_drawsL (β := Empty) (fun _ => True) (AlgoGen.range 1 n) AlgoGen.AdjacencyList.randomRecursiveTree_for1
        rstep (fun acc u x _ _ => randomRecursiveTree_for1_eq acc x u) (fun _ _ _ _ _ _ _ => trivial)
        (AlgoGen.range 1 n) [[]] _ (fun _ h => h) trivial, draws_new, rstep_fold _ _ (zipIdx_range_one_ne n),
        zipIdx_range_one, List.map_map, Rand.rrtParents, List.map_map]
      rfl

end AdjacencyList

namespace EdgeList

/-- vertex `u`: a draw `w`, then the arc `(u, w % u)` is inserted (`% 0` panics) -/
def rstep (acc : List (Nat × Nat)) (u : Nat) (w : UInt64) : Option (List (Nat × Nat)) :=
  if u = 0 then none else some (pinsert (u, w.toNat % u) acc)

theorem randomRecursiveTree_for0_eq (acc : List (Nat × Nat)) (x : Rand.Xo) (u : Nat) :
    (AlgoGen.EdgeList.randomRecursiveTree_for0 (ofX x, acc) u : Blk _ Repr.EdgeList _) =
      optSL x.next.2 (rstep acc u x.next.1) := by
  unfold AlgoGen.EdgeList.randomRecursiveTree_for0 rstep
  simp only [Xoshiro256StarStar.next_eq, call_ok, ok_bind, unwrapO]
  by_cases hu : u = 0
  · subst hu; rfl
  · simp only [hu, if_false, modP_pos _ _ (Nat.pos_of_ne_zero hu), ok_bind]; rfl

theorem rstep_fold (S : Rand.Stream) : ∀ (M : List (Nat × Nat)), (∀ ai ∈ M, ai.1 ≠ 0) → ∀ acc,
    M.foldlM (fun s ai => rstep s ai.1 (S ai.2)) acc =
      some (M.foldl (fun s ai => pinsert (ai.1, (S ai.2).toNat % ai.1) s) acc) := by
  intro M h acc
  rw [← foldlM_some]
  exact foldlM_congr_mem M _ _ (fun s ai hai => if_neg (h ai hai)) acc

/-- `EdgeList::random_recursive_tree(order, seed)` = the hand-written `rrtEL` on the stream of
`Xoshiro256StarStar::new(seed)`, for every order and seed. -/
theorem randomRecursiveTree_eq (n : Nat) (seed : UInt64) :
    AlgoGen.EdgeList.randomRecursiveTree n seed = optR (Rand.rrtEL (Rand.xoStream seed) n) := by
  unfold AlgoGen.EdgeList.randomRecursiveTree Rand.rrtEL
  by_cases h0 : n = 0
  · subst h0; rfl
  · have hpos : n > 0 := Nat.pos_of_ne_zero h0
    by_cases h1 : n = 1
    · subst h1; rfl
    · simp only [hpos, h0, h1, decide_true, assert_true, ok_bind, if_false, Xoshiro256StarStar.new_eq, call_ok]
      rw [forLoop_drawsL (β := Empty) (fun _ => True) (AlgoGen.range 1 n) AlgoGen.EdgeList.randomRecursiveTree_for0
        rstep (fun acc u x _ _ => randomRecursiveTree_for0_eq acc x u) (fun _ _ _ _ _ _ _ => trivial)
        (AlgoGen.range 1 n) [] _ (fun _ h => h) trivial, draws_new, rstep_fold _ _ (zipIdx_range_one_ne n),
        zipIdx_range_one, List.foldl_map, Rand.rrtParents, Rand.collectSet, List.foldl_map]
      rfl

end EdgeList

namespace AdjacencyMap

/-- vertex `u`: a draw `w`, then the entry `u ↦ {w % u}` is inserted (`% 0` panics) -/
def rstep (acc : List (Nat × List Nat)) (u : Nat) (w : UInt64) : Option (List (Nat × List Nat)) :=
  if u = 0 then none else some (Ops.minsert u [w.toNat % u] acc)

/-- the item of `once((0, BTreeSet::new()))` is inserted -/
theorem randomRecursiveTree_for0_eq (acc : List (Nat × List Nat)) (it : Nat × List Nat) :
    (AlgoGen.AdjacencyMap.randomRecursiveTree_for0 acc it : Blk (List (Nat × List Nat)) AdjMap _) =
      .ok (Ops.minsert it.1 it.2 acc) := rfl

/-- `rng.next()` never returns `None`: the `unwrap_unchecked` is not UB -/
theorem randomRecursiveTree_for1_eq (acc : List (Nat × List Nat)) (x : Rand.Xo) (u : Nat) :
    (AlgoGen.AdjacencyMap.randomRecursiveTree_for1 (ofX x, acc) u : Blk _ AdjMap _) =
      optSL x.next.2 (rstep acc u x.next.1) := by
  unfold AlgoGen.AdjacencyMap.randomRecursiveTree_for1 rstep
  simp only [Xoshiro256StarStar.next_eq, call_ok, ok_bind, unwrapU]
  by_cases hu : u = 0
  · subst hu; rfl
  · simp only [hu, if_false, modP_pos _ _ (Nat.pos_of_ne_zero hu), ok_bind]; rfl

theorem rstep_fold (S : Rand.Stream) : ∀ (M : List (Nat × Nat)), (∀ ai ∈ M, ai.1 ≠ 0) → ∀ acc,
    M.foldlM (fun s ai => rstep s ai.1 (S ai.2)) acc =
      some (M.foldl (fun s ai => Ops.minsert ai.1 [(S ai.2).toNat % ai.1] s) acc) := by
  intro M h acc
  rw [← foldlM_some]
  exact foldlM_congr_mem M _ _ (fun s ai hai => if_neg (h ai hai)) acc

/-- `AdjacencyMap::random_recursive_tree(order, seed)` = the hand-written `rrtAM` on the stream of
`Xoshiro256StarStar::new(seed)`, for every order and seed. -/
theorem randomRecursiveTree_eq (n : Nat) (seed : UInt64) :
    AlgoGen.AdjacencyMap.randomRecursiveTree n seed = optR (Rand.rrtAM (Rand.xoStream seed) n) := by
  unfold AlgoGen.AdjacencyMap.randomRecursiveTree Rand.rrtAM
  by_cases h0 : n = 0
  · subst h0; rfl
  · have hpos : n > 0 := Nat.pos_of_ne_zero h0
    by_cases h1 : n = 1
    · subst h1; rfl
    · simp only [hpos, h0, h1, decide_true, assert_true, ok_bind, if_false, Xoshiro256StarStar.new_eq, call_ok]
      have hfirst : (forLoop AlgoGen.AdjacencyMap.randomRecursiveTree_for0 [(0, ([] : List Nat))] ([] : List (Nat × List Nat)) :
          Blk Empty AdjMap _) = .ok (Ops.minsert 0 [] []) := rfl
      rw [hfirst]
      simp only [ok_bind]
      rw [forLoop_drawsL (β := Empty) (fun _ => True) (AlgoGen.range 1 n) AlgoGen.AdjacencyMap.randomRecursiveTree_for1
        rstep (fun acc u x _ _ => randomRecursiveTree_for1_eq acc x u) (fun _ _ _ _ _ _ _ => trivial)
        (AlgoGen.range 1 n) _ _ (fun _ h => h) trivial, draws_new, rstep_fold _ _ (zipIdx_range_one_ne n),
        zipIdx_range_one, List.foldl_map, Rand.rrtParents, Rand.collectMap, List.foldl_cons, List.map_map, List.foldl_map]
      rfl

end AdjacencyMap

namespace AdjacencyList

theorem erdosRenyi_for1_eq (p : Rand.F64) (acc : List Nat) (x : Rand.Xo) (v : Nat) :
    (AlgoGen.AdjacencyList.erdosRenyi_for1 p (ofX x, acc) v : Blk _ AdjList _) =
      .ok (ofX x.next.2, if Rand.f64lt x.next.1 p then sinsert v acc else acc) := by
  unfold AlgoGen.AdjacencyList.erdosRenyi_for1
  simp only [Xoshiro256StarStar.nextF64_eq, call_ok, ok_bind, AdjacencyMatrix.f64ltM_mant]
  by_cases hb : Rand.f64lt (Rand.Xo.next x).1 p = true
  · simp only [hb, if_true]; rfl
  · simp only [hb, if_false, Bool.false_eq_true]; rfl

/-- row `u`: `n - 1` draws, the selected candidates collected into a set (they are ascending) -/
theorem erdosRenyi_for0_eq (n : Nat) (p : Rand.F64) (acc : List (List Nat)) (x : Rand.Xo) (u : Nat) (hu : u < n) :
    (AlgoGen.AdjacencyList.erdosRenyi_for0 n p (ofX x, acc) u : Blk _ AdjList _) =
      .ok (ofX (x.iter (n - 1)), acc ++ [Rand.erRow (draws x) p 0 (Rand.othersChain n u)]) := by
  unfold AlgoGen.AdjacencyList.erdosRenyi_for0
  dsimp only
  have hc : (List.range u ++ AlgoGen.range (u + 1) n) = Rand.othersChain n u := rfl
  rw [hc, forLoop_select (β := AlgoGen.Xoshiro256StarStar × List (List Nat)) p (fun s v => sinsert v s)
    (AlgoGen.AdjacencyList.erdosRenyi_for1 p) (fun s v x => erdosRenyi_for1_eq p s x v),
    othersChain_length n u hu, toSet_erRow]
  rfl

/-- `AdjacencyList::erdos_renyi(order, p, seed)` = the hand-written `erAL` on the stream of
`Xoshiro256StarStar::new(seed)`, for every order, every `f64` value `p` and every seed. -/
theorem erdosRenyi_eq (n : Nat) (p : Rand.F64) (seed : UInt64) :
    AlgoGen.AdjacencyList.erdosRenyi n p seed = optR (Rand.erAL (Rand.xoStream seed) n p) := by
  unfold AlgoGen.AdjacencyList.erdosRenyi Rand.erAL
  by_cases h0 : n = 0
  · subst h0; rfl
  · have hpos : n > 0 := Nat.pos_of_ne_zero h0
    by_cases hp : p.inUnit = true
    · by_cases h1 : n = 1
      · subst h1; rw [hp]; rfl
      · simp only [hpos, h0, h1, hp, decide_true, assert_true, ok_bind, if_false, Bool.not_true, Bool.false_eq_true,
          Xoshiro256StarStar.new_eq, call_ok]
        rw [forLoop_blocks (β := Empty) (n - 1) (List.range n) (AlgoGen.AdjacencyList.erdosRenyi_for0 n p)
          (fun (acc : List (List Nat)) u S => acc ++ [Rand.erRow S p 0 (Rand.othersChain n u)])
          (fun acc u x hu => erdosRenyi_for0_eq n p acc x u (List.mem_range.1 hu))
          (List.range n) [] _ (fun _ h => h), draws_new, zipIdx_range, List.foldl_map]
        simp only [erRow_shift, Nat.add_zero]
        rw [foldl_snoc_map]
        rfl
    · have hp' : p.inUnit = false := by simpa using hp
      simp only [hpos, hp', decide_true, assert_true, assert_false, ok_bind, h0, if_false, Bool.not_false, if_true]
      rfl

end AdjacencyList

namespace EdgeList

theorem erdosRenyi_for2_eq (p : Rand.F64) (u : Nat) (acc : List (Nat × Nat)) (x : Rand.Xo) (v : Nat) :
    (AlgoGen.EdgeList.erdosRenyi_for2 p u (ofX x, acc) v : Blk _ Repr.EdgeList _) =
      .ok (ofX x.next.2, if Rand.f64lt x.next.1 p then acc ++ [(u, v)] else acc) := by
  unfold AlgoGen.EdgeList.erdosRenyi_for2
  simp only [Xoshiro256StarStar.nextF64_eq, call_ok, ok_bind, AdjacencyMatrix.f64ltM_mant]
  by_cases hb : Rand.f64lt (Rand.Xo.next x).1 p = true
  · simp only [hb, if_true]; rfl
  · simp only [hb, if_false, Bool.false_eq_true]; rfl

/-- an item of the row's `Vec` is inserted into the arc set -/
theorem erdosRenyi_for1_eq (acc : List (Nat × Nat)) (a : Nat × Nat) :
    (AlgoGen.EdgeList.erdosRenyi_for1 acc a : Blk (List (Nat × Nat)) Repr.EdgeList _) = .ok (pinsert a acc) := rfl

theorem foldl_snoc_pairs (u : Nat) : ∀ (l : List Nat) (acc : List (Nat × Nat)),
    l.foldl (fun s v => s ++ [(u, v)]) acc = acc ++ l.map fun v => (u, v) :=
  foldl_snoc_map (fun v => (u, v))

/-- row `u`: `n - 1` draws, the selected arcs collected into a `Vec`, then inserted one by one -/
theorem erdosRenyi_for0_eq (n : Nat) (p : Rand.F64) (acc : List (Nat × Nat)) (x : Rand.Xo) (u : Nat) (hu : u < n) :
    (AlgoGen.EdgeList.erdosRenyi_for0 n p (ofX x, acc) u : Blk _ Repr.EdgeList _) =
      .ok (ofX (x.iter (n - 1)),
        ((Rand.erRow (draws x) p 0 (Rand.othersChain n u)).map fun v => (u, v)).foldl (fun s a => pinsert a s) acc) := by
  unfold AlgoGen.EdgeList.erdosRenyi_for0
  dsimp only
  have hc : (List.range u ++ AlgoGen.range (u + 1) n) = Rand.othersChain n u := rfl
  rw [hc, forLoop_select (β := AlgoGen.Xoshiro256StarStar × List (Nat × Nat)) p (fun s v => s ++ [(u, v)])
    (AlgoGen.EdgeList.erdosRenyi_for2 p u) (fun s v x => erdosRenyi_for2_eq p u s x v),
    othersChain_length n u hu, foldl_snoc_pairs, ok_bind,
    forLoop_pure (β := AlgoGen.Xoshiro256StarStar × List (Nat × Nat)) AlgoGen.EdgeList.erdosRenyi_for1
      (fun s a => pinsert a s) erdosRenyi_for1_eq]
  rfl

/-- `EdgeList::erdos_renyi(order, p, seed)` = the hand-written `erEL` on the stream of
`Xoshiro256StarStar::new(seed)`, for every order, every `f64` value `p` and every seed. -/
theorem erdosRenyi_eq (n : Nat) (p : Rand.F64) (seed : UInt64) :
    AlgoGen.EdgeList.erdosRenyi n p seed = optR (Rand.erEL (Rand.xoStream seed) n p) := by
  unfold AlgoGen.EdgeList.erdosRenyi Rand.erEL
  by_cases h0 : n = 0
  · subst h0; rfl
  · have hpos : n > 0 := Nat.pos_of_ne_zero h0
    by_cases hp : p.inUnit = true
    · simp only [hpos, h0, hp, decide_true, assert_true, ok_bind, if_false, Bool.not_true, Bool.false_eq_true,
        Xoshiro256StarStar.new_eq, call_ok]
      rw [forLoop_blocks (β := Empty) (n - 1) (List.range n) (AlgoGen.EdgeList.erdosRenyi_for0 n p)
        (fun (acc : List (Nat × Nat)) u S =>
          ((Rand.erRow S p 0 (Rand.othersChain n u)).map fun v => (u, v)).foldl (fun s a => pinsert a s) acc)
        (fun acc u x hu => erdosRenyi_for0_eq n p acc x u (List.mem_range.1 hu))
        (List.range n) [] _ (fun _ h => h), draws_new, zipIdx_range, List.foldl_map, Rand.collectSet, Rand.erArcs,
        foldl_flatMap]
      simp only [erRow_shift, Nat.add_zero]
      rfl
    · have hp' : p.inUnit = false := by simpa using hp
      simp only [hpos, hp', decide_true, assert_true, assert_false, ok_bind, h0, if_false, Bool.not_false, if_true]
      rfl

end EdgeList

end GraafVerif.AlgoGenThm
