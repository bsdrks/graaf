import GraafVerif.Proof.RandArcs
import GraafVerif.Proof.RandSched
import GraafVerif.Proof.GenAL
import GraafVerif.Proof.GenAM
import GraafVerif.Proof.GenEL
/-! What the structures the generators build are: `X.repr.Holds d n (ofList arcs)`, a well-formed value of order `n`
with exactly the arcs drawn, for `empty` + `add_arc` folds (`ArcRepr.yields_build`), rows inserted one by one, rows
given directly, collected sets and maps.  `Holds.realizes` / `Yields.realizes` read such a value on its `View`. -/
namespace GraafVerif.Rand
open GraafVerif.Repr GraafVerif.Gen

/-- `mask(i)` has exactly bit `i & 63` set; `blocks[i >> 6] & mask(i) != 0` reads that bit -/
theorem and_mask_ne_zero (x : BitVec 64) (i : Nat) :
    ((x &&& AdjMatrix.mask i) != 0#64) = x.getLsbD (i % 64) := by
  exact AdjMatrix.and_mask_ne_zero x i

section
variable {T : Type} {order : T → Nat} {vertices : T → List Nat} {arcs : T → List (Nat × Nat)}
  {hasArc : T → Nat → Nat → Bool} {empty : Nat → Option T} {addArc : T → Nat → Nat → Option T}
  {R : ArcRepr order vertices arcs hasArc empty addArc} {n : Nat} {l : List (Nat × Nat)}

theorem _root_.GraafVerif.Gen.ArcRepr.Holds.realizes {d : T} (h : R.Holds d n (ofList l)) :
    Realizes ⟨order d, vertices d, hasArc d⟩ n l :=
  ⟨h.2.1, h.2.1 ▸ R.vertices_eq h.1, fun u v => (R.hasArc_iff h.1 u v).trans (h.2.2 u v)⟩

theorem _root_.GraafVerif.Gen.ArcRepr.Yields.realizes {r : Option T} (h : R.Yields r n (ofList l)) :
    ∃ g, r = some g ∧ Realizes ⟨order g, vertices g, hasArc g⟩ n l := h.imp fun _ h => ⟨h.1, h.2.realizes⟩

end

theorem foldlM_addArc_eq_rowInsert {n : Nat} (arcs : List (Nat × Nat)) (hs : SimpleArcs n arcs)
    (rows : List (List Nat)) (hl : rows.length = n) :
    arcs.foldlM (fun g a => AdjList.addArc g a.1 a.2) ⟨rows⟩ = some ⟨arcs.foldl rowInsert rows⟩ := by
  induction arcs generalizing rows with
  | nil => rfl
  | cons a as ih =>
    subst hl
    have ha := hs a List.mem_cons_self
    have hrej : ReprSpec.rejected .fixed (AdjList.abs ⟨rows⟩) a.1 a.2 = false :=
      (ReprSpec.rejected_eq_false ..).mpr ⟨ha.2.2, fun _ => ⟨decide_eq_true ha.1, decide_eq_true ha.2.1⟩⟩
    rw [List.foldlM_cons, AdjList.addArc_eq, if_neg (Bool.eq_false_iff.mp hrej)]
    exact ih (fun x hx => hs x (List.mem_cons_of_mem _ hx)) _ (rowInsert_length rows a)

theorem holds_foldl_rowInsert {n : Nat} {arcs : List (Nat × Nat)} (hn : 1 ≤ n) (hs : SimpleArcs n arcs) :
    AL.repr.Holds ⟨arcs.foldl rowInsert (List.replicate n [])⟩ n (ofList arcs) :=
  (AL.repr.yields_build hn trivial hs.valid).holds_of_eq <| by
    rw [build, AdjList.empty, if_neg (Nat.ne_of_gt hn)]
    exact foldlM_addArc_eq_rowInsert arcs hs _ List.length_replicate

theorem collectMap_sorted {X : Type} (l : List (Nat × X)) (hs : SortedK l) : collectMap l = l :=
  foldl_mupsert_sorted l [] hs

/-- Entries keyed `0..n` with ascending rows that hold the arcs `A`: the list of the rows, and the map collected
from the entries, are the digraph `(n, A)`. -/
theorem holds_rows {n : Nat} {l : List (Nat × List Nat)} {A : Nat → Nat → Prop} (hn : 1 ≤ n)
    (hk : l.map (·.1) = List.range n) (hr : ∀ p ∈ l, SortedS p.2) (hA : ∀ u v, (u, v) ∈ rowArcs l ↔ A u v)
    (hv : ValidOn n A) : AL.repr.Holds ⟨l.map (·.2)⟩ n A ∧ AM.repr.Holds ⟨collectMap l⟩ n A := by
  have hs := sortedK_of_keys hk
  have hrows : ∀ p ∈ l, IsRow A p.1 p.2 := fun p hp => ⟨hr p hp, fun v => Iff.trans
    ⟨fun h => mem_rowArcs.2 ⟨p.2, hp, h⟩, fun h => have ⟨_, hm, hv⟩ := mem_rowArcs.1 h; sortedK_unique hs hp hm ▸ hv⟩
    (hA p.1 v)⟩
  have hlen : (l.map (·.2)).length = n := by
    rw [List.length_map, ← List.length_map (f := (·.1)), hk, List.length_range]
  refine ⟨AL.realises_of_rows hn hlen ?_ hv,
    (collectMap_sorted l hs).symm ▸ AM.holds_of_realises hn (AM.realises_of_rows hk hrows hv)⟩
  -- the rows with their indices are the entries, swapped
  rw [List.zipIdx_eq_zip_range', hlen, ← List.range_eq_range', ← hk, List.zip_map', List.forall_mem_map]
  exact hrows

theorem holds_collectSet {n : Nat} {arcs : List (Nat × Nat)} (hn : 1 ≤ n) (hs : SimpleArcs n arcs) :
    EL.repr.Holds ⟨collectSet arcs, n⟩ n (ofList arcs) :=
  have hmem : ∀ a, a ∈ collectSet arcs ↔ a ∈ arcs := fun _ => mem_foldl_insert_nil mem_pinsert arcs
  ⟨⟨hn, sorted_foldl_pinsert arcs [] .nil, fun a ha => hs a ((hmem a).1 ha)⟩, rfl, fun u v => hmem (u, v)⟩

theorem holds_finishMap {n : Nat} {arcs : List (Nat × Nat)} (hn : 1 ≤ n) (hs : SimpleArcs n arcs) :
    AM.repr.Holds (finishMap n (arcs.foldl rowInsert (List.replicate n []))) n (ofList arcs) := by
  have hAL := holds_foldl_rowInsert hn hs
  generalize arcs.foldl rowInsert (List.replicate n []) = rows at hAL
  have hmem : ∀ u v, v ∈ rows[u]?.getD [] ↔ (u, v) ∈ arcs := fun u v => mem_flatRows_getD.symm.trans (hAL.2.2 u v)
  refine (holds_rows hn (keys_map_pair _ _) (List.forall_mem_map.2 fun u _ => ?_) (fun u v => ?_) hs.valid.validOn).2
  · cases h : rows[u]? with
    | none => exact .nil
    | some row => exact (hAL.1.2 u row h).1
  · rw [rowArcs, List.flatMap_map, mem_flatMap_pair, hmem, List.mem_range]
    exact and_iff_right_of_imp fun h => (hs _ h).1

end GraafVerif.Rand
