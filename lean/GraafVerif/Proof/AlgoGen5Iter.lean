import GraafVerif.Model.AlgoGen5
import GraafVerif.Proof.AlgoGenCall
import GraafVerif.Proof.ReprALIter
import GraafVerif.Proof.ReprMXIter
import GraafVerif.Model.Query
/-!
# Generated hand-rolled iterators (`next` on an explicit state) = the literal hand models

`collect next N s` (Proof/AlgoGenRt.lean) drives the generated `next` until it answers `None`.
-/
namespace GraafVerif.AlgoGenThm
open GraafVerif GraafVerif.AlgoGen GraafVerif.Repr

namespace AdjacencyList
/-- `in_neighbors(v)`: the iterator over all rows (`ptr` = the rows, `len` = their number) -/
theorem inNeighborsIter_eq (d : AdjList) (v : Nat) :
    AlgoGen.AdjacencyList.inNeighborsIter d v = .ok ⟨d.rows, d.rows.length, 0, v, ()⟩ := rfl
/-- `arcs()`: the iterator before the first row -/
theorem arcsIter_eq (d : AdjList) : AlgoGen.AdjacencyList.arcsIter d = .ok ⟨d.rows, 0, none⟩ := rfl
end AdjacencyList

namespace AdjacencyMatrix
/-- `arcs()` = `ArcsIterator::new(self)` = the hand-written `iterInit` on this matrix -/
theorem arcsIter_eq (d : AdjMatrix) : AlgoGen.AdjacencyMatrix.arcsIter d = .ok ⟨d, 0, 0#64, 0⟩ := rfl
end AdjacencyMatrix

/-! ## `InNeighborsIterator` (raw `ptr` / `len`) -/
namespace InNeighborsIterator

/-- the in-neighbours still to come from row `i` on -/
def rem (rows : List (List Nat)) (v : Nat) (i : Nat) : List Nat :=
  (((rows.drop i).zipIdx i).filter fun p => p.1.contains v).map (·.2)

theorem rem_ge (rows : List (List Nat)) (v i : Nat) (h : rows.length ≤ i) : rem rows v i = [] := by
  unfold rem
  rw [List.drop_eq_nil_of_le h]
  rfl

theorem rem_lt (rows : List (List Nat)) (v i : Nat) (h : i < rows.length) :
    rem rows v i = if rows[i].contains v then i :: rem rows v (i + 1) else rem rows v (i + 1) := by
  unfold rem
  rw [List.drop_eq_getElem_cons h, List.zipIdx_cons, List.filter_cons]
  split <;> rfl

theorem next_while0_eq (rows : List (List Nat)) (v i : Nat) (h : i < rows.length) :
    (AlgoGen.InNeighborsIterator.next_while0 ⟨rows, rows.length, i, v, ()⟩ : Blk _ (Option Nat × AlgoGen.InNeighborsIterator) _) =
      if rows[i].contains v then ret (some i, ⟨rows, rows.length, i + 1, v, ()⟩) else .ok ⟨rows, rows.length, i + 1, v, ()⟩ := by
  unfold AlgoGen.InNeighborsIterator.next_while0
  dsimp only
  rw [if_pos h, rd_lt _ _ _ h]
  rfl

theorem next_while0_exit (rows : List (List Nat)) (v i : Nat) (h : ¬ i < rows.length) :
    (AlgoGen.InNeighborsIterator.next_while0 ⟨rows, rows.length, i, v, ()⟩ : Blk _ (Option Nat × AlgoGen.InNeighborsIterator) _) =
      brk ⟨rows, rows.length, i, v, ()⟩ :=
  if_neg h

theorem next_loop (rows : List (List Nat)) (v : Nat) : ∀ (m i F : Nat), rows.length - i ≤ m → rows.length - i ≤ F →
    (whileLoop AlgoGen.InNeighborsIterator.next_while0 F ⟨rows, rows.length, i, v, ()⟩ :
        Blk Empty (Option Nat × AlgoGen.InNeighborsIterator) AlgoGen.InNeighborsIterator) =
      match rem rows v i with
      | [] => .ok ⟨rows, rows.length, max i rows.length, v, ()⟩
      | x :: _ => .error (.ret (some x, ⟨rows, rows.length, x + 1, v, ()⟩)) := by
  intro _ i F _ hF
  refine whileLoop_rule AlgoGen.InNeighborsIterator.next_while0 (fun i => ⟨rows, rows.length, i, v, ()⟩)
    (fun _ => True) (rows.length - ·)
    (fun i r => r = match rem rows v i with
      | [] => .ok ⟨rows, rows.length, max i rows.length, v, ()⟩
      | x :: _ => .error (.ret (some x, ⟨rows, rows.length, x + 1, v, ()⟩)))
    (fun i _ h0 => next_while0_exit rows v i (Nat.not_lt.2 (Nat.le_of_sub_eq_zero h0))) (fun i _ => ?_) F i trivial hF
  by_cases h : i < rows.length
  · have hrem := rem_lt rows v i h
    rw [next_while0_eq rows v i h]
    by_cases hc : rows[i].contains v = true
    · rw [if_pos hc] at hrem ⊢
      show _ = _
      rw [hrem]
    · rw [if_neg hc] at hrem ⊢
      exact ⟨i + 1, rfl, trivial, Nat.sub_succ_lt_self _ _ h, fun _ hr => hr.trans (by
        rw [hrem, Nat.max_eq_right h, Nat.max_eq_right (Nat.le_of_lt h)])⟩
  · rw [next_while0_exit rows v i h]
    show _ = _
    rw [rem_ge rows v i (Nat.not_lt.1 h), Nat.max_eq_left (Nat.not_lt.1 h)]

theorem next_eq (rows : List (List Nat)) (v i : Nat) :
    AlgoGen.InNeighborsIterator.next ⟨rows, rows.length, i, v, ()⟩ =
      match rem rows v i with
      | [] => .ok (none, ⟨rows, rows.length, max i rows.length, v, ()⟩)
      | x :: _ => .ok (some x, ⟨rows, rows.length, x + 1, v, ()⟩) := by
  unfold AlgoGen.InNeighborsIterator.next
  rw [next_loop rows v rows.length i rows.length (Nat.sub_le _ _) (Nat.sub_le _ _)]
  cases rem rows v i <;> rfl

theorem rem_tail (rows : List (List Nat)) (v : Nat) : ∀ (m i : Nat) (x : Nat) (xs : List Nat), rows.length - i ≤ m →
    rem rows v i = x :: xs → rem rows v (x + 1) = xs := by
  intro m
  induction m with
  | zero =>
    intro i x xs hm h
    rw [rem_ge rows v i (Nat.le_of_sub_eq_zero (Nat.le_zero.1 hm))] at h
    cases h
  | succ m ih =>
    intro i x xs hm h
    by_cases hi : i < rows.length
    · rw [rem_lt rows v i hi] at h
      by_cases hc : rows[i].contains v = true
      · rw [if_pos hc] at h
        obtain ⟨rfl, rfl⟩ := List.cons.inj h
        rfl
      · rw [if_neg hc] at h
        exact ih (i + 1) x xs (Nat.pred_le_pred hm) h
    · rw [rem_ge rows v i (Nat.not_lt.1 hi)] at h
      cases h

/-- **`in_neighbors(v).collect()`** through the generated constructor and `next` = the hand-written `Query.AL.inNeighbors` -/
theorem collect_eq (d : AdjList) (v : Nat) (N : Nat) (hN : (Query.AL.inNeighbors d v).length < N) :
    ∃ s', (AlgoGen.AdjacencyList.inNeighborsIter d v >>= fun s => collect AlgoGen.InNeighborsIterator.next N s) =
      .ok (Query.AL.inNeighbors d v, s') := by
  have hrem0 : rem d.rows v 0 = Query.AL.inNeighbors d v := by
    unfold rem Query.AL.inNeighbors
    rw [List.drop_zero]
  rw [← hrem0] at hN ⊢
  exact collect_of_spec AlgoGen.InNeighborsIterator.next (fun s => rem s.ptr s.v s.i) (fun s => s.len = s.ptr.length)
    (fun s hI hr => by
      obtain ⟨rows, len, i, v', ⟨⟩⟩ := s
      obtain rfl : len = rows.length := hI
      exact ⟨⟨rows, rows.length, max i rows.length, v', ()⟩, by rw [next_eq, (hr : rem rows v' i = [])]⟩)
    (fun s x xs hI hr => by
      obtain ⟨rows, len, i, v', ⟨⟩⟩ := s
      obtain rfl : len = rows.length := hI
      have hr : rem rows v' i = x :: xs := hr
      exact ⟨⟨rows, rows.length, x + 1, v', ()⟩, by rw [next_eq, hr], rem_tail rows v' rows.length i x xs (Nat.sub_le _ _) hr, rfl⟩)
    N ⟨d.rows, d.rows.length, 0, v, ()⟩ rfl hN

end InNeighborsIterator

/-! ## `AdjacencyList`'s `ArcsIterator` -/
namespace AlArcsIterator

/-- the arcs still to come -/
def rem (s : AlgoGen.AlArcsIterator) : List (Nat × Nat) := AdjList.innerCells s.u s.inner ++ flatRows s.u (s.arcs.drop s.u)

/-- an opened row belongs to row `u - 1` -/
def Inv (s : AlgoGen.AlArcsIterator) : Prop := s.inner.isSome = true → 1 ≤ s.u

theorem loop0_item (rows : List (List Nat)) (u v : Nat) (rest : List Nat) (hu : 1 ≤ u) :
    (AlgoGen.AlArcsIterator.next_loop0 ⟨rows, u, some (v :: rest)⟩ : Blk _ (Option (Nat × Nat) × AlgoGen.AlArcsIterator) _) =
      ret (some (u - 1, v), ⟨rows, u, some rest⟩) := by
  unfold AlgoGen.AlArcsIterator.next_loop0
  dsimp only [popFront]
  rw [subP_le _ _ hu]
  rfl

/-- one round of the `loop` with a non-empty opened row (the other cases: `loop0_end`, `loop0_open`) -/
theorem next_loop0_eq (rows : List (List Nat)) (u v : Nat) (rest : List Nat) (hu : 1 ≤ u) :
    (AlgoGen.AlArcsIterator.next_loop0 ⟨rows, u, some (v :: rest)⟩ : Blk _ (Option (Nat × Nat) × AlgoGen.AlArcsIterator) _) =
      ret (some (u - 1, v), ⟨rows, u, some rest⟩) := loop0_item rows u v rest hu

theorem loop0_end (rows : List (List Nat)) (u : Nat) (inner : Option (List Nat)) (hin : inner = none ∨ inner = some [])
    (hu : rows.length ≤ u) :
    (AlgoGen.AlArcsIterator.next_loop0 ⟨rows, u, inner⟩ : Blk _ (Option (Nat × Nat) × AlgoGen.AlArcsIterator) _) =
      ret (none, ⟨rows, u, inner⟩) := by
  rcases hin with rfl | rfl <;> exact if_pos hu

theorem loop0_open (rows : List (List Nat)) (u : Nat) (inner : Option (List Nat)) (hin : inner = none ∨ inner = some [])
    (hu : u < rows.length) :
    (AlgoGen.AlArcsIterator.next_loop0 ⟨rows, u, inner⟩ : Blk _ (Option (Nat × Nat) × AlgoGen.AlArcsIterator) _) =
      .ok ⟨rows, u + 1, some rows[u]⟩ := by
  rcases hin with rfl | rfl <;> exact (if_neg (Nat.not_le.2 hu)).trans (by rw [rd_lt _ _ _ hu]; rfl)

theorem rem_item (rows : List (List Nat)) (u v : Nat) (rest : List Nat) :
    rem ⟨rows, u, some (v :: rest)⟩ = (u - 1, v) :: rem ⟨rows, u, some rest⟩ := rfl

theorem rem_end (rows : List (List Nat)) (u : Nat) (inner : Option (List Nat)) (hin : inner = none ∨ inner = some [])
    (hu : rows.length ≤ u) : rem ⟨rows, u, inner⟩ = [] := by
  unfold rem
  dsimp only
  rw [List.drop_eq_nil_of_le hu]
  rcases hin with rfl | rfl <;> rfl

theorem rem_open (rows : List (List Nat)) (u : Nat) (inner : Option (List Nat)) (hin : inner = none ∨ inner = some [])
    (hu : u < rows.length) : rem ⟨rows, u, inner⟩ = rem ⟨rows, u + 1, some rows[u]⟩ := by
  unfold rem
  dsimp only
  rw [AdjList.flatRows_drop_lt rows hu, List.getElem?_eq_getElem hu]
  rcases hin with rfl | rfl <;> rfl

theorem inner_cases (inner : Option (List Nat)) : (∃ v rest, inner = some (v :: rest)) ∨ inner = none ∨ inner = some [] :=
  match inner with
  | some (v :: rest) => .inl ⟨v, rest, rfl⟩
  | some [] => .inr (.inr rfl)
  | none => .inr (.inl rfl)

/-- one `next()` (the `loop`): it returns, within the fuel, the first remaining arc or `None` -/
theorem next_loop (rows : List (List Nat)) : ∀ (m u : Nat) (inner : Option (List Nat)) (F : Nat), rows.length - u ≤ m → m + 2 ≤ F →
    Inv ⟨rows, u, inner⟩ → ∃ o s',
      (loopLoop AlgoGen.AlArcsIterator.next_loop0 F ⟨rows, u, inner⟩ :
        Blk Empty (Option (Nat × Nat) × AlgoGen.AlArcsIterator) (Option (Nat × Nat) × AlgoGen.AlArcsIterator)) = .error (.ret (o, s')) ∧
      (match o with
       | none => rem ⟨rows, u, inner⟩ = []
       | some x => rem ⟨rows, u, inner⟩ = x :: rem s' ∧ Inv s') := by
  intro m u inner F hm hF hI
  refine loopLoop_rule AlgoGen.AlArcsIterator.next_loop0 (fun k : Nat × Option (List Nat) => ⟨rows, k.1, k.2⟩)
    (fun k => Inv ⟨rows, k.1, k.2⟩) (rows.length - ·.1)
    (fun k r => ∃ o s', r = .error (.ret (o, s')) ∧
      match o with
      | none => rem ⟨rows, k.1, k.2⟩ = []
      | some x => rem ⟨rows, k.1, k.2⟩ = x :: rem s' ∧ Inv s')
    ?_ F (u, inner) hI (Nat.lt_of_le_of_lt hm (Nat.lt_of_lt_of_le (Nat.lt_add_of_pos_right (Nat.succ_pos 1)) hF))
  rintro ⟨u, inner⟩ hI
  rcases inner_cases inner with ⟨v, rest, rfl⟩ | hin
  · have hu : 1 ≤ u := hI rfl
    rw [loop0_item rows u v rest hu]
    exact ⟨_, _, rfl, rem_item rows u v rest, fun _ => hu⟩
  · by_cases hu : u < rows.length
    · rw [loop0_open rows u inner hin hu]
      exact ⟨(u + 1, some rows[u]), rfl, fun _ => Nat.succ_pos u, Nat.sub_succ_lt_self _ _ hu, fun r hr => by
        dsimp only at hr ⊢
        rw [rem_open rows u inner hin hu]
        exact hr⟩
    · rw [loop0_end rows u inner hin (Nat.not_lt.1 hu)]
      exact ⟨none, _, rfl, rem_end rows u inner hin (Nat.not_lt.1 hu)⟩

/-- `next()` = the first remaining arc (the loop never runs out of its fuel: no `div`) -/
theorem next_eq (s : AlgoGen.AlArcsIterator) (hI : Inv s) : ∃ o s', AlgoGen.AlArcsIterator.next s = .ok (o, s') ∧
    (match o with
     | none => rem s = []
     | some x => rem s = x :: rem s' ∧ Inv s') := by
  obtain ⟨rows, u, inner⟩ := s
  obtain ⟨o, s', h1, h2⟩ := next_loop rows rows.length u inner (rows.length + 2) (Nat.sub_le _ _) (Nat.le_refl _) hI
  refine ⟨o, s', ?_, h2⟩
  unfold AlgoGen.AlArcsIterator.next
  rw [h1]
  rfl

/-- **`arcs().collect()`** through the generated constructor and `next` = the literal hand model `AdjList.arcsIter`
(= `d.arcs`, `C01.adjList_arcs_iterator`) -/
theorem collect_eq (d : AdjList) (N : Nat) (hN : d.arcs.length < N) :
    ∃ s', (AlgoGen.AdjacencyList.arcsIter d >>= fun s => collect AlgoGen.AlArcsIterator.next N s) = .ok (AdjList.arcsIter d, s') := by
  have hrem0 : rem ⟨d.rows, 0, none⟩ = AdjList.arcsIter d := by
    rw [AdjList.arcsIter_eq, AdjList.arcs_eq]
    rfl
  rw [← AdjList.arcsIter_eq, ← hrem0] at hN
  rw [← hrem0]
  refine collect_of_next AlgoGen.AlArcsIterator.next rem Inv (fun s hI => ?_) N ⟨d.rows, 0, none⟩ (fun h => nomatch h) hN
  obtain ⟨o, s', h1, h2⟩ := next_eq s hI
  cases o
  · exact .inl ⟨s', h1, h2⟩
  · exact .inr ⟨_, s', h1, h2⟩

end AlArcsIterator

/-! ## `AdjacencyMatrix`'s `ArcsIterator` (`trailing_zeros`, `bits &= bits - 1`) -/
namespace MxArcsIterator
open GraafVerif.Repr.AdjMatrix

/-- the hand-written iterator state of a generated one -/
def st (s : AlgoGen.MxArcsIterator) : IterState := ⟨s.block_index, s.current_bits, s.current_base⟩

/-- the arcs still to come: those of the hand-written state (`AdjMatrix.rem`, the closed form of `drain`: `AdjMatrix.drain_eq`) -/
def rem (s : AlgoGen.MxArcsIterator) : List (Nat × Nat) := AdjMatrix.rem s.matrix (st s)

/-- consuming the lowest set bit of a non-zero word -/
def bitStep (d : AdjMatrix) (bi : Nat) (bits : BitVec 64) (base : Nat) :
    Blk AlgoGen.MxArcsIterator (Option (Nat × Nat) × AlgoGen.MxArcsIterator) AlgoGen.MxArcsIterator :=
  if base + AdjMatrix.tz bits < d.order * d.order then
    ret (some ((base + AdjMatrix.tz bits) / d.order, (base + AdjMatrix.tz bits) % d.order), ⟨d, bi, clearLow bits, base⟩)
  else .ok ⟨d, bi, clearLow bits, base⟩

theorem divmod_ok {β ρ : Type} (c o : Nat) (h : c < o * o) : (divP c o : Blk β ρ Nat) = .ok (c / o) ∧ (modP c o : Blk β ρ Nat) = .ok (c % o) := by
  have ho : 0 < o := Nat.pos_of_ne_zero fun h0 => Nat.not_lt_zero c (by rw [h0] at h; exact h)
  exact ⟨divP_pos c o ho, modP_pos c o ho⟩

/-- the loop condition holds with a non-zero current word, and with a block left -/
theorem cond_nz {bits : BitVec 64} (hb : bits ≠ 0#64) (b : Bool) : (b || (bits != 0#64)) = true := by
  rw [bne_iff_ne.2 hb, Bool.or_true]

theorem cond_lt {p : Prop} [Decidable p] (hp : p) (b : Bool) : (decide p || b) = true := by
  rw [decide_eq_true hp, Bool.true_or]

theorem while0_nz (d : AdjMatrix) (bi : Nat) (bits : BitVec 64) (base : Nat) (hb : bits ≠ 0#64) :
    (AlgoGen.MxArcsIterator.next_while0 ⟨d, bi, bits, base⟩ : Blk _ (Option (Nat × Nat) × AlgoGen.MxArcsIterator) _) =
      bitStep d bi bits base := by
  refine (if_pos (cond_nz hb _)).trans ?_
  unfold bitStep
  dsimp only
  rw [if_neg hb]
  dsimp only [ok_bind, pure_bind']
  rw [if_pos hb]
  by_cases hc : base + AdjMatrix.tz bits < d.order * d.order
  · obtain ⟨h1, h2⟩ := divmod_ok (β := AlgoGen.MxArcsIterator) (ρ := Option (Nat × Nat) × AlgoGen.MxArcsIterator) _ _ hc
    rw [if_pos hc, if_pos hc, h1, h2]
    rfl
  · rw [if_neg hc, if_neg hc]
    rfl

theorem while0_load (d : AdjMatrix) (bi : Nat) (base : Nat) (hbi : bi < d.blocks.length) :
    (AlgoGen.MxArcsIterator.next_while0 ⟨d, bi, 0#64, base⟩ : Blk _ (Option (Nat × Nat) × AlgoGen.MxArcsIterator) _) =
      if d.blocks[bi] = 0#64 then .ok ⟨d, bi + 1, 0#64, bi * 64⟩ else bitStep d (bi + 1) d.blocks[bi] (bi * 64) := by
  by_cases hz : d.blocks[bi] = 0#64
  · rw [if_pos hz]
    refine (if_pos (cond_lt hbi _)).trans ?_
    dsimp only
    rw [if_pos rfl, rd_lt _ _ _ hbi, hz]
    rfl
  · -- after the load the round goes on as from the state that has this word current: same second half
    rw [if_neg hz, ← while0_nz d (bi + 1) d.blocks[bi] (bi * 64) hz]
    refine (if_pos (cond_lt hbi _)).trans (Eq.trans (congrArg (· >>= _) ?_) (if_pos (cond_nz hz _)).symm)
    dsimp only
    rw [if_pos rfl, if_neg hz, rd_lt _ _ _ hbi]
    rfl

theorem new_eq (d : AdjMatrix) : AlgoGen.MxArcsIterator.new d = .ok ⟨d, 0, 0#64, 0⟩ := rfl

/-- one round of the `while` loop with a non-zero current word (the other cases: `while0_load`, `while0_exit`) -/
theorem next_while0_eq (d : AdjMatrix) (bi : Nat) (bits : BitVec 64) (base : Nat) (hb : bits ≠ 0#64) :
    (AlgoGen.MxArcsIterator.next_while0 ⟨d, bi, bits, base⟩ : Blk _ (Option (Nat × Nat) × AlgoGen.MxArcsIterator) _) =
      bitStep d bi bits base := while0_nz d bi bits base hb

theorem while0_exit (d : AdjMatrix) (bi : Nat) (base : Nat) (hbi : ¬ bi < d.blocks.length) :
    (AlgoGen.MxArcsIterator.next_while0 ⟨d, bi, 0#64, base⟩ : Blk _ (Option (Nat × Nat) × AlgoGen.MxArcsIterator) _) =
      brk ⟨d, bi, 0#64, base⟩ :=
  if_neg (by rw [decide_eq_false hbi]; exact Bool.false_ne_true)

/-- the generated iterator over `d` in the hand-written state `k` -/
abbrev of (d : AdjMatrix) (k : IterState) : AlgoGen.MxArcsIterator := ⟨d, k.blockIndex, k.bits, k.base⟩

/-- what `next_loop` claims of the result `r` of the `while` loop started in state `k` -/
def Yield (d : AdjMatrix) (k : IterState) (r : Blk Empty (Option (Nat × Nat) × AlgoGen.MxArcsIterator) AlgoGen.MxArcsIterator) :
    Prop :=
  (∃ s', r = .ok s' ∧ rem (of d k) = []) ∨
  (∃ x s', r = .error (.ret (some x, s')) ∧ rem (of d k) = x :: rem s' ∧ s'.matrix = d ∧ μ d (st s') ≤ μ d k)

/-- a round that yields nothing hands the claim back -/
theorem Yield.skip {d : AdjMatrix} {k k' : IterState} (hrem : rem (of d k) = rem (of d k')) (hle : μ d k' ≤ μ d k)
    (r : Blk Empty (Option (Nat × Nat) × AlgoGen.MxArcsIterator) AlgoGen.MxArcsIterator) (h : Yield d k' r) : Yield d k r :=
  h.imp (fun ⟨s', h1, h2⟩ => ⟨s', h1, hrem.trans h2⟩)
    (fun ⟨x, s', h1, h2, h3, h4⟩ => ⟨x, s', h1, hrem.trans h2, h3, Nat.le_trans h4 hle⟩)

/-- a round from `k` that has the non-zero word of `k1` current after its (possible) load -/
theorem round_bit (d : AdjMatrix) (k k1 : IterState) (hw : k1.bits ≠ 0#64) (hrem : rem (of d k) = rem (of d k1))
    (hle : μ d k1 ≤ μ d k) :
    Round (of d) (fun _ => True) (μ d · + 1) (Yield d) k (bitStep d k1.blockIndex k1.bits k1.base) := by
  obtain ⟨bi1, w, base1⟩ := k1
  have hlt := Nat.lt_of_lt_of_le (μ_nz d bi1 base1 hw) hle
  have hrem := hrem.trans (rem_nz d bi1 base1 hw)
  unfold bitStep
  by_cases hc : base1 + AdjMatrix.tz w < d.order * d.order
  · rw [if_pos hc]
    exact .inr ⟨_, ⟨d, bi1, clearLow w, base1⟩, rfl, hrem.trans (if_pos hc), rfl, Nat.le_of_lt hlt⟩
  · rw [if_neg hc]
    exact ⟨⟨bi1, clearLow w, base1⟩, rfl, trivial, Nat.succ_lt_succ hlt, Yield.skip (hrem.trans (if_neg hc)) (Nat.le_of_lt hlt)⟩

/-- the `while` loop of one `next()`: it leaves through `return Some(x)` with the first remaining arc, or ends with none left -/
theorem next_loop (d : AdjMatrix) : ∀ (m : Nat) (bi : Nat) (bits : BitVec 64) (base F : Nat), μ d ⟨bi, bits, base⟩ < m → m ≤ F →
    (∃ s', (whileLoop AlgoGen.MxArcsIterator.next_while0 F ⟨d, bi, bits, base⟩ :
        Blk Empty (Option (Nat × Nat) × AlgoGen.MxArcsIterator) _) = .ok s' ∧ rem ⟨d, bi, bits, base⟩ = []) ∨
    (∃ x s', (whileLoop AlgoGen.MxArcsIterator.next_while0 F ⟨d, bi, bits, base⟩ :
        Blk Empty (Option (Nat × Nat) × AlgoGen.MxArcsIterator) _) = .error (.ret (some x, s')) ∧
      rem ⟨d, bi, bits, base⟩ = x :: rem s' ∧ s'.matrix = d ∧ μ d (st s') ≤ μ d ⟨bi, bits, base⟩) := by
  intro m bi bits base F hμ hF
  refine whileLoop_rule AlgoGen.MxArcsIterator.next_while0 (of d) (fun _ => True) (μ d · + 1) (Yield d)
    (fun _ _ h0 => absurd h0 (Nat.succ_ne_zero _)) ?_ F ⟨bi, bits, base⟩ trivial (Nat.le_trans hμ hF)
  rintro ⟨bi, bits, base⟩ -
  by_cases hb : bits = 0#64
  · subst hb
    by_cases hbi : bi < d.blocks.length
    · rw [while0_load d bi base hbi]
      have hlt := μ_load d base hbi
      have hrem := rem_load d base hbi
      by_cases hz : d.blocks[bi] = 0#64
      · rw [if_pos hz]
        rw [hz] at hlt hrem
        exact ⟨⟨bi + 1, 0#64, bi * 64⟩, rfl, trivial, Nat.succ_lt_succ hlt, Yield.skip hrem (Nat.le_of_lt hlt)⟩
      · rw [if_neg hz]
        exact round_bit d ⟨bi, 0#64, base⟩ ⟨bi + 1, d.blocks[bi], bi * 64⟩ hz hrem (Nat.le_of_lt hlt)
    · rw [while0_exit d bi base hbi]
      exact .inl ⟨_, rfl, rem_exit d base hbi⟩
  · rw [while0_nz d bi bits base hb]
    exact round_bit d ⟨bi, bits, base⟩ ⟨bi, bits, base⟩ hb rfl (Nat.le_refl _)

/-- the fuel of the generated `next` covers every state the iterator reaches -/
def Inv (s : AlgoGen.MxArcsIterator) : Prop := μ s.matrix (st s) ≤ 65 * s.matrix.blocks.length

theorem next_eq (s : AlgoGen.MxArcsIterator) (hI : Inv s) :
    (∃ s', AlgoGen.MxArcsIterator.next s = .ok (none, s') ∧ rem s = []) ∨
    (∃ x s', AlgoGen.MxArcsIterator.next s = .ok (some x, s') ∧ rem s = x :: rem s' ∧ Inv s') := by
  obtain ⟨d, bi, bits, base⟩ := s
  unfold AlgoGen.MxArcsIterator.next
  rcases next_loop d (65 * d.blocks.length + 1) bi bits base (65 * d.blocks.length + 1) (Nat.lt_succ_of_le hI) (Nat.le_refl _) with
    ⟨s', h1, h2⟩ | ⟨x, s', h1, h2, h3, h4⟩
  · exact .inl ⟨s', by rw [h1]; rfl, h2⟩
  · refine .inr ⟨x, s', by rw [h1]; rfl, h2, ?_⟩
    unfold Inv
    rw [h3]
    exact Nat.le_trans h4 hI

/-- **`arcs().collect()`** through the generated `ArcsIterator::new` and `next` = the literal hand model
`AdjMatrix.arcsIter` (= `d.arcs`, `C01.adjMatrix_arcs_iterator`) -/
theorem collect_eq (d : AdjMatrix) (N : Nat) (hN : d.arcs.length < N) :
    ∃ s', (AlgoGen.AdjacencyMatrix.arcsIter d >>= fun s => collect AlgoGen.MxArcsIterator.next N s) = .ok (AdjMatrix.arcsIter d, s') := by
  have hμ0 : μ d iterInit ≤ 65 * d.blocks.length := by
    unfold iterInit μ
    rw [popcount_zero, Nat.zero_add]
    exact restMeasure_le d 0
  have hrem0 : rem ⟨d, 0, 0#64, 0⟩ = AdjMatrix.arcsIter d := (drain_eq d (iterFuel d) iterInit (Nat.lt_succ_of_le hμ0)).symm
  rw [← AdjMatrix.arcsIter_eq, ← hrem0] at hN
  rw [← hrem0]
  exact collect_of_next AlgoGen.MxArcsIterator.next rem Inv next_eq N ⟨d, 0, 0#64, 0⟩ hμ0 hN

end MxArcsIterator

end GraafVerif.AlgoGenThm
