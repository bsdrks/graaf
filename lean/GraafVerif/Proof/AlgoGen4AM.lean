import GraafVerif.Proof.AlgoGen4Par
import GraafVerif.Proof.AlgoGen3Gen3
import GraafVerif.Proof.AlgoGen3Ops
import GraafVerif.Proof.RandErMap
/-!
# Generated threaded generators of `AdjacencyMap` = the hand-written `Rand.tournamentAM`, `Rand.erAM` with the
streams of the workers' PRNGs (`Xoshiro256StarStar::new(seed.wrapping_add(thread_id))`)
-/
namespace GraafVerif.AlgoGenThm
open GraafVerif GraafVerif.AlgoGen GraafVerif.Repr
open Xoshiro256StarStar (ofX)

namespace AdjacencyMap

theorem randomTournament_for2_eq (u : Nat) (rows : List (List Nat)) (x : Rand.Xo) (v : Nat)
    (hu : u < rows.length) (hv : v < rows.length) :
    (AlgoGen.AdjacencyMap.randomTournament_for2 u (rows, ofX x) v : Blk _ AdjMap _) =
      optS x.next.2 (AdjacencyList.tstep rows (u, v) x.next.1) := by
  unfold AlgoGen.AdjacencyMap.randomTournament_for2 AdjacencyList.tstep Rand.rowInsert
  simp only [Xoshiro256StarStar.nextBool_eq, call_ok, ok_bind]
  by_cases hb : Rand.nextBool (Rand.Xo.next x).1 = true
  · simp only [hb, if_true, rd_lt _ _ _ hu, wr_lt _ _ _ _ hu, ok_bind, pure_eq_ok,
      List.getElem?_eq_getElem hu, Option.getD_some]
    rfl
  · simp only [hb, if_false, Bool.false_eq_true, rd_lt _ _ _ hv, wr_lt _ _ _ _ hv, ok_bind, pure_eq_ok,
      List.getElem?_eq_getElem hv, Option.getD_some]
    rfl

theorem randomTournament_for2_exits (u : Nat) (s : List (List Nat) × AlgoGen.Xoshiro256StarStar) (v : Nat) :
    (∃ s', AlgoGen.AdjacencyMap.randomTournament_for2 u s v = (.ok s' : Blk _ AdjMap _)) ∨
      (∃ e, AlgoGen.AdjacencyMap.randomTournament_for2 u s v = (.error (.err e) : Blk _ AdjMap _)) :=
  noBrk_bind (noBrk_call _) fun _ => noBrk_bind
    (noBrk_ite (noBrk_bind (noBrk_liftChk _) fun _ => noBrk_bind (noBrk_liftChk _) fun _ => noBrk_ok _)
      (noBrk_bind (noBrk_liftChk _) fun _ => noBrk_bind (noBrk_liftChk _) fun _ => noBrk_ok _))
    fun _ => noBrk_ok _

theorem randomTournament_for1_eq (n : Nat) (s : List (List Nat) × AlgoGen.Xoshiro256StarStar) (u : Nat) :
    (AlgoGen.AdjacencyMap.randomTournament_for1 n s u : Blk _ AdjMap _) =
      forLoop (AlgoGen.AdjacencyMap.randomTournament_for2 u) (AlgoGen.range (u + 1) n) s := by
  unfold AlgoGen.AdjacencyMap.randomTournament_for1
  exact bind_pair_eta _

/-- `handle.join()`: nothing to do -/
theorem randomTournament_for3_eq (h : Unit) : (AlgoGen.AdjacencyMap.randomTournament_for3 () h : Blk Unit AdjMap Unit) = .ok () := rfl

/-- one worker run to completion on the shared rows: the locked inserts of its program, in program order -/
theorem worker_eq (n : Nat) (r : Nat × Nat) (hr : r.2 ≤ n) (rows : List (List Nat)) (x : Rand.Xo) (hlen : rows.length = n) :
    (forLoop (AlgoGen.AdjacencyMap.randomTournament_for1 n) (AlgoGen.range r.1 r.2) (rows, ofX x) : Blk (List (List Nat) × List Unit) AdjMap _) =
      .ok ((Rand.workerActs (draws x) n r).foldl Rand.rowInsert rows, ofX (x.iter (Rand.workerPairs n r).length)) ∧
    ((Rand.workerActs (draws x) n r).foldl Rand.rowInsert rows).length = n := by
  refine ⟨?_, (Rand.foldl_rowInsert_length _ _).trans hlen⟩
  rw [forLoop_flat (β := List (List Nat) × List Unit) (AlgoGen.AdjacencyMap.randomTournament_for1 n)
    (fun u => AlgoGen.AdjacencyMap.randomTournament_for2 u) (fun u => AlgoGen.range (u + 1) n)
    (fun s u => randomTournament_for1_eq n s u) randomTournament_for2_exits (AlgoGen.range r.1 r.2) (rows, ofX x)]
  show forLoop _ (Rand.workerPairs n r) _ = _
  rw [forLoop_draws (β := List (List Nat) × List Unit) (fun r : List (List Nat) => r.length = n) (Rand.workerPairs n r)
    (fun s (p : Nat × Nat) => AlgoGen.AdjacencyMap.randomTournament_for2 p.1 s p.2) AdjacencyList.tstep
    (fun rws p x hp hrw => randomTournament_for2_eq p.1 rws x p.2
      (hrw ▸ (mem_workerPairs hr hp).1) (hrw ▸ (mem_workerPairs hr hp).2))
    (fun rws p w r' _ hrw h => (AdjacencyList.tstep_length h).trans hrw)
    (Rand.workerPairs n r) rows x (fun _ h => h) hlen, AdjacencyList.tstep_fold]
  rfl

/-- one spawned worker (a dummy panic for a range that leaves `0..order`: never produced by the chunking) -/
def tournamentW (n : Nat) (seed : UInt64) (st : List (List Nat) × List Unit) (r : Nat × Nat) (id : Nat) :
    Blk (List (List Nat) × List Unit) AdjMap (List (List Nat) × List Unit) :=
  if r.2 ≤ n ∧ st.1.length = n then
    .ok ((Rand.workerActs (Rand.xoStreams seed id) n r).foldl Rand.rowInsert st.1, st.2 ++ [()])
  else panic

theorem randomTournament_for0_eq (n : Nat) (seed : UInt64) (chunk : Nat) (st : List (List Nat) × List Unit) (id : Nat)
    (hlen : st.1.length = n) :
    (AlgoGen.AdjacencyMap.randomTournament_for0 n seed chunk st id : Blk (List (List Nat) × List Unit) AdjMap _) =
      if id * chunk ≥ min n (id * chunk + chunk) then brk st
      else tournamentW n seed st (id * chunk, min n (id * chunk + chunk)) id := by
  unfold AlgoGen.AdjacencyMap.randomTournament_for0 tournamentW
  dsimp only
  by_cases hge : id * chunk ≥ min n (id * chunk + chunk)
  · simp only [hge, if_true]
  · have hr : min n (id * chunk + chunk) ≤ n := Nat.min_le_left _ _
    simp only [hge, if_false, hr, hlen, and_self, if_true, Xoshiro256StarStar.new_eq, call_ok, ok_bind]
    rw [(worker_eq n (id * chunk, min n (id * chunk + chunk)) hr st.1 _ hlen).1]
    simp only [ok_bind, pure_eq_ok, draws_new]
    rfl

theorem map_const_nil (n : Nat) : List.map (fun _ => ([] : List Nat)) (List.range n) = List.replicate n [] := by
  rw [List.map_const', List.length_range]

theorem randomTournament_for4_eq (rows : List (List Nat)) (acc : List (Nat × List Nat)) (u : Nat) (hu : u < rows.length) :
    (AlgoGen.AdjacencyMap.randomTournament_for4 rows acc u : Blk (List (Nat × List Nat)) AdjMap _) =
      .ok (Ops.minsert u (rows[u]?.getD []) acc) := by
  unfold AlgoGen.AdjacencyMap.randomTournament_for4
  simp only [rd_lt _ _ _ hu, ok_bind, pure_eq_ok, List.getElem?_eq_getElem hu, Option.getD_some]

/-- `AdjacencyMap::random_tournament(order, seed)` with `available_parallelism() = ap ≥ 1` = the hand-written
`Rand.tournamentAM` on the streams of the workers' PRNGs `Xoshiro256StarStar::new(seed + thread_id)`, for every order
and seed (under the reading of DESIGN.md §4.2: every worker runs to completion at its spawn point — the hand-written
`tournament_schedule_independent` shows that every interleaving of the locked inserts ends in the same rows). -/
theorem randomTournament_eq (ap n : Nat) (seed : UInt64) (hap : 0 < ap) :
    AlgoGen.AdjacencyMap.randomTournament ap n seed = optR (Rand.tournamentAM (Rand.xoStreams seed) n ap) := by
  unfold AlgoGen.AdjacencyMap.randomTournament Rand.tournamentAM
  by_cases h0 : n = 0
  · subst h0; rfl
  · have hpos : n > 0 := Nat.pos_of_ne_zero h0
    by_cases h1 : n = 1
    · subst h1; rfl
    · have ht : 0 < min n ap := by omega
      simp only [hpos, h0, h1, decide_true, assert_true, ok_bind, if_false, divCeilP_pos _ _ ht, map_const_nil]
      obtain ⟨hrun, hlen⟩ := forLoop_spawn (β := Empty) (ρ := AdjMap) n ((n + min n ap - 1) / min n ap)
        (fun st : List (List Nat) × List Unit => st.1.length = n)
        (AlgoGen.AdjacencyMap.randomTournament_for0 n seed ((n + min n ap - 1) / min n ap))
        (fun st r id => ((Rand.workerActs (Rand.xoStreams seed id) n r).foldl Rand.rowInsert st.1, st.2 ++ [()]))
        (fun st id hst => by
          rw [randomTournament_for0_eq n seed _ st id hst, tournamentW, if_pos (And.intro (Nat.min_le_left n _) hst)])
        (fun st r k hst => (Rand.foldl_rowInsert_length _ _).trans hst)
        (min n ap) 0 (List.replicate n [], []) List.length_replicate
      rw [foldl_pair (fun rows (rk : (Nat × Nat) × Nat) => (Rand.workerActs (Rand.xoStreams seed rk.2) n rk.1).foldl Rand.rowInsert rows)
        (fun hs _ => hs ++ [()])] at hrun hlen
      rw [List.range_eq_range', hrun, ok_bind, forLoop_pure (β := Empty) AlgoGen.AdjacencyMap.randomTournament_for3 (fun _ _ => ()) (fun _ _ => rfl),
        ok_bind]
      rw [(forLoop_ok (β := Empty) (I := fun _ : List (Nat × List Nat) => True) trivial fun acc _ u hu =>
        ⟨randomTournament_for4_eq _ acc u (hlen.symm ▸ List.mem_range.1 hu), trivial⟩).1]
      simp only [ok_bind, pure_eq_ok, fnBody_ok, optR]
      congr 2
      unfold Rand.collectMap Rand.tournamentProgs Rand.workers
      rw [List.foldl_map, foldl_flatten, List.foldl_map]
      rfl

theorem erdosRenyi_for2_eq (p : Rand.F64) (u : Nat) (out : List Nat) (x : Rand.Xo) (v : Nat) (hv : v ≠ u) :
    (AlgoGen.AdjacencyMap.erdosRenyi_for2 p u (ofX x, out) v : Blk _ AdjMap _) =
      .ok (ofX x.next.2, if Rand.f64lt x.next.1 p then sinsert v out else out) := by
  unfold AlgoGen.AdjacencyMap.erdosRenyi_for2
  simp only [hv, ne_eq, not_false_eq_true, if_true, Xoshiro256StarStar.nextF64_eq, call_ok, ok_bind, pure_eq_ok,
    AdjacencyMatrix.f64ltM_mant]
  by_cases hb : Rand.f64lt (Rand.Xo.next x).1 p = true
  · simp only [hb, if_true]; rfl
  · simp only [hb, if_false, Bool.false_eq_true]; rfl

theorem erdosRenyi_for2_skip (p : Rand.F64) (u : Nat) (st : AlgoGen.Xoshiro256StarStar × List Nat) :
    (AlgoGen.AdjacencyMap.erdosRenyi_for2 p u st u : Blk _ AdjMap _) = .ok st := by
  unfold AlgoGen.AdjacencyMap.erdosRenyi_for2
  simp only [ne_eq, not_true_eq_false, if_false, pure_eq_ok, ok_bind, Bool.false_eq_true]

theorem toSet_erRow_filter (S : Rand.Stream) (p : Rand.F64) (b n u : Nat) (hu : u < n) :
    (Rand.erRow S p b (Rand.othersFilter n u)).foldl (fun s v => sinsert v s) [] = Rand.erRow S p b (Rand.othersFilter n u) := by
  rw [← Rand.othersChain_eq_filter n u hu]
  exact toSet_erRow S p b n u

/-- row `u` of a worker: `n - 1` draws (none for `v = u`), the selected candidates -/
theorem erdosRenyi_for1_eq (n : Nat) (p : Rand.F64) (loc : List (Nat × List Nat)) (x : Rand.Xo) (u : Nat) (hu : u < n) :
    (AlgoGen.AdjacencyMap.erdosRenyi_for1 n p (ofX x, loc) u : Blk _ AdjMap _) =
      .ok (ofX (x.iter (n - 1)), loc ++ [(u, Rand.erRow (draws x) p 0 (Rand.othersFilter n u))]) := by
  unfold AlgoGen.AdjacencyMap.erdosRenyi_for1
  dsimp only
  rw [forLoop_filter (β := AlgoGen.Xoshiro256StarStar × List (Nat × List Nat)) (AlgoGen.AdjacencyMap.erdosRenyi_for2 p u) (fun v => u != v)
    (fun st v hq => by
      obtain rfl : u = v := bne_eq_false_iff_eq.1 hq
      exact erdosRenyi_for2_skip p u st)]
  have hc : (List.range n).filter (fun v => u != v) = Rand.othersFilter n u := rfl
  rw [hc, forLoop_select' (β := AlgoGen.Xoshiro256StarStar × List (Nat × List Nat)) p (fun s v => sinsert v s) (Rand.othersFilter n u) _
    (fun s v x hv => erdosRenyi_for2_eq p u s x v ((Rand.mem_othersFilter n u v).1 hv).2)]
  rw [AdjacencyMatrix.othersFilter_length n u hu, toSet_erRow_filter _ _ _ _ _ hu]
  rfl

theorem erWorker_eq (n : Nat) (p : Rand.F64) (r : Nat × Nat) (hr : r.2 ≤ n) (x : Rand.Xo) :
    ∃ x', (forLoop (AlgoGen.AdjacencyMap.erdosRenyi_for1 n p) (AlgoGen.range r.1 r.2) (ofX x, []) :
        Blk (List (List (Nat × List Nat))) AdjMap _) = .ok (ofX x', Rand.erWorker (draws x) p n r) := by
  refine ⟨x.iter ((AlgoGen.range r.1 r.2).length * (n - 1)), ?_⟩
  rw [forLoop_blocks (β := List (List (Nat × List Nat))) (n - 1) (AlgoGen.range r.1 r.2) _
    (fun (loc : List (Nat × List Nat)) u S => loc ++ [(u, Rand.erRow S p 0 (Rand.othersFilter n u))])
    (fun loc u x hu => erdosRenyi_for1_eq n p loc x u (mem_range_lt hr hu))
    (AlgoGen.range r.1 r.2) [] x (fun _ h => h)]
  congr 2
  unfold Rand.erWorker AlgoGen.range
  rw [zipIdx_range', List.foldl_map]
  simp only [erRow_shift, Nat.add_zero]
  exact foldl_snoc_map _ _ []

/-- one spawned worker (a dummy panic for a range that leaves `0..order`, as in `tournamentW`) -/
def erW (n : Nat) (p : Rand.F64) (seed : UInt64) (hs : List (List (Nat × List Nat))) (r : Nat × Nat) (id : Nat) :
    Blk (List (List (Nat × List Nat))) AdjMap (List (List (Nat × List Nat))) :=
  if r.2 ≤ n then .ok (hs ++ [Rand.erWorker (Rand.xoStreams seed id) p n r]) else panic

theorem erdosRenyi_for0_eq (n : Nat) (p : Rand.F64) (seed : UInt64) (chunk : Nat) (hs : List (List (Nat × List Nat))) (id : Nat) :
    (AlgoGen.AdjacencyMap.erdosRenyi_for0 n p seed chunk hs id : Blk (List (List (Nat × List Nat))) AdjMap _) =
      if id * chunk ≥ min n (id * chunk + chunk) then brk hs
      else erW n p seed hs (id * chunk, min n (id * chunk + chunk)) id := by
  unfold AlgoGen.AdjacencyMap.erdosRenyi_for0 erW
  dsimp only
  by_cases hge : id * chunk ≥ min n (id * chunk + chunk)
  · simp only [hge, if_true]
  · have hr : min n (id * chunk + chunk) ≤ n := Nat.min_le_left _ _
    simp only [hge, if_false, hr, if_true, Xoshiro256StarStar.new_eq, call_ok, ok_bind]
    rw [subP_le _ _ (by omega)]
    simp only [ok_bind]
    obtain ⟨x', h⟩ := erWorker_eq n p (id * chunk, min n (id * chunk + chunk)) hr (Rand.Xo.new (seed + UInt64.ofNat id))
    rw [h]
    simp only [ok_bind, pure_eq_ok, draws_new]
    rfl

theorem erdosRenyi_for3_eq (res : List (Nat × List Nat)) (h : List (Nat × List Nat)) :
    (AlgoGen.AdjacencyMap.erdosRenyi_for3 res h : Blk (List (Nat × List Nat)) AdjMap _) = .ok (res ++ h) := rfl

/-- the threaded part (`p ≤ 0.5`), for every fuel `≥ 1` -/
theorem erdosRenyi_core (ap n : Nat) (p : Rand.F64) (seed : UInt64) (hap : 0 < ap) (fuel : Nat)
    (hn : 1 < n) (hp : p.inUnit = true) (hh : p.gtHalf = false) :
    AlgoGen.AdjacencyMap.erdosRenyi ap (fuel + 1) n p seed = .ok (Rand.erMapCore (Rand.xoStreams seed) n ap p) := by
  unfold AlgoGen.AdjacencyMap.erdosRenyi
  have hpos : n > 0 := by omega
  have h1 : n ≠ 1 := by omega
  have ht : 0 < min n ap := by omega
  simp only [hpos, hp, hh, h1, decide_true, assert_true, ok_bind, if_false, Bool.false_eq_true, divCeilP_pos _ _ ht]
  rw [List.range_eq_range', (forLoop_spawn (β := Empty) n _ (fun _ => True) _
    (fun s r k => s ++ [Rand.erWorker (Rand.xoStreams seed k) p n r])
    (fun s id _ => by rw [erdosRenyi_for0_eq, erW, if_pos (Nat.min_le_left n _)])
    (fun _ _ _ _ => trivial) (min n ap) 0 [] trivial).1, ok_bind, forLoop_pure (β := Empty) _ _ erdosRenyi_for3_eq,
    foldl_append_flatten, foldl_snoc_map (fun rk : (Nat × Nat) × Nat => Rand.erWorker (Rand.xoStreams seed rk.2) p n rk.1),
    List.nil_append, List.nil_append, ← List.flatMap_def]
  simp only [ok_bind, pure_eq_ok, fnBody_ok]
  show Except.ok (AdjMap.mk (Ops.toMap (sortByKey1 (Rand.erResults (Rand.xoStreams seed) n ap p)))) = _
  have hsorted := Gen.sortedK_of_keys (Rand.erResults_keys (Rand.xoStreams seed) n ap p hpos hap)
  rw [AdjacencyList.mergeSort_sorted _ (hsorted.imp Nat.le_of_lt)]
  rfl

theorem erMapCore_sortedK (streams : Nat → Rand.Stream) (n t : Nat) (p : Rand.F64) (hn : 0 < n) (ht : 0 < t) :
    SortedK (Rand.erMapCore streams n t p).rows :=
  Rand.erMapCore_rows streams n t p hn ht ▸ Gen.sortedK_of_keys (Rand.erResults_keys streams n t p hn ht)

/-- `AdjacencyMap::erdos_renyi(order, p, seed)` with `available_parallelism() = ap ≥ 1` and any fuel `≥ 2` for the
recursion `erdos_renyi(order, 1.0 - p, seed).complement()` = the hand-written `Rand.erAM` on the streams of the workers'
PRNGs, for every order, every `f64` value `p` and every seed. -/
theorem erdosRenyi_eq (ap fuel n : Nat) (p : Rand.F64) (seed : UInt64) (hap : 0 < ap) :
    AlgoGen.AdjacencyMap.erdosRenyi ap (fuel + 2) n p seed = optR (Rand.erAM (Rand.xoStreams seed) n ap p) := by
  unfold Rand.erAM
  by_cases h0 : n = 0
  · subst h0
    unfold AlgoGen.AdjacencyMap.erdosRenyi Rand.erAMF
    rfl
  · have hpos : n > 0 := Nat.pos_of_ne_zero h0
    by_cases hp : p.inUnit = true
    · by_cases h1 : n = 1
      · subst h1
        unfold AlgoGen.AdjacencyMap.erdosRenyi Rand.erAMF
        simp [hp, optR]
        rfl
      · have hn : 1 < n := by omega
        cases hh : p.gtHalf with
        | false =>
          rw [erdosRenyi_core ap n p seed hap (fuel + 1) hn hp hh]
          simp [Rand.erAMF, h0, h1, hp, hh, optR]
        | true =>
          obtain ⟨hq1, hq2, _⟩ := Rand.oneMinus_facts p hp hh
          have hrec := erdosRenyi_core ap n p.oneMinus seed hap fuel hn hq1 hq2
          unfold AlgoGen.AdjacencyMap.erdosRenyi
          simp only [hpos, hp, hh, h1, decide_true, assert_true, ok_bind, if_false, if_true, hrec, call_ok,
            AdjacencyMap.complement_eq]
          rw [complementAM_agree _ (erMapCore_sortedK _ n ap _ hpos hap)]
          simp [Rand.erAMF, h0, h1, hp, hh, hq1, hq2, optR]
    · have hp' : p.inUnit = false := by simpa using hp
      unfold AlgoGen.AdjacencyMap.erdosRenyi Rand.erAMF
      simp [hpos, hp', h0, optR]

end AdjacencyMap
end GraafVerif.AlgoGenThm
