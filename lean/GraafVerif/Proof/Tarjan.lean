import GraafVerif.Proof.TarjanStep
/-!
# Correctness of the Tarjan model

`connect_post` is an induction on the fuel; the fuel bound is the number of un-indexed vertices,
so the induction is also the termination proof.  Between top-level calls the call path is empty,
and `Inv g []` forces an empty stack.
-/
namespace GraafVerif.Tarjan
open GraafVerif

theorem unindexed_pos {g : VGraph} {gray : List Nat} {u : Nat} {s : St} (p : Pre g gray u s) :
    0 < unindexed g s :=
  List.length_pos_of_mem (List.mem_filter.2 ⟨p.vert, (s.isNone_index u).2 p.fresh⟩)

theorem connect_post (g : VGraph) (hclosed : g.Closed) :
    ∀ (fuel : Nat) (gray : List Nat) (u : Nat) (s : St), Pre g gray u s → unindexed g s ≤ fuel →
      Post g gray u s (connect g fuel u s) := by
  intro fuel
  induction fuel with
  | zero =>
    intro gray u s p h
    exact absurd (unindexed_pos p) (Nat.not_lt.2 h)
  | succ fuel ih =>
    intro gray u s p h
    rw [connect_succ]
    have hu : g.verts.contains u = true := by simpa using p.vert
    simp only [hu, if_true]
    have L := loop_all p (connect g fuel)
      (fun v t _ pre hlt => ih (u :: gray) v t pre (Nat.le_of_lt_succ (Nat.lt_of_lt_of_le hlt h)))
      (hclosed u p.vert) (g.out u) [] (enter u s) (fun _ hv => hv) (loop_init p)
    rw [List.nil_append] at L
    exact finish_post p L

theorem connect_fuel_adequate (g : VGraph) (hclosed : g.Closed) (gray : List Nat) (u : Nat) (s : St)
    (p : Pre g gray u s) (fuel : Nat) (h : unindexed g s ≤ fuel) :
    (connect g fuel u s).fault = none ∧ connect g fuel u s = connect g (unindexed g s) u s := by
  have P := connect_post g hclosed (unindexed g s) gray u s p (Nat.le_refl _)
  have hk : fuel = unindexed g s + (fuel - unindexed g s) := (Nat.add_sub_cancel' h).symm
  have heq : connect g fuel u s = connect g (unindexed g s) u s := by
    rw [hk]
    exact connect_fuel_mono g _ _ u s (by rw [P.inv.nofault]; simp)
  exact ⟨by rw [heq]; exact P.inv.nofault, heq⟩

theorem inv_init (g : VGraph) : Inv g [] ({} : St) :=
  have hni : ∀ x, ¬ St.indexed ({} : St) x := fun x => (St.not_indexed_iff _ x).2 rfl
  { nofault := rfl
    onStack := fun _ => Iff.rfl
    indexedIff := fun x => iff_of_false (hni x) (by simp)
    compStack := fun _ hc => absurd hc List.not_mem_nil
    compDisj := List.Pairwise.nil
    compAsc := fun _ hc => absurd hc List.not_mem_nil
    verts := fun x hx => absurd hx (hni x)
    lowDef := fun x hx => absurd hx (hni x)
    idxLt := fun x hx => absurd hx (hni x)
    sorted := List.Pairwise.nil
    grayStack := fun _ hz => absurd hz List.not_mem_nil
    blackOut := fun x hx => absurd hx (hni x)
    grayReach := fun _ hz => absurd hz List.not_mem_nil
    toGray := fun _ hy => absurd hy List.not_mem_nil
    sccs := fun _ hc => absurd hc List.not_mem_nil }

/-! `top` is `topWith` at the model's own fuel supply; both on their two input shapes. -/

theorem top_eq_topWith (g : VGraph) : top g = topWith g (fun s => unindexed g s + 1) := rfl

theorem topWith_of_indexed {g : VGraph} {fuelOf : St → Nat} {s : St} {u : Nat} (hs : s.fault = none)
    (h : s.indexed u) : topWith g fuelOf s u = s := by
  have hi := (s.indexed_iff u).1 h
  simp only [topWith, hs, hi, Option.isSome_none, Option.isSome_some, Bool.false_eq_true, if_false, if_true]

theorem topWith_of_fresh {g : VGraph} {fuelOf : St → Nat} {s : St} {u : Nat} (hs : s.fault = none)
    (h : ¬ s.indexed u) : topWith g fuelOf s u = connect g (fuelOf s) u s := by
  have hi : mget s.index u = none := (s.not_indexed_iff u).1 h
  simp only [topWith, hs, hi, Option.isSome_none, Bool.false_eq_true, if_false]

theorem Pre.top {g : VGraph} {s : St} (inv : Inv g [] s) {u : Nat} (hu : u ∈ g.verts)
    (h : ¬ s.indexed u) : Pre g [] u s :=
  ⟨inv, hu, h, fun _ hz => absurd hz List.not_mem_nil⟩

theorem top_step {g : VGraph} (hclosed : g.Closed) {s : St} (inv : Inv g [] s) {u : Nat}
    (hu : u ∈ g.verts) : Inv g [] (top g s u) ∧ Ext s (top g s u) ∧ (top g s u).indexed u := by
  rw [top_eq_topWith]
  by_cases h : s.indexed u
  · rw [topWith_of_indexed inv.nofault h]
    exact ⟨inv, Ext.refl s, h⟩
  · rw [topWith_of_fresh inv.nofault h]
    have P := connect_post g hclosed (unindexed g s + 1) [] u s (Pre.top inv hu h) (Nat.le_succ _)
    exact ⟨P.inv, P.ext, St.indexed_of_some P.idxV⟩

theorem run_inv {g : VGraph} (hclosed : g.Closed) :
    Inv g [] (run g) ∧ ∀ v ∈ g.verts, (run g).indexed v :=
  Fold.foldl_establish (Inv g []) (fun v s => s.indexed v) (top g) g.verts (fun _ _ hu inv =>
    have ⟨i, e, x⟩ := top_step hclosed inv hu
    ⟨i, x, fun _ => e.indexed⟩) {} (inv_init g)

theorem runWith_eq {g : VGraph} (hclosed : g.Closed) (fuelOf : St → Nat)
    (hf : ∀ s, unindexed g s ≤ fuelOf s) : runWith g fuelOf = run g := by
  refine (List.foldl_rel (r := fun s s' => s = s' ∧ Inv g [] s) ⟨rfl, inv_init g⟩ ?_).1
  rintro u hu s _ ⟨rfl, inv⟩
  suffices e : topWith g fuelOf s u = top g s u from ⟨e, e ▸ (top_step hclosed inv hu).1⟩
  rw [top_eq_topWith]
  by_cases h : s.indexed u
  · rw [topWith_of_indexed inv.nofault h, topWith_of_indexed inv.nofault h]
  · rw [topWith_of_fresh inv.nofault h, topWith_of_fresh inv.nofault h,
      (connect_fuel_adequate g hclosed [] u s (Pre.top inv hu h) (fuelOf s) (hf s)).2,
      (connect_fuel_adequate g hclosed [] u s (Pre.top inv hu h) (unindexed g s + 1) (Nat.le_succ _)).2]

theorem foldl_topWith_idle (g : VGraph) (fuelOf : St → Nat) (l : List Nat) (s : St)
    (h : ∀ v ∈ l, s.indexed v) : l.foldl (topWith g fuelOf) s = s :=
  Fold.foldl_fixed _ s l fun u hu => by
    rw [topWith]
    split
    · rfl
    · rw [if_pos (Option.isSome_iff_ne_none.mpr (h u hu))]

theorem resOf_run (g : VGraph) : resOf (run g) = components g := rfl

theorem components_eq {g : VGraph} (h : (run g).fault = none) : components g = .ret (run g).comps := by
  unfold components
  rw [h]

/-- A later `components()` call on the same value skips every vertex. -/
theorem callN_succ {g : VGraph} (hclosed : g.Closed) : ∀ k, callN g (k + 1) = run g := by
  intro k
  induction k with
  | zero => rfl
  | succ k ih =>
    obtain ⟨inv, hall⟩ := run_inv hclosed
    show g.verts.foldl (top g) (callN g (k + 1)) = run g
    rw [ih]
    exact foldl_topWith_idle g _ g.verts _ hall

theorem Inv.stack_nil {g : VGraph} {s : St} (inv : Inv g [] s) : s.stack = [] := by
  apply List.eq_nil_iff_forall_not_mem.mpr
  intro y hy
  obtain ⟨z, hz, _⟩ := inv.toGray y hy
  simp at hz

theorem partition_of_inv {g : VGraph} {s : St} (inv : Inv g [] s) (hall : ∀ v ∈ g.verts, s.indexed v) :
    IsSCCPartition g s.comps := by
  have hst := inv.stack_nil
  have hcov : ∀ v, v ∈ g.verts ↔ ∃ c ∈ s.comps, v ∈ c := by
    intro v
    constructor
    · intro hv
      rcases (inv.indexedIff v).mp (hall v hv) with h | h
      · rw [hst] at h; simp at h
      · exact h
    · intro h
      exact inv.verts v ((inv.indexedIff v).mpr (Or.inr h))
  exact .of_isSCC (fun c hc => (inv.compAsc c hc).2) inv.compDisj
    (fun c hc => (inv.compAsc c hc).1.imp fun h => Nat.ne_of_lt h) hcov inv.sccs

/-- The model of `Tarjan::components` returns (no panic, no fuel exhaustion) the partition of the
vertex set into strongly connected components. -/
theorem components_correct (g : VGraph) (hclosed : g.Closed) :
    ∃ cs, components g = .ret cs ∧ IsSCCPartition g cs := by
  obtain ⟨inv, hall⟩ := run_inv hclosed
  exact ⟨(run g).comps, components_eq inv.nofault, partition_of_inv inv hall⟩

end GraafVerif.Tarjan
