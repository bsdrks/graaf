import GraafVerif.Model.Fw
import GraafVerif.Proof.WWalk
import GraafVerif.Proof.FwWalk
/-!
# The Floyd-Warshall invariant on the literal in-place model (C08)

The in-place update is sound because the `a`, `b` read later in iteration `i` are only smaller than at
its start (`Mono`) and still walk weights (`InvK`): row `i` / column `i` need not be shown unchanged.
The loop is analysed from ANY start matrix of walk weights that is `≤` the arc weights and `0` on the
diagonal, so the fresh object and a later call on the same object are one case.
-/
namespace GraafVerif.Fw
open GraafVerif

theorem get_put_same {n : Nat} {m : Mat} {u v : Nat} {x : Option Int} (h : u * n + v < m.length) :
    get n (put n m u v x) u v = x := by
  rw [get, put, List.getElem?_set_self h]; rfl

theorem get_put_other {n : Nat} {m : Mat} {u v u' v' : Nat} {x : Option Int}
    (hv : v < n) (hv' : v' < n) (hne : ¬ (u = u' ∧ v = v')) :
    get n (put n m u v x) u' v' = get n m u' v' := by
  rw [get, put, List.getElem?_set_ne fun h => hne (flatIdx_inj hv hv' h)]; rfl

theorem length_put {n : Nat} {m : Mat} {u v : Nat} {x : Option Int} : (put n m u v x).length = m.length :=
  List.length_set

/-- Entries only decrease (`none` = `+∞`). -/
def Mono (n : Nat) (m m' : Mat) : Prop := ∀ u v, u < n → v < n → leO (get n m' u v) (get n m u v)

def SoundK (g : WGraph) (K : Nat) (m : Mat) : Prop :=
  ∀ u v, u < g.n → v < g.n → ∀ x, get g.n m u v = some x → WalkIn g K u v x

def LeK (g : WGraph) (K : Nat) (m : Mat) : Prop :=
  ∀ u v, u < g.n → v < g.n → ∀ wt, WalkIn g K u v wt → leO (get g.n m u v) (some wt)

theorem Mono.refl (n : Nat) (m : Mat) : Mono n m m := fun _ _ _ _ => leO.refl _
theorem Mono.trans {n : Nat} {a b c : Mat} (h1 : Mono n a b) (h2 : Mono n b c) : Mono n a c :=
  fun u v hu hv => leO.trans (h2 u v hu hv) (h1 u v hu hv)

/-- The invariant carried through the `j` and `k` loops of iteration `i`. -/
def InvK (g : WGraph) (K : Nat) (m : Mat) : Prop := m.length = g.n * g.n ∧ SoundK g K m

theorem InvK.mono {g : WGraph} {K K' : Nat} {m : Mat} (h : K ≤ K') (hI : InvK g K m) : InvK g K' m :=
  ⟨hI.1, fun u v hu hv x hx => (hI.2 u v hu hv x hx).mono h⟩

/-- The triangle bound through `i` at cell `(j, k)` of `m'`, w.r.t. the values `a₀ = m[j][i]`,
`b₀ = m[i][k]` of an earlier matrix `m`. -/
def Tri (g : WGraph) (i : Nat) (m m' : Mat) (j k : Nat) : Prop :=
  ∀ a0 b0, get g.n m j i = some a0 → get g.n m i k = some b0 → leO (get g.n m' j k) (some (a0 + b0))

theorem Tri.mono {g : WGraph} {i j k : Nat} {m0 m m1 m2 : Mat} (hi : i < g.n) (hj : j < g.n) (hk : k < g.n)
    (h0 : Mono g.n m0 m) (h : Tri g i m m1 j k) (h2 : Mono g.n m1 m2) : Tri g i m0 m2 j k := by
  intro a0 b0 ha0 hb0
  obtain ⟨a1, ha1, hlea⟩ := h0 j i hj hi a0 ha0
  obtain ⟨b1, hb1, hleb⟩ := h0 i k hi hk b0 hb0
  exact leO.trans (h2 j k hj hk) (leO.trans (h a1 b1 ha1 hb1) (leO_some (Int.add_le_add hlea hleb)))

theorem put_spec {g : WGraph} {K : Nat} {m : Mat} {j k : Nat} {s : Int}
    (hj : j < g.n) (hk : k < g.n) (hI : InvK g K m)
    (hw : WalkIn g K j k s) (hle : leO (some s) (get g.n m j k)) :
    InvK g K (put g.n m j k (some s)) ∧
    Mono g.n m (put g.n m j k (some s)) ∧ get g.n (put g.n m j k (some s)) j k = some s := by
  have hidx : j * g.n + k < m.length := hI.1 ▸ flatIdx_lt hj hk
  refine ⟨⟨length_put.trans hI.1, fun u v hu hv x hx => ?_⟩, fun u v hu hv => ?_, get_put_same hidx⟩
  · by_cases he : j = u ∧ k = v
    · obtain ⟨rfl, rfl⟩ := he
      rw [get_put_same hidx] at hx
      cases hx; exact hw
    · rw [get_put_other hk hv he] at hx
      exact hI.2 u v hu hv x hx
  · by_cases he : j = u ∧ k = v
    · obtain ⟨rfl, rfl⟩ := he
      rw [get_put_same hidx]; exact hle
    · rw [get_put_other hk hv he]; exact leO.refl _

theorem cell_spec {g : WGraph} {K i j k : Nat} {a : Int} {m : Mat}
    (hi : i < g.n) (hiK : i < K) (hj : j < g.n) (hk : k < g.n)
    (ha : WalkIn g K j i a) (hI : InvK g K m) :
    InvK g K (cell g.n i j a m k) ∧ Mono g.n m (cell g.n i j a m k) ∧
    ∀ b, get g.n m i k = some b → leO (get g.n (cell g.n i j a m k) j k) (some (a + b)) := by
  unfold cell
  cases hb : get g.n m i k with
  | none => exact ⟨hI, Mono.refl _ _, fun b h => nomatch h⟩
  | some b =>
    have hw : WalkIn g K j k (a + b) := (hI.2 i k hi hk b hb).append ha hiK
    -- both writing branches store `a + b`, which is a walk weight below the old entry
    have hput : leO (some (a + b)) (get g.n m j k) →
        InvK g K (put g.n m j k (some (a + b))) ∧ Mono g.n m (put g.n m j k (some (a + b))) ∧
        ∀ b', some b = some b' → leO (get g.n (put g.n m j k (some (a + b))) j k) (some (a + b')) := by
      intro hle
      obtain ⟨p1, p2, p3⟩ := put_spec hj hk hI hw hle
      exact ⟨p1, p2, fun b' hb' => by cases hb'; rw [p3]; exact leO.refl _⟩
    cases hc : get g.n m j k with
    | none => exact hput (hc ▸ leO_none _)
    | some c =>
      simp only []
      by_cases hlt : a + b < c
      · rw [if_pos hlt]
        exact hput (hc ▸ leO_some (Int.le_of_lt hlt))
      · rw [if_neg hlt]
        refine ⟨hI, Mono.refl _ _, fun b' hb' => ?_⟩
        cases hb'; rw [hc]; exact leO_some (Int.not_lt.mp hlt)

theorem rowJ_spec {g : WGraph} {K i j : Nat} {m : Mat}
    (hi : i < g.n) (hiK : i < K) (hj : j < g.n) (hI : InvK g K m) :
    InvK g K (rowJ g.n i m j) ∧ Mono g.n m (rowJ g.n i m j) ∧
    ∀ k, k < g.n → Tri g i m (rowJ g.n i m j) j k := by
  unfold rowJ
  cases ha : get g.n m j i with
  | none => exact ⟨hI, Mono.refl _ _, fun k _ a0 b0 h => nomatch ha.symm.trans h⟩
  | some a =>
    have H := Fold.foldl_establish (fun m' => InvK g K m' ∧ Mono g.n m m')
      (fun k m' => k < g.n → ∀ b0, get g.n m i k = some b0 → leO (get g.n m' j k) (some (a + b0)))
      (cell g.n i j a) (List.range g.n) ?_ m ⟨hI, Mono.refl _ _⟩
    · refine ⟨H.1.1, H.1.2, fun k hk a0 b0 ha0 hb0 => ?_⟩
      cases ha.symm.trans ha0
      exact H.2 k (List.mem_range.mpr hk) hk b0 hb0
    · intro m1 k hk ⟨hI1, hR1⟩
      have hk := List.mem_range.mp hk
      obtain ⟨c1, c2, c3⟩ := cell_spec hi hiK hj hk (hI.2 j i hj hi a ha) hI1
      refine ⟨⟨c1, hR1.trans c2⟩, fun _ b0 hb0 => ?_,
        fun k' hq hk' b0 hb0 => leO.trans (c2 j k' hj hk') (hq hk' b0 hb0)⟩
      obtain ⟨b1, hb1, hle⟩ := hR1 i k hi hk b0 hb0
      exact leO.trans (c3 b1 hb1) (leO_some (Int.add_le_add_left hle a))

/-- Every row satisfies the triangle bound through `i` w.r.t. the values at the START of iteration `i`
(entries only decrease meanwhile). -/
theorem iterI_spec {g : WGraph} {K i : Nat} {m : Mat}
    (hi : i < g.n) (hiK : i < K) (hI : InvK g K m) :
    InvK g K (iterI g.n m i) ∧ Mono g.n m (iterI g.n m i) ∧
    ∀ j, j < g.n → ∀ k, k < g.n → Tri g i m (iterI g.n m i) j k := by
  have H := Fold.foldl_establish (fun m' => InvK g K m' ∧ Mono g.n m m')
    (fun j m' => j < g.n → ∀ k, k < g.n → Tri g i m m' j k) (rowJ g.n i) (List.range g.n) ?_ m
    ⟨hI, Mono.refl _ _⟩
  · exact ⟨H.1.1, H.1.2, fun j hj => H.2 j (List.mem_range.mpr hj) hj⟩
  · intro m1 j hj ⟨hI1, hR1⟩
    have hj := List.mem_range.mp hj
    obtain ⟨r1, r2, r3⟩ := rowJ_spec hi hiK hj hI1
    exact ⟨⟨r1, hR1.trans r2⟩, fun _ k hk => (r3 k hk).mono hi hj hk hR1 (Mono.refl _ _),
      fun j' hq hj' k hk => (hq hj' k hk).mono hi hj' hk (Mono.refl _ _) r2⟩

theorem loopTo_succ (n : Nat) (m : Mat) (K : Nat) : loopTo n m (K+1) = iterI n (loopTo n m K) K := by
  rw [loopTo, List.range_succ, List.foldl_append]; rfl

/-- Soundness alone needs no hypothesis on circuits. -/
theorem InvK.loopTo {g : WGraph} {K0 : Nat} {m : Mat} (h0 : InvK g K0 m) :
    ∀ K, K ≤ g.n → ∀ Ks, K0 ≤ Ks → K ≤ Ks → InvK g Ks (loopTo g.n m K) := by
  intro K
  induction K with
  | zero => intro _ Ks hK0 _; exact h0.mono hK0
  | succ K ih =>
    intro hK Ks hK0 hKs
    rw [loopTo_succ]
    exact (iterI_spec hK hKs (ih (Nat.le_of_succ_le hK) Ks hK0 (Nat.le_of_succ_le hKs))).1

/-- The iteration for the intermediate vertex `K` turns "minimal among interior `< K`" into "minimal
among interior `< K + 1`" (the entries may be weights of walks with ANY interior `< Ks`). -/
theorem LeK.step {g : WGraph} (hnc : g.NoNegCycle) {K Ks : Nat} {m : Mat} (hK : K < g.n) (hKs : K < Ks)
    (hI : InvK g Ks m) (hL : LeK g K m) : LeK g (K+1) (iterI g.n m K) := by
  obtain ⟨_, s2, s3⟩ := iterI_spec hK hKs hI
  intro u v hu hv wt hw
  rcases hw.split hnc with h0 | ⟨w1, w2, h1, h2, hle⟩
  · exact leO.trans (s2 u v hu hv) (hL u v hu hv wt h0)
  · obtain ⟨a0, ha0, hlea⟩ := hL u K hu hK w1 h1 w1 rfl
    obtain ⟨b0, hb0, hleb⟩ := hL K v hK hv w2 h2 w2 rfl
    exact leO.trans (s3 u hu v hv a0 b0 ha0 hb0)
      (leO_some (Int.le_trans (Int.add_le_add hlea hleb) hle))

theorem LeK.loopTo {g : WGraph} (hnc : g.NoNegCycle) {K0 : Nat} {m : Mat} (hI : InvK g K0 m)
    (hL : LeK g 0 m) : ∀ K, K ≤ g.n → LeK g K (loopTo g.n m K) := by
  intro K
  induction K with
  | zero => intro _; exact hL
  | succ K ih =>
    intro hK
    rw [loopTo_succ]
    exact LeK.step hnc hK (Nat.lt_succ_of_le (Nat.le_max_right K0 K))
      (hI.loopTo K (Nat.le_of_succ_le hK) _ (Nat.le_succ_of_le (Nat.le_max_left K0 K))
        (Nat.le_succ_of_le (Nat.le_max_right K0 K)))
      (ih (Nat.le_of_succ_le hK))

/-- The textbook invariant after the intermediate vertices `0..K`: entry `(u, v)` IS the minimum
weight of a walk with interior `< K` (`Inv.isMinIn`). -/
def Inv (g : WGraph) (K : Nat) (m : Mat) : Prop := InvK g K m ∧ LeK g K m

theorem Inv.loopTo {g : WGraph} (hnc : g.NoNegCycle) {K0 : Nat} {m : Mat} (hI : InvK g K0 m)
    (hL : LeK g 0 m) {K : Nat} (hK : K ≤ g.n) (hK0 : K0 ≤ K) : Inv g K (loopTo g.n m K) :=
  ⟨hI.loopTo K hK K hK0 (Nat.le_refl K), hL.loopTo hnc hI K hK⟩

theorem Inv.isMinIn {g : WGraph} {K : Nat} {m : Mat} (h : Inv g K m) {u v : Nat} (hu : u < g.n) (hv : v < g.n) :
    (∀ d, get g.n m u v = some d ↔ IsMinIn g K u v d) ∧
    (get g.n m u v = none ↔ ¬ ∃ wt, WalkIn g K u v wt) := by
  refine ⟨fun d => ⟨fun hd => ⟨h.1.2 u v hu hv d hd, fun wt hw => ?_⟩, ?_⟩, fun hn ⟨wt, hw⟩ => ?_, fun hno => ?_⟩
  · obtain ⟨x, hx, hle⟩ := h.2 u v hu hv wt hw wt rfl
    rw [hd] at hx; cases hx; exact hle
  · rintro ⟨hw, hmin⟩
    obtain ⟨x, hx, hle⟩ := h.2 u v hu hv d hw d rfl
    rw [hx, Int.le_antisymm hle (hmin x (h.1.2 u v hu hv x hx))]
  · obtain ⟨x, hx, _⟩ := h.2 u v hu hv wt hw wt rfl
    rw [hn] at hx; cases hx
  · cases hx : get g.n m u v with
    | none => rfl
    | some x => exact absurd ⟨x, h.1.2 u v hu hv x hx⟩ hno

theorem setArcs_cons (n : Nat) (m : Mat) (a : Nat × Nat × Int) (as : List (Nat × Nat × Int)) :
    setArcs n m (a :: as) = setArcs n (put n m a.1 a.2.1 (some a.2.2)) as := rfl

theorem length_setArcs (n : Nat) (arcs : List (Nat × Nat × Int)) (m : Mat) :
    (setArcs n m arcs).length = m.length := by
  induction arcs generalizing m with
  | nil => rfl
  | cons a as ih => rw [setArcs_cons]; exact (ih _).trans length_put

theorem setArcs_cases {n : Nat} {arcs : List (Nat × Nat × Int)} (harcs : ∀ a ∈ arcs, a.2.1 < n)
    {u v : Nat} (hv : v < n) : ∀ m : Mat,
    get n (setArcs n m arcs) u v = get n m u v ∨
      ∃ w, (u, v, w) ∈ arcs ∧ get n (setArcs n m arcs) u v = some w := by
  induction arcs with
  | nil => intro m; exact .inl rfl
  | cons a as ih =>
    intro m
    have ha := harcs a List.mem_cons_self
    rw [setArcs_cons]
    rcases ih (fun b hb => harcs b (List.mem_cons_of_mem _ hb)) (put n m a.1 a.2.1 (some a.2.2)) with h | ⟨w, hw, h⟩
    · by_cases he : a.1 = u ∧ a.2.1 = v
      · by_cases hlt : a.1 * n + a.2.1 < m.length
        · refine .inr ⟨a.2.2, ?_, ?_⟩
          · rw [← he.1, ← he.2]; exact List.mem_cons_self
          · rw [h, ← he.1, ← he.2]; exact get_put_same hlt
        · rw [put, List.set_eq_of_length_le (Nat.le_of_not_lt hlt)] at h ⊢
          exact .inl h
      · exact .inl (h.trans (get_put_other ha hv he))
    · exact .inr ⟨w, List.mem_cons_of_mem _ hw, h⟩

theorem setArcs_mem {n : Nat} {arcs : List (Nat × Nat × Int)} {u v : Nat} {w : Int}
    (hu : u < n) (hv : v < n) (harcs : ∀ a ∈ arcs, a.2.1 < n)
    (hfun : ∀ a ∈ arcs, a.1 = u → a.2.1 = v → a.2.2 = w) :
    ∀ m : Mat, m.length = n * n → (get n m u v = some w ∨ (u, v, w) ∈ arcs) →
      get n (setArcs n m arcs) u v = some w := by
  induction arcs with
  | nil => intro m _ h; exact h.resolve_right List.not_mem_nil
  | cons a as ih =>
    intro m hlen h
    rw [setArcs_cons]
    apply ih (fun b hb => harcs b (List.mem_cons_of_mem _ hb))
      (fun b hb => hfun b (List.mem_cons_of_mem _ hb)) _ (length_put.trans hlen)
    by_cases he : a.1 = u ∧ a.2.1 = v
    · left
      rw [he.1, he.2, hfun a List.mem_cons_self he.1 he.2]
      exact get_put_same (hlen ▸ flatIdx_lt hu hv)
    · rcases h with h | h
      · left; rw [get_put_other (harcs a List.mem_cons_self) hv he]; exact h
      · rcases List.mem_cons.mp h with h | h
        · exact absurd (h ▸ ⟨rfl, rfl⟩) he
        · exact .inr h

theorem zeroDiag_eq (n : Nat) (m : Mat) :
    zeroDiag n m = setArcs n m ((List.range n).map fun i => (i, i, 0)) := by
  rw [setArcs, List.foldl_map]; rfl

theorem get_zeroDiag {n : Nat} {m : Mat} (hlen : m.length = n * n) {u v : Nat} (hu : u < n) (hv : v < n) :
    get n (zeroDiag n m) u v = if u = v then some 0 else get n m u v := by
  have hin : ∀ a ∈ (List.range n).map (fun i => ((i, i, 0) : Nat × Nat × Int)), a.2.1 < n := by
    intro a ha
    obtain ⟨i, hi, rfl⟩ := List.mem_map.mp ha
    exact List.mem_range.mp hi
  rw [zeroDiag_eq]
  by_cases huv : u = v
  · subst huv
    rw [if_pos rfl]
    refine setArcs_mem hu hu hin (fun a ha _ _ => ?_) m hlen
      (.inr (List.mem_map.mpr ⟨u, List.mem_range.mpr hu, rfl⟩))
    obtain ⟨i, _, rfl⟩ := List.mem_map.mp ha
    rfl
  · rw [if_neg huv]
    rcases setArcs_cases hin hv m with h | ⟨w, hw, _⟩
    · exact h
    · obtain ⟨i, _, hi⟩ := List.mem_map.mp hw
      cases hi
      exact absurd rfl huv

theorem mem_arcsWeighted {g : WGraph} {u v : Nat} {w : Int} :
    (u, v, w) ∈ arcsWeighted g ↔ u < g.n ∧ g.A u v w :=
  mem_arcList

theorem arcsWeighted_lt {g : WGraph} (hwf : g.WF) : ∀ a ∈ arcsWeighted g, a.2.1 < g.n :=
  fun _ ha => (arcList_lt hwf ha).2

theorem length_restart (g : WGraph) (m : Mat) :
    (zeroDiag g.n (setArcs g.n m (arcsWeighted g))).length = m.length := by
  rw [zeroDiag_eq, length_setArcs, length_setArcs]

theorem InvK.restart {g : WGraph} (hwf : g.WF) {K : Nat} {m : Mat} (hI : InvK g K m) :
    InvK g K (zeroDiag g.n (setArcs g.n m (arcsWeighted g))) := by
  refine ⟨(length_restart g m).trans hI.1, fun u v hu hv x hx => ?_⟩
  rw [get_zeroDiag ((length_setArcs ..).trans hI.1) hu hv] at hx
  by_cases huv : u = v
  · subst huv
    rw [if_pos rfl] at hx
    cases hx; exact .nil _
  · rw [if_neg huv] at hx
    rcases setArcs_cases (arcsWeighted_lt hwf) hv m with h | ⟨w, hw, h⟩
    · exact hI.2 u v hu hv x (h ▸ hx)
    · rw [h] at hx
      cases hx
      exact .one (mem_arcsWeighted.mp hw).2

theorem LeK.restart {g : WGraph} (hwf : g.WF) (hfun : g.Functional) (hnc : g.NoNegCycle) {m : Mat}
    (hlen : m.length = g.n * g.n) : LeK g 0 (zeroDiag g.n (setArcs g.n m (arcsWeighted g))) := by
  intro u v hu hv wt hw
  rw [get_zeroDiag ((length_setArcs ..).trans hlen) hu hv]
  cases hw with
  | nil => rw [if_pos rfl]; exact leO.refl _
  | one a =>
    by_cases huv : u = v
    · subst huv
      rw [if_pos rfl]
      exact leO_some ((WalkIn.one (K := 0) a).closed_nonneg hnc)
    · rw [if_neg huv, setArcs_mem hu hv (arcsWeighted_lt hwf) ?_ _ hlen (.inr (mem_arcsWeighted.mpr ⟨hu, a⟩))]
      · exact leO.refl _
      · rintro ⟨u', v', w'⟩ hb rfl rfl
        exact hfun _ _ _ _ (mem_arcsWeighted.mp hb).2 a
  | snoc _ hx _ => exact absurd hx (Nat.not_lt_zero _)

theorem get_replicate_none (n N u v : Nat) : get n (List.replicate N none) u v = none := by
  rw [get, List.getElem?_replicate]
  split <;> rfl

theorem invK_fresh (g : WGraph) : InvK g 0 (List.replicate (g.n * g.n) none) :=
  ⟨List.length_replicate, fun u v _ _ x hx => by rw [get_replicate_none] at hx; cases hx⟩

/-- After steps 1–3 the finite entries are: `0` on the diagonal, arc weights elsewhere. -/
theorem init_invK {g : WGraph} (hwf : g.WF) : InvK g 0 (init g) :=
  (invK_fresh g).restart hwf

theorem init_leK {g : WGraph} (hwf : g.WF) (hfun : g.Functional) (hnc : g.NoNegCycle) : LeK g 0 (init g) :=
  LeK.restart hwf hfun hnc List.length_replicate

theorem length_init (g : WGraph) : (init g).length = g.n * g.n :=
  (length_restart g _).trans List.length_replicate

theorem loopTo_init_inv {g : WGraph} (hwf : g.WF) (hfun : g.Functional) (hnc : g.NoNegCycle)
    {K : Nat} (hK : K ≤ g.n) : Inv g K (loopTo g.n (init g) K) :=
  Inv.loopTo hnc (init_invK hwf) (init_leK hwf hfun hnc) hK (Nat.zero_le K)

/-- Any call of `distances()` on an object whose matrix consists of walk weights yields the
matrix of minima. -/
theorem call_inv {g : WGraph} (hwf : g.WF) (hfun : g.Functional) (hnc : g.NoNegCycle) {m : Mat}
    (hI : InvK g g.n m) : Inv g g.n (call g m) :=
  Inv.loopTo hnc (hI.restart hwf) (LeK.restart hwf hfun hnc hI.1) (Nat.le_refl _) (Nat.le_refl _)

theorem distances_invK {g : WGraph} (hwf : g.WF) : InvK g g.n (distances g) :=
  (init_invK hwf).loopTo g.n (Nat.le_refl _) g.n (Nat.zero_le _) (Nat.le_refl _)

theorem distances_inv {g : WGraph} (hwf : g.WF) (hfun : g.Functional) (hnc : g.NoNegCycle) :
    Inv g g.n (distances g) :=
  loopTo_init_inv hwf hfun hnc (Nat.le_refl _)

theorem Inv.tab {g : WGraph} {K : Nat} {m : Mat} (h : Inv g K m) :
    Tab (g.n * g.n) (fun i => IsMinIn g K (i / g.n) (i % g.n)) m :=
  ⟨h.1.1, fun i hi x => by
    obtain ⟨hu, hv, e⟩ := flatIdx_decode hi
    exact (congrArg (OracleProof.lk m) e : get g.n m (i / g.n) (i % g.n) = _) ▸ (h.isMinIn hu hv).1 x⟩

/-- A later call on the same object (its matrix, e.g. the result of an earlier call, is kept; only
the arc cells and the diagonal are overwritten) returns what the first call returned: both are
matrices of minima. -/
theorem call_eq_distances {g : WGraph} (hwf : g.WF) (hfun : g.Functional) (hnc : g.NoNegCycle)
    {m : Mat} (hm : InvK g g.n m) : call g m = distances g :=
  (call_inv hwf hfun hnc hm).tab.unique (distances_inv hwf hfun hnc).tab

theorem row_length (n : Nat) (m : Mat) (u : Nat) : (row n m u).length = n := by
  rw [row, List.length_map, List.length_range]

theorem row_getElem? (n : Nat) (m : Mat) (u : Nat) {x : Nat} (hx : x < n) :
    (row n m u)[x]? = some (get n m u x) := by
  rw [row, List.getElem?_map, List.getElem?_range hx]; rfl

/-- The matrix at the point of the loop nest where the outer iterations `0..I` are complete,
the rows `0..J` of iteration `I` are complete and the cells `0..Kc` of row `J` are done. -/
def stateAt (g : WGraph) (I J Kc : Nat) : Mat :=
  let m2 := (List.range J).foldl (rowJ g.n I) (loopTo g.n (init g) I)
  match get g.n m2 J I with
  | none => m2
  | some a => (List.range Kc).foldl (cell g.n I J a) m2

/-- `stateAt` really walks through the loop nest, up to `distances` (`stateAt_iter_done`, `stateAt_end`). -/
theorem stateAt_row_done (g : WGraph) (I J : Nat) :
    stateAt g I J g.n = (List.range (J+1)).foldl (rowJ g.n I) (loopTo g.n (init g) I) := by
  rw [List.range_succ, List.foldl_append, List.foldl_cons, List.foldl_nil, stateAt]
  generalize (List.range J).foldl (rowJ g.n I) (loopTo g.n (init g) I) = m2
  unfold rowJ
  cases get g.n m2 J I <;> rfl

theorem stateAt_iter_done (g : WGraph) (I : Nat) (hn : 0 < g.n) :
    stateAt g I (g.n - 1) g.n = loopTo g.n (init g) (I+1) := by
  rw [stateAt_row_done, loopTo_succ, iterI, Nat.sub_add_cancel hn]

theorem stateAt_end (g : WGraph) (hn : 0 < g.n) : stateAt g (g.n - 1) (g.n - 1) g.n = distances g := by
  rw [stateAt_iter_done g _ hn, Nat.sub_add_cancel hn, distances]

theorem stateAt_invK {g : WGraph} (hwf : g.WF) {I J Kc : Nat} (hI : I < g.n) (hJ : J < g.n) (hKc : Kc ≤ g.n) :
    InvK g (I+1) (stateAt g I J Kc) := by
  have h2 : InvK g (I+1) ((List.range J).foldl (rowJ g.n I) (loopTo g.n (init g) I)) :=
    Fold.foldl_inv (InvK g (I+1))
      (fun m j hj hm => (rowJ_spec hI (Nat.lt_succ_self I) (Nat.lt_trans (List.mem_range.mp hj) hJ) hm).1) _
      ((init_invK hwf).loopTo I (Nat.le_of_lt hI) (I+1) (Nat.zero_le _) (Nat.le_succ I))
  unfold stateAt
  simp only []
  generalize (List.range J).foldl (rowJ g.n I) (loopTo g.n (init g) I) = m2 at h2 ⊢
  cases ha : get g.n m2 J I with
  | none => exact h2
  | some a =>
    exact Fold.foldl_inv (InvK g (I+1)) (fun m k hk hm => (cell_spec hI (Nat.lt_succ_self I) hJ
      (Nat.lt_of_lt_of_le (List.mem_range.mp hk) hKc) (h2.2 J I hJ hI a ha) hm).1) _ h2
end GraafVerif.Fw
