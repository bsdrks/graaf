import GraafVerif.Proof.JohnsonSound
import GraafVerif.Proof.JohnsonTarjan
import GraafVerif.Proof.JohnsonParts
/-!
# `circuit` preserves `Inv` (`circuit_post`)

Every call of `circuit` from a state with `Inv` ends in a state with `Inv` and the same stack, and a
failing call leaves the vertex and all it found blocked.  The recursion depth is bounded by the
component vertices not on the stack, so this is also what the fuel adequacy of `circuit` rests on.
What the calls append to `result` is the subject of `Proof/JohnsonEmit.lean`.
-/
namespace GraafVerif.Johnson
open GraafVerif

/-- What `circuit … st v` does to the state. -/
structure Post (comp : AM) (st : JState) (v : Nat) (r : Bool × JState) : Prop where
  inv : Inv comp r.2
  stack : r.2.stack = st.stack
  fail : r.1 = false → (∀ x ∈ st.blocked, x ∈ r.2.blocked) ∧ v ∈ r.2.blocked

/-- Hypothesis on the recursive call used inside the neighbour loop. -/
def RecOK (comp : AM) (fuel : Nat) (rec : JState → Nat → Bool × JState) : Prop :=
  ∀ st w, Inv comp st → w ∉ st.blocked → w ∈ comp.verts →
    comp.verts.length ≤ fuel + st.stack.length → Post comp st w (rec st w)

structure FoldPost (comp : AM) (s : Nat) (S : List Nat) (v : Nat) (ws : List Nat)
    (acc r : Bool × JState) : Prop where
  inv : Inv comp r.2
  stack : r.2.stack = S ++ [v]
  fail : r.1 = false → acc.1 = false ∧ (∀ x ∈ acc.2.blocked, x ∈ r.2.blocked) ∧
    ∀ w ∈ ws, w ∈ r.2.blocked ∧ w ≠ s

theorem FoldPost.nil {comp : AM} {s : Nat} {S : List Nat} {v : Nat} {acc : Bool × JState}
    (hinv : Inv comp acc.2) (hst : acc.2.stack = S ++ [v]) : FoldPost comp s S v [] acc acc :=
  ⟨hinv, hst, fun h => ⟨h, fun _ hx => hx, fun _ hw => absurd hw List.not_mem_nil⟩⟩

theorem FoldPost.cons {comp : AM} {s : Nat} {S : List Nat} {v w : Nat} {ws : List Nat}
    {acc r1 r2 : Bool × JState} (h1 : FoldPost comp s S v [w] acc r1)
    (h2 : FoldPost comp s S v ws r1 r2) : FoldPost comp s S v (w :: ws) acc r2 := by
  refine ⟨h2.inv, h2.stack, fun hf => ?_⟩
  obtain ⟨a1, m2, b2⟩ := h2.fail hf
  obtain ⟨a0, m1, b1⟩ := h1.fail a1
  refine ⟨a0, fun x hx => m2 x (m1 x hx), fun x hx => ?_⟩
  rcases List.mem_cons.1 hx with rfl | hx
  · exact ⟨m2 _ (b1 x List.mem_cons_self).1, (b1 x List.mem_cons_self).2⟩
  · exact b2 x hx

theorem rec_pre {comp : AM} (hclosed : comp.vg.Closed)
    {S : List Nat} {v w : Nat} {st : JState} (hinv : Inv comp st) (hst : st.stack = S ++ [v])
    (hwv : w ∈ comp.out v) {fuel : Nat} (hfuel : comp.verts.length ≤ fuel + 1 + S.length) :
    w ∈ comp.verts ∧ comp.verts.length ≤ fuel + st.stack.length := by
  rw [hst]
  refine ⟨hclosed v (hinv.sub v (hst ▸ List.mem_append_right _ List.mem_cons_self)) w hwv, ?_⟩
  rw [List.length_append, List.length_singleton, ← Nat.add_assoc, Nat.add_right_comm]
  exact hfuel

theorem circuitStep_post (comp : AM) (s fuel : Nat) (rec : JState → Nat → Bool × JState)
    (hrec : RecOK comp fuel rec) (hclosed : comp.vg.Closed)
    (S : List Nat) (v : Nat) (hfuel : comp.verts.length ≤ fuel + 1 + S.length)
    (w : Nat) (acc : Bool × JState) (hwv : w ∈ comp.out v)
    (hinv : Inv comp acc.2) (hst : acc.2.stack = S ++ [v]) :
    FoldPost comp s S v [w] acc (circuitStep rec s acc w) := by
  by_cases hws : w = s
  · subst hws
    rw [circuitStep_emit]
    exact ⟨Inv.congr (st := acc.2) rfl rfl rfl hinv, hst, fun hf => Bool.noConfusion hf⟩
  · cases hbl : acc.2.isBlocked w with
    | true =>
      rw [circuitStep_skip hws hbl]
      refine ⟨hinv, hst, fun hf => ⟨hf, fun _ hx => hx, fun x hx => ?_⟩⟩
      rw [List.mem_singleton.1 hx]
      exact ⟨(mem_blocked_iff acc.2 w).1 hbl, hws⟩
    | false =>
      rw [circuitStep_call hws hbl]
      obtain ⟨hwc, hlen⟩ := rec_pre hclosed hinv hst hwv hfuel
      have hpost := hrec acc.2 w hinv ((not_mem_blocked_iff acc.2 w).1 hbl) hwc hlen
      refine ⟨hpost.inv, hpost.stack.trans hst, fun hf => ?_⟩
      simp only [Bool.or_eq_false_iff] at hf
      obtain ⟨hp1, hp2⟩ := hpost.fail hf.2
      exact ⟨hf.1, hp1, fun x hx => by rw [List.mem_singleton.1 hx]; exact ⟨hp2, hws⟩⟩

theorem circuit_fold (comp : AM) (s fuel : Nat) (rec : JState → Nat → Bool × JState)
    (hrec : RecOK comp fuel rec) (hclosed : comp.vg.Closed)
    (S : List Nat) (v : Nat) (hfuel : comp.verts.length ≤ fuel + 1 + S.length) :
    ∀ (ws : List Nat) (acc : Bool × JState), (∀ w ∈ ws, w ∈ comp.out v) →
      Inv comp acc.2 → acc.2.stack = S ++ [v] →
      FoldPost comp s S v ws acc (ws.foldl (circuitStep rec s) acc) := by
  intro ws
  induction ws with
  | nil => intro acc _ hinv hst; exact FoldPost.nil hinv hst
  | cons w ws ih =>
    intro acc hout hinv hst
    have h1 := circuitStep_post comp s fuel rec hrec hclosed S v hfuel w acc
      (hout w List.mem_cons_self) hinv hst
    exact h1.cons (ih _ (fun x hx => hout x (List.mem_cons_of_mem _ hx)) h1.inv h1.stack)

theorem Casc.of_eq {st' : JState} {u x : Nat} (h : Casc st' u x) (st : JState)
    (hb : st'.blocked = st.blocked) (hB : st'.B = st.B) : Casc st u x :=
  h.mono (fun z hz => by rwa [hb] at hz) (fun y z hz => by simpa [JState.Bof, hB] using hz)

theorem circuit_post (comp : AM) (s uf : Nat)
    (hclosed : comp.vg.Closed) :
    ∀ fuel, RecOK comp fuel (circuit comp s uf fuel) := by
  intro fuel
  induction fuel with
  | zero =>
    intro st w hinv hw hwc hfuel
    exact absurd hfuel (hinv.not_fuel_zero hw hwc)
  | succ fuel ih =>
    intro st v hinv hv hvc hfuel
    have hF := circuit_fold comp s fuel (circuit comp s uf fuel) ih hclosed st.stack v hfuel (comp.out v)
      (false, { st with stack := st.stack ++ [v], blocked := insBlocked v st.blocked })
      (fun _ h => h) (hinv.push hv hvc) rfl
    rw [circuit_succ]
    revert hF
    generalize (comp.out v).foldl (circuitStep (circuit comp s uf fuel) s)
      (false, { st with stack := st.stack ++ [v], blocked := insBlocked v st.blocked }) = r
    intro hF
    unfold circuitFinish
    cases hr1 : r.1 with
    | true =>
      simp only [if_true]
      have U := unblock_spec uf r.2 v
      have hstk : (unblock uf r.2 v).stack.dropLast = st.stack := by
        rw [U.stack, hF.stack]; simp
      refine ⟨hF.inv.pop hF.stack hstk ?_ ?_ ?_, hstk, fun h => Bool.noConfusion h⟩
      · intro y hy
        by_cases hyb : y ∈ r.2.blocked
        · exact U.cleared y hyb hy
        · apply eq_nil_of_forall_mem
          intro z hz
          have := U.Bsub y z hz
          rw [hF.inv.i1 y hyb] at this
          exact this
      · intro b a hc
        exact Or.inl (Casc.mono (st := r.2) U.bl U.Bsub (hc.of_eq (unblock uf r.2 v) rfl rfl))
      · -- a stack vertex is not unblocked: the cascade from `v` cannot reach it (`Inv.k`)
        intro x hxS
        have hxb : x ∈ r.2.blocked := hF.inv.i3 x (by rw [hF.stack]; simp [hxS])
        apply Classical.byContradiction
        intro hnx
        obtain ⟨l1, l2, hl⟩ := List.append_of_mem hxS
        exact hF.inv.k l1 x (l2 ++ [v]) (by rw [hF.stack, hl]; simp) v (by simp) (U.casc x hxb hnx)
    | false =>
      simp only [Bool.false_eq_true, if_false]
      obtain ⟨_, hmono, hws⟩ := hF.fail hr1
      have hvb : v ∈ r.2.blocked := hmono v ((mem_insBlocked v st.blocked v).2 (Or.inl rfl))
      have hstk : r.2.stack.dropLast = st.stack := by rw [hF.stack]; simp
      refine ⟨hF.inv.pop hF.stack hstk ?_ ?_ ?_, hstk,
        fun _ => ⟨fun x hx => hmono x ((mem_insBlocked v st.blocked x).2 (Or.inr hx)), hvb⟩⟩
      · intro y hy
        apply eq_nil_of_forall_mem
        intro x hx
        have hx' : x ∈ r.2.Bof y ∨ (x = v ∧ y ∈ comp.out v ∧ y < r.2.B.length) :=
          (addToB_get v (comp.out v) r.2.B y x).1 hx
        rcases hx' with hx' | ⟨_, hyw, _⟩
        · rw [hF.inv.i1 y hy] at hx'; exact hx'
        · exact absurd (hws y hyw).1 hy
      · intro b a hc
        exact casc_addToB (st := r.2) (ws := comp.out v) hvb
          (hc.of_eq { r.2 with B := addToB v r.2.B (comp.out v) } rfl rfl)
      · intro x hxS
        exact hF.inv.i3 x (by rw [hF.stack]; simp [hxS])

end GraafVerif.Johnson
