import GraafVerif.Model.AlgoGen
import GraafVerif.Proof.AlgoGenRt
import GraafVerif.Proof.AlgoGenPredTree
import GraafVerif.Model.Bfs
import GraafVerif.Proof.BfsCore
/-!
# Generated `Bfs`, `BfsDist`, `BfsPred` (`Model/AlgoGen.lean`) = hand-written `Model/Bfs.lean`

The hand-written model is one definition over a labelling `Lab L` with queue items
`(vertex, label)`; the generated structures carry the Rust queue items (`usize`, `(usize, usize)`,
`(Option<usize>, usize)`).  `toH`/`ofH` are the (proved mutually inverse) conversions, `BfsConv` what
the proofs use of them.  The translator emits the same loop bodies for the three iterators, so each
body is evaluated once, over the structure, and the three variants instantiate it.  All
equalities hold for EVERY state and argument: the `assert!(v < order)` in front of each
`*visited_ptr.add(v)` makes the `ub` outcome unreachable, so the generated function is the lifted
hand-written one.  Only `distances` / `predecessors` (which write through a pointer into a vector
of length `digraph.order()`) need the hypothesis that ties `visited.len()` to the order
(`QInv`), established by `new`.
-/
namespace GraafVerif.AlgoGenThm
open GraafVerif GraafVerif.AlgoGen

/-- Lift an outcome of the hand-written BFS model. -/
def liftB {α β ρ σ : Type} (f : α → σ) : Bfs.Res α → Blk β ρ σ
  | .panic => .error (.err (.fault .panic))
  | .ok a => .ok (f a)

/-- The same for a whole call. -/
def liftBR {α σ : Type} (f : α → σ) : Bfs.Res α → Res σ
  | .panic => .error (.fault .panic)
  | .ok a => .ok (f a)

/-- `Iterator::next` of the hand-written model as a call result (`self0`: the state before). -/
def liftStep {L ι S : Type} (item : Nat × L → ι) (ofH : Bfs.St L → S) (self0 : S) : Bfs.Step L → Res (Option ι × S)
  | .done => .ok (none, self0)
  | .panic => .error (.fault .panic)
  | .yield x st => .ok (some (item x), ofH st)

section generic
variable {L S ρ : Type} (toH : S → Bfs.St L) (ofH : Bfs.St L → S)

/-- The neighbour loop of `next`, for any structure isomorphic to the hand-written state whose loop
body is `discover` behind the `assert!`. -/
theorem scan_generic (h1 : ∀ s, ofH (toH s) = s) (h2 : ∀ st, toH (ofH st) = st)
    (body : S → Nat → Blk S ρ S) (lab : L) (order : Nat)
    (hbody : ∀ s v, (toH s).visited.length = order →
      body s v = if v < order then .ok (ofH (Bfs.discover lab (toH s) v)) else .error (.err (.fault .panic))) :
    ∀ (vs : List Nat) (s : S), (toH s).visited.length = order →
      (forLoop body vs s : Blk Empty ρ S) = liftB ofH (Bfs.scan lab vs (toH s)) := by
  intro vs
  induction vs with
  | nil =>
    intro s _
    exact congrArg Except.ok (h1 s).symm
  | cons v vs ih =>
    intro s hlen
    rw [forLoop_cons, hbody s v hlen, Bfs.scan, hlen]
    by_cases hv : v < order
    · rw [if_pos hv, if_pos hv]
      exact (ih _ (by rw [h2, Bfs.discover_len, hlen])).trans (by rw [h2])
    · rw [if_neg hv, if_neg hv]
      rfl

end generic

/-- The source loop of `new` on the pair `(queue, visited)`. -/
theorem newFrom_generic {L ι ρ : Type} (enc : Nat × L → ι) (lab0 : L) (order : Nat)
    (body : List ι × List Bool → Nat → Blk (List ι × List Bool) ρ (List ι × List Bool))
    (hbody : ∀ q vis u, vis.length = order →
      body (q, vis) u = if u < order then .ok (q ++ [enc (u, lab0)], vis.set u true) else .error (.err (.fault .panic))) :
    ∀ (us : List Nat) (q : List (Nat × L)) (vis : List Bool), vis.length = order →
      (forLoop body us (q.map enc, vis) : Blk Empty ρ (List ι × List Bool)) =
        liftB (fun st => (st.queue.map enc, st.visited)) (Bfs.newFrom lab0 us ⟨q, vis⟩) := by
  intro us
  induction us with
  | nil =>
    intro q vis _
    rfl
  | cons u us ih =>
    intro q vis hlen
    rw [forLoop_cons, hbody _ _ u hlen, Bfs.newFrom]
    subst hlen
    by_cases hu : u < vis.length
    · rw [if_pos hu, if_pos hu]
      exact (congrArg (fun q' => forLoop body us (q', vis.set u true)) List.map_append.symm).trans
        (ih (q ++ [(u, lab0)]) (vis.set u true) List.length_set)
    · rw [if_neg hu, if_neg hu]
      rfl

/-! ### The three iterators are one body: what differs is the structure (`mk queue visited`), the
site string and the queued item (`enc (vertex, label)`).  Each lemma below takes the emitted
do-block as a hypothesis; for every variant it holds by `rfl`. -/

/-- `assert!(u < order); queue.push_back(it); visited[u] = true` -/
theorem source_step {ι ρ β : Type} (site : String) (it : ι) (order : Nat) (q : List ι) (vis : List Bool) (u : Nat)
    (hlen : vis.length = order) :
    ((do assert (decide (u < order))
         let t0 ← wr site vis u true
         pure (q ++ [it], t0)) : Blk β ρ (List ι × List Bool)) =
      if u < order then .ok (q ++ [it], vis.set u true) else .error (.err (.fault .panic)) := by
  subst hlen
  rw [assert_bind]
  by_cases hu : u < vis.length
  · rw [if_pos hu, if_pos hu, wr_lt site vis u true hu]
    rfl
  · rw [if_neg hu, if_neg hu]

/-- The generated structure `mk queue visited` and its conversions to and from the hand-written state. -/
structure BfsConv {L ι S : Type} (enc : Nat × L → ι) (mk : List ι → List Bool → S)
    (toH : S → Bfs.St L) (ofH : Bfs.St L → S) : Prop where
  ofH_eq : ∀ st, ofH st = mk (st.queue.map enc) st.visited
  ofH_toH : ∀ s, ofH (toH s) = s
  toH_ofH : ∀ st, toH (ofH st) = st

section variants
variable {L ι S ρ β : Type} {enc : Nat × L → ι} {mk : List ι → List Bool → S}
  {toH : S → Bfs.St L} {ofH : Bfs.St L → S} (c : BfsConv enc mk toH ofH)
include c

/-- `assert!(v < order); if !visited[v] { visited[v] = true; queue.push_back(enc (v, lab)) }`
is the hand-written `discover`. -/
theorem discover_step {site : String} {lab : L} {order : Nat} {body : S → Nat → Blk β ρ S}
    (hbody : ∀ q vis v, body (mk q vis) v = do
      assert (decide (v < order))
      let t1 ← rd site vis v
      if t1 = false then do
        let t2 ← wr site vis v true
        pure (mk (q ++ [enc (v, lab)]) t2)
      else pure (mk q vis))
    (s : S) (v : Nat) (hlen : (toH s).visited.length = order) :
    body s v = if v < order then .ok (ofH (Bfs.discover lab (toH s) v)) else .error (.err (.fault .panic)) := by
  generalize hst : toH s = st at hlen ⊢
  obtain rfl : s = mk (st.queue.map enc) st.visited := by rw [← c.ofH_eq, ← hst, c.ofH_toH]
  subst hlen
  rw [hbody, assert_bind]
  by_cases hv : v < st.visited.length
  · rw [if_pos hv, if_pos hv, rd_lt site _ v hv, Bfs.discover, Bfs.isVis, List.getElem?_eq_getElem hv, c.ofH_eq]
    cases st.visited[v] with
    | true => rfl
    | false =>
      show _ = Except.ok (mk (List.map enc (st.queue ++ [(v, lab)])) (st.visited.set v true))
      rw [List.map_append, wr_lt site _ v true hv]
      rfl
  · rw [if_neg hv, if_neg hv]

/-- `new`: the source loop on `(queue, visited)`, then the structure. -/
theorem new_generic (g : Graph) (lab : Bfs.Lab L) (sources : List Nat) {new : Res S}
    {body : List ι × List Bool → Nat → Blk (List ι × List Bool) S (List ι × List Bool)}
    (hnew : new = fnBody (do
      let t1 ← forLoop body sources ([], List.replicate g.n false)
      pure (mk t1.1 t1.2)))
    (hbody : ∀ q vis u, vis.length = g.n →
      body (q, vis) u = if u < g.n then .ok (q ++ [enc (u, lab.init)], vis.set u true) else .error (.err (.fault .panic))) :
    new = liftBR ofH (Bfs.new g lab sources) := by
  rw [hnew, Bfs.new]
  rw [show (([], List.replicate g.n false) : List ι × List Bool) = (([] : List (Nat × L)).map enc, List.replicate g.n false) from rfl,
    newFrom_generic enc lab.init g.n body hbody sources [] _ List.length_replicate]
  cases Bfs.newFrom lab.init sources ⟨[], List.replicate g.n false⟩ with
  | panic => rfl
  | ok st => exact congrArg Except.ok (c.ofH_eq st).symm

/-- `next`: `pop_front()?`, the neighbour loop, `Some(item)`. -/
theorem next_generic (g : Graph) (lab : Bfs.Lab L) {next : S → Res (Option ι × S)}
    (body : ι → Nat → S → Nat → Blk S (Option ι × S) S)
    (hnil : ∀ vis, next (mk [] vis) = .ok (none, mk [] vis))
    (hcons : ∀ x q vis, next (mk (enc x :: q) vis) = fnBody (do
      let self ← forLoop (body (enc x) vis.length) (g.out x.1) (mk q vis)
      pure (some (enc x), self)))
    (hscan : ∀ x order vs s, (toH s).visited.length = order →
      (forLoop (body (enc x) order) vs s : Blk Empty _ _) = liftB ofH (Bfs.scan (lab.child x.1 x.2) vs (toH s)))
    (s : S) : next s = liftStep enc ofH s (Bfs.next g lab (toH s)) := by
  generalize hst : toH s = st
  obtain rfl : s = mk (st.queue.map enc) st.visited := by rw [← c.ofH_eq, ← hst, c.ofH_toH]
  obtain ⟨q, vis⟩ := st
  cases q with
  | nil => exact hnil vis
  | cons x q =>
    have hq : toH (mk (q.map enc) vis) = ⟨q, vis⟩ := by rw [← c.toH_ofH ⟨q, vis⟩, c.ofH_eq]
    refine (hcons x _ vis).trans ?_
    rw [hscan x vis.length (g.out x.1) _ (by rw [hq]), hq]
    show _ = liftStep enc ofH _ (match Bfs.scan (lab.child x.1 x.2) (g.out x.1) ⟨q, vis⟩ with
      | .panic => .panic
      | .ok st' => .yield x st')
    cases Bfs.scan (lab.child x.1 x.2) (g.out x.1) ⟨q, vis⟩ with
    | panic => rfl
    | ok st => rfl

end variants

/-! ### The invariant that ties `visited.len()` to the order and bounds the queued vertices
(what `new` establishes; under it the pointer writes of `distances` / `predecessors` are in range) -/

def QInv {L : Type} (n : Nat) (st : GraafVerif.Bfs.St L) : Prop :=
  st.visited.length = n ∧ ∀ x ∈ st.queue, x.1 < n

/-- `visited[v] = true; queue.push_back((v, lab))` for an in-range `v` -/
theorem QInv.push {L : Type} {n : Nat} {st : GraafVerif.Bfs.St L} (h : QInv n st) (lab : L) {v : Nat} (hv : v < n) :
    QInv n ⟨st.queue ++ [(v, lab)], st.visited.set v true⟩ :=
  ⟨List.length_set.trans h.1, fun x hx =>
    (List.mem_append.1 hx).elim (h.2 x) (fun hx => List.eq_of_mem_singleton hx ▸ hv)⟩

theorem discover_qinv {L : Type} (lab : L) (n v : Nat) (st : GraafVerif.Bfs.St L) (hv : v < n) (h : QInv n st) :
    QInv n (GraafVerif.Bfs.discover lab st v) := by
  unfold GraafVerif.Bfs.discover
  split
  · exact h
  · exact h.push lab hv

theorem scan_qinv {L : Type} (lab : L) (n : Nat) (vs : List Nat) :
    ∀ (st st' : GraafVerif.Bfs.St L), QInv n st → GraafVerif.Bfs.scan lab vs st = .ok st' → QInv n st' := by
  induction vs with
  | nil =>
    intro st st' h e
    cases e
    exact h
  | cons v vs ih =>
    intro st st' h e
    rw [GraafVerif.Bfs.scan] at e
    split at e
    · exact ih _ _ (discover_qinv lab n v st (h.1 ▸ ‹v < st.visited.length›) h) e
    · cases e

theorem next_qinv {L : Type} (g : Graph) (lab : GraafVerif.Bfs.Lab L) (n : Nat) (st st' : GraafVerif.Bfs.St L)
    (x : Nat × L) (h : QInv n st) (e : GraafVerif.Bfs.next g lab st = .yield x st') : QInv n st' ∧ x.1 < n := by
  obtain ⟨q, vis⟩ := st
  rw [GraafVerif.Bfs.next] at e
  cases q with
  | nil => cases e
  | cons it q =>
    dsimp only at e
    cases hs : GraafVerif.Bfs.scan (lab.child it.1 it.2) (g.out it.1) ⟨q, vis⟩ with
    | panic =>
      rw [hs] at e
      cases e
    | ok st1 =>
      rw [hs] at e
      cases e
      exact ⟨scan_qinv _ n _ ⟨q, vis⟩ _ ⟨h.1, fun y hy => h.2 y (List.mem_cons_of_mem _ hy)⟩ hs,
        h.2 it List.mem_cons_self⟩

theorem newFrom_qinv {L : Type} (lab0 : L) (n : Nat) (us : List Nat) :
    ∀ (st st' : GraafVerif.Bfs.St L), QInv n st → GraafVerif.Bfs.newFrom lab0 us st = .ok st' → QInv n st' := by
  induction us with
  | nil =>
    intro st st' h e
    cases e
    exact h
  | cons u us ih =>
    intro st st' h e
    rw [GraafVerif.Bfs.newFrom] at e
    split at e
    · exact ih _ _ (h.push lab0 (h.1 ▸ ‹u < st.visited.length›)) e
    · cases e

theorem new_qinv {L : Type} (g : Graph) (lab : GraafVerif.Bfs.Lab L) (S : List Nat) (st : GraafVerif.Bfs.St L)
    (e : GraafVerif.Bfs.new g lab S = .ok st) : QInv g.n st :=
  newFrom_qinv lab.init g.n S _ _ ⟨List.length_replicate, fun _ h => (List.not_mem_nil h).elim⟩ e

/-- The items of the generated iterator are the items of the hand-written `run`. -/
theorem collect_generic {L ι S : Type} (item : Nat × L → ι) (toH : S → GraafVerif.Bfs.St L) (ofH : GraafVerif.Bfs.St L → S)
    (h2 : ∀ st, toH (ofH st) = st) (next : S → Res (Option ι × S)) (g : Graph) (lab : GraafVerif.Bfs.Lab L)
    (hnext : ∀ s, next s = liftStep item ofH s (GraafVerif.Bfs.next g lab (toH s))) :
    ∀ (fuel : Nat) (s : S), Except.map Prod.fst (collect next fuel s) =
      liftBR (List.map item) (GraafVerif.Bfs.run g lab fuel (toH s)) := by
  intro fuel
  induction fuel with
  | zero =>
    intro s
    rfl
  | succ fuel ih =>
    intro s
    have hn := hnext s
    rw [GraafVerif.Bfs.run]
    cases hb : GraafVerif.Bfs.next g lab (toH s) with
    | done =>
      rw [collect, hn, hb]
      rfl
    | panic =>
      rw [collect, hn, hb]
      rfl
    | yield x st =>
      rw [hb] at hn
      rw [map_fst_collect_succ next fuel s (ofH st) (item x) hn, ih, h2]
      show _ = liftBR (List.map item) (match GraafVerif.Bfs.run g lab fuel st with
        | .panic => .panic
        | .ok xs => .ok (x :: xs))
      cases GraafVerif.Bfs.run g lab fuel st <;> rfl

/-- `X::new(&g, S).collect()` on the generated side = the hand-written `iter`. -/
theorem new_collect_generic {L ι S : Type} (item : Nat × L → ι) (toH : S → GraafVerif.Bfs.St L) (ofH : GraafVerif.Bfs.St L → S)
    (h2 : ∀ st, toH (ofH st) = st) {new : Res S} {next : S → Res (Option ι × S)} (g : Graph) (lab : GraafVerif.Bfs.Lab L)
    (Srcs : List Nat) (hnew : new = liftBR ofH (GraafVerif.Bfs.new g lab Srcs))
    (hnext : ∀ s, next s = liftStep item ofH s (GraafVerif.Bfs.next g lab (toH s))) :
    (new >>= fun s => Except.map Prod.fst (collect next (GraafVerif.Bfs.fuelFor g Srcs) s)) =
      liftBR (List.map item) (GraafVerif.Bfs.iter g lab Srcs) := by
  rw [hnew, GraafVerif.Bfs.iter]
  cases GraafVerif.Bfs.new g lab Srcs with
  | panic => rfl
  | ok st => exact (collect_generic item toH ofH h2 next g lab hnext _ (ofH st)).trans (by rw [h2])

theorem next_inv_generic {L ι S : Type} (item : Nat × L → ι) (toH : S → GraafVerif.Bfs.St L) (ofH : GraafVerif.Bfs.St L → S)
    (h2 : ∀ st, toH (ofH st) = st) (next : S → Res (Option ι × S)) (g : Graph) (lab : GraafVerif.Bfs.Lab L)
    (hnext : ∀ s, next s = liftStep item ofH s (GraafVerif.Bfs.next g lab (toH s)))
    (n : Nat) (s s' : S) (y : ι) (h : QInv n (toH s)) (e : next s = .ok (some y, s')) :
    QInv n (toH s') ∧ ∃ x : Nat × L, y = item x ∧ x.1 < n := by
  rw [hnext s] at e
  cases hn : GraafVerif.Bfs.next g lab (toH s) with
  | done =>
    rw [hn] at e
    cases e
  | panic =>
    rw [hn] at e
    cases e
  | yield x st =>
    rw [hn] at e
    cases e
    obtain ⟨h3, h4⟩ := next_qinv g lab n _ _ _ h hn
    rw [h2]
    exact ⟨h3, x, rfl, h4⟩

namespace Bfs

def toH (s : AlgoGen.Bfs) : GraafVerif.Bfs.St Unit := ⟨s.queue.map (fun u => (u, ())), s.visited⟩
def ofH (st : GraafVerif.Bfs.St Unit) : AlgoGen.Bfs := ⟨st.queue.map (·.1), st.visited⟩

theorem ofH_toH (s : AlgoGen.Bfs) : ofH (toH s) = s := by
  cases s; simp [ofH, toH, Function.comp_def]
theorem toH_ofH (st : GraafVerif.Bfs.St Unit) : toH (ofH st) = st := by
  cases st; simp [ofH, toH, Function.comp_def]

theorem conv : BfsConv (·.1) AlgoGen.Bfs.mk toH ofH := ⟨fun _ => rfl, ofH_toH, toH_ofH⟩

theorem new_for0_step (order : Nat) (q : List Nat) (vis : List Bool) (u : Nat) (hlen : vis.length = order) :
    (AlgoGen.Bfs.new_for0 order (q, vis) u : Blk _ AlgoGen.Bfs _) =
      if u < order then .ok (q ++ [u], vis.set u true) else .error (.err (.fault .panic)) :=
  source_step _ u order q vis u hlen

/-- `for u in sources { assert!(u < order); queue.push_back(u); visited[u] = true }` -/
theorem new_for0_eq (order : Nat) (us : List Nat) (q : List (Nat × Unit)) (vis : List Bool) (hlen : vis.length = order) :
    (forLoop (AlgoGen.Bfs.new_for0 order) us (q.map (·.1), vis) : Blk Empty AlgoGen.Bfs _) =
      liftB (fun st => (st.queue.map (·.1), st.visited)) (GraafVerif.Bfs.newFrom () us ⟨q, vis⟩) :=
  newFrom_generic (·.1) () order _ (fun q vis u h => new_for0_step order q vis u h) us q vis hlen

theorem new_eq (g : Graph) (S : List Nat) :
    AlgoGen.Bfs.new g S = liftBR ofH (GraafVerif.Bfs.new g GraafVerif.Bfs.labUnit S) :=
  new_generic conv g GraafVerif.Bfs.labUnit S rfl (new_for0_step g.n)

theorem next_for0_step (order : Nat) (s : AlgoGen.Bfs) (v : Nat) (hlen : (toH s).visited.length = order) :
    (AlgoGen.Bfs.next_for0 order s v : Blk _ (Option Nat × AlgoGen.Bfs) _) =
      if v < order then .ok (ofH (GraafVerif.Bfs.discover () (toH s) v)) else .error (.err (.fault .panic)) :=
  discover_step conv (fun _ _ _ => rfl) s v hlen

/-- `for v in out_neighbors(u) { assert!(v < order); if !visited[v] { visited[v] = true; queue.push_back(v) } }` -/
theorem next_for0_eq (order : Nat) (vs : List Nat) (s : AlgoGen.Bfs) (hlen : s.visited.length = order) :
    (forLoop (AlgoGen.Bfs.next_for0 order) vs s : Blk Empty (Option Nat × AlgoGen.Bfs) _) =
      liftB ofH (GraafVerif.Bfs.scan () vs (toH s)) :=
  scan_generic toH ofH ofH_toH toH_ofH _ () order (next_for0_step order) vs s hlen

theorem next_eq (g : Graph) (s : AlgoGen.Bfs) :
    AlgoGen.Bfs.next g s = liftStep (·.1) ofH s (GraafVerif.Bfs.next g GraafVerif.Bfs.labUnit (toH s)) :=
  next_generic conv g GraafVerif.Bfs.labUnit (fun _ order => AlgoGen.Bfs.next_for0 order) (fun _ => rfl)
    (fun _ _ _ => rfl) (fun _ order vs s h => next_for0_eq order vs s h) s

end Bfs

namespace BfsDist

def toH (s : AlgoGen.BfsDist) : GraafVerif.Bfs.St Nat := ⟨s.queue, s.visited⟩
def ofH (st : GraafVerif.Bfs.St Nat) : AlgoGen.BfsDist := ⟨st.queue, st.visited⟩

theorem ofH_toH (s : AlgoGen.BfsDist) : ofH (toH s) = s := rfl
theorem toH_ofH (st : GraafVerif.Bfs.St Nat) : toH (ofH st) = st := rfl

theorem conv : BfsConv id AlgoGen.BfsDist.mk toH ofH :=
  ⟨fun st => congrArg (AlgoGen.BfsDist.mk · st.visited) (List.map_id _).symm, ofH_toH, toH_ofH⟩

theorem new_for0_step (order : Nat) (q : List (Nat × Nat)) (vis : List Bool) (u : Nat) (hlen : vis.length = order) :
    (AlgoGen.BfsDist.new_for0 order (q, vis) u : Blk _ AlgoGen.BfsDist _) =
      if u < order then .ok (q ++ [(u, 0)], vis.set u true) else .error (.err (.fault .panic)) :=
  source_step _ (u, 0) order q vis u hlen

/-- `for u in sources { assert!(u < order); queue.push_back((u, 0)); visited[u] = true }` -/
theorem new_for0_eq (order : Nat) (us : List Nat) (q : List (Nat × Nat)) (vis : List Bool) (hlen : vis.length = order) :
    (forLoop (AlgoGen.BfsDist.new_for0 order) us (q, vis) : Blk Empty AlgoGen.BfsDist _) =
      liftB (fun st => (st.queue, st.visited)) (GraafVerif.Bfs.newFrom 0 us ⟨q, vis⟩) := by
  have h := newFrom_generic (ι := Nat × Nat) id 0 order _ (fun q vis u h => new_for0_step order q vis u h) us q vis hlen
  simpa using h

theorem new_eq (g : Graph) (S : List Nat) :
    AlgoGen.BfsDist.new g S = liftBR ofH (GraafVerif.Bfs.new g GraafVerif.Bfs.labDist S) :=
  new_generic conv g GraafVerif.Bfs.labDist S rfl (new_for0_step g.n)

theorem next_for0_step (w_next order : Nat) (s : AlgoGen.BfsDist) (v : Nat) (hlen : (toH s).visited.length = order) :
    (AlgoGen.BfsDist.next_for0 w_next order s v : Blk _ (Option (Nat × Nat) × AlgoGen.BfsDist) _) =
      if v < order then .ok (ofH (GraafVerif.Bfs.discover w_next (toH s) v)) else .error (.err (.fault .panic)) :=
  discover_step conv (fun _ _ _ => rfl) s v hlen

theorem next_for0_eq (w_next order : Nat) (vs : List Nat) (s : AlgoGen.BfsDist) (hlen : s.visited.length = order) :
    (forLoop (AlgoGen.BfsDist.next_for0 w_next order) vs s : Blk Empty (Option (Nat × Nat) × AlgoGen.BfsDist) _) =
      liftB ofH (GraafVerif.Bfs.scan w_next vs (toH s)) :=
  scan_generic toH ofH ofH_toH toH_ofH _ w_next order (next_for0_step w_next order) vs s hlen

theorem next_eq (g : Graph) (s : AlgoGen.BfsDist) :
    AlgoGen.BfsDist.next g s = liftStep id ofH s (GraafVerif.Bfs.next g GraafVerif.Bfs.labDist (toH s)) :=
  next_generic conv g GraafVerif.Bfs.labDist (fun it order => AlgoGen.BfsDist.next_for0 (it.2 + 1) order)
    (fun _ => rfl) (fun _ _ _ => rfl) (fun x order vs s h => next_for0_eq (x.2 + 1) order vs s h) s

/-- `unsafe { *ptr.add(u) = w }` in `distances` -/
theorem distances_for0_eq (d : List Nat) (x : Nat × Nat) (h : x.1 < d.length) :
    (AlgoGen.BfsDist.distances_for0 d x : Blk _ (List Nat × AlgoGen.BfsDist) _) = .ok (d.set x.1 x.2) :=
  (congrArg (fun t => t >>= fun t0 => pure t0) (wr_lt _ d x.1 x.2 h)).trans rfl

/-- `BfsDist::distances` on a state whose `visited` has length `order` and whose queued vertices
are in range: the fold of `distances[u] = w` over the items of the hand-written `run`. -/
theorem distances_eq (g : Graph) (inf fuel : Nat) (s : AlgoGen.BfsDist) (h : QInv g.n (toH s)) :
    Except.map Prod.fst (AlgoGen.BfsDist.distances g inf fuel s) =
      liftBR (fun xs => xs.foldl (fun d (p : Nat × Nat) => d.set p.1 p.2) (List.replicate g.n inf))
        (GraafVerif.Bfs.run g GraafVerif.Bfs.labDist fuel (toH s)) := by
  refine (map_fst_iterLoop _ AlgoGen.BfsDist.distances_for0 (fun d (p : Nat × Nat) => d.set p.1 p.2)
    (fun s => QInv g.n (toH s)) (fun d => d.length = g.n) ?_ fuel s _ h List.length_replicate id).trans ?_
  · intro s y s' hP e
    obtain ⟨hP', x, rfl, hx⟩ := next_inv_generic id toH ofH toH_ofH _ g _ (next_eq g) g.n s s' y hP e
    exact ⟨hP', fun acc hacc => ⟨distances_for0_eq acc _ (hacc ▸ hx), List.length_set.trans hacc⟩⟩
  · rw [collect_generic id toH ofH toH_ofH _ g _ (next_eq g), List.map_id_fun]
    cases GraafVerif.Bfs.run g GraafVerif.Bfs.labDist fuel (toH s) <;> rfl

/-- `BfsDist::new(&digraph, sources).distances()` = the hand-written `Bfs.distances`, for all
digraphs, source lists and sentinels. -/
theorem new_distances_eq (g : Graph) (S : List Nat) (inf : Nat) :
    (AlgoGen.BfsDist.new g S >>= fun s =>
        Except.map Prod.fst (AlgoGen.BfsDist.distances g inf (GraafVerif.Bfs.fuelFor g S) s)) =
      liftBR id (GraafVerif.Bfs.distances g S inf) := by
  rw [new_eq]
  unfold GraafVerif.Bfs.distances GraafVerif.Bfs.bfsDist GraafVerif.Bfs.iter
  cases hn : GraafVerif.Bfs.new g GraafVerif.Bfs.labDist S with
  | panic => rfl
  | ok st =>
    refine (distances_eq g inf _ (ofH st) (new_qinv g _ S st hn)).trans ?_
    show liftBR _ (GraafVerif.Bfs.run g GraafVerif.Bfs.labDist (GraafVerif.Bfs.fuelFor g S) st) = _
    dsimp only
    cases GraafVerif.Bfs.run g GraafVerif.Bfs.labDist (GraafVerif.Bfs.fuelFor g S) st <;> rfl

end BfsDist

namespace BfsPred

/-- Rust item `(pred, v)` ↔ hand-written item `(v, pred)`. -/
def sw (x : Nat × Option Nat) : Option Nat × Nat := (x.2, x.1)
def ws (y : Option Nat × Nat) : Nat × Option Nat := (y.2, y.1)

def toH (s : AlgoGen.BfsPred) : GraafVerif.Bfs.St (Option Nat) := ⟨s.queue.map ws, s.visited⟩
def ofH (st : GraafVerif.Bfs.St (Option Nat)) : AlgoGen.BfsPred := ⟨st.queue.map sw, st.visited⟩

theorem ofH_toH (s : AlgoGen.BfsPred) : ofH (toH s) = s := by
  cases s; simp [ofH, toH, Function.comp_def, sw, ws]
theorem toH_ofH (st : GraafVerif.Bfs.St (Option Nat)) : toH (ofH st) = st := by
  cases st; simp [ofH, toH, Function.comp_def, sw, ws]

theorem conv : BfsConv sw AlgoGen.BfsPred.mk toH ofH := ⟨fun _ => rfl, ofH_toH, toH_ofH⟩

theorem new_for0_step (order : Nat) (q : List (Option Nat × Nat)) (vis : List Bool) (u : Nat) (hlen : vis.length = order) :
    (AlgoGen.BfsPred.new_for0 order (q, vis) u : Blk _ AlgoGen.BfsPred _) =
      if u < order then .ok (q ++ [(none, u)], vis.set u true) else .error (.err (.fault .panic)) :=
  source_step _ (none, u) order q vis u hlen

/-- `for u in sources { assert!(u < order); queue.push_back((None, u)); visited[u] = true }` -/
theorem new_for0_eq (order : Nat) (us : List Nat) (q : List (Nat × Option Nat)) (vis : List Bool) (hlen : vis.length = order) :
    (forLoop (AlgoGen.BfsPred.new_for0 order) us (q.map sw, vis) : Blk Empty AlgoGen.BfsPred _) =
      liftB (fun st => (st.queue.map sw, st.visited)) (GraafVerif.Bfs.newFrom none us ⟨q, vis⟩) :=
  newFrom_generic sw none order _ (fun q vis u h => new_for0_step order q vis u h) us q vis hlen

theorem new_eq (g : Graph) (S : List Nat) :
    AlgoGen.BfsPred.new g S = liftBR ofH (GraafVerif.Bfs.new g GraafVerif.Bfs.labPred S) :=
  new_generic conv g GraafVerif.Bfs.labPred S rfl (new_for0_step g.n)

theorem next_for0_step (v order : Nat) (s : AlgoGen.BfsPred) (u : Nat) (hlen : (toH s).visited.length = order) :
    (AlgoGen.BfsPred.next_for0 v order s u : Blk _ (Option (Option Nat × Nat) × AlgoGen.BfsPred) _) =
      if u < order then .ok (ofH (GraafVerif.Bfs.discover (some v) (toH s) u)) else .error (.err (.fault .panic)) :=
  discover_step conv (fun _ _ _ => rfl) s u hlen

theorem next_for0_eq (v order : Nat) (us : List Nat) (s : AlgoGen.BfsPred) (hlen : s.visited.length = order) :
    (forLoop (AlgoGen.BfsPred.next_for0 v order) us s : Blk Empty (Option (Option Nat × Nat) × AlgoGen.BfsPred) _) =
      liftB ofH (GraafVerif.Bfs.scan (some v) us (toH s)) :=
  scan_generic toH ofH ofH_toH toH_ofH _ (some v) order (next_for0_step v order) us s hlen

theorem next_eq (g : Graph) (s : AlgoGen.BfsPred) :
    AlgoGen.BfsPred.next g s = liftStep sw ofH s (GraafVerif.Bfs.next g GraafVerif.Bfs.labPred (toH s)) :=
  next_generic conv g GraafVerif.Bfs.labPred (fun it order => AlgoGen.BfsPred.next_for0 it.2 order)
    (fun _ => rfl) (fun _ _ _ => rfl) (fun x order us s h => next_for0_eq x.1 order us s h) s

/-- `unsafe { *pred_ptr.add(v) = u }` in `predecessors` -/
theorem predecessors_for0_eq (t : AlgoGen.PredecessorTree) (y : Option Nat × Nat) (h : y.2 < t.pred.length) :
    (AlgoGen.BfsPred.predecessors_for0 t y : Blk _ (AlgoGen.PredecessorTree × AlgoGen.BfsPred) _) =
      .ok ⟨t.pred.set y.2 y.1⟩ :=
  (congrArg (fun r => r >>= fun t1 => pure (⟨t1⟩ : AlgoGen.PredecessorTree)) (wr_lt _ t.pred y.2 y.1 h)).trans rfl

theorem foldl_pred (xs : List (Nat × Option Nat)) : ∀ (t : AlgoGen.PredecessorTree),
    ((xs.map sw).foldl (fun (t : AlgoGen.PredecessorTree) (y : Option Nat × Nat) => (⟨t.pred.set y.2 y.1⟩ : AlgoGen.PredecessorTree)) t).pred =
      xs.foldl (fun pr (p : Nat × Option Nat) => pr.set p.1 p.2) t.pred :=
  fun t => (PredecessorTree.foldl_set_pred (xs.map sw) t).trans List.foldl_map

/-- `BfsPred::predecessors` on a state satisfying the invariant of `new`: `PredecessorTree::new`
panics for order 0, otherwise the tree is the fold of `pred[v] = u` over the items of `run`. -/
theorem predecessors_eq (g : Graph) (fuel : Nat) (s : AlgoGen.BfsPred) (h : QInv g.n (toH s)) :
    Except.map (fun r => r.1.pred) (AlgoGen.BfsPred.predecessors g fuel s) =
      if g.n = 0 then .error (.fault .panic)
      else liftBR (GraafVerif.Bfs.predOf g.n) (GraafVerif.Bfs.run g GraafVerif.Bfs.labPred fuel (toH s)) := by
  refine (PredecessorTree.map_fnBody_new_bind g.n _ _).trans (ite_congr rfl (fun _ => rfl) (fun _ => ?_))
  refine (map_fst_iterLoop _ AlgoGen.BfsPred.predecessors_for0
    (fun t (y : Option Nat × Nat) => (⟨t.pred.set y.2 y.1⟩ : AlgoGen.PredecessorTree))
    (fun s => QInv g.n (toH s)) (fun t => t.pred.length = g.n) ?_
    fuel s ⟨List.replicate g.n none⟩ h List.length_replicate (·.pred)).trans ?_
  · intro s y s' hP e
    obtain ⟨hP', x, rfl, hx⟩ := next_inv_generic sw toH ofH toH_ofH _ g _ (next_eq g) g.n s s' y hP e
    exact ⟨hP', fun acc hacc => ⟨predecessors_for0_eq acc (sw x) (hacc ▸ hx), List.length_set.trans hacc⟩⟩
  · rw [collect_generic sw toH ofH toH_ofH _ g _ (next_eq g)]
    cases GraafVerif.Bfs.run g GraafVerif.Bfs.labPred fuel (toH s) with
    | panic => rfl
    | ok xs => exact congrArg Except.ok (foldl_pred xs _)

/-- `BfsPred::new(&g, S)` followed by a function that starts with `PredecessorTree::new(order)`. -/
theorem new_bind_eq {γ : Type} (g : Graph) (S : List Nat) (f : AlgoGen.BfsPred → Res γ)
    (r : GraafVerif.Bfs.St (Option Nat) → GraafVerif.Bfs.Res γ)
    (h : ∀ st, QInv g.n st → f (ofH st) = if g.n = 0 then .error (.fault .panic) else liftBR id (r st)) :
    (AlgoGen.BfsPred.new g S >>= f) =
      liftBR id (match GraafVerif.Bfs.new g GraafVerif.Bfs.labPred S with
        | .panic => .panic
        | .ok st => if g.n = 0 then .panic else r st) := by
  rw [new_eq]
  cases hn : GraafVerif.Bfs.new g GraafVerif.Bfs.labPred S with
  | panic => rfl
  | ok st =>
    refine (h st (new_qinv g _ S st hn)).trans ?_
    dsimp only
    split <;> rfl

/-- `BfsPred::new(&digraph, sources).predecessors()` = the hand-written `Bfs.predecessors`. -/
theorem new_predecessors_eq (g : Graph) (S : List Nat) :
    (AlgoGen.BfsPred.new g S >>= fun s =>
        Except.map (fun r => r.1.pred) (AlgoGen.BfsPred.predecessors g (GraafVerif.Bfs.fuelFor g S) s)) =
      liftBR id (GraafVerif.Bfs.predecessors g S) := by
  refine new_bind_eq g S _ _ (fun st hq => ?_)
  rw [predecessors_eq g _ _ (by rwa [toH_ofH]), toH_ofH]
  cases GraafVerif.Bfs.run g GraafVerif.Bfs.labPred (GraafVerif.Bfs.fuelFor g S) st <;> rfl

end BfsPred

end GraafVerif.AlgoGenThm
