import GraafVerif.Proof.Cross2
import GraafVerif.Thm.C04
import GraafVerif.Thm.C08
import GraafVerif.Thm.C09
import GraafVerif.Thm.C10
import GraafVerif.Thm.C18
import GraafVerif.Proof.CrossModels
/-!
# C04 / C08 / C09 / C10 / C18 in the vocabulary of `Proof/Cross2.lean` (tag `Cross2`)

`fwDM inf g` is what `FloydWarshall::new(&g).distances()` returns as C18's model sees it: the
sentinel `none` of C08's model becomes the number `inf = isize::MAX`.  `DistFits inf g` is the
property's "path sums fit".
-/
namespace GraafVerif.Cross2
open GraafVerif GraafVerif.Cross GraafVerif.Johnson GraafVerif.Tarjan

/-- `FloydWarshall::new(&g).distances()` as the `DistanceMatrix` value C18 speaks about. -/
def fwDM (inf : Int) (g : WGraph) : DistMatrix.DM :=
  ⟨(Fw.distances g).map (fun o => o.getD inf), inf, g.n⟩

/-- No minimum walk weight between two vertices reaches the sentinel (`isize::MAX`). -/
def DistFits (inf : Int) (g : WGraph) : Prop :=
  ∀ u v d, u < g.n → v < g.n → IsMinDist g [u] v d → d < inf

section cells
variable {inf : Int} {g : WGraph} (hwf : g.WF)
include hwf

theorem fw_index_lt {u v : Nat} (hu : u < g.n) (hv : v < g.n) :
    u * g.n + v < (Fw.distances g).length :=
  C08.fw_length g hwf ▸ (C08.fw_index_inj (u' := u) (v' := v) hu hv hv).1

theorem mem_distances_iff {o : Option Int} :
    o ∈ Fw.distances g ↔ ∃ u v, u < g.n ∧ v < g.n ∧ Fw.get g.n (Fw.distances g) u v = o := by
  constructor
  · intro ho
    obtain ⟨i, hi, hget⟩ := List.getElem_of_mem ho
    obtain ⟨hu, hv, e⟩ := flatIdx_decode (C08.fw_length g hwf ▸ hi)
    refine ⟨i / g.n, i % g.n, hu, hv, ?_⟩
    rw [Fw.get, e, List.getElem?_eq_getElem hi, hget]
    rfl
  · rintro ⟨u, v, hu, hv, rfl⟩
    have hlt := fw_index_lt hwf hu hv
    rw [Fw.get, List.getElem?_eq_getElem hlt]
    exact List.getElem_mem hlt

theorem fwDM_get {u v : Nat} (hu : u < g.n) (hv : v < g.n) :
    DistMatrix.get (fwDM inf g) u v = .ok ((Fw.get g.n (Fw.distances g) u v).getD inf) := by
  simp only [DistMatrix.get, fwDM, Fw.get, List.getElem?_map,
    List.getElem?_eq_getElem (fw_index_lt hwf hu hv), Option.map_some, Option.getD_some]

variable (hfun : g.Functional) (hnc : g.NoNegCycle)
include hfun hnc

theorem fw_isSome_iff_reach {u v : Nat} (hu : u < g.n) (hv : v < g.n) :
    (Fw.get g.n (Fw.distances g) u v).isSome = true ↔ Reach g.toGraph u v := by
  rw [← wreachFrom_single_iff, Option.isSome_iff_ne_none, Ne, (C08.fw_exact g hwf hfun hnc hu hv).2,
    Classical.not_not]

variable (hfit : DistFits inf g)
include hfit

theorem fw_cell_lt {u v : Nat} (hu : u < g.n) (hv : v < g.n) {d : Int}
    (hc : Fw.get g.n (Fw.distances g) u v = some d) : d < inf :=
  hfit u v d hu hv (((C08.fw_exact g hwf hfun hnc hu hv).1 d).mp hc)

theorem fw_cell_le {u v : Nat} (hu : u < g.n) (hv : v < g.n) :
    (Fw.get g.n (Fw.distances g) u v).getD inf ≤ inf := by
  cases hc : Fw.get g.n (Fw.distances g) u v with
  | none => exact Int.le_refl _
  | some d => exact Int.le_of_lt (fw_cell_lt hwf hfun hnc hfit hu hv hc)

theorem fw_cell_eq_inf_iff {u v : Nat} (hu : u < g.n) (hv : v < g.n) :
    (Fw.get g.n (Fw.distances g) u v).getD inf = inf ↔ ¬ Reach g.toGraph u v := by
  rw [← fw_isSome_iff_reach hwf hfun hnc hu hv]
  cases hc : Fw.get g.n (Fw.distances g) u v with
  | none => simp
  | some d =>
    simp only [Option.getD_some, Option.isSome_some, not_true_eq_false, iff_false]
    exact Int.ne_of_lt (fw_cell_lt hwf hfun hnc hfit hu hv hc)

/-- The Floyd-Warshall result is one of the matrices C18 quantifies over. -/
theorem fwDM_wf (hn : 0 < g.n) : DistMatrix.WF (fwDM inf g) := by
  refine ⟨hn, ?_, fun x hx => ?_⟩
  · show ((Fw.distances g).map _).length = g.n * g.n
    rw [List.length_map, C08.fw_length g hwf]
  · obtain ⟨o, ho, rfl⟩ := List.mem_map.mp hx
    obtain ⟨u, v, hu, hv, rfl⟩ := (mem_distances_iff hwf).mp ho
    exact fw_cell_le hwf hfun hnc hfit hu hv

theorem fw_ecc_max (hn : 0 < g.n) {u : Nat} (hu : u < g.n) :
    ∃ e, (DistMatrix.ecc (fwDM inf g))[u]? = some e ∧
      (∃ v, v < g.n ∧ e = (Fw.get g.n (Fw.distances g) u v).getD inf) ∧
      ∀ v, v < g.n → (Fw.get g.n (Fw.distances g) u v).getD inf ≤ e := by
  obtain ⟨e, he, ⟨v₀, hv₀, hat⟩, hle⟩ := (C18.ecc_spec _ (fwDM_wf hwf hfun hnc hfit hn)).2 u hu
  refine ⟨e, he, ⟨v₀, hv₀, ?_⟩, fun v hv => ?_⟩
  · cases (fwDM_get hwf hu hv₀).symm.trans hat
    rfl
  · obtain ⟨x, hx, hxe⟩ := hle v hv
    cases (fwDM_get hwf hu hv).symm.trans hx
    exact hxe

theorem fw_isConnected_iff_sc (hn : 0 < g.n) :
    DistMatrix.isConnected (fwDM inf g) = true ↔ StronglyConnected g.toGraph := by
  rw [(C18.connected_spec _ (fwDM_wf hwf hfun hnc hfit hn)).2]
  refine forall_congr' fun u => forall_congr' fun v => forall_congr' fun hu => forall_congr' fun hv => ?_
  have hu' : u < g.n := hu
  have hv' : v < g.n := hv
  show DistMatrix.get (fwDM inf g) u v ≠ .ok inf ↔ _
  rw [fwDM_get hwf hu' hv', Ne, DistMatrix.Res.ok.injEq, fw_cell_eq_inf_iff hwf hfun hnc hfit hu' hv',
    Classical.not_not]

end cells

theorem tarjan_res {g : Graph} (hg : g.WF) :
    ∃ cs, components (vgOf g) = .ret cs ∧ IsSCCPartition (vgOf g) cs :=
  C09.tarjan_scc _ (vgOf_closed hg)

theorem tarjan_partition_of_eq {g : Graph} (hg : g.WF) {cs : List (List Nat)}
    (hcs : components (vgOf g) = .ret cs) : IsSCCPartition (vgOf g) cs := by
  obtain ⟨cs', h', hp⟩ := tarjan_res hg
  cases h'.symm.trans hcs
  exact hp

theorem sc_iff_tarjan_one {g : Graph} (hg : g.WF) (hn : 0 < g.n) :
    StronglyConnected g ↔ components (vgOf g) = .ret [List.range g.n] := by
  obtain ⟨cs, hcs, hp⟩ := tarjan_res hg
  constructor
  · intro hsc
    obtain ⟨c, rfl⟩ := (one_block_iff hn hp).mpr hsc
    rw [hcs]
    have hasc := C09.tarjan_sets_ascending _ (vgOf_closed hg) _ hcs c (List.mem_singleton.mpr rfl)
    have hmem : ∀ x, x ∈ c ↔ x ∈ List.range g.n := by
      intro x
      rw [List.mem_range, ← vgOf_mem, hp.cover x]
      constructor
      · intro hx; exact ⟨c, List.mem_singleton.mpr rfl, hx⟩
      · rintro ⟨c', hc', hx⟩; rw [List.mem_singleton.mp hc'] at hx; exact hx
    rw [C18.sorted_ext c (List.range g.n) hasc List.pairwise_lt_range hmem]
  · intro h
    rw [hcs] at h
    injection h with h
    exact (one_block_iff hn hp).mp ⟨_, h⟩

theorem circuits_mem_iff {g : Graph} (hg : g.WF) (hloops : NoLoops g) (hrows : RowsNodup g)
    (c : List Nat) : c ∈ circuits g ↔ IsCanonicalElemCircuit g c :=
  (C10.statement g hg hloops hrows).2 c

theorem circuits_nil_iff {g : Graph} (hg : g.WF) (hloops : NoLoops g) (hrows : RowsNodup g) :
    circuits g = [] ↔ ∀ c, ¬ IsCanonicalElemCircuit g c := by
  rw [List.eq_nil_iff_forall_not_mem]
  exact forall_congr' fun c => not_congr (circuits_mem_iff hg hloops hrows c)

theorem johnson_vertex_iff {g : Graph} (hg : g.WF) (hloops : NoLoops g) (hrows : RowsNodup g)
    {v : Nat} : (∃ c ∈ circuits g, v ∈ c) ↔ ∃ c, IsCanonicalElemCircuit g c ∧ v ∈ c :=
  exists_congr fun c => and_congr_left fun _ => circuits_mem_iff hg hloops hrows c

theorem bfs_single_ok {g : Graph} (hg : g.WF) {u : Nat} (hu : u < g.n) :
    ∃ out, Bfs.bfs g [u] = .ok out := by
  obtain ⟨out, ho, _⟩ := C04.bfs_correct g hg [u] (single_lt hu) (List.pairwise_singleton _ u)
  exact ⟨out, ho⟩

theorem bfs_single_mem {g : Graph} (hg : g.WF) {u : Nat} (hu : u < g.n) {out : List Nat}
    (ho : Bfs.bfs g [u] = .ok out) {v : Nat} : v ∈ out ↔ Reach g u v :=
  ((bfs_spec hg (single_lt hu) (List.pairwise_singleton _ u) ho).mem_iff v).trans OracleProof.reachFrom_single_iff

end GraafVerif.Cross2
