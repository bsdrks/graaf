import GraafVerif.Proof.BfsC04
import GraafVerif.Proof.BfsTree
import GraafVerif.Proof.PredForest
import GraafVerif.Proof.PredTreeRoot
/-!
# C05 (BFS half): `predecessors`, `shortest_path`, `cycles`

The loops of `shortest_path` / `cycles` (written over `next` in the model) are first shown equal
to their list versions over the item list of the whole run (`spLoop_eq`, `cyLoop_eq`); a list
version is followed item by item, the predecessor vector being the one written by the items before.
-/
namespace GraafVerif.Bfs
open GraafVerif GraafVerif.PredTree

variable {g : Graph} {S : List Nat}

theorem FullSpec.parentFirst {out : List FItem} (h : FullSpec g S out) :
    ParentFirst (fun x : FItem => x.1) (fun x => x.2.2) out :=
  ⟨h.nodup, fun pre x post hsplit u hu => by
    rcases h.tree pre x post hsplit with h | ⟨y, hy, hp, _⟩
    · rw [h.1] at hu; cases hu
    · exact ⟨y, hy, Option.some.inj (hp.symm.trans hu)⟩⟩

theorem predOf_proj_snoc (n : Nat) (done : List FItem) (x : FItem) :
    (predOf n (done.map proj)).set x.1 x.2.2 = predOf n ((done ++ [x]).map proj) := by
  rw [predOf_map_proj, predOf_map_proj, Vec.written, Vec.written, List.foldl_append]
  rfl

/-- In the vector written by a prefix `P` of the run, `search_by(v, |_, b| b.is_none())` from the vertex of an
item of `P` returns the vertices of its ancestor chain: as many links as its level, backwards a walk of the
digraph, down to a source. -/
theorem FullSpec.anc {P rest : List FItem} (h : FullSpec g S (P ++ rest)) (x : FItem) (hx : x ∈ P) :
    ∃ r : List Nat, searchBy (predOf g.n (P.map proj)) x.1 (fun _ b => b.isNone) = .ret (some (x.1 :: r)) ∧
      (x.1 :: r).length = x.2.1 + 1 ∧ RevWalk g (x.1 :: r) ∧ ∀ z, (x.1 :: r).getLast? = some z → z ∈ S := by
  have hnd := h.nodup
  rw [List.map_append] at hnd
  obtain ⟨hlen, hpr, _⟩ := predOf_spec g.n P (List.nodup_append.mp hnd).1
    (fun y hy => (h.lt y (List.mem_append_left _ hy)).1)
  obtain ⟨pre, post, rfl⟩ := List.append_of_mem hx
  refine (h.parentFirst.searchBy_anc (fun y hy => (h.lt y hy).1)
    (fun x c => ∃ r : List FItem, AncChain g S (x :: r) ∧ c = (x :: r).map (·.1))
    (fun x hx hp => ?_) (fun x hx y hy hp c hM => ?_) (List.append_assoc pre (x :: post) rest)
    (fun y hy => hpr y ((List.mem_append.mp hy).elim (List.mem_append_left _)
      (fun hy => List.mem_append_right _ (List.mem_singleton.mp hy ▸ List.mem_cons_self)))) hlen).imp
    fun c hc => ⟨hc.1, by obtain ⟨r, hr, e⟩ := hc.2; exact e ▸ hr.spec⟩
  · rcases h.tree.mem x hx with h | ⟨y, _, hp', _⟩
    · exact ⟨[], h, rfl⟩
    · rw [hp] at hp'; cases hp'
  · rcases h.tree.mem x hx with h' | ⟨y', hy', hp', ha, hl⟩
    · rw [h'.1] at hp; cases hp
    · cases Vec.eq_of_map_nodup (·.1) _ h.nodup y' hy' y hy (Option.some.inj (hp'.symm.trans hp))
      obtain ⟨r, hr, e⟩ := hM
      exact ⟨y :: r, ⟨hp', ha, hl, hr⟩, congrArg (x.1 :: ·) e⟩

theorem FullSpec.inRange {P rest : List FItem} (h : FullSpec g S (P ++ rest)) :
    InRange (predOf g.n (P.map proj)) := by
  have hnd := h.nodup
  rw [List.map_append] at hnd
  obtain ⟨hlen, hpr, hnone⟩ := predOf_spec g.n P (List.nodup_append.mp hnd).1
    (fun y hy => (h.lt y (List.mem_append_left _ hy)).1)
  refine Cross3.inRange_of_entries fun v u hget => ?_
  by_cases hm : v ∈ P.map (·.1)
  · obtain ⟨x, hx, rfl⟩ := List.mem_map.mp hm
    rcases h.tree.mem x (List.mem_append_left _ hx) with h' | ⟨y, hy, hp, _⟩
    · rw [hpr x hx, h'.1] at hget; cases hget
    · rw [hpr x hx, hp] at hget
      cases hget
      exact Nat.lt_of_lt_of_eq (h.lt y hy).1 hlen.symm
  · rw [hnone v (hlen ▸ (List.getElem?_eq_some_iff.mp hget).1) hm] at hget; cases hget

structure PredSpec (g : Graph) (S : List Nat) (pred : Pred) : Prop where
  len : pred.length = g.n
  src : ∀ s ∈ S, pred[s]? = some none
  unreach : ∀ v, v < g.n → ¬ ReachFrom g S v → pred[v]? = some none
  tree : ∀ v, ReachFrom g S v → v ∉ S →
    ∃ u d, pred[v]? = some (some u) ∧ g.A u v ∧ IsHopDist g S u d ∧ IsHopDist g S v (d + 1)
  /-- following the predecessors from a reachable vertex reaches a source along a shortest path -/
  chain : ∀ v d, IsHopDist g S v d →
    ∃ cs, searchBy pred v (fun _ b => b.isNone) = .ret (some cs) ∧ cs.length = d + 1 ∧
      IsWalk g cs.reverse ∧ (∃ s ∈ S, cs.getLast? = some s) ∧ cs.head? = some v

theorem FullSpec.item {out : List FItem} (h : FullSpec g S out) {v : Nat}
    (hr : ReachFrom g S v) : ∃ x ∈ out, x.1 = v :=
  let ⟨x, hx, hxv⟩ := List.mem_map.mp ((h.mem_iff v).mpr hr)
  ⟨x, hx, hxv⟩

theorem predecessors_spec (hg : g.WF) (hn : 0 < g.n) (hS : ∀ s ∈ S, s < g.n) (hnd : S.Nodup) :
    ∃ pred, predecessors g S = .ok pred ∧ PredSpec g S pred := by
  obtain ⟨out, hsp, hproj⟩ := full_run hg hS hnd
  have hrun : predecessors g S = .ok (predOf g.n (out.map proj)) := by
    unfold predecessors
    rw [new_eq g labPred S hS]
    simp only [if_neg (Nat.ne_of_gt hn)]
    rw [run_eq hg labPred _ (newP_spec labPred hS).2.1, hproj]
  obtain ⟨hlen, hpr, hnone⟩ := predOf_spec g.n out hsp.nodup (fun y hy => (hsp.lt y hy).1)
  refine ⟨_, hrun, hlen, fun s hs => ?_, fun v hv hr => hnone v hv (fun h => hr ((hsp.mem_iff v).mp h)),
    fun v hr hvS => ?_, fun v d hd => ?_⟩
  · obtain ⟨x, hx, rfl⟩ := hsp.item ⟨s, hs, Reach.refl s⟩
    rw [hpr x hx]
    rcases hsp.tree.mem x hx with h | ⟨y, _, _, _, hl⟩
    · rw [h.1]
    · rw [OracleProof.hop_unique (hsp.exact x hx) (OracleProof.hop_src hs)] at hl
      cases hl
  · obtain ⟨x, hx, rfl⟩ := hsp.item hr
    rcases hsp.tree.mem x hx with h | ⟨y, hy, hp, ha, hl⟩
    · exact absurd h.2.1 hvS
    · exact ⟨y.1, y.2.1, by rw [hpr x hx, hp], ha, hsp.exact y hy, hl ▸ hsp.exact x hx⟩
  · obtain ⟨x, hx, rfl⟩ := hsp.item (OracleProof.hop_reach hd)
    obtain ⟨r, hs, hl, hw, hlast⟩ := FullSpec.anc (rest := []) (by rwa [List.append_nil]) x hx
    rw [← OracleProof.hop_unique hd (hsp.exact x hx)] at hl
    refine ⟨x.1 :: r, hs, hl, hw.isWalk_reverse, ?_, rfl⟩
    cases hgl : (x.1 :: r).getLast? with
    | none => cases List.getLast?_eq_none_iff.mp hgl
    | some z => exact ⟨z, hlast z hgl, rfl⟩

/-- `shortest_path`'s loop over an item list instead of over `next`. -/
def spList (isT : Nat → Bool) : List (Nat × Option Nat) → Pred → Res (Option (List Nat))
  | [], _ => .ok none
  | (v, u) :: xs, pred =>
    if isT v then
      match searchBy (pred.set v u) v (fun _ b => b.isNone) with
      | .panic => .panic
      | .ret r => .ok (r.map List.reverse)
    else spList isT xs (pred.set v u)

theorem spLoop_eq (g : Graph) (hg : g.WF) (isT : Nat → Bool) :
    ∀ (fuel : Nat) (st : St (Option Nat)) (pred : Pred), st.visited.length = g.n →
      spLoop g isT fuel st pred = spList isT (runP g labPred fuel st).1 pred := by
  intro fuel
  induction fuel with
  | zero => intro st pred _; rfl
  | succ f ih =>
    intro st pred hlen
    simp only [spLoop, runP, next_eq hg labPred hlen]
    cases hn : nextP g labPred st with
    | none => rfl
    | some p =>
      obtain ⟨⟨v, u⟩, st'⟩ := p
      simp only [spList]
      split
      · cases searchBy (pred.set v u) v (fun _ b => b.isNone) <;> rfl
      · exact ih st' _ ((nextP_len hn).trans hlen)

structure SPSpec (g : Graph) (S : List Nat) (isT : Nat → Bool) (r : Option (List Nat)) : Prop where
  /-- `None` exactly when no reachable vertex satisfies the predicate -/
  none_iff : r = none ↔ ¬ ∃ v, ReachFrom g S v ∧ isT v = true
  /-- otherwise a walk from a source to a target, with as many arcs as the hop distance of the
  target, which is minimal among all reachable targets -/
  path : ∀ p, r = some p → ∃ s t, p.head? = some s ∧ p.getLast? = some t ∧ s ∈ S ∧ isT t = true ∧
    IsWalk g p ∧ IsHopDist g S t (p.length - 1) ∧
    ∀ t' d', isT t' = true → IsHopDist g S t' d' → p.length - 1 ≤ d'

theorem SPSpec.of_no_target {isT : Nat → Bool} {out : List FItem}
    (hsp : FullSpec g S out) (hno : ∀ y ∈ out, isT y.1 = false) : SPSpec g S isT none := by
  refine ⟨⟨fun _ => ?_, fun _ => rfl⟩, nofun⟩
  rintro ⟨v, hr, hv⟩
  obtain ⟨x, hx, rfl⟩ := hsp.item hr
  rw [hno x hx] at hv
  cases hv

/-- `x` is the first target item and `cs` its ancestor chain: the reversed chain is the right answer
(later items are not nearer, the list being sorted by level). -/
theorem SPSpec.of_first_target {isT : Nat → Bool} {pre post : List FItem}
    {x : FItem} (hsp : FullSpec g S (pre ++ x :: post)) (hpre : ∀ y ∈ pre, isT y.1 = false)
    (hx : isT x.1 = true) {cs : List Nat} (hhd : cs.head? = some x.1) (hlen : cs.length = x.2.1 + 1)
    (hw : RevWalk g cs) (hlast : ∀ z, cs.getLast? = some z → z ∈ S) :
    SPSpec g S isT (some cs.reverse) := by
  have hxout : x ∈ pre ++ x :: post := List.mem_append_right _ List.mem_cons_self
  refine ⟨⟨nofun, fun h => absurd ⟨x.1, (hsp.mem_iff x.1).mp (List.mem_map_of_mem hxout), hx⟩ h⟩, fun p hp => ?_⟩
  cases hp
  cases hgl : cs.getLast? with
  | none => rw [List.getLast?_eq_none_iff.mp hgl] at hlen; cases hlen
  | some z =>
    rw [List.length_reverse, hlen, Nat.add_sub_cancel]
    refine ⟨z, x.1, by rw [List.head?_reverse, hgl], by rw [List.getLast?_reverse, hhd], hlast z hgl, hx,
      hw.isWalk_reverse, hsp.exact x hxout, fun t' d' ht' hd' => ?_⟩
    obtain ⟨y, hy, rfl⟩ := hsp.item (OracleProof.hop_reach hd')
    rw [OracleProof.hop_unique hd' (hsp.exact y hy)]
    have hsorted := hsp.sorted
    rw [List.map_append, List.map_cons, List.pairwise_append, List.pairwise_cons] at hsorted
    rcases List.mem_append.mp hy with hy | hy
    · rw [hpre y hy] at ht'; cases ht'
    · rcases List.mem_cons.mp hy with rfl | hy
      · exact Nat.le_refl _
      · exact hsorted.2.1.1 _ (List.mem_map_of_mem hy)

theorem spList_spec (isT : Nat → Bool) {out : List FItem} (hsp : FullSpec g S out) :
    ∀ (rest done : List FItem), out = done ++ rest → (∀ y ∈ done, isT y.1 = false) →
      ∃ r, spList isT (rest.map proj) (predOf g.n (done.map proj)) = .ok r ∧ SPSpec g S isT r := by
  intro rest
  induction rest with
  | nil =>
    intro done hout hdone
    exact ⟨none, rfl, SPSpec.of_no_target hsp (by rwa [hout, List.append_nil])⟩
  | cons x rest ih =>
    intro done hout hdone
    have hout' : out = (done ++ [x]) ++ rest := by rw [hout, List.append_assoc]; rfl
    simp only [List.map_cons, spList, proj, predOf_proj_snoc]
    cases hx : isT x.1
    · exact ih (done ++ [x]) hout' (List.forall_mem_append.mpr ⟨hdone, List.forall_mem_singleton.mpr hx⟩)
    · obtain ⟨r, hs, hlen, hw, hlast⟩ :=
        FullSpec.anc (rest := rest) (hout' ▸ hsp) x (List.mem_append_right _ List.mem_cons_self)
      exact ⟨_, by rw [if_pos rfl, hs]; rfl, SPSpec.of_first_target (hout ▸ hsp) hdone hx rfl hlen hw hlast⟩

theorem shortestPath_spec (hg : g.WF) (hn : 0 < g.n) (hS : ∀ s ∈ S, s < g.n) (hnd : S.Nodup) (isT : Nat → Bool) :
    ∃ r, shortestPath g S isT = .ok r ∧ SPSpec g S isT r := by
  obtain ⟨out, hsp, hproj⟩ := full_run hg hS hnd
  have hrun : shortestPath g S isT = spList isT (out.map proj) (predOf g.n ([].map proj)) := by
    unfold shortestPath
    rw [new_eq g labPred S hS]
    simp only [if_neg (Nat.ne_of_gt hn)]
    rw [spLoop_eq g hg isT _ _ _ (newP_spec labPred hS).2.1, hproj]
    rfl
  rw [hrun]
  exact spList_spec isT hsp out [] rfl nofun

def IsElemCycle (g : Graph) (c : List Nat) : Prop :=
  c ≠ [] ∧ c.Nodup ∧ IsWalk g c ∧ ∃ a z, c.head? = some a ∧ c.getLast? = some z ∧ g.A z a

/-- `cycles`' loop over an item list instead of over `next`. -/
def cyList (g : Graph) : List (Nat × Option Nat) → Pred → List (List Nat) → Res (List (List Nat))
  | [], _, acc => .ok acc
  | (v, u) :: xs, pred, acc =>
    match cyclesAt (pred.set v u) v (g.out v) acc with
    | .panic => .panic
    | .ok acc' => cyList g xs (pred.set v u) acc'

theorem cyLoop_eq (g : Graph) (hg : g.WF) :
    ∀ (fuel : Nat) (st : St (Option Nat)) (pred : Pred) (acc : List (List Nat)), st.visited.length = g.n →
      cyLoop g fuel st pred acc = cyList g (runP g labPred fuel st).1 pred acc := by
  intro fuel
  induction fuel with
  | zero => intro st pred acc _; rfl
  | succ f ih =>
    intro st pred acc hlen
    simp only [cyLoop, runP, next_eq hg labPred hlen]
    cases hn : nextP g labPred st with
    | none => rfl
    | some p =>
      obtain ⟨⟨v, u⟩, st'⟩ := p
      simp only [cyList]
      cases cyclesAt (pred.set v u) v (g.out v) acc with
      | panic => rfl
      | ok acc' => exact ih st' _ _ ((nextP_len hn).trans hlen)

/-- The inner loop: with `v :: r` the root path of `v` in `pr`, every `search(v, x)` that succeeds returns
the part of the path up to `x` (`RootShape.searchBy_cases`); reversed and closed by the arc `v → x` it is an
elementary cycle. -/
theorem cyclesAt_elem (g : Graph) (pr : Pred) (v : Nat) (r : List Nat) (hr : InRange pr)
    (hroot : Cross3.RootPath pr v (v :: r)) (hw : RevWalk g (v :: r)) :
    ∀ (nbrs : List Nat) (acc : List (List Nat)), (∀ x ∈ nbrs, g.A v x) → (∀ c ∈ acc, IsElemCycle g c) →
      ∃ acc', cyclesAt pr v nbrs acc = .ok acc' ∧ ∀ c ∈ acc', IsElemCycle g c := by
  have hv := Cross3.lt_of_searchBy_ret hroot
  obtain ⟨k, z, hs⟩ := Cross3.rootShape hr hv hroot
  intro nbrs
  induction nbrs with
  | nil => intro acc _ hacc; exact ⟨acc, rfl, hacc⟩
  | cons x nbrs ih =>
    intro acc hn hacc
    obtain ⟨hvx, hn'⟩ := List.forall_mem_cons.mp hn
    rcases hs.searchBy_cases hr hv (fun y _ => y == x) with h | ⟨q, y, h, ⟨c2, hdec⟩, hgl, ht⟩
    · simp only [cyclesAt, search, h]
      exact ih acc hn' hacc
    · simp only [cyclesAt, search, h]
      refine ih _ hn' (List.forall_mem_append.mpr ⟨hacc, List.forall_mem_singleton.mpr ?_⟩)
      cases (eq_of_beq ht : y = x)
      have hnd := hs.nodup
      rw [← hdec] at hnd hw
      have hhd : q.head? = some v := by
        cases q with
        | nil => cases hgl
        | cons a q => exact congrArg some (List.cons.inj hdec).1
      exact ⟨fun e => (nomatch List.reverse_eq_nil_iff.mp e ▸ hhd),
        (List.reverse_perm _).nodup_iff.mpr (List.nodup_append.mp hnd).1, hw.prefix.isWalk_reverse, x, v,
        List.head?_reverse.trans hgl, List.getLast?_reverse.trans hhd, hvx⟩

theorem cyList_elem {out : List FItem} (hsp : FullSpec g S out) :
    ∀ (rest done : List FItem) (acc : List (List Nat)), out = done ++ rest → (∀ c ∈ acc, IsElemCycle g c) →
      ∃ acc', cyList g (rest.map proj) (predOf g.n (done.map proj)) acc = .ok acc' ∧
        ∀ c ∈ acc', IsElemCycle g c := by
  intro rest
  induction rest with
  | nil => intro done acc _ hacc; exact ⟨acc, rfl, hacc⟩
  | cons x rest ih =>
    intro done acc hout hacc
    have hout' : out = (done ++ [x]) ++ rest := by rw [hout, List.append_assoc]; rfl
    have hP : FullSpec g S ((done ++ [x]) ++ rest) := hout' ▸ hsp
    obtain ⟨r, hroot, _, hwalk, _⟩ := hP.anc x (List.mem_append_right _ List.mem_cons_self)
    obtain ⟨acc1, h1, hacc1⟩ := cyclesAt_elem g _ x.1 r hP.inRange hroot hwalk (g.out x.1) acc (fun y hy => hy) hacc
    simp only [List.map_cons, cyList, proj, predOf_proj_snoc, h1]
    exact ih (done ++ [x]) acc1 hout' hacc1

theorem cycles_spec (hg : g.WF) (hn : 0 < g.n) (hS : ∀ s ∈ S, s < g.n) (hnd : S.Nodup) :
    ∃ cs, cycles g S = .ok cs ∧ ∀ c ∈ cs, IsElemCycle g c := by
  obtain ⟨out, hsp, hproj⟩ := full_run hg hS hnd
  have hrun : cycles g S = cyList g (out.map proj) (predOf g.n ([].map proj)) [] := by
    unfold cycles
    rw [new_eq g labPred S hS]
    simp only [if_neg (Nat.ne_of_gt hn)]
    rw [cyLoop_eq g hg _ _ _ _ (newP_spec labPred hS).2.1, hproj]
    rfl
  rw [hrun]
  exact cyList_elem hsp out [] [] rfl nofun

end GraafVerif.Bfs
