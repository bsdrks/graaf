import GraafVerif.Model.PredFast
import GraafVerif.Proof.QueryAL
import GraafVerif.Proof.QueryFast
import GraafVerif.Proof.OracleFold
/-!
# The `Array` / bitset twins of the `AdjacencyList` predicate models equal the list models
(driver ↔ proved model; every digraph, thread count and description; no hypotheses)
-/
namespace GraafVerif.Pred.AL
open GraafVerif.Repr GraafVerif.Query

theorem bitRow_get (n : Nat) (row : List Nat) (v : Nat) :
    (bitRow n row)[v]?.getD false = (decide (v < n) && row.contains v) := by
  rw [bitRow, ← Array.getD_eq_getD_getElem?, OracleProof.getD_marks, OracleProof.getD_replicate, Array.size_replicate,
    Bool.and_comm]
  by_cases h : v ∈ row ∧ v < n
  · rw [if_pos h, List.contains_iff_mem.2 h.1, decide_eq_true h.2]; rfl
  · rw [if_neg h]
    exact (Bool.eq_false_iff.2 fun hc => h ⟨List.contains_iff_mem.1 (Bool.and_eq_true_iff.1 hc).1,
      of_decide_eq_true (Bool.and_eq_true_iff.1 hc).2⟩).symm

theorem memA_eq (d : AdjList) (u v : Nat) : memA (bits d) d.order d u v = (row d u).contains v := by
  unfold memA
  by_cases hv : v < d.order
  · rw [if_pos hv]
    have hB : (bits d)[u]? = (d.rows[u]?).map (bitRow d.order) := by
      unfold bits
      rw [List.getElem?_toArray, List.getElem?_map]
    rw [hB]
    unfold row
    cases hr : d.rows[u]? with
    | none => simp
    | some r =>
      simp only [Option.map_some, Option.getD_some]
      rw [bitRow_get]
      simp [hv]
  · rw [if_neg hv]

theorem pairOkF_eq (d : AdjList) : pairOkF (bits d) d.order d = pairOk d := by
  funext u v
  simp [pairOkF, pairOk, memA_eq]

theorem isSemicompleteFast_eq (d : AdjList) (t : Nat) : isSemicompleteFast d t = isSemicomplete d t := by
  unfold isSemicompleteFast isSemicomplete
  simp only [pairOkF_eq]
  rfl

theorem isTournamentFast_eq (d : AdjList) : isTournamentFast d = isTournament d := by
  unfold isTournamentFast isTournament
  simp only [memA_eq]

theorem coreFast_eq (d : AdjList) : coreFast d = Query.AL.core d := by
  unfold coreFast
  have h1 : (fun u v => memA (bits d) d.order d u v) = (Query.AL.core d).hasArc := by
    funext u v
    rw [memA_eq]
    exact (AdjList.hasArc_eq d u v).symm
  have h2 : (fun v => if v < d.order then
        some (((List.range d.order).filter (fun u => memA (bits d) d.order d u v)).length) else none)
      = (Query.AL.core d).indegree := by
    funext v
    show _ = Query.AL.indegree d v
    unfold Query.AL.indegree
    by_cases hv : v < d.order
    · simp only [hv, if_true, memA_eq]
      congr 1
      conv => rhs; rw [Query.AL.rows_eq_map d]
      rw [List.filter_map, List.length_map]
      rfl
    · simp only [hv, if_false]
  have h3 : (fun u => (d.rows.toArray[u]?).map List.length) = (Query.AL.core d).outdegree := by
    funext u
    rw [List.getElem?_toArray]
    rfl
  have h4 : (fun t => some (Query.AL.degreeSequenceFast d t)) = (Query.AL.core d).degreeSequence := by
    funext t
    rw [Query.AL.degreeSequenceFast_eq]
    rfl
  simp only []
  rw [h2, h3, h1, h4, Query.AL.indegreeSequenceFast_eq]
  rfl

theorem addArcA_eq (A : Array (List Nat)) (u v : Nat) :
    (addArcA A u v).map (fun A => (⟨A.toList⟩ : AdjList)) = AdjList.addArc ⟨A.toList⟩ u v := by
  unfold addArcA AdjList.addArc AdjList.order
  by_cases h1 : u = v
  · simp [h1]
  · by_cases h2 : u < A.size
    · by_cases h3 : v < A.size
      · simp [h1, h2, h3]
      · simp [h1, h2, h3]
    · simp [h1, h2]

theorem foldlM_addArcA (arcs : List (Nat × Nat)) (A : Array (List Nat)) :
    (arcs.foldlM (fun A a => addArcA A a.1 a.2) A).map (fun A => (⟨A.toList⟩ : AdjList))
      = arcs.foldlM (fun (g : AdjList) a => g.addArc a.1 a.2) ⟨A.toList⟩ := by
  induction arcs generalizing A with
  | nil => rfl
  | cons a arcs ih =>
    rw [List.foldlM_cons, List.foldlM_cons, ← addArcA_eq]
    cases h : addArcA A a.1 a.2 with
    | none => rfl
    | some A' => simpa using ih A'

/-- `buildRowsFast n arcs` is `empty(n)` followed by `add_arc` of every arc in order — the body of
`Driver.buildAL` (`Driver/ReprDesc.lean`). -/
theorem buildRowsFast_eq (n : Nat) (arcs : List (Nat × Nat)) :
    buildRowsFast n arcs = (AdjList.empty n).bind (fun e => arcs.foldlM (fun g a => g.addArc a.1 a.2) e) := by
  unfold buildRowsFast AdjList.empty
  by_cases hn : n = 0
  · simp [hn]
  · simp only [hn, if_false, Option.bind_some]
    rw [foldlM_addArcA, Array.toList_replicate]

end GraafVerif.Pred.AL
