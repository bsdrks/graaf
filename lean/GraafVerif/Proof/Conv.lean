import GraafVerif.Model.Conv
import GraafVerif.Proof.GenArcRepr
/-!
# C16: the macro-generated `From` impls preserve the digraph

Over any two `ArcRepr`s (target `R`, source `R'`).  On a valid source the two asserts of the macro body never fire
(`fromDigraph_eq_build`), so `T::from(d)` is `ArcRepr.yields_build` at what `d` shows through `order()` and `arcs()`
(`yields_conv`).  The result is determined by that (`Yields.eq_some`): converting ANY valid source that shows what `d`
holds into the representation of `d` returns `d` (`conv_eq`), so every way back is the identity (`roundtrip`).
-/
namespace GraafVerif.Conv
open GraafVerif.Repr GraafVerif.Gen

/-- What a source digraph shows to a conversion: `order() ≥ 1` and valid `arcs()`. -/
structure Src where
  order : Nat
  arcs : List (Nat × Nat)
  pos : 1 ≤ order
  valid : ArcsValid order arcs

theorem step_valid {T : Type} (addArc : T → Nat → Nat → Option T) (n : Nat) (h : T) (a : Nat × Nat)
    (ha : a.1 ≠ a.2 ∧ a.1 < n ∧ a.2 < n) : step addArc n h a = addArc h a.1 a.2 := by
  rw [step, if_neg ha.1, if_neg (Decidable.not_not.mpr ha.2.2)]

theorem fromDigraph_eq_build {T : Type} (empty : Nat → Option T) (addArc : T → Nat → Nat → Option T)
    {n : Nat} {l : List (Nat × Nat)} (hn : 1 ≤ n) (hv : ArcsValid n l) :
    fromDigraph empty addArc n l = build empty addArc n l := by
  rw [fromDigraph, if_neg (Nat.ne_of_gt hn), build]
  cases empty n with
  | none => rfl
  | some e => exact AlgoGenThm.foldlM_congr_mem l _ _ (fun e a ha => step_valid addArc n e a (hv a ha)) e

/-- A source panics the conversion when it shows a self-loop or a head `≥ order` (the two
asserts of the macro body), whatever the target. -/
theorem fromDigraph_panics {T : Type} (empty : Nat → Option T) (addArc : T → Nat → Nat → Option T)
    (n : Nat) (arcs : List (Nat × Nat)) (h : ∃ a ∈ arcs, a.1 = a.2 ∨ ¬ a.2 < n) :
    fromDigraph empty addArc n arcs = none := by
  unfold fromDigraph
  split
  · rfl
  · cases empty n with
    | none => rfl
    | some e =>
      show arcs.foldlM (step addArc n) e = none
      obtain ⟨a, ha, hbad⟩ := h
      induction arcs generalizing e with
      | nil => cases ha
      | cons x xs ih =>
        rw [List.foldlM_cons]
        rcases List.mem_cons.mp ha with rfl | ha'
        · have : step addArc n e a = none := by
            unfold step
            rcases hbad with h1 | h1
            · rw [if_pos h1]
            · by_cases h0 : a.1 = a.2
              · rw [if_pos h0]
              · rw [if_neg h0, if_pos h1]
          rw [this]; rfl
        · cases step addArc n e x with
          | none => rfl
          | some e' => exact ih e' ha'

theorem fromDigraph_zero {T : Type} (empty : Nat → Option T) (addArc : T → Nat → Nat → Option T)
    (arcs : List (Nat × Nat)) : fromDigraph empty addArc 0 arcs = none :=
  if_pos rfl

end GraafVerif.Conv

namespace GraafVerif.Gen.ArcRepr
open GraafVerif.Conv
variable {S T : Type} {order : T → Nat} {vertices : T → List Nat} {arcs : T → List (Nat × Nat)}
  {hasArc : T → Nat → Nat → Bool} {empty : Nat → Option T} {addArc : T → Nat → Nat → Option T}
  (R : ArcRepr order vertices arcs hasArc empty addArc)
  {order' : S → Nat} {vertices' : S → List Nat} {arcs' : S → List (Nat × Nat)}
  {hasArc' : S → Nat → Nat → Bool} {empty' : Nat → Option S} {addArc' : S → Nat → Nat → Option S}
  (R' : ArcRepr order' vertices' arcs' hasArc' empty' addArc')

def src {d : T} (h : R.WF d) : Src := ⟨order d, arcs d, R.pos h, R.valid h⟩

theorem yields_from {n : Nat} {l : List (Nat × Nat)} (hn : 1 ≤ n) (hf : R.fits n) (hv : ArcsValid n l) :
    R.Yields (fromDigraph empty addArc n l) n (ofList l) :=
  fromDigraph_eq_build empty addArc hn hv ▸ R.yields_build hn hf hv

/-- a conversion that returns has passed `empty` -/
theorem fits_of_from {n : Nat} {l : List (Nat × Nat)} {t : T} (h : fromDigraph empty addArc n l = some t) :
    R.fits n := by
  unfold fromDigraph at h
  split at h
  · cases h
  · cases he : empty n with
    | none => rw [he] at h; cases h
    | some e => exact R.fits_of_empty he

/-- **Every conversion** `T::from(d)`, `d : S`: the result holds the order and the arcs of the source. -/
theorem yields_conv {d : S} (hd : R'.WF d) (hf : R.fits (order' d)) :
    R.Yields (fromDigraph empty addArc (order' d) (arcs' d)) (order' d) (ofList (arcs' d)) :=
  R.yields_from (R'.pos hd) hf (R'.valid hd)

theorem conv_eq {s : S} {d : T} {n : Nat} {A : Nat → Nat → Prop} (hs : R'.Holds s n A) (hd : R.Holds d n A)
    (hf : R.fits n) : fromDigraph empty addArc (order' s) (arcs' s) = some d :=
  (R.yields_conv R' hs.1 (hs.2.1.symm ▸ hf)).eq_some
    ⟨hd.1, hd.2.1.trans hs.2.1.symm, fun u v => (hd.2.2 u v).trans (hs.2.2 u v).symm⟩

section
include R'
/-- **Every round trip** is the identity on the structure. -/
theorem roundtrip {d : T} (hd : R.WF d) (hf : R.fits (order d)) {t : S}
    (ht : fromDigraph empty' addArc' (order d) (arcs d) = some t) :
    fromDigraph empty addArc (order' t) (arcs' t) = some d :=
  R.conv_eq R' ((R'.yields_conv R hd (R'.fits_of_from ht)).holds_of_eq ht) (holds_self hd) hf
end

end GraafVerif.Gen.ArcRepr
