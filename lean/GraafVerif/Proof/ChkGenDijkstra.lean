import GraafVerif.Proof.ChkGenPredTree
import GraafVerif.Proof.AlgoGenDijkstra
/-!
# C13 on the regenerated Dijkstra family (`Model/AlgoGen.lean`, generated from `src/algo/dijkstra*.rs`)

For EVERY weighted digraph (successors and weights arbitrary), every sentinel, every source list, every
fuel — no "path sums fit" hypothesis is needed for memory safety.  `new` is the hand-written `init` behind the
check of the sources (`new_eq` of `Proof/AlgoGenDijkstra.lean`, unconditional).  `next` and the derived entry points are
proved directly on the generated text: their equalities need `StepFits`.  The three `next` are one text over `mk dist heap`:
as in `Proof/AlgoGenDijkstra.lean` the emitted do-blocks are hypotheses of `dijNext_safe` that every variant discharges by
`rfl`; `HInv` is the invariant.
-/
namespace GraafVerif.C13Gen
open GraafVerif GraafVerif.AlgoGen

section
variable {S γ ι : Type} (mk : List Int → List Entry → S)

/-- `dist.len() = n` and every heap entry holds a vertex `< n`: what `new` establishes and `next` keeps.
`next` reads `dist[u]` for a POPPED entry without a check — safe exactly because of this. -/
def HInv (n : Nat) (s : S) : Prop := ∃ d h, s = mk d h ∧ d.length = n ∧ ∀ e ∈ h, e.v < n

variable {n : Nat}

theorem dijNew_safe {new : Res S} {inf : Int} {Srcs : List Nat}
    (hnew : new = if ∀ s ∈ Srcs, s < n then
        .ok (mk (AlgoGenThm.encD inf (GraafVerif.Dijkstra.init n Srcs).dist) (GraafVerif.Dijkstra.init n Srcs).heap)
      else .error (.fault .panic)) : RSafe new (HInv mk n) := by
  rw [hnew]
  split
  · obtain ⟨h1, h2⟩ := AlgoGenThm.init_heap Srcs ⟨List.replicate n none, []⟩
    exact ⟨_, _, rfl, (AlgoGenThm.encD_length _ _).trans (h1.trans List.length_replicate),
      fun e he => (h2 e he).elim nofun (fun h => ‹∀ s ∈ Srcs, s < n› _ h.2)⟩
  · trivial

/-- `next` over `mk dist heap`: the `loop` that pops until a fresh entry (`out e` is what it carries out), the relaxation
scan over the out-arcs of the popped vertex, `Some(item)`.  `c`, `add`, `entry`: the test, the sum and the pushed entry as
the source writes them. -/
theorem dijNext_safe (g : WGraph) {site site' : String} {out : Entry → γ} {vert : γ → Nat} (hvert : ∀ e, vert (out e) = e.v)
    {c : Int → Int → Prop} [∀ a b, Decidable (c a b)] {add : Int → γ → Int} {entry : γ → Int → Nat → Entry}
    (hentry : ∀ b d v, (entry b d v).v = v) {item : γ → ι} {iv : ι → Nat} (hiv : ∀ b, iv (item b) = vert b)
    {len : S → Nat} (hlen : ∀ d h, len (mk d h) = d.length)
    {next : S → Res (Option ι × S)} {loop0 : S → Blk (γ × S) (Option ι × S) S} {for0 : γ → Nat → S → Nat × Int → Blk S (Option ι × S) S}
    (hnext : ∀ d h, next (mk d h) = fnBody (do
      let t ← loopLoop loop0 (h.length + 1) (mk d h)
      let self ← forLoop (for0 t.1 (len t.2)) (g.out (vert t.1)) t.2
      pure (some (item t.1), self)))
    (hloop0 : ∀ d h, loop0 (mk d h) = match heapPop h with
      | none => ret (none, mk d h)
      | some t0 => do
        let t1 ← rd site d t0.1.v
        if c t1 t0.1.d then brk (out t0.1, mk d t0.2) else pure (mk d t0.2))
    (hfor0 : ∀ b order ds h x, for0 b order (mk ds h) x = do
      assert (decide (x.1 < order))
      let t3 ← rd site' ds x.1
      if add x.2 b < t3 then do
        let t4 ← wr site' ds x.1 (add x.2 b)
        pure (mk t4 (entry b (add x.2 b) x.1 :: h))
      else pure (mk ds h))
    (s : S) (hs : HInv mk n s) :
    RSafe (next s) (fun r => HInv mk n r.2 ∧ ∀ x, r.1 = some x → iv x < n) := by
  obtain ⟨d, h, rfl, hd, hh⟩ := hs
  rw [hnext]
  refine safe_fnBody ?_
  refine safe_bind (safe_loopLoop (HInv mk n) (P := fun b => HInv mk n b.2 ∧ vert b.1 < n)
    (fun self hself => ?_) _ _ ⟨d, h, rfl, hd, hh⟩) (fun t ht => ?_)
  · obtain ⟨d, h, rfl, hd, hh⟩ := hself
    rw [hloop0]
    cases hp : heapPop h with
    | none => exact safe_ret ⟨⟨d, h, rfl, hd, hh⟩, nofun⟩
    | some t0 =>
      obtain ⟨hm, he, _⟩ := GraafVerif.Dijkstra.popMax_some (e := t0.1) (h' := t0.2) hp
      have hrest : HInv mk n (mk d t0.2) := ⟨d, _, rfl, hd, fun e hx => hh e (List.mem_of_mem_erase (he ▸ hx))⟩
      refine safe_bind (safe_rd _ _ _ (hd ▸ hh _ hm)) (fun du _ => ?_)
      exact safe_ite (fun _ => safe_brk ⟨hrest, (hvert _).symm ▸ hh _ hm⟩) (fun _ => safe_pure hrest)
  · obtain ⟨⟨d, h, e, hd, hh⟩, hu⟩ := ht
    refine safe_bind (safe_forLoop (HInv mk n) ⟨d, h, e, hd, hh⟩ (fun self x _ hself => ?_))
      (fun self hself => safe_pure ⟨hself, fun y hy => Option.some.inj hy ▸ (hiv _).symm ▸ hu⟩)
    obtain ⟨ds, hp, rfl, hds, hhp⟩ := hself
    rw [hfor0, e, hlen, hd]
    refine safe_bind safe_assert (fun _ hx => ?_)
    refine safe_bind (safe_rd _ _ _ (hds ▸ hx)) (fun dv _ => ?_)
    refine safe_ite (fun _ => ?_) (fun _ => safe_pure ⟨ds, hp, rfl, hds, hhp⟩)
    exact safe_bind (safe_wr_len _ _ _ _ _ hds hx) (fun d' hd' => safe_pure ⟨d', _, rfl, hd',
      fun y hy => (List.mem_cons.mp hy).elim (fun hy => hy ▸ (hentry _ _ _).symm ▸ hx) (hhp y)⟩)

end

namespace Dijkstra

abbrev Inv (n : Nat) : AlgoGen.Dijkstra → Prop := HInv AlgoGen.Dijkstra.mk n

theorem new_safe (g : WGraph) (inf : Int) (S : List Nat) : RSafe (AlgoGen.Dijkstra.new g inf S) (Inv g.n) :=
  dijNew_safe _ (AlgoGenThm.Dijkstra.new_eq g inf S)

theorem next_safe (g : WGraph) {n : Nat} (s : AlgoGen.Dijkstra) (h : Inv n s) :
    RSafe (AlgoGen.Dijkstra.next g s) (fun r => Inv n r.2 ∧ ∀ x, r.1 = some x → x < n) :=
  dijNext_safe AlgoGen.Dijkstra.mk g (site := "dijkstra.rs:next:dist_ptr.add(u)") (site' := "dijkstra.rs:next:dist_ptr.add(v)")
    (out := fun e => (e.d, e.v)) (vert := (·.2)) (fun _ => rfl) (c := fun a b => a = b) (add := fun w b => w + b.1)
    (entry := fun _ d v => ⟨d, none, v⟩) (fun _ _ _ => rfl) (item := (·.2)) (iv := id) (fun _ => rfl) (len := (·.dist.length))
    (loop0 := AlgoGen.Dijkstra.next_loop0) (for0 := fun b order => AlgoGen.Dijkstra.next_for0 b.1 order)
    (fun _ _ => rfl) (fun _ _ => rfl) (fun _ _ => rfl) (fun _ _ _ _ _ => rfl) s h

end Dijkstra

namespace DijkstraDist

abbrev Inv (n : Nat) : AlgoGen.DijkstraDist → Prop := HInv AlgoGen.DijkstraDist.mk n

theorem new_safe (g : WGraph) (inf : Int) (S : List Nat) : RSafe (AlgoGen.DijkstraDist.new g inf S) (Inv g.n) :=
  dijNew_safe _ (AlgoGenThm.DijkstraDist.new_eq g inf S)

theorem next_safe (g : WGraph) {n : Nat} (s : AlgoGen.DijkstraDist) (h : Inv n s) :
    RSafe (AlgoGen.DijkstraDist.next g s) (fun r => Inv n r.2 ∧ ∀ x, r.1 = some x → x.1 < n) :=
  dijNext_safe AlgoGen.DijkstraDist.mk g (site := "dijkstra_dist.rs:next:dist_ptr.add(u)") (site' := "dijkstra_dist.rs:next:dist_ptr.add(v)")
    (out := fun e => (e.d, e.v)) (vert := (·.2)) (fun _ => rfl) (c := fun a b => b = a) (add := fun w b => b.1 + w)
    (entry := fun _ d v => ⟨d, none, v⟩) (fun _ _ _ => rfl) (item := fun b => (b.2, b.1)) (iv := (·.1)) (fun _ => rfl)
    (len := (·.dist.length)) (loop0 := AlgoGen.DijkstraDist.next_loop0)
    (for0 := fun b order => AlgoGen.DijkstraDist.next_for0 b.1 order)
    (fun _ _ => rfl) (fun _ _ => rfl) (fun _ _ => rfl) (fun _ _ _ _ _ => rfl) s h

theorem distances_safe (g : WGraph) (inf : Int) (fuel : Nat) (s : AlgoGen.DijkstraDist) (h : Inv g.n s) :
    RSafe (AlgoGen.DijkstraDist.distances g inf fuel s) (fun r => r.1.length = g.n ∧ Inv g.n r.2) := by
  unfold AlgoGen.DijkstraDist.distances
  refine safe_fnBody ?_
  refine safe_bind (safe_iterLoop (Inv g.n) (fun x => x.1 < g.n) (fun d => d.length = g.n)
    (fun t ht => next_safe g t ht) (fun d x hd hx => ?_) fuel s _ h List.length_replicate) (fun t1 ht1 => safe_pure ht1)
  unfold AlgoGen.DijkstraDist.distances_for0
  exact safe_bind (safe_wr_len _ _ _ _ _ hd hx) (fun t0 ht0 => safe_pure ht0)

end DijkstraDist

namespace DijkstraPred

abbrev Inv (n : Nat) : AlgoGen.DijkstraPred → Prop := HInv AlgoGen.DijkstraPred.mk n

theorem new_safe (g : WGraph) (inf : Int) (S : List Nat) : RSafe (AlgoGen.DijkstraPred.new g inf S) (Inv g.n) :=
  dijNew_safe _ (AlgoGenThm.DijkstraPred.new_eq g inf S)

theorem next_safe (g : WGraph) {n : Nat} (s : AlgoGen.DijkstraPred) (h : Inv n s) :
    RSafe (AlgoGen.DijkstraPred.next g s) (fun r => Inv n r.2 ∧ ∀ x, r.1 = some x → x.2 < n) :=
  dijNext_safe AlgoGen.DijkstraPred.mk g (site := "dijkstra_pred.rs:next:dist_ptr.add(v)") (site' := "dijkstra_pred.rs:next:dist_ptr.add(x)")
    (out := fun e => (e.d, (e.p, e.v))) (vert := (·.2.2)) (fun _ => rfl) (c := fun a b => b = a)
    (add := fun w b => b.1 + w) (entry := fun b d v => ⟨d, some b.2.2, v⟩) (fun _ _ _ => rfl) (item := (·.2)) (iv := (·.2))
    (fun _ => rfl) (len := (·.dist.length)) (loop0 := AlgoGen.DijkstraPred.next_loop0)
    (for0 := fun b order => AlgoGen.DijkstraPred.next_for0 b.1 b.2.2 order)
    (fun _ _ => rfl) (fun _ _ => rfl) (fun _ _ => rfl) (fun _ _ _ _ _ => rfl) s h

theorem predecessors_safe (g : WGraph) (fuel : Nat) (s : AlgoGen.DijkstraPred) (h : Inv g.n s) :
    RSafe (AlgoGen.DijkstraPred.predecessors g fuel s) (fun r => r.1.pred.length = g.n ∧ Inv g.n r.2) := by
  unfold AlgoGen.DijkstraPred.predecessors
  refine safe_fnBody ?_
  refine safe_bind (safe_call (PredecessorTree.new_safe g.n)) (fun t0 ht0 => ?_)
  refine safe_bind (safe_iterLoop (Inv g.n) (fun x => x.2 < g.n) (fun p => p.pred.length = g.n)
    (fun t ht => next_safe g t ht) (fun p x hp hx => ?_) fuel s _ h ht0) (fun t1 ht1 => safe_pure ht1)
  unfold AlgoGen.DijkstraPred.predecessors_for0
  exact safe_bind (safe_wr_len _ _ _ _ _ hp hx) (fun t0 ht0 => safe_pure ht0)

theorem shortestPath_safe (g : WGraph) (fuel : Nat) (s : AlgoGen.DijkstraPred) (isT : Nat → Bool) (h : Inv g.n s) :
    RSafe (AlgoGen.DijkstraPred.shortestPath g fuel s isT) (fun _ => True) := by
  unfold AlgoGen.DijkstraPred.shortestPath
  refine safe_fnBody ?_
  refine safe_bind (safe_call (PredecessorTree.new_safe g.n)) (fun t0 ht0 => ?_)
  refine safe_bind (safe_iterLoopS (Inv g.n) (fun x => x.2 < g.n) (fun p => p.pred.length = g.n)
    (fun t ht => next_safe g t ht) (fun t p x _ hp hx => ?_) fuel s _ h ht0) (fun t1 _ => safe_pure trivial)
  unfold AlgoGen.DijkstraPred.shortestPath_for0
  refine safe_bind (safe_wr_len _ _ _ _ _ hp hx) (fun t1 ht1 => ?_)
  refine safe_ite (fun _ => ?_) (fun _ => safe_pure ht1)
  exact safe_bind (safe_call (PredecessorTree.searchBy_safe _ _ _ _)) (fun _ _ => safe_ret trivial)

end DijkstraPred

end GraafVerif.C13Gen
