import GraafVerif.Proof.ChkGenRt
import GraafVerif.Proof.AlgoGenPredTree
/-!
# C13 on the regenerated `PredecessorTree` (`Model/AlgoGen.lean`, generated from `src/algo/predecessor_tree.rs`)

Safe code after the fix: `new` asserts, `search_by` / `search` are equal to the C19 model for EVERY predecessor vector,
start, predicate and fuel (`Proof/AlgoGenPredTree.lean`), and that model has no `ub` outcome.  What the `predecessors`,
`shortest_path`, `cycles` of the `*Pred` iterators call.
-/
namespace GraafVerif.C13Gen
open GraafVerif GraafVerif.AlgoGen

namespace PredecessorTree

theorem new_safe (n : Nat) : RSafe (AlgoGen.PredecessorTree.new n) (fun p => p.pred.length = n) := by
  unfold AlgoGen.PredecessorTree.new
  refine safe_fnBody ?_
  exact safe_bind safe_assert (fun _ _ => safe_pure List.length_replicate)

theorem rsafe_liftP (r : PredTree.Res) : RSafe (AlgoGenThm.PredecessorTree.liftP r) (fun _ => True) := by
  cases r <;> trivial

/-- `search_by` for EVERY predecessor vector (entries out of range included), start, predicate, fuel. -/
theorem searchBy_safe (fuel : Nat) (t : AlgoGen.PredecessorTree) (s : Nat) (isT : Nat → Option Nat → Bool) :
    RSafe (AlgoGen.PredecessorTree.searchBy fuel t s isT) (fun _ => True) :=
  AlgoGenThm.PredecessorTree.searchBy_eq fuel t s isT ▸ rsafe_liftP _

theorem search_safe (fuel : Nat) (t : AlgoGen.PredecessorTree) (s x : Nat) :
    RSafe (AlgoGen.PredecessorTree.search fuel t s x) (fun _ => True) :=
  AlgoGenThm.PredecessorTree.search_eq fuel t s x ▸ rsafe_liftP _

end PredecessorTree

end GraafVerif.C13Gen
