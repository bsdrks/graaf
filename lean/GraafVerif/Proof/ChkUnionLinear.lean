import GraafVerif.Proof.ChkFindPartition
/-!
# The workers of `AdjacencyMap::union` — C13, P1

Spatial safety for ARBITRARY key vectors (sorted or not): given boundaries inside `[0, n1] × [0, n2]`
(`amBoundaries_spec`), every worker reads below its chunk's end (`unionChunk_noUB`, `amUnionWorkers_noUB`).

Every entry of the two `ManuallyDrop` vectors is `ptr::read` exactly once, provided the boundaries are
monotone and span `(0,0) … (n1,n2)` (`BoundariesOK`).  Then the `set_len(0)` that follows frees the
buffers without dropping an entry twice and without leaking one.  (Before the `fix:` commit key-equal
entries were compared but never read, and the buffers were never freed: a leak on every call.)

For strictly ascending key vectors (what iterating a `BTreeMap` yields) the boundaries `find_partition` computes ARE
such: `find_partition` is a merge-path search, `Ops.findPartition_monotone`.
-/
namespace GraafVerif.Chk

/-! ### every access of a worker is in range -/

theorem unionChunk_noUB (lhs rhs : List Nat) (iEnd jEnd : Nat) (hi : iEnd ≤ lhs.length) (hj : jEnd ≤ rhs.length) :
    ∀ (fuel i j : Nat) (rl rr : List Nat), NoUB (unionChunk lhs rhs iEnd jEnd fuel i j rl rr) := by
  intro fuel
  induction fuel with
  | zero => intro i j rl rr; exact noUB_pure _
  | succ fuel ih =>
    intro i j rl rr
    unfold unionChunk
    refine noUB_ite (fun hor => noUB_ite (fun hand => ?_) fun _ => noUB_ite (fun hi' => ?_) fun hni => ?_) (fun _ => noUB_pure _)
    · refine noUB_bind (noUB_rd (Nat.lt_of_lt_of_le (of_decide_and hand).1 hi)) fun _ _ => ?_
      refine noUB_bind (noUB_rd (Nat.lt_of_lt_of_le (of_decide_and hand).2 hj)) fun _ _ => ?_
      exact noUB_ite (fun _ => ih _ _ _ _) fun _ => noUB_ite (fun _ => ih _ _ _ _) fun _ => ih _ _ _ _
    · exact noUB_bind (noUB_rd (Nat.lt_of_lt_of_le hi' hi)) (fun _ _ => ih _ _ _ _)
    · exact noUB_bind (noUB_rd (Nat.lt_of_lt_of_le ((of_decide_or hor).resolve_left hni) hj)) (fun _ _ => ih _ _ _ _)

theorem amUnionWorkers_noUB (lhs rhs : List Nat) (bs : List (Nat × Nat)) {t : Nat} (hl : bs.length = t + 1)
    (hb : ∀ b ∈ bs, b.1 ≤ lhs.length ∧ b.2 ≤ rhs.length) : NoUB (amUnionWorkers lhs rhs bs t) := by
  unfold amUnionWorkers
  refine noUB_foldlM (fun acc k hk => ?_) _
  rw [List.mem_range] at hk
  refine noUB_bind (noUB_rd (hl ▸ Nat.lt_succ_of_lt hk)) fun s _ => (Sat.rd (hl ▸ Nat.succ_lt_succ hk)).noUB_bind fun e he => ?_
  have hmem := hb e (List.mem_of_getElem? he)
  exact unionChunk_noUB lhs rhs e.1 e.2 hmem.1 hmem.2 _ _ _ _ _

/-! ### one round of a worker's merge loop, by which cursors are still inside the chunk -/

section
variable {lhs rhs : List Nat} {iEnd jEnd i j : Nat} (fuel : Nat) (rl rr : List Nat)

/-- Both inside: the keys decide which of three continuations runs; what they all return, the round returns. -/
theorem unionChunk_both (hi : i < iEnd) (hj : j < jEnd) (hil : i < lhs.length) (hjl : j < rhs.length)
    {r : Chk (List Nat × List Nat)}
    (h1 : unionChunk lhs rhs iEnd jEnd fuel (i + 1) j (rl ++ [i]) rr = r)
    (h2 : unionChunk lhs rhs iEnd jEnd fuel i (j + 1) rl (rr ++ [j]) = r)
    (h12 : unionChunk lhs rhs iEnd jEnd fuel (i + 1) (j + 1) (rl ++ [i]) (rr ++ [j]) = r) :
    unionChunk lhs rhs iEnd jEnd (fuel + 1) i j rl rr = r := by
  rw [unionChunk, decide_eq_true hi, decide_eq_true hj, Bool.true_or, Bool.true_and, if_pos rfl, if_pos rfl,
    rd_of_lt _ hil, rd_of_lt _ hjl, ok_bind, ok_bind]
  exact ite_eq_of h1 (ite_eq_of h2 h12)

theorem unionChunk_left (hi : i < iEnd) (hj : ¬ j < jEnd) (hil : i < lhs.length) :
    unionChunk lhs rhs iEnd jEnd (fuel + 1) i j rl rr = unionChunk lhs rhs iEnd jEnd fuel (i + 1) j (rl ++ [i]) rr := by
  rw [unionChunk, decide_eq_true hi, decide_eq_false hj, Bool.true_or, Bool.and_false, if_pos rfl,
    if_neg Bool.false_ne_true, if_pos hi, rd_of_lt _ hil]
  rfl

theorem unionChunk_right (hi : ¬ i < iEnd) (hj : j < jEnd) (hjl : j < rhs.length) :
    unionChunk lhs rhs iEnd jEnd (fuel + 1) i j rl rr = unionChunk lhs rhs iEnd jEnd fuel i (j + 1) rl (rr ++ [j]) := by
  rw [unionChunk, decide_eq_false hi, decide_eq_true hj, Bool.or_true, Bool.false_and, if_pos rfl,
    if_neg Bool.false_ne_true, if_neg hi, rd_of_lt _ hjl]
  rfl

theorem unionChunk_done (hi : ¬ i < iEnd) (hj : ¬ j < jEnd) :
    unionChunk lhs rhs iEnd jEnd (fuel + 1) i j rl rr = .ok (rl, rr) := by
  rw [unionChunk, decide_eq_false hi, decide_eq_false hj, Bool.or_false, if_neg Bool.false_ne_true]
  rfl

end

theorem append_range'_succ (l : List Nat) (i d : Nat) : l ++ [i] ++ List.range' (i + 1) d = l ++ List.range' i (d + 1) := by
  rw [List.range'_succ, List.append_assoc, List.singleton_append]

/-- A worker with `di` indices of `lhs` and `dj` of `rhs` ahead of its cursors reads exactly these, each once
(every round advances a cursor, so fuel for `di + dj` rounds and the last test suffices). -/
theorem unionChunk_reads {lhs rhs : List Nat} {iEnd jEnd : Nat} (hil : iEnd ≤ lhs.length) (hjl : jEnd ≤ rhs.length) :
    ∀ (fuel di dj i j : Nat) (rl rr : List Nat), i + di = iEnd → j + dj = jEnd → di + dj < fuel →
      unionChunk lhs rhs iEnd jEnd fuel i j rl rr = .ok (rl ++ List.range' i di, rr ++ List.range' j dj) := by
  intro fuel
  induction fuel with
  | zero => intro di dj i j rl rr _ _ hf; exact absurd hf (Nat.not_lt_zero _)
  | succ fuel ih =>
    intro di dj i j rl rr hi hj hf
    cases di with
    | zero =>
      have hI : ¬ i < iEnd := Nat.not_lt.mpr (Nat.le_of_eq hi.symm)
      cases dj with
      | zero =>
        have hJ : ¬ j < jEnd := Nat.not_lt.mpr (Nat.le_of_eq hj.symm)
        rw [unionChunk_done fuel rl rr hI hJ, List.range'_zero, List.range'_zero, List.append_nil, List.append_nil]
      | succ e =>
        have hJ : j < jEnd := Nat.lt_of_lt_of_eq (Nat.lt_add_of_pos_right (Nat.succ_pos e)) hj
        rw [unionChunk_right fuel rl rr hI hJ (Nat.lt_of_lt_of_le hJ hjl),
          ih 0 e i (j + 1) rl _ hi ((Nat.add_right_comm j 1 e).trans hj) (Nat.lt_of_succ_lt_succ hf), append_range'_succ]
    | succ d =>
      have hI : i < iEnd := Nat.lt_of_lt_of_eq (Nat.lt_add_of_pos_right (Nat.succ_pos d)) hi
      have hi' : i + 1 + d = iEnd := (Nat.add_right_comm i 1 d).trans hi
      cases dj with
      | zero =>
        have hJ : ¬ j < jEnd := Nat.not_lt.mpr (Nat.le_of_eq hj.symm)
        rw [unionChunk_left fuel rl rr hI hJ (Nat.lt_of_lt_of_le hI hil),
          ih d 0 (i + 1) j _ rr hi' hj (Nat.lt_of_succ_lt_succ hf), append_range'_succ]
      | succ e =>
        have hJ : j < jEnd := Nat.lt_of_lt_of_eq (Nat.lt_add_of_pos_right (Nat.succ_pos e)) hj
        have hj' : j + 1 + e = jEnd := (Nat.add_right_comm j 1 e).trans hj
        have hf2 : d + 1 + e < fuel := Nat.lt_of_succ_lt_succ hf
        have hf1 : d + (e + 1) < fuel := Nat.lt_of_le_of_lt (Nat.le_of_eq (Nat.add_right_comm d e 1)) hf2
        rw [← append_range'_succ rl, ← append_range'_succ rr]
        refine unionChunk_both fuel rl rr hI hJ (Nat.lt_of_lt_of_le hI hil) (Nat.lt_of_lt_of_le hJ hjl) ?_ ?_ ?_
        · rw [ih d (e + 1) (i + 1) j _ rr hi' hj hf1, append_range'_succ rr]
        · rw [ih (d + 1) e i (j + 1) rl _ hi hj' hf2, append_range'_succ rl]
        · exact ih d e (i + 1) (j + 1) _ _ hi' hj' (Nat.lt_of_succ_lt hf1)

structure BoundariesOK (bs : List (Nat × Nat)) (n1 n2 t : Nat) : Prop where
  len : bs.length = t + 1
  first : bs[0]? = some (0, 0)
  last : bs[t]? = some (n1, n2)
  mono : ∀ k, k < t → ∀ s e, bs[k]? = some s → bs[k + 1]? = some e → s.1 ≤ e.1 ∧ s.2 ≤ e.2 ∧ e.1 ≤ n1 ∧ e.2 ≤ n2

/-- Worker `k` of `amUnionWorkers`. -/
def unionWorker (lhs rhs : List Nat) (bs : List (Nat × Nat)) (acc : List Nat × List Nat) (k : Nat) :
    Chk (List Nat × List Nat) := do
  let s ← rd "adjacency_map/mod.rs:union:boundaries.get_unchecked(k)" bs k
  let e ← rd "adjacency_map/mod.rs:union:boundaries.get_unchecked(k + 1)" bs (k + 1)
  unionChunk lhs rhs e.1 e.2 (lhs.length + rhs.length + 1) s.1 s.2 acc.1 acc.2

theorem range'_zero_append {a b : Nat} (h : a ≤ b) : List.range' 0 a ++ List.range' a (b - a) = List.range' 0 b := by
  have := List.range'_append_1 (s := 0) (m := a) (n := b - a)
  rw [Nat.zero_add, Nat.add_sub_cancel' h] at this
  exact this

variable {lhs rhs : List Nat} {bs : List (Nat × Nat)} {t : Nat}

theorem unionWorker_reads (hok : BoundariesOK bs lhs.length rhs.length t) {k : Nat} (hk : k < t) {s e : Nat × Nat}
    (hs : bs[k]? = some s) (he : bs[k + 1]? = some e) (acc : List Nat × List Nat) :
    unionWorker lhs rhs bs acc k =
      .ok (acc.1 ++ List.range' s.1 (e.1 - s.1), acc.2 ++ List.range' s.2 (e.2 - s.2)) := by
  obtain ⟨m1, m2, m3, m4⟩ := hok.mono k hk s e hs he
  rw [unionWorker, rd_of_getElem? _ hs, ok_bind, rd_of_getElem? _ he, ok_bind]
  exact unionChunk_reads m3 m4 _ _ _ _ _ _ _ (Nat.add_sub_cancel' m1) (Nat.add_sub_cancel' m2)
    (Nat.lt_succ_of_le (Nat.add_le_add (Nat.le_trans (Nat.sub_le _ _) m3) (Nat.le_trans (Nat.sub_le _ _) m4)))

theorem amUnionWorkers_prefix (hok : BoundariesOK bs lhs.length rhs.length t) (k : Nat) :
    k ≤ t → ∀ b, bs[k]? = some b →
      (List.range k).foldlM (unionWorker lhs rhs bs) ([], []) = .ok (List.range' 0 b.1, List.range' 0 b.2) := by
  induction k with
  | zero =>
    intro _ b hb
    rw [hok.first] at hb
    cases hb
    rfl
  | succ k ih =>
    intro hk e he
    have hk0 : k < bs.length := hok.len ▸ Nat.lt_succ_of_lt hk
    have hs : bs[k]? = some bs[k] := List.getElem?_eq_getElem hk0
    obtain ⟨m1, m2, _, _⟩ := hok.mono k hk _ e hs he
    rw [List.range_succ, List.foldlM_append, ih (Nat.le_of_succ_le hk) _ hs, ok_bind,
      List.foldlM_cons, unionWorker_reads hok hk hs he, ok_bind, List.foldlM_nil,
      range'_zero_append m1, range'_zero_append m2]
    rfl

/-- **`mapUnion_linear`**: with monotone boundaries the workers move every entry of `lhs_vec` and of
`rhs_vec` out exactly once (indices `0..n1` and `0..n2`, each once, in order). -/
theorem amUnionWorkers_linear (lhs rhs : List Nat) (bs : List (Nat × Nat)) (t : Nat)
    (hok : BoundariesOK bs lhs.length rhs.length t) :
    amUnionWorkers lhs rhs bs t = .ok (List.range lhs.length, List.range rhs.length) := by
  rw [List.range_eq_range', List.range_eq_range']
  exact amUnionWorkers_prefix hok t (Nat.le_refl _) _ hok.last

theorem boundariesOK_of_sorted {L R : List Ops.Entry} (hl : Repr.SortedK L) (hr : Repr.SortedK R) {t : Nat} (ht : 0 < t) :
    BoundariesOK (Ops.boundaries L R t) L.length R.length t where
  len := Ops.boundaries_length L R t
  first := by rw [Ops.getElem?_boundaries L R (Nat.zero_le t), Ops.boundary_zero]
  last := by rw [Ops.getElem?_boundaries L R (Nat.le_refl t), Ops.boundary_last L R ht]
  mono k hk s e hs he := by
    obtain ⟨b1, b2⟩ := Ops.boundaries_box L R t e (List.mem_of_getElem? he)
    rw [Ops.getElem?_boundaries L R (Nat.le_of_lt hk)] at hs
    rw [Ops.getElem?_boundaries L R hk] at he
    cases hs
    cases he
    exact ⟨(Ops.boundary_mono hl hr hk).1, (Ops.boundary_mono hl hr hk).2, b1, b2⟩

/-- **`findPartition_monotone`**: the boundaries of `AdjacencyMap::union` for strictly ascending key vectors. -/
theorem amBoundaries_ok (lhs rhs : List Nat) (t : Nat) (bs : List (Nat × Nat)) (hl : lhs.Pairwise (· < ·))
    (hr : rhs.Pairwise (· < ·)) (ht : 0 < t) (h : amBoundaries lhs rhs t = .ok bs) :
    BoundariesOK bs lhs.length rhs.length t := by
  rw [amBoundaries_eq] at h
  cases h
  have := boundariesOK_of_sorted (sortedK_entries hl) (sortedK_entries hr) ht
  rwa [entries_length, entries_length] at this

end GraafVerif.Chk
