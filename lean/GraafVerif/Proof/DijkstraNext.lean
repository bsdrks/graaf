import GraafVerif.Proof.DijkstraRun
/-!
# The literal iterator (`next` + `collect`) yields the same sequence as the flattened `run`
-/
namespace GraafVerif.Dijkstra
open GraafVerif

variable {g : WGraph} {S : List Nat} {tag : Nat → Option Nat}

/-- One call of `next` is a block of rounds of `run`: `j` superseded entries, then the item. -/
theorem next_run (g : WGraph) (tag : Nat → Option Nat) :
    ∀ (k : Nat) (st : State), st.heap.length < k →
      (next g tag k st = none → ∀ F, run g tag F st = []) ∧
      (∀ e st', next g tag k st = some (e, st') →
        ∃ j, ∀ F, run g tag (F + j + 1) st = e :: run g tag F st') := by
  intro k
  induction k with
  | zero => intro st h; exact absurd h (Nat.not_lt_zero _)
  | succ k ih =>
    intro st hk
    cases hp : popMax st.heap with
    | none =>
      rw [next_none g tag hp]
      refine ⟨fun _ F => ?_, fun e st' h => nomatch h⟩
      cases F with
      | zero => rfl
      | succ F => exact run_none g tag hp F
    | some p =>
      obtain ⟨e0, h'⟩ := p
      by_cases hf : dOf st.dist e0.v = some e0.d
      · rw [next_fresh g tag hp hf]
        refine ⟨fun h => (nomatch h), fun e st' h => ?_⟩
        cases h
        exact ⟨0, fun F => run_fresh g tag hp hf F⟩
      · obtain ⟨ih1, ih2⟩ := ih ⟨st.dist, h'⟩ (Nat.lt_of_succ_lt_succ (show h'.length + 1 < k + 1 from popMax_len hp ▸ hk))
        rw [next_stale g tag hp hf]
        refine ⟨fun h F => ?_, fun e st' h => ?_⟩
        · cases F with
          | zero => rfl
          | succ F => rw [run_stale g tag hp hf]; exact ih1 h F
        · obtain ⟨j, hj⟩ := ih2 e st' h
          exact ⟨j+1, fun F => (run_stale g tag hp hf (F + j + 1)).trans (hj F)⟩

theorem next_inv (hwf : g.WF) (hnn : g.NonNeg) (htag : TagOK tag) :
    ∀ (k : Nat) (out : List Entry) (st : State), Inv g S tag out [] st → OutOK g S out →
      ∀ e st', next g tag k st = some (e, st') →
        Inv g S tag (out ++ [e]) [] st' ∧ OutOK g S (out ++ [e]) ∧
        st'.heap.length + pending g (out ++ [e]) < st.heap.length + pending g out := by
  intro k
  induction k with
  | zero => intro out st _ _ e st' h; cases h
  | succ k ih =>
    intro out st inv ok e st' h
    cases hp : popMax st.heap with
    | none => rw [next_none g tag hp] at h; cases h
    | some p =>
      obtain ⟨e0, h'⟩ := p
      by_cases hf : dOf st.dist e0.v = some e0.d
      · rw [next_fresh g tag hp hf] at h
        cases h
        exact round_fresh hwf hnn htag inv ok hp hf
      · rw [next_stale g tag hp hf] at h
        obtain ⟨inv1, hm⟩ := round_stale inv hp hf
        obtain ⟨a, b, c⟩ := ih out ⟨st.dist, h'⟩ inv1 ok e st' h
        exact ⟨a, b, Nat.lt_trans c hm⟩

theorem collect_eq_run (hwf : g.WF) (hnn : g.NonNeg) (htag : TagOK tag) :
    ∀ (C : Nat) (out : List Entry) (st : State), Inv g S tag out [] st → OutOK g S out →
      st.heap.length + pending g out < C → collect g tag C st = run g tag C st := by
  intro C
  induction C with
  | zero => intro out st _ _ h; exact absurd h (Nat.not_lt_zero _)
  | succ C ih =>
    intro out st inv ok hm
    obtain ⟨_, _, hfu⟩ := run_inv hwf hnn htag (C+1) out st inv ok hm
    obtain ⟨hn1, hn2⟩ := next_run g tag (st.heap.length + 1) st (Nat.lt_succ_self _)
    rw [collect]
    cases hn : next g tag (st.heap.length + 1) st with
    | none => exact (hn1 hn (C+1)).symm
    | some p =>
      obtain ⟨e, st'⟩ := p
      obtain ⟨j, hj⟩ := hn2 e st' hn
      obtain ⟨inv', ok', hmeas⟩ := next_inv hwf hnn htag _ out st inv ok e st' hn
      -- `run` with the larger fuel `C + j + 1` is `run` with fuel `C + 1`
      show e :: collect g tag C st' = _
      rw [ih (out ++ [e]) st' inv' ok' (Nat.lt_of_lt_of_le hmeas (Nat.le_of_lt_succ hm)),
        ← hfu (C + j + 1) (Nat.lt_of_lt_of_le hm (Nat.succ_le_succ (Nat.le_add_right C j))), hj C]

theorem collect_eq_entries (h : Hyp g S) (htag : TagOK tag) :
    collect g tag (fuel g S) (init g.n S) = entries g tag S := by
  obtain ⟨inv0, ok0⟩ := init_inv (g := g) (S := S) (tag := tag) h.srcRange h.srcNodup
  exact collect_eq_run h.wf h.nonneg htag (fuel g S) [] (init g.n S) inv0 ok0 init_measure

end GraafVerif.Dijkstra
