import GraafVerif.Proof.ReprRun
/-!
# Row-indexed representations (`AdjacencyList`, `AdjacencyListWeighted`)

Both keep one sorted container per vertex, `rows : List (List β)`; an entry `p` of row `u` stands for
the arc `u → key p`, and a row answers lookups through `look : List β → Nat → Option ω`
(`β = Nat`, `ω = Unit`: membership; `β = Nat × Int`, `ω = Int`: `mget`).
-/
namespace GraafVerif.Repr
open GraafVerif.ReprSpec

section Rows
variable {β ω : Type}

/-- Vertices `0..rows.length`, the arc `u → v` looked up in row `u`. -/
def rowsAbs (look : List β → Nat → Option ω) (rows : List (List β)) : SpecState ω :=
  ⟨fun x => decide (x < rows.length), fun u v => look (rows[u]?.getD []) v⟩

theorem rowsAbs_replicate (look : List β → Nat → Option ω) (hnil : ∀ b, look [] b = none) (n : Nat) :
    rowsAbs look (List.replicate n []) = emptySpec ω n := by
  apply SpecState.ext
  · intro x; show decide (x < (List.replicate n ([] : List β)).length) = _; rw [List.length_replicate]; rfl
  · intro u v
    show look ((List.replicate n ([] : List β))[u]?.getD []) v = none
    rw [List.getElem?_replicate]
    split <;> exact hnil v

/-- Row `u` need not exist when `x` is the answer of the empty row: `List.set` past the end is the identity. -/
theorem rowsAbs_set (look : List β → Nat → Option ω) {rows : List (List β)} {u : Nat} {r : List β} {v : Nat}
    {x : Option ω} (hu : u < rows.length ∨ look [] v = x)
    (hr : ∀ b, look r b = if b = v then x else look (rows[u]?.getD []) b) :
    rowsAbs look (rows.set u r) = ⟨(rowsAbs look rows).V, setW (rowsAbs look rows).W u v x⟩ := by
  by_cases h : u < rows.length
  · refine congr (congrArg SpecState.mk (funext fun a => ?_)) (eq_setW_of_row (fun b => ?_) fun a ha b => ?_)
    · show decide (a < (rows.set u r).length) = _; rw [List.length_set]; rfl
    · show look ((rows.set u r)[u]?.getD []) b = _
      rw [List.getElem?_set_self h]; exact hr b
    · show look ((rows.set u r)[a]?.getD []) b = look (rows[a]?.getD []) b
      rw [List.getElem?_set_ne (Ne.symm ha)]
  · have hx : (rowsAbs look rows).W u v = x := by
      show look (rows[u]?.getD []) v = x
      rw [List.getElem?_eq_none (Nat.le_of_not_lt h)]; exact hu.resolve_left h
    rw [List.set_eq_of_length_le (Nat.le_of_not_lt h), ← hx, setW_self]

end Rows

end GraafVerif.Repr
