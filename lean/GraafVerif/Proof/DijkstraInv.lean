import GraafVerif.Proof.DijkstraBasic
import GraafVerif.Proof.WWalk
/-!
# The run invariant of the Dijkstra model and its preservation

`out` = entries emitted so far (ghost), `todo` = out-arcs `(u, x, w)` of the vertex being
scanned that are not relaxed yet (empty between two rounds of `run`).
-/
namespace GraafVerif.Dijkstra
open GraafVerif

abbrev Todo := List (Nat × Nat × Int)

/-- The two tag functions in use (`fun _ => none` and `some`) satisfy this. -/
def TagOK (tag : Nat → Option Nat) : Prop := ∀ u p, tag u = some p → p = u

theorem tagOK_none : TagOK (fun _ => none) := fun _ _ h => nomatch h
theorem tagOK_some : TagOK some := fun _ _ h => (Option.some.inj h).symm

/-- Facts about the emitted prefix alone. -/
structure OutOK (g : WGraph) (S : List Nat) (out : List Entry) : Prop where
  sorted : out.Pairwise (fun a b => a.d ≤ b.d)
  nodup : (out.map (·.v)).Nodup
  minimal : ∀ e ∈ out, ∀ wt, SrcWalk g S e.v wt → e.d ≤ wt
  predBefore : ∀ pre e post, out = pre ++ e :: post → ∀ u, e.p = some u → ∃ eu ∈ pre, eu.v = u

structure Inv (g : WGraph) (S : List Nat) (tag : Nat → Option Nat) (out : List Entry) (todo : Todo)
    (st : State) : Prop where
  len : st.dist.length = g.n
  sound : ∀ v d, dOf st.dist v = some d → SrcWalk g S v d
  src : ∀ s ∈ S, dOf st.dist s = some 0
  heapKey : ∀ e ∈ st.heap, ∃ d', dOf st.dist e.v = some d' ∧ d' ≤ e.d
  fresh : ∀ v d, dOf st.dist v = some d → v ∉ out.map (·.v) → ∃ e ∈ st.heap, e.v = v ∧ e.d = d
  final : ∀ e ∈ out, dOf st.dist e.v = some e.d
  relaxed : ∀ e ∈ out, ∀ xw ∈ g.out e.v,
    (e.v, xw.1, xw.2) ∈ todo ∨ ∃ dx, dOf st.dist xw.1 = some dx ∧ dx ≤ e.d + xw.2
  mono : ∀ e ∈ out, ∀ e' ∈ st.heap, e.d ≤ e'.d
  keyNodup : (st.heap.map (fun e => (e.d, e.v))).Nodup
  notEmitted : ∀ e ∈ st.heap, dOf st.dist e.v = some e.d → e.v ∉ out.map (·.v)
  predSome : ∀ e ∈ st.heap ++ out, ∀ u, e.p = some u →
    ∃ eu ∈ out, eu.v = u ∧ ∃ w, (e.v, w) ∈ g.out u ∧ e.d = eu.d + w
  predNone : (∀ u, tag u ≠ none) → ∀ e ∈ st.heap ++ out, e.p = none → e.v ∈ S ∧ e.d = 0
  srcNone : ∀ e ∈ st.heap ++ out, e.v ∈ S → e.p = none

variable {g : WGraph} {S : List Nat} {tag : Nat → Option Nat}

/-- The write-and-push of an improving relaxation, for any new key `dn` below the current
`dist[x]` and any predecessor `p`. -/
theorem Inv.push {out : List Entry} {todo : Todo} {st : State} {x : Nat} {dn : Int} {p : Option Nat}
    (inv : Inv g S tag out todo st) (hxl : x < st.dist.length)
    (hlt : ∀ dx, dOf st.dist x = some dx → dn < dx) (hwalk : SrcWalk g S x dn)
    (hxout : x ∉ out.map (·.v)) (hxS : x ∉ S) (hge : ∀ e ∈ out, e.d ≤ dn)
    (hpS : ∀ u, p = some u → ∃ eu ∈ out, eu.v = u ∧ ∃ w, (x, w) ∈ g.out u ∧ dn = eu.d + w)
    (hpN : (∀ u, tag u ≠ none) → p ≠ none) :
    Inv g S tag out todo ⟨st.dist.set x (some dn), ⟨dn, p, x⟩ :: st.heap⟩ := by
  have hdx : dOf (st.dist.set x (some dn)) x = some dn := dOf_set_eq hxl
  have hdne : ∀ y, y ≠ x → dOf (st.dist.set x (some dn)) y = dOf st.dist y :=
    fun y hy => dOf_set_ne hy
  have hbnd : ∀ y c, (∃ d', dOf st.dist y = some d' ∧ d' ≤ c) →
      ∃ d', dOf (st.dist.set x (some dn)) y = some d' ∧ d' ≤ c :=
    fun _ _ => OracleProof.lk_set_bound hlt
  exact
  { len := (List.length_set ..).trans inv.len
    sound := fun v d hv =>
      if hvx : v = x then by subst hvx; cases hdx.symm.trans hv; exact hwalk
      else inv.sound v d ((hdne v hvx).symm.trans hv)
    src := fun s hs => (hdne s fun h => hxS (h ▸ hs)).trans (inv.src s hs)
    heapKey := List.forall_mem_cons.mpr ⟨⟨dn, hdx, Int.le_refl _⟩, fun e' he' => hbnd _ _ (inv.heapKey e' he')⟩
    fresh := fun v d hv hvo =>
      if hvx : v = x then by subst hvx; cases hdx.symm.trans hv; exact ⟨_, List.mem_cons_self, rfl, rfl⟩
      else (inv.fresh v d ((hdne v hvx).symm.trans hv) hvo).imp fun _ h => ⟨List.mem_cons_of_mem _ h.1, h.2⟩
    final := fun e' he' => (hdne _ fun h => hxout (List.mem_map.mpr ⟨e', he', h⟩)).trans (inv.final e' he')
    relaxed := fun e' he' xw hxw => (inv.relaxed e' he' xw hxw).imp_right (hbnd _ _)
    mono := fun e' he' => List.forall_mem_cons.mpr ⟨hge e' he', inv.mono e' he'⟩
    keyNodup := List.nodup_cons.mpr ⟨fun hm => by
      obtain ⟨⟨d', p', v'⟩, he', hk⟩ := List.mem_map.mp hm
      cases hk
      -- a heap entry with the same key: `dist[x] ≤ dn`
      obtain ⟨d', h1, h2⟩ := inv.heapKey _ he'
      exact absurd (hlt _ h1) (Int.not_lt.mpr h2), inv.keyNodup⟩
    notEmitted := List.forall_mem_cons.mpr ⟨fun _ => hxout, fun e' he' hd =>
      if hvx : e'.v = x then hvx ▸ hxout else inv.notEmitted e' he' ((hdne _ hvx).symm.trans hd)⟩
    predSome := List.forall_mem_cons.mpr ⟨hpS, inv.predSome⟩
    predNone := fun hne => List.forall_mem_cons.mpr ⟨fun hp => absurd hp (hpN hne), inv.predNone hne⟩
    srcNone := List.forall_mem_cons.mpr ⟨fun hs => absurd hs hxS, inv.srcNone⟩ }

theorem Inv.todo_done {out : List Entry} {todo : Todo} {st : State} {u x : Nat} {w : Int}
    (inv : Inv g S tag out ((u, x, w) :: todo) st)
    (h : ∀ e ∈ out, e.v = u → ∃ dx, dOf st.dist x = some dx ∧ dx ≤ e.d + w) :
    Inv g S tag out todo st :=
  { inv with
    relaxed := fun e he xw hxw => (inv.relaxed e he xw hxw).elim
      (fun hm => (List.mem_cons.mp hm).elim
        (fun heq => by cases heq; exact .inr (h e he rfl)) .inl)
      .inr }

theorem relax_of_improves {tag : Nat → Option Nat} {u : Nat} {d : Int} {st : State} {x : Nat} {w : Int}
    (h : improves (d + w) (dOf st.dist x) = true) :
    relax tag u d st (x, w) = ⟨st.dist.set x (some (d + w)), ⟨d + w, tag u, x⟩ :: st.heap⟩ :=
  if_pos h

theorem relax_inv (hwf : g.WF) (hnn : g.NonNeg) (htag : TagOK tag)
    {out : List Entry} {todo : Todo} {st : State} {e : Entry} {x : Nat} {w : Int}
    (ok : OutOK g S out) (he : e ∈ out) (hmax : ∀ e' ∈ out, e'.d ≤ e.d) (harc : (x, w) ∈ g.out e.v)
    (inv : Inv g S tag out ((e.v, x, w) :: todo) st) :
    Inv g S tag out todo (relax tag e.v e.d st (x, w)) := by
  have hsw := inv.sound _ _ (inv.final e he)
  have hd0 : 0 ≤ e.d := hsw.nonneg hnn
  have hw0 : 0 ≤ w := hnn _ _ _ harc
  have heq : ∀ e'' ∈ out, e''.v = e.v → e'' = e := fun e'' he'' hv =>
    Vec.eq_of_map_nodup (·.v) out ok.nodup e'' he'' e he hv
  by_cases himp : improves (e.d + w) (dOf st.dist x) = true
  · have himp' := (improves_iff _ _).mp himp
    have hxl : x < st.dist.length := inv.len ▸ (hwf _ _ _ harc).2
    rw [relax_of_improves himp]
    refine Inv.todo_done (Inv.push inv hxl himp' (hsw.snoc harc) ?_ ?_ ?_ ?_ ?_) ?_
    · -- an emitted `x` would have a final value `≤ e.d`, which the arc cannot improve
      intro hm
      obtain ⟨ex, hex, rfl⟩ := List.mem_map.mp hm
      exact Int.lt_irrefl _ (Int.lt_of_le_of_lt (Int.le_add_of_nonneg_right hw0)
        (Int.lt_of_lt_of_le (himp' _ (inv.final ex hex)) (hmax ex hex)))
    · intro hs
      exact absurd (Int.add_nonneg hd0 hw0) (Int.not_le.mpr (himp' _ (inv.src x hs)))
    · intro e' he'
      exact Int.le_trans (hmax e' he') (Int.le_add_of_nonneg_right hw0)
    · intro u hu
      cases htag _ _ hu
      exact ⟨e, he, rfl, w, harc, rfl⟩
    · intro hne; exact hne _
    · intro e' he' hv
      cases heq e' he' hv
      exact ⟨e.d + w, dOf_set_eq hxl, Int.le_refl _⟩
  · rw [relax, if_neg himp]
    refine inv.todo_done fun e' he' hv => ?_
    cases heq e' he' hv
    cases hdo : dOf st.dist x with
    | none => rw [hdo] at himp; exact absurd rfl himp
    | some dx =>
      rw [hdo, improves, decide_eq_true_eq] at himp
      exact ⟨dx, rfl, Int.not_lt.mp himp⟩

theorem foldl_relax_heap_len (tag : Nat → Option Nat) (u : Nat) (d : Int) (row : List (Nat × Int)) (st : State) :
    (row.foldl (relax tag u d) st).heap.length ≤ st.heap.length + row.length := by
  induction row generalizing st with
  | nil => exact Nat.le_refl _
  | cons a row ih =>
    have h1 := ih (relax tag u d st a)
    have h2 : (relax tag u d st a).heap.length ≤ st.heap.length + 1 := by
      unfold relax
      split
      · exact Nat.le_refl _
      · exact Nat.le_succ _
    rw [List.foldl_cons, List.length_cons]
    omega

theorem foldl_relax_inv (hwf : g.WF) (hnn : g.NonNeg) (htag : TagOK tag)
    {out : List Entry} {e : Entry} (ok : OutOK g S out) (he : e ∈ out) (hmax : ∀ e' ∈ out, e'.d ≤ e.d)
    (row : List (Nat × Int)) (hrow : ∀ xw ∈ row, xw ∈ g.out e.v) (todo : Todo) (st : State)
    (inv : Inv g S tag out (row.map (fun xw => (e.v, xw.1, xw.2)) ++ todo) st) :
    Inv g S tag out todo (row.foldl (relax tag e.v e.d) st) := by
  induction row generalizing st with
  | nil => exact inv
  | cons a row ih =>
    exact ih (fun xw h => hrow xw (List.mem_cons_of_mem _ h)) _
      (relax_inv hwf hnn htag ok he hmax (hrow a List.mem_cons_self) inv)

end GraafVerif.Dijkstra
