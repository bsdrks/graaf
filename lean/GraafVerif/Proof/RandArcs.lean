import GraafVerif.Proof.RandPairs
import GraafVerif.Proof.RandF64
import GraafVerif.Proof.ReprObs
import GraafVerif.Proof.GenArcRepr
/-! Arcs-level validity: what the arc lists produced by the generators look like, for every stream,
and what a digraph that shows such a list (`Realizes`) therefore is. -/
namespace GraafVerif.Rand
open GraafVerif.Repr

def SimpleArcs (n : Nat) (arcs : List (Nat × Nat)) : Prop := ∀ a ∈ arcs, a.1 < n ∧ a.2 < n ∧ a.1 ≠ a.2

/-- `Gen.ArcsValid` lists the same three conditions in the order `add_arc` asserts them. -/
theorem simpleArcs_iff_valid {n : Nat} {arcs : List (Nat × Nat)} : SimpleArcs n arcs ↔ Gen.ArcsValid n arcs :=
  forall₂_congr fun _ _ => ⟨fun h => ⟨h.2.2, h.1, h.2.1⟩, fun h => ⟨h.2.1, h.2.2, h.1⟩⟩

theorem SimpleArcs.valid {n : Nat} {arcs : List (Nat × Nat)} (h : SimpleArcs n arcs) : Gen.ArcsValid n arcs :=
  simpleArcs_iff_valid.mp h

theorem Realizes.simple {d : View} {n : Nat} {arcs : List (Nat × Nat)}
    (h : Realizes d n arcs) (hs : SimpleArcs n arcs) : IsSimpleOn n d :=
  ⟨h.1, h.2.1, fun u v huv => hs (u, v) ((h.2.2 u v).1 huv)⟩

theorem Realizes.same {a b : View} {n : Nat} {arcs : List (Nat × Nat)}
    (ha : Realizes a n arcs) (hb : Realizes b n arcs) : SameDigraph a b :=
  ⟨ha.1.trans hb.1.symm, ha.2.1.trans hb.2.1.symm, fun u v =>
    Bool.eq_iff_iff.mpr ((ha.2.2 u v).trans (hb.2.2 u v).symm)⟩

theorem Orients.simple {n : Nat} {arcs : List (Nat × Nat)} (h : Orients arcs (pairs n)) : SimpleArcs n arcs := by
  intro a ha
  rcases h.mem_or a ha with hm | hm
  · obtain ⟨h1, h2⟩ := (mem_pairs n a.1 a.2).1 hm
    exact ⟨Nat.lt_trans h1 h2, h2, Nat.ne_of_lt h1⟩
  · obtain ⟨h1, h2⟩ := (mem_pairs n a.2 a.1).1 hm
    exact ⟨h2, Nat.lt_trans h1 h2, Nat.ne_of_gt h1⟩

theorem Orients.exactly_one_arc {n : Nat} {arcs : List (Nat × Nat)} (h : Orients arcs (pairs n))
    (u v : Nat) (hu : u < n) (hv : v < n) (huv : u ≠ v) : (u, v) ∈ arcs ↔ (v, u) ∉ arcs := by
  refine ⟨h.not_both (pairs_nodup n) (pairs_lt n) (u, v), fun hvu => ?_⟩
  rcases Nat.lt_or_gt_of_ne huv with hlt | hlt
  · exact (h.mem_or_swap (u, v) ((mem_pairs n u v).2 ⟨hlt, hv⟩)).resolve_right hvu
  · exact (h.mem_or_swap (v, u) ((mem_pairs n v u).2 ⟨hlt, hu⟩)).resolve_left hvu

theorem Realizes.tournament {d : View} {n : Nat} {arcs : List (Nat × Nat)}
    (h : Realizes d n arcs) (ho : Orients arcs (pairs n)) : IsTournament n d := by
  refine ⟨h.simple ho.simple, fun u v hu hv huv => ?_⟩
  rw [h.2.2 u v, ho.exactly_one_arc u v hu hv huv, ← h.2.2 v u, Bool.not_eq_true]

theorem tournamentArcs_orients (s : Stream) (n : Nat) : Orients (tournamentArcs s n) (pairs n) :=
  orients_zipIdx_orient s (pairs n) 0

theorem tournamentProgs_orients (streams : Nat → Stream) (n t : Nat) (hn : 0 < n) (ht : 0 < t) :
    Orients (tournamentProgs streams n t).flatten (pairs n) := by
  rw [← workerPairs_tile n t hn ht, tournamentProgs, ← List.flatMap_def]
  exact Orients.flatMap _ _ _ fun rk _ => orients_zipIdx_orient _ _ 0

/-- with a single worker the threaded tournament performs the sequential draws of worker 0's stream -/
theorem tournamentProgs_single (streams : Nat → Stream) (n : Nat) (hn : 1 ≤ n) :
    (tournamentProgs streams n 1).flatten = tournamentArcs (streams 0) n := by
  rw [tournamentProgs, workers_single n hn, List.map_cons, List.map_nil, List.flatten_cons, List.flatten_nil,
    List.append_nil, workerActs, workerPairs, tournamentArcs, pairs, Nat.sub_zero, List.range_eq_range']

theorem mem_rrtParents (s : Stream) (n u v : Nat) :
    (u, v) ∈ rrtParents s n ↔ 1 ≤ u ∧ u < n ∧ v = (s (u - 1)).toNat % u := by
  rw [rrtParents, List.mem_map]
  constructor
  · rintro ⟨a, ha, he⟩
    have ha' := mem_range'_sub.1 ha
    cases he
    exact ⟨ha'.1, ha'.2, rfl⟩
  · rintro ⟨h1, h2, rfl⟩
    exact ⟨u, mem_range'_sub.2 ⟨h1, h2⟩, rfl⟩

theorem rrtParents_simple (s : Stream) (n : Nat) : SimpleArcs n (rrtParents s n) := by
  intro a ha
  obtain ⟨h1, h2, h3⟩ := (mem_rrtParents s n a.1 a.2).1 ha
  have hlt : a.2 < a.1 := h3 ▸ Nat.mod_lt _ h1
  exact ⟨h2, Nat.lt_trans hlt h2, Nat.ne_of_gt hlt⟩

theorem Realizes.recursiveTree {d : View} {n : Nat} {s : Stream}
    (h : Realizes d n (rrtParents s n)) : IsRecursiveTree n d := by
  refine ⟨h.simple (rrtParents_simple s n), fun v => ?_, fun u hu hun => ?_⟩
  · rw [← Bool.not_eq_true, h.2.2 0 v, mem_rrtParents]
    exact fun x => absurd x.1 (Nat.not_succ_le_zero 0)
  · refine ⟨(s (u - 1)).toNat % u, Nat.mod_lt _ hu, fun v => ?_⟩
    rw [h.2.2 u v, mem_rrtParents]
    exact ⟨fun x => x.2.2, fun x => ⟨hu, hun, x⟩⟩

theorem erRow_sublist (s : Stream) (p : F64) (base : Nat) (cands : List Nat) :
    (erRow s p base cands).Sublist cands := by
  have := (List.filter_sublist (p := fun vi => f64lt (s vi.2) p) (l := cands.zipIdx base)).map (·.1)
  rwa [List.zipIdx_map_fst] at this

theorem erRow_zero (s : Stream) (base : Nat) (cands : List Nat) : erRow s F64.zero base cands = [] := by
  unfold erRow
  simp [f64lt_zero]

theorem erRow_one (s : Stream) (base : Nat) (cands : List Nat) : erRow s F64.one base cands = cands := by
  unfold erRow
  rw [List.filter_eq_self.2 fun a _ => f64lt_one _]
  exact List.zipIdx_map_fst base cands

theorem mem_othersFilter (n u v : Nat) : v ∈ othersFilter n u ↔ v < n ∧ v ≠ u := by
  simp only [othersFilter, List.mem_filter, List.mem_range, bne_iff_ne, ne_eq]
  exact and_congr_right fun _ => ⟨fun h e => h e.symm, fun h e => h e.symm⟩

/-- `(0..u).chain((u + 1)..order)` is `(0..order).filter(|&v| u != v)` -/
theorem othersChain_eq_filter (n u : Nat) (hu : u < n) : othersChain n u = othersFilter n u :=
  sortedS_ext (pairwise_range_skip u n) (List.pairwise_lt_range.filter _) fun v =>
    (mem_range_skip hu).trans (mem_othersFilter n u v).symm

theorem erArcs_chain_eq_filter (s : Stream) (p : F64) (n : Nat) :
    erArcs s p n othersChain = erArcs s p n othersFilter := by
  unfold erArcs
  rw [List.flatMap_def, List.flatMap_def]
  congr 1
  exact List.map_congr_left fun u hu => by rw [othersChain_eq_filter n u (List.mem_range.1 hu)]

/-- arcs-level form of `ErValid` -/
def ErArcsSpec (n : Nat) (p : F64) (arcs : List (Nat × Nat)) : Prop :=
  SimpleArcs n arcs ∧ (p = F64.zero → ∀ a, a ∉ arcs) ∧
  (p = F64.one → ∀ u v, u < n → v < n → u ≠ v → (u, v) ∈ arcs)

theorem Realizes.er {d : View} {n : Nat} {p : F64} {arcs : List (Nat × Nat)}
    (h : Realizes d n arcs) (hs : ErArcsSpec n p arcs) : ErValid n p d := by
  refine ⟨h.simple hs.1, fun hp u v => ?_, fun hp u v hu hv huv => (h.2.2 u v).2 (hs.2.2 hp u v hu hv huv)⟩
  rw [← Bool.not_eq_true, h.2.2 u v]
  exact hs.2.1 hp _

/-- Every row of `l` is drawn from the candidates `othersFilter n u` of its key `u`, with whatever stream and
offset (the sequential generators and every worker of the threaded one). -/
def ErRows (n : Nat) (p : F64) (l : List (Nat × List Nat)) : Prop :=
  ∀ ur ∈ l, ∃ s base, ur.2 = erRow s p base (othersFilter n ur.1)

theorem ErRows.sorted {n : Nat} {p : F64} {l : List (Nat × List Nat)} (h : ErRows n p l) : ∀ ur ∈ l, SortedS ur.2 :=
  fun ur hm => by
    obtain ⟨s, base, hr⟩ := h ur hm
    exact hr ▸ (List.pairwise_lt_range.filter _).sublist (erRow_sublist s p base _)

theorem rowArcs_er_spec {n : Nat} {p : F64} {l : List (Nat × List Nat)} (hk : l.map (·.1) = List.range n)
    (hrow : ErRows n p l) : ErArcsSpec n p (rowArcs l) := by
  have harc : ∀ {a}, a ∈ rowArcs l → a.1 < n ∧ ∃ s base, a.2 ∈ erRow s p base (othersFilter n a.1) := fun {a} ha => by
    obtain ⟨row, hm, hv⟩ := mem_rowArcs.1 (show (a.1, a.2) ∈ rowArcs l from ha)
    obtain ⟨s, base, hr⟩ := hrow _ hm
    exact ⟨List.mem_range.1 (hk ▸ List.mem_map_of_mem hm), s, base, (show row = _ from hr) ▸ hv⟩
  refine ⟨fun a ha => ?_, fun hp a ha => ?_, fun hp u v hu hv huv => ?_⟩
  · obtain ⟨hu, s, base, hv⟩ := harc ha
    have hc := (mem_othersFilter n a.1 a.2).1 ((erRow_sublist s p base _).subset hv)
    exact ⟨hu, hc.1, hc.2.symm⟩
  · obtain ⟨_, s, base, hv⟩ := harc ha
    rw [hp, erRow_zero] at hv
    cases hv
  · obtain ⟨⟨u', row⟩, hm, rfl⟩ := List.mem_map.1 (hk ▸ List.mem_range.2 hu : u ∈ l.map (·.1))
    obtain ⟨s, base, hr⟩ := hrow _ hm
    refine mem_rowArcs.2 ⟨row, hm, ?_⟩
    rw [show row = _ from hr, hp, erRow_one]
    exact (mem_othersFilter n u' v).2 ⟨hv, huv.symm⟩

/-- the sequential rows, keyed -/
def erKeyed (s : Stream) (p : F64) (n : Nat) : List (Nat × List Nat) :=
  (List.range n).map fun u => (u, erRow s p (u * (n - 1)) (othersFilter n u))

theorem erKeyed_keys (s : Stream) (p : F64) (n : Nat) : (erKeyed s p n).map (·.1) = List.range n := by
  rw [erKeyed, List.map_map]
  exact List.map_id' _

theorem erKeyed_rows (s : Stream) (p : F64) (n : Nat) : ErRows n p (erKeyed s p n) :=
  List.forall_mem_map.2 fun _ _ => ⟨s, _, rfl⟩

theorem rowArcs_erKeyed (s : Stream) (p : F64) (n : Nat) : rowArcs (erKeyed s p n) = erArcs s p n othersFilter :=
  List.flatMap_map ..

theorem erArcs_spec (s : Stream) (p : F64) (n : Nat) : ErArcsSpec n p (erArcs s p n othersFilter) :=
  rowArcs_erKeyed s p n ▸ rowArcs_er_spec (erKeyed_keys s p n) (erKeyed_rows s p n)

end GraafVerif.Rand
