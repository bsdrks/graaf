import GraafVerif.Proof.LawsGen
/-!
# Laws — degrees: `converse` swaps in- and out-degrees; regular ⇒ balanced; `cycle n` is regular
-/
namespace GraafVerif.Laws
open GraafVerif.Ops GraafVerif.Query GraafVerif.Pred GraafVerif.GenSpec GraafVerif.Gen

theorem regular_swap {G G' : Digraph} (hv : G'.verts = G.verts) (ha : ∀ u v, G'.adj u v = true ↔ G.adj v u = true) :
    Def.IsRegular G' ↔ Def.IsRegular G := by
  unfold Def.IsRegular
  rw [hv]
  exact exists_congr fun k => forall_congr' fun u => imp_congr_right fun _ => by
    rw [(deg_swap hv ha u).1, (deg_swap hv ha u).2]; exact and_comm

theorem balanced_swap {G G' : Digraph} (hv : G'.verts = G.verts) (ha : ∀ u v, G'.adj u v = true ↔ G.adj v u = true) :
    Def.IsBalanced G' ↔ Def.IsBalanced G := by
  unfold Def.IsBalanced
  rw [hv]
  exact forall_congr' fun u => imp_congr_right fun _ => by
    rw [(deg_swap hv ha u).1, (deg_swap hv ha u).2]; exact eq_comm

theorem regular_balanced {G : Digraph} (h : Def.IsRegular G) : Def.IsBalanced G := by
  obtain ⟨k, hk⟩ := h
  intro u hu; rw [(hk u hu).1, (hk u hu).2]

/-- out-degree of `cycle n` (`n ≥ 2`): `1` at `n = 2`, where successor and predecessor on the circuit coincide;
`2` from `n = 3` on, where they differ because the circuit is oriented -/
theorem cycle_outdeg {G : Digraph} {n : Nat} (hn : 2 ≤ n) (h : IsGen G n (CycleDef n)) (u : Nat) (hu : u < n) :
    Spec.outdegree G u = if n = 2 then 1 else 2 := by
  have hs := fun y => circuit_succ_iff (y := y) hn hu
  have hp := fun y => circuit_pred_iff (y := y) hn hu
  split
  · next h2 =>
    subst h2
    exact h.outdegree_one fun y => (hs y).trans
      ⟨fun x => ⟨x.1, Or.inl x.2⟩, fun x => ⟨x.1, x.2.elim id fun c => ((hs y).mp ((hp y).mpr ⟨x.1, c⟩)).2⟩⟩
  · next h2 =>
    refine h.outdegree_row cycleDef_valid u (row := [(u + n - 1) % n, (u + 1) % n])
      (List.pairwise_pair.mpr fun e => ?_) fun _ => cycle_row hn hu
    exact circuit_oriented h2 u _ ((hs _).mp rfl).2 (e ▸ ((hp _).mp rfl).2)

theorem cycle_regular {G : Digraph} {n : Nat} (h : IsGen G n (CycleDef n)) : Def.IsRegular G := by
  by_cases h2 : 2 ≤ n
  · exact regular_of_symmetric h.verts (h.symmetric (cycle_symmetric n)) (cycle_outdeg h2 h)
  · exact (h.arcless fun _ _ x => x.elim (fun c => h2 c.1) fun c => h2 c.1).1

theorem cycle_size {G : Digraph} {n : Nat} (hn : 2 ≤ n) (h : IsGen G n (CycleDef n)) :
    Spec.size G = if n = 2 then 2 else 2 * n := by
  rw [size_of_const h.verts (cycle_outdeg hn h)]
  split
  · next e => rw [e]
  · exact Nat.mul_comm n 2

namespace Rep
variable {R : Type} {M : Rep R}

theorem balanced_iff {d : R} (h : M.WF d) : M.isBalanced d = some true ↔ Def.IsBalanced (M.dig d) :=
  optb_iff (M.unary d h).balanced

theorem converse_preserves_degrees {g : R} (hg : M.WF g) :
    ∃ r, M.conv g = some r ∧ M.isRegular r = M.isRegular g ∧ M.isBalanced r = M.isBalanced g := by
  obtain ⟨r, e, hr, ar⟩ := conv_spec hg
  have hv : (M.dig r).verts = (M.dig g).verts := verts_eq_of_abs hr hg fun v => by rw [ar]; exact Iff.rfl
  have ha : ∀ u v, (M.dig r).adj u v = true ↔ (M.dig g).adj v u = true := fun u v =>
    show (M.abs r).A u v ↔ (M.abs g).A v u by rw [ar]; exact Iff.rfl
  exact ⟨r, e, optb_eq (M.unary r hr).regular (M.unary g hg).regular (regular_swap hv ha),
    optb_eq (M.unary r hr).balanced (M.unary g hg).balanced (balanced_swap hv ha)⟩

theorem regular_balanced' {g : R} (hg : M.WF g) (h : M.isRegular g = some true) : M.isBalanced g = some true :=
  (balanced_iff hg).mpr (regular_balanced ((regular_iff hg).mp h))

theorem gen_cycle_degrees {n : Nat} (hn : 1 ≤ n) (hf : M.fits n) :
    ∃ k, M.fam.cycle n = some k ∧ M.isRegular k = some true ∧ M.isBalanced k = some true ∧
      (2 ≤ n → M.size k = if n = 2 then 2 else 2 * n) := by
  obtain ⟨k, e, hk, hg⟩ := g_cycle (M := M) hn hf
  have hr : M.isRegular k = some true := (regular_iff hk).mpr (cycle_regular hg)
  exact ⟨k, e, hr, regular_balanced' hk hr, fun h2 => by rw [size_eq hk, cycle_size h2 hg]⟩

end Rep
end GraafVerif.Laws
