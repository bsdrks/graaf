/-!
# Binary search for the first index at which a test holds

`bisect p fuel lo hi` halves `[lo, hi)` on the test `p` at the midpoint.  Whatever the test it ends inside the
search interval and uses no fuel beyond `hi - lo` (`bisect_bounds`, `bisect_fuel`); for a test that is upward closed
on the interval it returns the first index at which the test holds (`FirstIn`, `bisect_firstIn`).  `bisectStep` is
one round, for loops that carry the two bounds as their state.
-/
namespace GraafVerif

theorem mid_bounds {lo hi : Nat} (h : lo < hi) : lo ≤ (lo + hi) / 2 ∧ (lo + hi) / 2 < hi :=
  ⟨(Nat.le_div_iff_mul_le Nat.two_pos).2 (Nat.mul_two lo ▸ Nat.add_le_add_left (Nat.le_of_lt h) lo),
   (Nat.div_lt_iff_lt_mul Nat.two_pos).2 (Nat.mul_two hi ▸ Nat.add_lt_add_right h hi)⟩

end GraafVerif

namespace GraafVerif.Ops

/-- The loop of `find_partition` with an arbitrary test in place of the key comparison. -/
def bisect (p : Nat → Prop) [DecidablePred p] : Nat → Nat → Nat → Nat
  | 0, lo, _ => lo
  | fuel+1, lo, hi =>
    if lo < hi then
      if p ((lo + hi) / 2) then bisect p fuel lo ((lo + hi) / 2)
      else bisect p fuel ((lo + hi) / 2 + 1) hi
    else lo

/-- `b` is the first index of `[lo, hi)` at which `p` holds, and `hi` if there is none. -/
structure FirstIn (p : Nat → Prop) (lo hi b : Nat) : Prop where
  lo_le : lo ≤ b
  le_hi : b ≤ hi
  before : ∀ m, lo ≤ m → m < b → ¬ p m
  here : b < hi → p b

theorem FirstIn.self (p : Nat → Prop) (lo : Nat) : FirstIn p lo lo lo :=
  ⟨Nat.le_refl _, Nat.le_refl _, fun _ h1 h2 => absurd (Nat.lt_of_le_of_lt h1 h2) (Nat.lt_irrefl _),
    fun h => absurd h (Nat.lt_irrefl _)⟩

theorem bisect_of_not_lt {p : Nat → Prop} [DecidablePred p] {lo hi : Nat} (h : ¬ lo < hi) (fuel : Nat) :
    bisect p fuel lo hi = lo := by
  cases fuel with
  | zero => rfl
  | succ fuel => rw [bisect, if_neg h]

theorem bisect_succ {p : Nat → Prop} [DecidablePred p] {lo hi : Nat} (h : lo < hi) (fuel : Nat) :
    bisect p (fuel + 1) lo hi =
      if p ((lo + hi) / 2) then bisect p fuel lo ((lo + hi) / 2) else bisect p fuel ((lo + hi) / 2 + 1) hi := by
  rw [bisect, if_pos h]

def bisectStep (p : Nat → Prop) [DecidablePred p] (lo hi : Nat) : Nat × Nat :=
  if p ((lo + hi) / 2) then (lo, (lo + hi) / 2) else ((lo + hi) / 2 + 1, hi)

theorem bisect_step {p : Nat → Prop} [DecidablePred p] {lo hi : Nat} (h : lo < hi) (fuel : Nat) :
    bisect p (fuel + 1) lo hi = bisect p fuel (bisectStep p lo hi).1 (bisectStep p lo hi).2 := by
  rw [bisect_succ h, bisectStep]
  split <;> rfl

theorem bisectStep_bounds (p : Nat → Prop) [DecidablePred p] {lo hi : Nat} (h : lo < hi) :
    lo ≤ (bisectStep p lo hi).1 ∧ (bisectStep p lo hi).1 ≤ hi ∧ (bisectStep p lo hi).2 ≤ hi ∧
      (bisectStep p lo hi).2 - (bisectStep p lo hi).1 < hi - lo := by
  have hm := mid_bounds h
  unfold bisectStep
  generalize (lo + hi) / 2 = mid at hm ⊢
  split
  · exact ⟨Nat.le_refl _, Nat.le_of_lt h, Nat.le_of_lt hm.2, Nat.sub_lt_sub_right hm.1 hm.2⟩
  · exact ⟨Nat.le_succ_of_le hm.1, hm.2, Nat.le_refl _, Nat.sub_lt_sub_left h (Nat.lt_succ_of_le hm.1)⟩

theorem bisect_bounds (p : Nat → Prop) [DecidablePred p] :
    ∀ fuel lo hi, lo ≤ bisect p fuel lo hi ∧ bisect p fuel lo hi ≤ max lo hi := by
  intro fuel
  induction fuel with
  | zero => exact fun lo hi => ⟨Nat.le_refl _, Nat.le_max_left _ _⟩
  | succ fuel ih =>
    intro lo hi
    by_cases hlt : lo < hi
    · rw [bisect_step hlt]
      obtain ⟨h1, h2, h3, _⟩ := bisectStep_bounds p hlt
      obtain ⟨i1, i2⟩ := ih (bisectStep p lo hi).1 (bisectStep p lo hi).2
      exact ⟨Nat.le_trans h1 i1, Nat.le_trans i2 (Nat.le_trans (Nat.max_le.2 ⟨h2, h3⟩) (Nat.le_max_right _ _))⟩
    · rw [bisect_of_not_lt hlt]
      exact ⟨Nat.le_refl _, Nat.le_max_left _ _⟩

theorem bisect_fuel {p : Nat → Prop} [DecidablePred p] {f1 f2 lo hi : Nat}
    (h1 : hi - lo ≤ f1) (h2 : hi - lo ≤ f2) : bisect p f1 lo hi = bisect p f2 lo hi := by
  induction f1 generalizing f2 lo hi with
  | zero =>
    have hn : ¬ lo < hi := fun h => Nat.ne_of_gt (Nat.sub_pos_of_lt h) (Nat.le_zero.mp h1)
    rw [bisect_of_not_lt hn, bisect_of_not_lt hn]
  | succ f1 ih =>
    by_cases hlt : lo < hi
    · obtain ⟨f2, rfl⟩ := Nat.exists_eq_succ_of_ne_zero (Nat.ne_of_gt (Nat.lt_of_lt_of_le (Nat.sub_pos_of_lt hlt) h2))
      have hb := (bisectStep_bounds p hlt).2.2.2
      rw [bisect_step hlt, bisect_step hlt]
      exact ih (Nat.le_of_lt_succ (Nat.lt_of_lt_of_le hb h1)) (Nat.le_of_lt_succ (Nat.lt_of_lt_of_le hb h2))
    · rw [bisect_of_not_lt hlt, bisect_of_not_lt hlt]

theorem bisect_firstIn {p : Nat → Prop} [DecidablePred p] {H : Nat}
    (hmono : ∀ m m', m ≤ m' → m' < H → p m → p m') {fuel lo hi : Nat}
    (hf : hi - lo ≤ fuel) (hle : lo ≤ hi) (hH : hi ≤ H) : FirstIn p lo hi (bisect p fuel lo hi) := by
  induction fuel generalizing lo hi with
  | zero =>
    obtain rfl : lo = hi := Nat.le_antisymm hle (Nat.sub_eq_zero_iff_le.mp (Nat.le_zero.mp hf))
    exact FirstIn.self p lo
  | succ fuel ih =>
    by_cases hlt : lo < hi
    · rw [bisect_succ hlt]
      obtain ⟨h1, h2⟩ := mid_bounds hlt
      generalize (lo + hi) / 2 = mid at h1 h2
      by_cases hp : p mid
      · rw [if_pos hp]
        have b := ih (Nat.le_of_lt_succ (Nat.lt_of_lt_of_le (Nat.sub_lt_sub_right h1 h2) hf)) h1
          (Nat.le_trans (Nat.le_of_lt h2) hH)
        refine ⟨b.lo_le, Nat.le_trans b.le_hi (Nat.le_of_lt h2), b.before, fun _ => ?_⟩
        rcases Nat.eq_or_lt_of_le b.le_hi with e | hlt'
        · rw [e]; exact hp
        · exact b.here hlt'
      · rw [if_neg hp]
        have b := ih (Nat.le_of_lt_succ (Nat.lt_of_lt_of_le (Nat.sub_lt_sub_left hlt (Nat.lt_succ_of_le h1)) hf))
          h2 hH
        refine ⟨Nat.le_trans (Nat.le_succ_of_le h1) b.lo_le, b.le_hi, fun m hm1 hm2 hpm => ?_, b.here⟩
        by_cases hmm : m ≤ mid
        · exact hp (hmono m mid hmm (Nat.lt_of_lt_of_le h2 hH) hpm)
        · exact b.before m (Nat.lt_of_not_le hmm) hm2 hpm
    · rw [bisect_of_not_lt hlt]
      obtain rfl : lo = hi := Nat.le_antisymm hle (Nat.le_of_not_lt hlt)
      exact FirstIn.self p lo

end GraafVerif.Ops
