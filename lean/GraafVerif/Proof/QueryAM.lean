import GraafVerif.Proof.Query
/-!
# C02 — `AdjacencyMap` (arbitrary vertex ids): every core query equals its definition (P1)
-/
namespace GraafVerif.Query
open GraafVerif.Repr

namespace AM

theorem hasArc_row {d : AdjMap} (h : d.WF) {u : Nat} {row : List Nat} (hm : (u, row) ∈ d.rows) (v : Nat) :
    d.hasArc u v = row.contains v := by
  rw [AdjMap.hasArc_eq, AdjMap.row_of_mem h.1 hm]

theorem key_row {d : AdjMap} {u : Nat} (hu : u ∈ (abs d).verts) : ∃ row, (u, row) ∈ d.rows := by
  obtain ⟨⟨k, row⟩, hm, rfl⟩ := List.mem_map.1 hu
  exact ⟨row, hm⟩

theorem abs_valid {d : AdjMap} (h : d.WF) : (abs d).Valid :=
  valid_of_simple ((sortedK_iff_keys _).mp h.1) h.simple (unitWt_isSome d.hasArc)

theorem outNeighbors_row {d : AdjMap} (h : d.WF) {u : Nat} {row : List Nat} (hm : (u, row) ∈ d.rows) :
    Spec.outNeighbors (abs d) u = row :=
  outNeighbors_eq_of (abs_valid h) (h.2 u row hm).1 (fun x => by
    rw [← List.contains_iff_mem, ← hasArc_row h hm]; rfl)

theorem filter_rows {d : AdjMap} (h : d.WF) (v : Nat) :
    d.rows.filter (fun r => r.2.contains v) = d.rows.filter (fun r => (abs d).adj r.1 v) :=
  List.filter_congr fun r hr => (hasArc_row h (u := r.1) (row := r.2) hr v).symm

theorem inNeighbors_spec {d : AdjMap} (h : d.WF) (v : Nat) : inNeighbors d v = Spec.inNeighbors (abs d) v := by
  rw [inNeighbors, filterMap_ite, filter_rows h]
  exact (List.filter_map (f := Prod.fst) (p := fun u => (abs d).adj u v) (l := d.rows)).symm

theorem indegree_spec {d : AdjMap} (h : d.WF) (v : Nat) :
    (d.rows.filter (fun r => r.2.contains v)).length = Spec.indegree (abs d) v := by
  rw [Spec.indegree, ← inNeighbors_spec h, inNeighbors, length_filterMap_ite]

theorem size_spec {d : AdjMap} (h : d.WF) : d.size = Spec.size (abs d) :=
  size_of_arcs (abs_valid h) (AdjMap.size_eq d) (AdjMap.arcs_sorted h.shape)
    (AdjMap.mem_arcs_iff h.1)

theorem outNeighbors_key {d : AdjMap} (h : d.WF) {u : Nat} (hu : u ∈ (abs d).verts) :
    mget u d.rows = some (Spec.outNeighbors (abs d) u) := by
  obtain ⟨row, hm⟩ := key_row hu
  rw [outNeighbors_row h hm]; exact (mget_eq_some_iff h.1).2 hm

theorem core_correct {d : AdjMap} (h : d.WF) : CoreCorrect (core d) (abs d) where
  order := (List.length_map _).symm
  vertices := rfl
  arcs_mem := AdjMap.mem_arcs_iff h.1
  size := size_spec h
  hasArc := fun _ _ => rfl
  hasEdge := fun _ _ => rfl
  hasWalk := fun w => hasWalkPtr_eq (abs d) d.hasArc (fun _ _ => rfl) w
  outNeighbors := fun u hu => outNeighbors_key h hu
  inNeighbors := inNeighbors_spec h
  indegree := fun v hv => by
    rw [← indegree_spec h]; exact if_pos ((mget_isSome_iff h.1).2 hv)
  isSource := fun v => by
    rw [Spec.isSource, ← indegree_spec h, filter_length_eq_zero]; rfl
  outdegree := fun u hu => (out_fields (outNeighbors_key h hu)).1
  isSink := fun u hu => (out_fields (outNeighbors_key h hu)).2

theorem seq_correct {d : AdjMap} (h : d.WF) : SeqCorrect (core d) (abs d) :=
  seqCorrect_default (core_correct h) rfl (fun _ => rfl)

theorem panics_outside {d : AdjMap} {u : Nat} (hu : u ∉ (abs d).verts) :
    (core d).outNeighbors u = none ∧ (core d).indegree u = none ∧ (core d).outdegree u = none ∧ (core d).isSink u = none := by
  have hr : mget u d.rows = none := Option.not_isSome_iff_eq_none.1 fun hs =>
    hu (List.mem_map.2 ⟨(u, _), mem_of_mget_eq_some (Option.some_get hs).symm, rfl⟩)
  exact ⟨hr, if_neg (by rw [hr]; decide), congrArg (Option.map List.length) hr, congrArg (Option.map List.isEmpty) hr⟩

theorem removeArc_absent (d : AdjMap) {u v : Nat} (h : d.hasArc u v = false) : d.removeArc u v = (d, false) := by
  unfold AdjMap.removeArc
  unfold AdjMap.hasArc at h
  cases hr : mget u d.rows with
  | none => rfl
  | some row =>
    rw [hr] at h
    have hv : v ∉ row := fun hm => Bool.eq_false_iff.1 h (List.contains_iff_mem.2 hm)
    simp only [h]
    rw [mupsert_fix (serase_absent hv) hr]

end AM
end GraafVerif.Query
