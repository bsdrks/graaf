import GraafVerif.Model.AlgoGen
import GraafVerif.Proof.AlgoGenRt
import GraafVerif.Model.PredTree
import GraafVerif.Proof.PredTreeFull
/-!
# Generated `PredecessorTree::{new, search_by, search}` = hand-written `Model/PredTree.lean`

The generated structure `PredecessorTree` has the single field `pred`, the hand-written model works
on the vector itself (`PredTree.Pred = List (Option Nat)`): the conversion is the projection.
All equalities are unconditional (every state, every argument, every fuel): the function contains
no unchecked access, its only failure is the panic of `self.pred[s]`.
For the callers (`predecessors`, `shortest_path`, `cycles` of the iterators): what a function that
begins with `PredecessorTree::new` does (`map_fnBody_new_bind`) and the loop body of
`shortest_path` (`shortestPath_step`), which `BfsPred` and `DijkstraPred` share.
-/
namespace GraafVerif.AlgoGenThm
open GraafVerif GraafVerif.AlgoGen

namespace PredecessorTree

/-- Lift an outcome of the hand-written model. -/
def liftP : PredTree.Res → Res (Option (List Nat))
  | .panic => .error (.fault .panic)
  | .ret r => .ok r

/-- `PredecessorTree::new`: `assert!(order > 0)`, then `vec![None; order]`. -/
theorem new_eq (order : Nat) :
    AlgoGen.PredecessorTree.new order =
      if 0 < order then .ok ⟨List.replicate order none⟩ else .error (.fault .panic) := by
  unfold AlgoGen.PredecessorTree.new
  by_cases h : 0 < order
  · simp [h]
  · simp [h]

/-- A function that begins with `PredecessorTree::new(order)` panics for order 0; otherwise it is its
continuation on `vec![None; order]`. -/
theorem map_fnBody_new_bind {ρ γ : Type} (n : Nat) (k : AlgoGen.PredecessorTree → Blk Empty ρ ρ) (f : ρ → γ) :
    Except.map f (fnBody (call (AlgoGen.PredecessorTree.new n) >>= k)) =
      if n = 0 then .error (.fault .panic) else Except.map f (fnBody (k ⟨List.replicate n none⟩)) := by
  rw [new_eq]
  by_cases hn : n = 0
  · rw [if_neg (hn ▸ Nat.lt_irrefl 0), if_pos hn]
    rfl
  · rw [if_pos (Nat.pos_of_ne_zero hn), if_neg hn]
    rfl

/-- One round of the `while let Some(&v) = self.pred.get(s)` loop, as a case tree. -/
theorem searchBy_while0_step (self : AlgoGen.PredecessorTree) (isT : Nat → Option Nat → Bool)
    (s : Nat) (visited : List Bool) (path : List Nat) :
    AlgoGen.PredecessorTree.searchBy_while0 self isT (s, visited, path) =
      match self.pred[s]? with
      | none => brk (s, visited, path)
      | some v =>
        if isT s v = true then ret (some path)
        else match v with
          | none => brk (s, visited, path)
          | some v' =>
            match visited[v']? with
            | none => brk (s, visited, path)
            | some true => brk (s, visited, path)
            | some false => .ok (v', visited.set v' true, if v' ≠ s then path ++ [v'] else path) := by
  unfold AlgoGen.PredecessorTree.searchBy_while0
  dsimp only
  cases self.pred[s]? with
  | none => rfl
  | some v =>
    dsimp only
    by_cases ht : isT s v = true
    · rw [if_pos ht, if_pos ht]
    · rw [if_neg ht, if_neg ht]
      cases v with
      | none => rfl
      | some v' =>
        dsimp only
        cases visited[v']? with
        | none => rfl
        | some b =>
          cases b with
          | true => rfl
          | false =>
            by_cases hvs : v' ≠ s
            · rw [if_pos hvs, if_pos hvs]
              rfl
            · rw [if_neg hvs, if_neg hvs]
              rfl

/-- The `while let Some(&v) = self.pred.get(s)` loop followed by the final `None`: the
hand-written `PredTree.loop`, for every fuel and every loop state. -/
theorem searchBy_while0_eq (self : AlgoGen.PredecessorTree) (isT : Nat → Option Nat → Bool) :
    ∀ (fuel s : Nat) (visited : List Bool) (path : List Nat),
      ((whileLoop (AlgoGen.PredecessorTree.searchBy_while0 self isT) fuel (s, visited, path) >>= fun _ => .ok none :
          Blk Empty (Option (List Nat)) (Option (List Nat)))) =
        match PredTree.loop self.pred isT fuel s visited path with
        | some p => .error (.ret (some p))
        | none => .ok none := by
  intro fuel
  induction fuel with
  | zero =>
    intro s visited path
    rfl
  | succ fuel ih =>
    intro s visited path
    rw [whileLoop_succ, searchBy_while0_step, PredTree.loop]
    cases self.pred[s]? with
    | none => rfl
    | some v =>
      dsimp only
      by_cases ht : isT s v = true
      · rw [if_pos ht, if_pos ht]
        rfl
      · rw [if_neg ht, if_neg ht]
        cases v with
        | none => rfl
        | some v' =>
          dsimp only
          cases visited[v']? with
          | none => rfl
          | some b =>
            cases b with
            | true => rfl
            | false => exact ih v' (visited.set v' true) (if v' ≠ s then path ++ [v'] else path)

theorem searchBy_eq (fuel : Nat) (self : AlgoGen.PredecessorTree) (s : Nat) (isT : Nat → Option Nat → Bool) :
    AlgoGen.PredecessorTree.searchBy fuel self s isT = liftP (PredTree.searchByFuel self.pred s isT fuel) := by
  unfold AlgoGen.PredecessorTree.searchBy PredTree.searchByFuel
  cases hp : self.pred[s]? with
  | none =>
    rw [idx_ge _ _ (List.getElem?_eq_none_iff.1 hp)]
    rfl
  | some ps =>
    rw [idx_some _ _ _ hp, ok_bind]
    by_cases ht : isT s ps = true
    · simp only [if_pos ht]
      rfl
    · simp only [if_neg ht]
      refine (congrArg fnBody (searchBy_while0_eq self isT fuel s (List.replicate self.pred.length false) [s])).trans ?_
      cases PredTree.loop self.pred isT fuel s (List.replicate self.pred.length false) [s] <;> rfl

/-- `PredecessorTree::search` = the hand-written `searchByFuel` with the predicate `|&v, _| v == t`. -/
theorem search_eq (fuel : Nat) (self : AlgoGen.PredecessorTree) (s t : Nat) :
    AlgoGen.PredecessorTree.search fuel self s t =
      liftP (PredTree.searchByFuel self.pred s (fun v _ => v == t) fuel) := by
  unfold AlgoGen.PredecessorTree.search
  rw [searchBy_eq]
  cases PredTree.searchByFuel self.pred s (fun v _ => v == t) fuel with
  | panic => rfl
  | ret r => rfl

/-- With the fuel the hand-written model fixes (`pred.len() + 2`, adequate by `PredTree.searchByFuel_adequate`). -/
theorem searchBy_eq_searchBy (self : AlgoGen.PredecessorTree) (s : Nat) (isT : Nat → Option Nat → Bool) :
    AlgoGen.PredecessorTree.searchBy (self.pred.length + 2) self s isT = liftP (PredTree.searchBy self.pred s isT) :=
  searchBy_eq _ self s isT

theorem search_eq_search (self : AlgoGen.PredecessorTree) (s t : Nat) :
    AlgoGen.PredecessorTree.search (self.pred.length + 2) self s t = liftP (PredTree.search self.pred s t) :=
  search_eq _ self s t

theorem searchBy_of_le (F : Nat) (self : AlgoGen.PredecessorTree) (s : Nat) (isT : Nat → Option Nat → Bool)
    (hF : self.pred.length + 2 ≤ F) :
    AlgoGen.PredecessorTree.searchBy F self s isT = liftP (PredTree.searchBy self.pred s isT) := by
  rw [searchBy_eq, PredTree.searchByFuel_adequate _ _ _ _ hF]

/-- `pred[v] = u` over a list of items, on the structure and on its vector (`predecessors` of
`BfsPred`, `DfsPred`, `DijkstraPred`). -/
theorem foldl_set_pred (ys : List (Option Nat × Nat)) : ∀ (t : AlgoGen.PredecessorTree),
    (ys.foldl (fun (t : AlgoGen.PredecessorTree) y => (⟨t.pred.set y.2 y.1⟩ : AlgoGen.PredecessorTree)) t).pred =
      ys.foldl (fun p y => p.set y.2 y.1) t.pred := by
  induction ys with
  | nil => exact fun _ => rfl
  | cons y ys ih => exact fun t => ih ⟨t.pred.set y.2 y.1⟩

/-- The body of the `for (u, v) in self` loop of `shortest_path` (`BfsPred`, `DijkstraPred`): record
the predecessor; at a target return `search_by(v, |_, b| b.is_none())` reversed. -/
theorem shortestPath_step {S β : Type} (site : String) (F : Nat) (isT : Nat → Bool) (self : S)
    (t : AlgoGen.PredecessorTree) (y : Option Nat × Nat) (hv : y.2 < t.pred.length) (hF : t.pred.length + 2 ≤ F) :
    ((do let t1 ← wr site t.pred y.2 y.1
         if isT y.2 = true then do
           let t2 ← call (AlgoGen.PredecessorTree.searchBy F ⟨t1⟩ y.2 (fun _ b => b.isNone))
           ret (Option.map (fun path => path.reverse) t2, self)
         else pure ⟨t1⟩) : Blk β (Option (List Nat) × S) AlgoGen.PredecessorTree) =
      if isT y.2 = true then
        match PredTree.searchBy (t.pred.set y.2 y.1) y.2 (fun _ b => b.isNone) with
        | .panic => .error (.err (.fault .panic))
        | .ret r => .error (.ret (r.map List.reverse, self))
      else .ok ⟨t.pred.set y.2 y.1⟩ := by
  rw [wr_lt site _ _ _ hv, ok_bind]
  by_cases ht : isT y.2 = true
  · rw [if_pos ht, if_pos ht, searchBy_of_le F _ y.2 _ (by rw [List.length_set]; exact hF)]
    cases PredTree.searchBy (t.pred.set y.2 y.1) y.2 (fun _ b => b.isNone) <;> rfl
  · rw [if_neg ht, if_neg ht]
    rfl

end PredecessorTree

end GraafVerif.AlgoGenThm
