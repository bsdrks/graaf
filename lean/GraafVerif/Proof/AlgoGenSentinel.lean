import GraafVerif.Proof.AlgoGenRt
import GraafVerif.Model.Bfm
/-!
# The sentinel encoding of distance vectors (generated `Dijkstra*`, `BellmanFordMoore`, `FloydWarshall`)

The hand-written models keep a `Vec<isize>` / `Vec<usize>` of distances as `List (Option Int)` (`none` = `MAX`); the
generated definitions keep the numbers, with the sentinel `inf` as a parameter.  `encD inf` replaces `none` by `inf`:
reading, writing, `vec![MAX; n]` and the relaxation test through it.  `DInv` is what makes the encoding faithful (no finite
entry is the sentinel), `FoldOk` states a side condition ("this sum stays below the sentinel") along a hand-written fold,
and `forLoop_foldOk` is the `for` loop that is such a fold through an encoding.
-/
namespace GraafVerif.AlgoGenThm
open GraafVerif GraafVerif.AlgoGen
open GraafVerif.Dijkstra (dOf improves)

def encD (inf : Int) (d : List (Option Int)) : List Int := d.map (fun o => o.getD inf)

@[simp] theorem encD_length (inf : Int) (d : List (Option Int)) : (encD inf d).length = d.length := by
  simp [encD]
theorem encD_getElem? (inf : Int) (d : List (Option Int)) (i : Nat) :
    (encD inf d)[i]? = (d[i]?).map (fun o => o.getD inf) := by
  simp [encD]
theorem encD_set (inf : Int) (d : List (Option Int)) (i : Nat) (x : Int) :
    (encD inf d).set i x = encD inf (d.set i (some x)) := by
  simp [encD, List.map_set]
theorem encD_replicate (inf : Int) (n : Nat) : encD inf (List.replicate n none) = List.replicate n inf := by
  simp [encD]
theorem encD_surj (inf : Int) (l : List Int) : encD inf (l.map some) = l := by
  simp [encD, Function.comp_def]

theorem encD_rd {β ρ : Type} (site : String) (inf : Int) (dist : List (Option Int)) (v : Nat) (hv : v < dist.length) :
    (rd site (encD inf dist) v : Blk β ρ Int) = .ok ((dOf dist v).getD inf) := by
  obtain ⟨o, ho⟩ : ∃ o, dist[v]? = some o := ⟨_, List.getElem?_eq_getElem hv⟩
  rw [rd_some _ _ _ ((dOf dist v).getD inf)]
  rw [encD_getElem?, ho]
  simp [dOf, ho]

theorem improves_iff_enc (inf : Int) (o : Option Int) (dn : Int) (h : dn < inf) :
    dn < o.getD inf ↔ improves dn o = true := by
  cases o with
  | none => simp [improves, h]
  | some dx => simp [improves]

theorem foldl_set_enc {ι : Type} (inf : Int) (key : ι → Nat) (val : ι → Int) (items : List ι) :
    ∀ (d : List (Option Int)),
      items.foldl (fun (acc : List Int) it => acc.set (key it) (val it)) (encD inf d) =
        encD inf (items.foldl (fun acc it => acc.set (key it) (some (val it))) d) := by
  induction items with
  | nil => intro d; rfl
  | cons it items ih => intro d; simp only [List.foldl_cons]; rw [encD_set, ih]

/-! `DInv` and `FoldOk` serve every vector of distances (`Proof/AlgoGenFw.lean` uses them for the matrix); they bear the
namespace of the Bellman-Ford-Moore equalities of `Proof/AlgoGenBfm.lean`, whose statements name them. -/
namespace BellmanFordMoore
open GraafVerif.Bfm (Dist)

/-- What the equalities need of a distance vector: length = order, no finite entry is the sentinel. -/
structure DInv (inf : Int) (n : Nat) (d : Dist) : Prop where
  len : d.length = n
  fin : ∀ x ∈ d, x ≠ some inf

theorem DInv.set {inf : Int} {n : Nat} {d : Dist} (h : DInv inf n d) (i : Nat) {x : Int} (hx : x ≠ inf) :
    DInv inf n (d.set i (some x)) :=
  ⟨List.length_set.trans h.len, fun y hy =>
    (List.mem_or_eq_of_mem_set hy).elim (h.fin y) (fun e => e ▸ fun he => hx (Option.some.inj he))⟩

theorem getD_ne_inf {inf : Int} {n : Nat} {d : Dist} (h : DInv inf n d) (v : Nat) :
    ((d[v]?.getD none).getD inf ≠ inf) ↔ ∃ x, d[v]?.getD none = some x := by
  cases hd : d[v]? with
  | none => simp
  | some o =>
    cases o with
    | none => simp
    | some x =>
      have : (some x : Option Int) ∈ d := List.mem_of_getElem? hd
      have := h.fin _ this
      simp only [Option.getD_some, ne_eq, Option.some.injEq, exists_eq', iff_true]
      intro he; apply this; rw [he]

theorem DInv.ne_inf {inf : Int} {n : Nat} {d : Dist} (h : DInv inf n d) {v : Nat} {x : Int}
    (hx : d[v]?.getD none = some x) : x ≠ inf := by
  have := (getD_ne_inf h v).2 ⟨x, hx⟩
  rwa [hx] at this

/-- `ok` holds at every step of a left fold. -/
def FoldOk {σ α : Type} (ok : σ → α → Prop) (f : σ → α → σ) : List α → σ → Prop
  | [], _ => True
  | a :: l, s => ok s a ∧ FoldOk ok f l (f s a)

theorem foldOk_true {σ α : Type} (f : σ → α → σ) : ∀ (l : List α) (s : σ), FoldOk (fun _ _ => True) f l s
  | [], _ => trivial
  | a :: l, s => ⟨trivial, foldOk_true f l (f s a)⟩

end BellmanFordMoore

open BellmanFordMoore (FoldOk) in
/-- `for x in l { s = f s x }` through an encoding `enc`, when the body is `f` on every state that
satisfies `inv` and every item that satisfies `ok`. -/
theorem forLoop_foldOk {σ S α β ρ : Type} (enc : σ → S) (body : S → α → Blk S ρ S) (f : σ → α → σ)
    (ok : σ → α → Prop) (inv : σ → Prop) (l : List α)
    (hstep : ∀ s a, a ∈ l → inv s → ok s a → body (enc s) a = .ok (enc (f s a)) ∧ inv (f s a)) :
    ∀ (l' : List α) (s : σ), (∀ a ∈ l', a ∈ l) → inv s → FoldOk ok f l' s →
      (forLoop body l' (enc s) : Blk β ρ S) = .ok (enc (l'.foldl f s)) ∧ inv (l'.foldl f s) := by
  intro l'
  induction l' with
  | nil => intro s _ hi _; exact ⟨rfl, hi⟩
  | cons a l' ih =>
    intro s hsub hi hok
    obtain ⟨h1, h2⟩ := hstep s a (hsub a List.mem_cons_self) hi hok.1
    rw [forLoop_cons_ok (h := h1)]
    exact ih _ (fun b hb => hsub b (List.mem_cons_of_mem _ hb)) h2 hok.2

end GraafVerif.AlgoGenThm
