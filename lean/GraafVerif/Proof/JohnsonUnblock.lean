import GraafVerif.Model.Johnson
import GraafVerif.Proof.VecLemmas
/-!
# `unblock`: what a cascade can and must unblock

`Casc st u x`: `x` is reachable from `u` through B-list entries along blocked vertices.  It bounds
what `unblock u` unblocks (`unblock_spec`; `blocked` and the B-lists only shrink, unblocked
vertices end with an empty B-list).  With `blocked` duplicate-free and shorter than the fuel the
bound is attained (`unblock_spec2`): `u` is unblocked, so is every member of the B-list of every
vertex that is, and the B-lists of the vertices that stay blocked are untouched; any two such
fuels give the same result (`unblock_fuel_irrel`).
-/
namespace GraafVerif.Johnson

theorem Bof_blocked_irrel (st : JState) (bl : List Nat) (y : Nat) :
    ({ st with blocked := bl } : JState).Bof y = st.Bof y := rfl

theorem mem_blocked_iff (st : JState) (w : Nat) : st.isBlocked w = true ↔ w ∈ st.blocked := by
  simp [JState.isBlocked]

theorem not_mem_blocked_iff (st : JState) (w : Nat) : st.isBlocked w = false ↔ w ∉ st.blocked := by
  simp [JState.isBlocked]

/-- `blocked.remove(u); b[u].clear()`: the state update shared by `unblock` and the reset loop. -/
def JState.clear (st : JState) (u : Nat) : JState :=
  { st with blocked := st.blocked.filter (· != u), B := st.B.set u [] }

theorem unblock_succ (fuel : Nat) (st : JState) (u : Nat) : unblock (fuel+1) st u =
    if st.isBlocked u then (st.Bof u).foldl (unblock fuel) (st.clear u) else st := rfl

theorem mem_clear_blocked {st : JState} {u x : Nat} :
    x ∈ (st.clear u).blocked ↔ x ∈ st.blocked ∧ x ≠ u := by
  simp [JState.clear, List.mem_filter]

theorem clear_Bof (st : JState) (u y : Nat) :
    (st.clear u).Bof y = if y = u then [] else st.Bof y := by
  show ((st.B.set u [])[y]?).getD [] = _
  rw [Vec.getD_set]
  by_cases h : y = u
  · rw [if_pos h]
    split
    · rfl
    · rename_i hn
      rw [h, List.getElem?_eq_none (Nat.le_of_not_lt fun h2 => hn ⟨h.symm, h2⟩)]; rfl
  · rw [if_neg h, if_neg fun h' => h h'.1.symm]; rfl

theorem clear_Bof_sub {st : JState} {u y x : Nat} (h : x ∈ (st.clear u).Bof y) : x ∈ st.Bof y := by
  rw [clear_Bof] at h
  split at h
  · exact absurd h List.not_mem_nil
  · exact h

theorem clear_blocked_length_lt {st : JState} {u : Nat} (h : u ∈ st.blocked) :
    (st.clear u).blocked.length < st.blocked.length :=
  List.length_filter_lt_length_iff_exists.2 ⟨u, h, by simp⟩

inductive Casc (st : JState) (u : Nat) : Nat → Prop
  | refl : u ∈ st.blocked → Casc st u u
  | step {y x} : Casc st u y → x ∈ st.Bof y → x ∈ st.blocked → Casc st u x

theorem Casc.root_blocked {st : JState} {u x : Nat} (h : Casc st u x) : u ∈ st.blocked := by
  induction h with
  | refl h => exact h
  | step _ _ _ ih => exact ih

theorem Casc.end_blocked {st : JState} {u x : Nat} (h : Casc st u x) : x ∈ st.blocked := by
  cases h with
  | refl h => exact h
  | step _ _ h => exact h

theorem Casc.trans {st : JState} {u y x : Nat} (h1 : Casc st u y) (h2 : Casc st y x) : Casc st u x := by
  induction h2 with
  | refl _ => exact h1
  | step _ hb hx ih => exact Casc.step ih hb hx

theorem Casc.mono {st st' : JState} (hbl : ∀ x, x ∈ st'.blocked → x ∈ st.blocked)
    (hB : ∀ y x, x ∈ st'.Bof y → x ∈ st.Bof y) {u x : Nat} (h : Casc st' u x) : Casc st u x := by
  induction h with
  | refl h => exact Casc.refl (hbl _ h)
  | step _ hb hx ih => exact Casc.step ih (hB _ _ hb) (hbl _ hx)

/-- What one `unblock`-like call with root `u` guarantees. -/
structure USpec (st : JState) (u : Nat) (st' : JState) : Prop where
  stack : st'.stack = st.stack
  result : st'.result = st.result
  blen : st'.B.length = st.B.length
  bl : ∀ x, x ∈ st'.blocked → x ∈ st.blocked
  Bsub : ∀ y x, x ∈ st'.Bof y → x ∈ st.Bof y
  casc : ∀ x, x ∈ st.blocked → x ∉ st'.blocked → Casc st u x
  cleared : ∀ x, x ∈ st.blocked → x ∉ st'.blocked → st'.Bof x = []

/-- The same for a fold over a list of roots. -/
structure USpecL (st : JState) (l : List Nat) (st' : JState) : Prop where
  stack : st'.stack = st.stack
  result : st'.result = st.result
  blen : st'.B.length = st.B.length
  bl : ∀ x, x ∈ st'.blocked → x ∈ st.blocked
  Bsub : ∀ y x, x ∈ st'.Bof y → x ∈ st.Bof y
  casc : ∀ x, x ∈ st.blocked → x ∉ st'.blocked → ∃ v ∈ l, Casc st v x
  cleared : ∀ x, x ∈ st.blocked → x ∉ st'.blocked → st'.Bof x = []

theorem eq_nil_of_forall_mem {l : List Nat} (h : ∀ x, x ∈ l → x ∈ ([] : List Nat)) : l = [] := by
  cases l with
  | nil => rfl
  | cons a t => exact absurd (h a (by simp)) (by simp)

theorem uspec_fold (f : JState → Nat → JState) (hf : ∀ st v, USpec st v (f st v)) :
    ∀ (l : List Nat) (st : JState), USpecL st l (l.foldl f st) := by
  intro l
  induction l with
  | nil =>
    exact fun st => ⟨rfl, rfl, rfl, fun _ h => h, fun _ _ h => h, fun x hx hnx => absurd hx hnx,
      fun x hx hnx => absurd hx hnx⟩
  | cons v l ih =>
    intro st
    have h1 := hf st v
    have h2 := ih (f st v)
    rw [List.foldl_cons]
    refine ⟨h2.stack.trans h1.stack, h2.result.trans h1.result, h2.blen.trans h1.blen,
      fun x hx => h1.bl x (h2.bl x hx), fun y x hx => h1.Bsub y x (h2.Bsub y x hx), ?_, ?_⟩
    · intro x hx hnx
      by_cases hm : x ∈ (f st v).blocked
      · obtain ⟨v', hv', hc⟩ := h2.casc x hm hnx
        exact ⟨v', List.mem_cons_of_mem _ hv', hc.mono h1.bl h1.Bsub⟩
      · exact ⟨v, List.mem_cons_self, h1.casc x hx hm⟩
    · intro x hx hnx
      by_cases hm : x ∈ (f st v).blocked
      · exact h2.cleared x hm hnx
      · apply eq_nil_of_forall_mem
        intro z hz
        have := h2.Bsub x z hz
        rwa [h1.cleared x hx hm] at this

theorem USpec.refl (st : JState) (u : Nat) : USpec st u st :=
  ⟨rfl, rfl, rfl, fun _ h => h, fun _ _ h => h, fun _ hx hnx => absurd hx hnx, fun _ hx hnx => absurd hx hnx⟩

theorem unblock_spec (fuel : Nat) : ∀ (st : JState) (u : Nat), USpec st u (unblock fuel st u) := by
  induction fuel with
  | zero => exact USpec.refl
  | succ fuel ih =>
    intro st u
    rw [unblock_succ]
    split
    · rename_i hb
      have hub : u ∈ st.blocked := (mem_blocked_iff st u).1 hb
      have hL := uspec_fold (unblock fuel) ih (st.Bof u) (st.clear u)
      refine ⟨hL.stack, hL.result, hL.blen.trans (List.length_set ..), ?_, ?_, ?_, ?_⟩
      · intro x hx
        exact (mem_clear_blocked.1 (hL.bl x hx)).1
      · intro y x hx
        exact clear_Bof_sub (hL.Bsub y x hx)
      · intro x hx hnx
        by_cases hxu : x = u
        · subst hxu; exact Casc.refl hx
        · obtain ⟨v, hv, hc⟩ := hL.casc x (mem_clear_blocked.2 ⟨hx, hxu⟩) hnx
          have hc' : Casc st v x := hc.mono (fun z hz => (mem_clear_blocked.1 hz).1) (fun _ _ => clear_Bof_sub)
          exact (Casc.step (Casc.refl hub) hv hc'.root_blocked).trans hc'
      · intro x hx hnx
        by_cases hxu : x = u
        · subst hxu
          apply eq_nil_of_forall_mem
          intro z hz
          have := hL.Bsub x z hz
          rwa [clear_Bof, if_pos rfl] at this
        · exact hL.cleared x (mem_clear_blocked.2 ⟨hx, hxu⟩) hnx
    · exact USpec.refl st u

/-! ### enough fuel: the cascade is complete -/

structure USpec2 (st : JState) (u : Nat) (st' : JState) : Prop where
  gone : u ∉ st'.blocked
  closure : ∀ w, w ∈ st.blocked → w ∉ st'.blocked → ∀ x ∈ st.Bof w, x ∉ st'.blocked
  keep : ∀ w, w ∈ st'.blocked → st'.Bof w = st.Bof w
  nd : st'.blocked.Nodup
  len : st'.blocked.length ≤ st.blocked.length

structure USpec2L (st : JState) (l : List Nat) (st' : JState) : Prop where
  gone : ∀ v ∈ l, v ∉ st'.blocked
  closure : ∀ w, w ∈ st.blocked → w ∉ st'.blocked → ∀ x ∈ st.Bof w, x ∉ st'.blocked
  keep : ∀ w, w ∈ st'.blocked → st'.Bof w = st.Bof w
  nd : st'.blocked.Nodup
  len : st'.blocked.length ≤ st.blocked.length

theorem uspec2_fold (fuel : Nat) (f : JState → Nat → JState)
    (hf1 : ∀ st v, USpec st v (f st v))
    (hf : ∀ st v, st.blocked.Nodup → st.blocked.length < fuel → USpec2 st v (f st v)) :
    ∀ (l : List Nat) (st : JState), st.blocked.Nodup → st.blocked.length < fuel →
      USpec2L st l (l.foldl f st) := by
  intro l
  induction l with
  | nil =>
    exact fun st hnd _ => ⟨fun _ h => absurd h List.not_mem_nil, fun w hw hnw => absurd hw hnw,
      fun _ _ => rfl, hnd, Nat.le_refl _⟩
  | cons v l ih =>
    intro st hnd hlen
    have h1 := hf st v hnd hlen
    have ih := ih (f st v) h1.nd (Nat.lt_of_le_of_lt h1.len hlen)
    have mono := (uspec_fold f hf1 l (f st v)).bl
    rw [List.foldl_cons]
    refine ⟨?_, ?_, ?_, ih.nd, Nat.le_trans ih.len h1.len⟩
    · intro x hx
      rcases List.mem_cons.1 hx with rfl | hx
      · exact fun h => h1.gone (mono _ h)
      · exact ih.gone x hx
    · intro w hw hnw x hx
      by_cases hw1 : w ∈ (f st v).blocked
      · exact ih.closure w hw1 hnw x (by rw [h1.keep w hw1]; exact hx)
      · exact fun h => h1.closure w hw hw1 x hx (mono _ h)
    · intro w hw
      rw [ih.keep w hw, h1.keep w (mono _ hw)]

theorem unblock_spec2 (fuel : Nat) : ∀ (st : JState) (u : Nat), st.blocked.Nodup →
    st.blocked.length < fuel → USpec2 st u (unblock fuel st u) := by
  induction fuel with
  | zero => exact fun _ _ _ h => absurd h (Nat.not_lt_zero _)
  | succ fuel ih =>
    intro st u hnd hlen
    rw [unblock_succ]
    split
    · rename_i hb
      have hub : u ∈ st.blocked := (mem_blocked_iff st u).1 hb
      have hlt := clear_blocked_length_lt hub
      have hL := uspec2_fold fuel (unblock fuel) (unblock_spec fuel) ih (st.Bof u)
        (st.clear u) (hnd.sublist List.filter_sublist) (Nat.lt_of_lt_of_le hlt (Nat.le_of_lt_succ hlen))
      have mono := (uspec_fold (unblock fuel) (unblock_spec fuel) (st.Bof u) (st.clear u)).bl
      have hBne : ∀ w, w ≠ u → (st.clear u).Bof w = st.Bof w := fun w hw => by
        rw [clear_Bof, if_neg hw]
      refine ⟨?_, ?_, ?_, hL.nd, Nat.le_trans hL.len (Nat.le_of_lt hlt)⟩
      · intro h
        exact (mem_clear_blocked.1 (mono u h)).2 rfl
      · intro w hw hnw x hx
        by_cases hwu : w = u
        · subst hwu; exact hL.gone x hx
        · exact hL.closure w (mem_clear_blocked.2 ⟨hw, hwu⟩) hnw x (by rw [hBne w hwu]; exact hx)
      · intro w hw
        rw [hL.keep w hw, hBne w (mem_clear_blocked.1 (mono w hw)).2]
    · rename_i hb
      have hub : u ∉ st.blocked := fun h => hb ((mem_blocked_iff st u).2 h)
      exact ⟨hub, fun w hw hnw => absurd hw hnw, fun _ _ => rfl, hnd, Nat.le_refl _⟩

theorem unblock_fuel_irrel (f1 : Nat) : ∀ (f2 : Nat) (st : JState) (u : Nat), st.blocked.Nodup →
    st.blocked.length < f1 → st.blocked.length < f2 → unblock f1 st u = unblock f2 st u := by
  induction f1 with
  | zero => exact fun _ _ _ _ h _ => absurd h (Nat.not_lt_zero _)
  | succ f1 ih =>
    intro f2 st u hnd h1 h2
    obtain _ | f2 := f2
    · exact absurd h2 (Nat.not_lt_zero _)
    rw [unblock_succ, unblock_succ]
    split
    · rename_i hb
      have hlt := clear_blocked_length_lt ((mem_blocked_iff st u).1 hb)
      -- the two folds run through the same states, whose `blocked` stays duplicate-free and short
      refine (List.foldl_rel (r := fun a b => a = b ∧ a.blocked.Nodup ∧ a.blocked.length < f1 ∧
        a.blocked.length < f2) ⟨rfl, hnd.sublist List.filter_sublist,
          Nat.lt_of_lt_of_le hlt (Nat.le_of_lt_succ h1), Nat.lt_of_lt_of_le hlt (Nat.le_of_lt_succ h2)⟩ ?_).1
      rintro v _ c _ ⟨rfl, hnd', ha, hb'⟩
      have hs := unblock_spec2 f1 c v hnd' ha
      exact ⟨ih f2 c v hnd' ha hb', hs.nd, Nat.lt_of_le_of_lt hs.len ha,
        Nat.lt_of_le_of_lt hs.len hb'⟩
    · rfl

end GraafVerif.Johnson
