import GraafVerif.Proof.JohnsonTop
import GraafVerif.Proof.JohnsonEmit
/-!
# The model of `Johnson75::circuits` returns the list of the naive enumerator

Round `s` appends `closingPaths g s g.n [s] s`: `circuit` on the component of `s` appends the
enumeration of the component (`circuit_emits`), and the enumeration of the whole digraph from `s` never
leaves that component (`closingPaths_filter`: an arc out of it cannot be closed back to `s`).  The
rounds lemmas start from an ARBITRARY state satisfying `GInv2` (the per-root reset makes a round
independent of what is left in `blocked`), so every call on the same `Johnson75` value returns
`allCircuits g` (`call_eq_allCircuits`, `repeat_eq_allCircuits`).

What the loop needs from Tarjan is that every emitted component is a strongly connected component
(`tarjan_isSCC`); `TarjanCovers g` is that fact in terms of circuits.
-/
namespace GraafVerif.Johnson
open GraafVerif

def TarjanCovers (g : Graph) : Prop :=
  ∀ s, s < g.n → ∀ c ∈ tarjan ((AM.ofGraph g).filter (fun u => decide (s ≤ u))), s ∈ c →
    ∀ circ, IsCanonicalElemCircuit g circ → circ.head? = some s → ∀ x ∈ circ, x ∈ c

/-- A canonical circuit from `s` is one of the subdigraph on the vertices `≥ s`, where its vertices reach
each other (`canonical_mutual`). -/
theorem tarjanCovers (g : Graph) (hwf : g.WF) : TarjanCovers g := by
  intro s hs c hc hsc circ hcirc hhead x hx
  obtain ⟨s', rest, rfl, hne, hnd, hwalk, hclose, hgt⟩ := hcirc
  obtain rfl : s' = s := Option.some.inj hhead
  have hall : ∀ y ∈ s' :: rest, (fun u => decide (s' ≤ u)) y = true := fun y hy =>
    decide_eq_true ((List.mem_cons.1 hy).elim (fun e => e ▸ Nat.le_refl _) fun hy => Nat.le_of_lt (hgt y hy))
  have hsub : IsCanonicalElemCircuit ((AM.ofGraph g).filter (fun u => decide (s' ≤ u))).gr (s' :: rest) :=
    ⟨s', rest, rfl, hne, hnd, isWalk_filter _ ((AM.gr_ofGraph g).symm ▸ hwalk) hall,
      show s' ∈ ((AM.ofGraph g).filter (fun u => decide (s' ≤ u))).out _ from
        mem_filter_out.2 ⟨hall _ (List.getLast_mem _), hclose, hall s' List.mem_cons_self⟩, hgt⟩
  have hm := canonical_mutual hsub
  exact (tarjan_isSCC _ (filter_closed (ofGraph_closed hwf) _) c hc).2 s' hsc x
    (AM.vreach_vg.2 (hm s' List.mem_cons_self x hx)) (AM.vreach_vg.2 (hm x hx s' List.mem_cons_self))

theorem flatMap_filter_of_dead {α β : Type} (p : α → Bool) (f f' : α → List β) :
    ∀ (l : List α), (∀ x ∈ l, (p x = true → f x = f' x) ∧ (p x = false → f' x = [])) →
      (l.filter p).flatMap f = l.flatMap f'
  | [], _ => rfl
  | x :: l, h => by
    have ih := flatMap_filter_of_dead p f f' l fun y hy => h y (List.mem_cons_of_mem _ hy)
    obtain ⟨h1, h2⟩ := h x List.mem_cons_self
    cases hp : p x with
    | true => rw [List.filter_cons_of_pos hp, List.flatMap_cons, List.flatMap_cons, ih, h1 hp]
    | false => rw [List.filter_cons_of_neg (by simp [hp]), List.flatMap_cons, ih, h2 hp, List.nil_append]

theorem closingPaths_filter {a : AM} {s : Nat} {m : List Nat} (hs : s ∈ m) (hge : ∀ x ∈ m, s ≤ x)
    (hscc : Tarjan.IsSCC (a.filter (fun u => decide (s ≤ u))).vg m) :
    ∀ (F : Nat) (path : List Nat) (v : Nat), v ∈ m →
      closingPaths (a.filter (fun u => m.contains u)).gr s F path v = closingPaths a.gr s F path v := by
  intro F
  induction F with
  | zero => exact fun _ _ _ => rfl
  | succ F ih =>
    intro path v hv
    have hvm : m.contains v = true := List.contains_iff_mem.2 hv
    rw [closingPaths_succ, closingPaths_succ]
    show (if m.contains v = true then (a.out v).filter (fun u => m.contains u) else []).flatMap _ = _
    rw [if_pos hvm]
    refine flatMap_filter_of_dead _ _ _ _ fun w hw => ⟨fun hp => ?_, fun hp => ?_⟩
    · unfold branch
      rw [ih _ w (List.contains_iff_mem.1 hp)]
    · have hwm : w ∉ m := fun h => by rw [List.contains_iff_mem.2 h] at hp; cases hp
      refine List.eq_nil_iff_forall_not_mem.2 fun c hc => hwm ?_
      rcases mem_branch.1 hc with ⟨e, _, _⟩ | ⟨_, hsw, _, hc⟩
      · exact absurd (e ▸ hs) hwm
      · obtain ⟨ext, _, _, he⟩ := mem_closingPaths.1 hc
        -- `s ⇝ v → w ⇝ s` inside the subdigraph: `w` lies in the component of `s`
        have hall : ∀ y ∈ w :: ext, (fun u => decide (s ≤ u)) y = true := fun y hy =>
          decide_eq_true ((List.mem_cons.1 hy).elim (fun e => e ▸ Nat.le_of_lt hsw)
            fun hy => Nat.le_of_lt (he.gt y hy))
        have hback : IsWalk (a.filter (fun u => decide (s ≤ u))).gr ((w :: ext) ++ [s]) :=
          OracleProof.isWalk_snoc.2 ⟨isWalk_filter _ he.walk hall, fun y hy => by
            cases (List.getLast?_eq_some_getLast (List.cons_ne_nil w ext)).symm.trans hy
            exact (mem_filter_out (p := fun u => decide (s ≤ u))).2
              ⟨hall _ (List.getLast_mem _), he.close, decide_eq_true (Nat.le_refl s)⟩⟩
        exact hscc.2 s hs w (Reach.step (hscc.1 s hs v hv)
          (show w ∈ (a.filter (fun u => decide (s ≤ u))).out v from
            mem_filter_out.2 ⟨decide_eq_true (hge v hv), hw, hall w List.mem_cons_self⟩))
          (AM.vreach_vg.2 (OracleProof.isWalk_reach hback s (List.mem_append_right _ (List.mem_singleton_self s))))

/-- Invariant between rounds: `GInv`, and `blocked` and the B-lists have the shape `Inv2` asks for. -/
structure GInv2 (g : Graph) (st : JState) : Prop where
  ginv : GInv st
  bnd : st.blocked.Nodup
  blt : ∀ x ∈ st.blocked, x < g.n
  blen : st.B.length = g.n

theorem GInv2.new (g : Graph) : GInv2 g (JState.new (AM.ofGraph g)) :=
  ⟨GInv.new _, List.nodup_nil, fun _ hx => absurd hx List.not_mem_nil,
    (List.length_replicate ..).trans (ofGraph_order g)⟩

theorem GInv2.reset_result {g : Graph} {st : JState} (h : GInv2 g st) :
    GInv2 g { st with result := [] } :=
  ⟨⟨h.ginv.i1, h.ginv.stack⟩, h.bnd, h.blt, h.blen⟩

theorem round_emits (g : Graph) (hwf : g.WF) (hloops : NoLoops g)
    (s : Nat) (hs : s < g.n) (st : JState) (hst : GInv2 g st) :
    GInv2 g (circuitsStep (AM.ofGraph g) st s) ∧
      (circuitsStep (AM.ofGraph g) st s).result = st.result ++ closingPaths g s g.n [s] s := by
  obtain ⟨m, hmem, hsm, hge, hshape⟩ := round_shape (ofGraph_closed hwf) (mem_ofGraph_verts.2 hs) st
  rw [hshape]
  have hpre : RoundPre _ s ((AM.ofGraph g).order + 1) (resetFor _ st) :=
    round_pre (filter_closed (ofGraph_closed hwf) fun u => m.contains u)
      (mem_filter_verts.2 ⟨mem_ofGraph_verts.2 hs, List.contains_iff_mem.2 hsm⟩)
      (Nat.le_succ_of_le (filter_order_le _ _)) hst.ginv
  have hscc := tarjan_isSCC _ (filter_closed (ofGraph_closed hwf) _) m hmem
  have hcp := closingPaths_filter hsm hge hscc g.n [s] s hsm
  rw [AM.gr_ofGraph] at hcp
  rw [← hcp]
  generalize hcomp : (AM.ofGraph g).filter (fun u => m.contains u) = comp at hpre ⊢
  have hR := resetFor_spec comp.verts st
  have hvm : ∀ x ∈ comp.verts, x < g.n ∧ x ∈ m := fun x hx => by
    rw [← hcomp] at hx
    exact ⟨mem_ofGraph_verts.1 (mem_filter_verts.1 hx).1, List.contains_iff_mem.1 (mem_filter_verts.1 hx).2⟩
  -- a vertex that is still blocked after the reset lies outside the component: it has no arcs
  have hinv20 : Inv2 comp s g.n (resetFor comp.verts st) := by
    refine ⟨?_, hR.nd hst.bnd, fun x hx => hst.blt x (hR.bl x hx).1, hR.blen.trans hst.blen⟩
    intro x hx _ w hw
    obtain ⟨hxb, hxv⟩ := hR.bl x hx
    rw [← hcomp] at hw hxv
    exact absurd (mem_filter_verts.2 ⟨mem_ofGraph_verts.2 (hst.blt x hxb), (mem_filter_out.1 hw).1⟩) hxv
  have hP := hpre.post ((AM.ofGraph g).order + 1)
  have hE := circuit_emits comp s g.n ((AM.ofGraph g).order + 1)
    (Nat.lt_succ_of_le (Nat.le_of_eq (ofGraph_order g).symm)) hpre.closed (fun x hx => hge x (hvm x hx).2)
    (fun h => hloops s (by rw [← hcomp] at h; exact (mem_filter_out.1 h).2.1)) (fun x hx => (hvm x hx).1)
    ((AM.ofGraph g).order + 1) (resetFor comp.verts st) s (Inv.of_ginv hpre.ginv comp) hinv20 hpre.free
    hpre.vert (by rw [hpre.ginv.stack]; rfl) (by rw [hpre.ginv.stack]; exact hpre.fuel)
  exact ⟨⟨⟨hP.inv.i1, hP.stack.trans hpre.ginv.stack⟩, hE.inv2.bnd, hE.inv2.blt, hE.inv2.blen⟩,
    by rw [hE.res, hR.result, hpre.ginv.stack]; rfl⟩

theorem rounds_emit (g : Graph) (hwf : g.WF) (hloops : NoLoops g) :
    ∀ (ss : List Nat) (st : JState), (∀ s ∈ ss, s < g.n) → GInv2 g st →
      GInv2 g (ss.foldl (circuitsStep (AM.ofGraph g)) st) ∧
        (ss.foldl (circuitsStep (AM.ofGraph g)) st).result =
          st.result ++ ss.flatMap (fun s => closingPaths g s g.n [s] s)
  | [], st, _, h => ⟨h, (List.append_nil _).symm⟩
  | s :: ss, st, hlt, h => by
    obtain ⟨h1, e1⟩ := round_emits g hwf hloops s (hlt s List.mem_cons_self) st h
    obtain ⟨h2, e2⟩ := rounds_emit g hwf hloops ss _ (fun x hx => hlt x (List.mem_cons_of_mem _ hx)) h1
    exact ⟨h2, by rw [List.foldl_cons, e2, e1, List.append_assoc, List.flatMap_cons]⟩

theorem call_eq_allCircuits (g : Graph) (hwf : g.WF) (hloops : NoLoops g)
    (st : JState) (hst : GInv2 g st) :
    GInv2 g (circuitsCall (AM.ofGraph g) st) ∧ (circuitsCall (AM.ofGraph g) st).result = allCircuits g :=
  rounds_emit g hwf hloops _ { st with result := [] } (fun _ hx => List.mem_range.1 hx)
    hst.reset_result

/-- The model of `Johnson75::circuits` returns the enumerator's list, in the enumerator's order. -/
theorem circuits_eq_allCircuits (g : Graph) (hwf : g.WF) (hloops : NoLoops g) :
    circuits g = allCircuits g :=
  (call_eq_allCircuits g hwf hloops _ (GInv2.new g)).2

theorem repeat_eq_allCircuits (g : Graph) (hwf : g.WF) (hloops : NoLoops g) :
    ∀ (k : Nat) (st : JState), GInv2 g st → ∀ out ∈ circuitsRepeat (AM.ofGraph g) k st, out = allCircuits g
  | 0, _, _, _, h => absurd h List.not_mem_nil
  | k+1, st, hst, out, h => by
    have hc := call_eq_allCircuits g hwf hloops st hst
    rcases List.mem_cons.1 h with rfl | h
    · exact hc.2
    · exact repeat_eq_allCircuits g hwf hloops k _ hc.1 out h

theorem circuitsRepeat_length (a : AM) : ∀ (k : Nat) (st : JState), (circuitsRepeat a k st).length = k
  | 0, _ => rfl
  | k+1, st => by simp [circuitsRepeat, circuitsRepeat_length a k]

theorem circuitsAM_eq_call (a : AM) : circuitsAM a = (circuitsCall a (JState.new a)).result := rfl

end GraafVerif.Johnson
