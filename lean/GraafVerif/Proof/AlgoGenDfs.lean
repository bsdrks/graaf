import GraafVerif.Model.AlgoGen
import GraafVerif.Proof.AlgoGenRt
import GraafVerif.Proof.AlgoGenPredTree
import GraafVerif.Model.Dfs
/-!
# Generated `Dfs`, `DfsDist`, `DfsPred` (`Model/AlgoGen.lean`) = hand-written `Model/Dfs.lean`

The hand-written model keeps the `Vec` used as stack as a list whose HEAD is the top and stores
entries as `(vertex, payload)`; the generated structures keep the vector in index order (`push`
appends, `pop` removes the last element) with the Rust entries.  `toH`/`ofH` (reverse + entry
conversion) are mutually inverse (`DfsConv`); the loop bodies, the same for the three iterators, are
evaluated once over the structure.  `new` and `next` are equal to the hand-written functions for
EVERY state (the `assert!` in front of each `*visited_ptr.add(·)` excludes `ub`);
`DfsPred::predecessors` needs `visited.len() = digraph.order()` (what `new` establishes).
-/
namespace GraafVerif.AlgoGenThm
open GraafVerif GraafVerif.AlgoGen

/-- `Iterator::next` of the hand-written model as a call result (`self0`: the state before). -/
def liftNext {α ι S : Type} (item : Nat × α → ι) (ofH : Dfs.St α → S) (self0 : S) : Dfs.Next α → Res (Option ι × S)
  | .done => .ok (none, self0)
  | .panic => .error (.fault .panic)
  | .stale st => .ok (none, ofH st)
  | .item x st => .ok (some (item x), ofH st)

/-- `none` of the hand-written `pushAll` is a failed `assert!`. -/
def liftO {α β ρ σ : Type} (f : α → σ) : Option α → Blk β ρ σ
  | none => .error (.err (.fault .panic))
  | some a => .ok (f a)

/-- The push loop of `next`, for any structure isomorphic to the hand-written state. -/
theorem pushAll_generic {α S ρ : Type} (toH : S → Dfs.St α) (ofH : Dfs.St α → S)
    (h2 : ∀ st, toH (ofH st) = st) (body : S → Nat → Blk S ρ S) (c : α) (order : Nat)
    (hbody : ∀ s v, (toH s).visited.length = order → body s v =
      if v < order then .ok (ofH ⟨if Dfs.isVis (toH s).visited v then (toH s).stack else (v, c) :: (toH s).stack, (toH s).visited⟩)
      else .error (.err (.fault .panic))) :
    ∀ (vs : List Nat) (stk : List (Nat × α)) (vis : List Bool), vis.length = order →
      (forLoop body vs (ofH ⟨stk, vis⟩) : Blk Empty ρ S) =
        liftO (fun stk' => ofH ⟨stk', vis⟩) (Dfs.pushAll order vis c vs stk) := by
  intro vs
  induction vs with
  | nil =>
    intro stk vis _
    rfl
  | cons v vs ih =>
    intro stk vis hlen
    rw [forLoop_cons, hbody _ v (by rw [h2]; exact hlen), h2, Dfs.pushAll]
    by_cases hv : v < order
    · rw [if_pos hv, if_pos hv]
      exact ih _ vis hlen
    · rw [if_neg hv, if_neg hv]
      rfl

/-! ### The three iterators are one body: what differs is the structure (`mk stack visited`), the
site strings and the stack entry (`enc (vertex, payload)`).  The lemmas below take the emitted
do-block as a hypothesis; for every variant it holds by `rfl`. -/

/-- The generated structure `mk stack visited` (the `Vec` in index order) and its conversions to
and from the hand-written state (head = top). -/
structure DfsConv {α ι S : Type} (enc : Nat × α → ι) (mk : List ι → List Bool → S)
    (toH : S → Dfs.St α) (ofH : Dfs.St α → S) : Prop where
  ofH_eq : ∀ st, ofH st = mk (st.stack.reverse.map enc) st.visited
  ofH_toH : ∀ s, ofH (toH s) = s
  toH_ofH : ∀ st, toH (ofH st) = st

section variants
variable {α ι S ρ β : Type} {enc : Nat × α → ι} {mk : List ι → List Bool → S}
  {toH : S → Dfs.St α} {ofH : Dfs.St α → S} (cv : DfsConv enc mk toH ofH)
include cv

/-- `assert!(v < order); if !visited[v] { stack.push(enc (v, c)) }` -/
theorem push_step {site : String} {c : α} {order : Nat} {body : S → Nat → Blk β ρ S}
    (hbody : ∀ stk vis v, body (mk stk vis) v = do
      assert (decide (v < order))
      let t3 ← rd site vis v
      if t3 = false then pure (mk (stk ++ [enc (v, c)]) vis) else pure (mk stk vis))
    (s : S) (v : Nat) (hlen : (toH s).visited.length = order) :
    body s v =
      if v < order then .ok (ofH ⟨if Dfs.isVis (toH s).visited v then (toH s).stack else (v, c) :: (toH s).stack, (toH s).visited⟩)
      else .error (.err (.fault .panic)) := by
  generalize hst : toH s = st at hlen ⊢
  obtain rfl : s = mk (st.stack.reverse.map enc) st.visited := by rw [← cv.ofH_eq, ← hst, cv.ofH_toH]
  subst hlen
  rw [hbody, assert_bind]
  by_cases hv : v < st.visited.length
  · rw [if_pos hv, if_pos hv, rd_lt site _ v hv, Dfs.isVis, List.getElem?_eq_getElem hv, cv.ofH_eq]
    cases st.visited[v] with
    | true => rfl
    | false =>
      show _ = Except.ok (mk (List.map enc ((v, c) :: st.stack).reverse) st.visited)
      rw [List.reverse_cons, List.map_append]
      rfl
  · rw [if_neg hv, if_neg hv]

/-- `next` on a converted state: `pop()?`, the `assert!`, the early `return None` on a visited
vertex, the push loop, `Some(entry)`.  `vtx` reads the vertex of an entry. -/
theorem next_ofH_generic (g : Graph) (child : Nat → α → α) {next : S → Res (Option ι × S)} {site : String}
    (vtx : ι → Nat) (hvtx : ∀ x, vtx (enc x) = x.1) (body : ι → Nat → S → Nat → Blk S (Option ι × S) S)
    (hnil : ∀ vis, next (mk [] vis) = .ok (none, mk [] vis))
    (hsnoc : ∀ q it vis, next (mk (q ++ [it]) vis) = fnBody (do
      assert (decide (vtx it < vis.length))
      let t1 ← rd site vis (vtx it)
      if t1 = true then ret (none, mk q vis) else do
        let t2 ← wr site vis (vtx it) true
        let self ← forLoop (body it vis.length) (g.out (vtx it)) (mk q t2)
        pure (some it, self)))
    (hpush : ∀ x order vs stk vis, vis.length = order →
      (forLoop (body (enc x) order) vs (ofH ⟨stk, vis⟩) : Blk Empty _ _) =
        liftO (fun stk' => ofH ⟨stk', vis⟩) (Dfs.pushAll order vis (child x.1 x.2) vs stk))
    (st : Dfs.St α) : next (ofH st) = liftNext enc ofH (ofH st) (Dfs.next g child st) := by
  obtain ⟨stk, vis⟩ := st
  rw [cv.ofH_eq, Dfs.next]
  cases stk with
  | nil => exact hnil vis
  | cons x rest =>
    dsimp only
    rw [List.reverse_cons, List.map_append, List.map_cons, List.map_nil, hsnoc, hvtx, assert_bind]
    by_cases hu : x.1 < vis.length
    · rw [if_pos hu, if_pos hu, rd_lt site vis x.1 hu, Dfs.isVis, List.getElem?_eq_getElem hu]
      cases vis[x.1] with
      | true => exact congrArg (fun s => Except.ok (none, s)) (cv.ofH_eq ⟨rest, vis⟩).symm
      | false =>
        have h := hpush x vis.length (g.out x.1) rest (vis.set x.1 true) List.length_set
        rw [cv.ofH_eq] at h
        simp only [ok_bind, Bool.false_eq_true, if_false, wr_lt site vis x.1 true hu, h, Option.getD_some,
          List.length_set]
        cases Dfs.pushAll vis.length (vis.set x.1 true) (child x.1 x.2) (g.out x.1) rest with
        | none => rfl
        | some stk' => rfl
    · rw [if_neg hu, if_neg hu]
      rfl

end variants

/-- The items of the generated iterator are the items of the hand-written `run` (which stops at
the first `None`: empty stack or stale entry). -/
theorem dfs_collect_generic {α ι S : Type} (item : Nat × α → ι) (toH : S → Dfs.St α) (ofH : Dfs.St α → S)
    (h2 : ∀ st, toH (ofH st) = st) (next : S → Res (Option ι × S)) (g : Graph) (child : Nat → α → α)
    (hnext : ∀ s, next s = liftNext item ofH s (Dfs.next g child (toH s))) :
    ∀ (fuel : Nat) (s : S), Except.map Prod.fst (collect next fuel s) =
      if (Dfs.run g child fuel (toH s)).ending = .panic then .error (.fault .panic)
      else .ok ((Dfs.run g child fuel (toH s)).items.map item) := by
  intro fuel
  induction fuel with
  | zero =>
    intro s
    rfl
  | succ fuel ih =>
    intro s
    have hn := hnext s
    rw [Dfs.run]
    cases hb : Dfs.next g child (toH s) with
    | done =>
      rw [collect, hn, hb]
      rfl
    | panic =>
      rw [collect, hn, hb]
      rfl
    | stale st =>
      rw [collect, hn, hb]
      rfl
    | item x st =>
      rw [hb] at hn
      rw [map_fst_collect_succ next fuel s (ofH st) (item x) hn, ih, h2]
      show _ = if (Dfs.run g child fuel st).ending = .panic then _ else _
      by_cases hp : (Dfs.run g child fuel st).ending = .panic
      · rw [if_pos hp, if_pos hp]
        rfl
      · rw [if_neg hp, if_neg hp]
        rfl

/-- Every item the hand-written `next` yields is below `visited.len()`, which `next` preserves. -/
theorem dfs_next_len {α : Type} (g : Graph) (child : Nat → α → α) (st : Dfs.St α) :
    match Dfs.next g child st with
    | .item x st' => x.1 < st.visited.length ∧ st'.visited.length = st.visited.length
    | .stale st' => st'.visited.length = st.visited.length
    | _ => True := by
  obtain ⟨stk, vis⟩ := st
  unfold Dfs.next
  cases stk with
  | nil => trivial
  | cons it rest =>
    obtain ⟨u, a⟩ := it
    by_cases hu : u < vis.length
    · simp only [if_pos hu]
      by_cases hv : Dfs.isVis vis u = true
      · simp only [if_pos hv]
      · simp only [if_neg hv]
        cases Dfs.pushAll (vis.set u true).length (vis.set u true) (child u a) (g.out u) rest with
        | none => trivial
        | some stk => exact ⟨hu, List.length_set⟩
    · simp only [if_neg hu]

theorem dfs_next_inv_generic {α ι S : Type} (item : Nat × α → ι) (toH : S → Dfs.St α) (ofH : Dfs.St α → S)
    (h2 : ∀ st, toH (ofH st) = st) (next : S → Res (Option ι × S)) (g : Graph) (child : Nat → α → α)
    (hnext : ∀ s, next s = liftNext item ofH s (Dfs.next g child (toH s)))
    (n : Nat) (s s' : S) (y : ι) (h : (toH s).visited.length = n) (e : next s = .ok (some y, s')) :
    (toH s').visited.length = n ∧ ∃ x : Nat × α, y = item x ∧ x.1 < n := by
  rw [hnext s] at e
  have hl := dfs_next_len g child (toH s)
  cases hn : Dfs.next g child (toH s) with
  | done =>
    rw [hn] at e
    cases e
  | panic =>
    rw [hn] at e
    cases e
  | stale st =>
    rw [hn] at e
    cases e
  | item x st =>
    rw [hn] at e hl
    cases e
    rw [h2, hl.2, ← h]
    exact ⟨rfl, x, rfl, hl.1⟩

namespace Dfs

def toH (s : AlgoGen.Dfs) : GraafVerif.Dfs.St Unit := ⟨(s.stack.map (fun u => (u, ()))).reverse, s.visited⟩
def ofH (st : GraafVerif.Dfs.St Unit) : AlgoGen.Dfs := ⟨st.stack.reverse.map (·.1), st.visited⟩

theorem ofH_toH (s : AlgoGen.Dfs) : ofH (toH s) = s := by
  cases s; simp [ofH, toH, Function.comp_def]
theorem toH_ofH (st : GraafVerif.Dfs.St Unit) : toH (ofH st) = st := by
  cases st; simp [ofH, toH, Function.comp_def]

theorem conv : DfsConv (·.1) AlgoGen.Dfs.mk toH ofH := ⟨fun _ => rfl, ofH_toH, toH_ofH⟩

/-- `Dfs::new` = the hand-written `Dfs.new`: `stack: sources.collect()`, `visited: vec![false; order]`. -/
theorem new_eq (g : Graph) (S : List Nat) : AlgoGen.Dfs.new g S = .ok (ofH (GraafVerif.Dfs.new g S ())) := by
  unfold AlgoGen.Dfs.new GraafVerif.Dfs.new
  simp [ofH, Function.comp_def]

theorem next_for0_step (order : Nat) (s : AlgoGen.Dfs) (v : Nat) (hlen : (toH s).visited.length = order) :
    (AlgoGen.Dfs.next_for0 order s v : Blk _ (Option Nat × AlgoGen.Dfs) _) =
      if v < order then .ok (ofH ⟨if GraafVerif.Dfs.isVis (toH s).visited v then (toH s).stack else (v, ()) :: (toH s).stack, (toH s).visited⟩)
      else .error (.err (.fault .panic)) :=
  push_step conv (fun _ _ _ => rfl) s v hlen

/-- `for v in out_neighbors(u) { assert!(v < order); if !visited[v] { stack.push(v) } }` -/
theorem next_for0_eq (order : Nat) (vs : List Nat) (stk : List (Nat × Unit)) (vis : List Bool) (hlen : vis.length = order) :
    (forLoop (AlgoGen.Dfs.next_for0 order) vs (ofH ⟨stk, vis⟩) : Blk Empty (Option Nat × AlgoGen.Dfs) _) =
      liftO (fun stk' => ofH ⟨stk', vis⟩) (GraafVerif.Dfs.pushAll order vis () vs stk) :=
  pushAll_generic toH ofH toH_ofH _ () order (next_for0_step order) vs stk vis hlen

/-- `Iterator::next` of `Dfs` = the hand-written `Dfs.next` (payload `Unit`), for all states —
including the early `return None` on a stale entry (outcome `.stale`). -/
theorem next_eq_ofH (g : Graph) (st : GraafVerif.Dfs.St Unit) :
    AlgoGen.Dfs.next g (ofH st) = liftNext (·.1) ofH (ofH st) (GraafVerif.Dfs.next g GraafVerif.Dfs.childU st) :=
  next_ofH_generic conv g GraafVerif.Dfs.childU (fun u => u) (fun _ => rfl) (fun _ order => AlgoGen.Dfs.next_for0 order)
    (fun _ => rfl) (fun q it vis => by rw [AlgoGen.Dfs.next, vecPop_snoc]) (fun _ order => next_for0_eq order) st

theorem next_eq (g : Graph) (s : AlgoGen.Dfs) :
    AlgoGen.Dfs.next g s = liftNext (·.1) ofH s (GraafVerif.Dfs.next g GraafVerif.Dfs.childU (toH s)) := by
  have h := next_eq_ofH g (toH s)
  rwa [ofH_toH] at h

end Dfs

namespace DfsDist

def toH (s : AlgoGen.DfsDist) : GraafVerif.Dfs.St Nat := ⟨s.stack.reverse, s.visited⟩
def ofH (st : GraafVerif.Dfs.St Nat) : AlgoGen.DfsDist := ⟨st.stack.reverse, st.visited⟩

theorem ofH_toH (s : AlgoGen.DfsDist) : ofH (toH s) = s := by
  cases s; simp [ofH, toH]
theorem toH_ofH (st : GraafVerif.Dfs.St Nat) : toH (ofH st) = st := by
  cases st; simp [ofH, toH]

theorem conv : DfsConv id AlgoGen.DfsDist.mk toH ofH :=
  ⟨fun st => congrArg (AlgoGen.DfsDist.mk · st.visited) (List.map_id _).symm, ofH_toH, toH_ofH⟩

theorem new_eq (g : Graph) (S : List Nat) : AlgoGen.DfsDist.new g S = .ok (ofH (GraafVerif.Dfs.new g S 0)) := by
  unfold AlgoGen.DfsDist.new GraafVerif.Dfs.new
  simp [ofH]

theorem next_for0_step (order w : Nat) (s : AlgoGen.DfsDist) (v : Nat) (hlen : (toH s).visited.length = order) :
    (AlgoGen.DfsDist.next_for0 order w s v : Blk _ (Option (Nat × Nat) × AlgoGen.DfsDist) _) =
      if v < order then .ok (ofH ⟨if GraafVerif.Dfs.isVis (toH s).visited v then (toH s).stack else (v, w) :: (toH s).stack, (toH s).visited⟩)
      else .error (.err (.fault .panic)) :=
  push_step conv (fun _ _ _ => rfl) s v hlen

theorem next_for0_eq (order w : Nat) (vs : List Nat) (stk : List (Nat × Nat)) (vis : List Bool) (hlen : vis.length = order) :
    (forLoop (AlgoGen.DfsDist.next_for0 order w) vs (ofH ⟨stk, vis⟩) : Blk Empty (Option (Nat × Nat) × AlgoGen.DfsDist) _) =
      liftO (fun stk' => ofH ⟨stk', vis⟩) (GraafVerif.Dfs.pushAll order vis w vs stk) :=
  pushAll_generic toH ofH toH_ofH _ w order (next_for0_step order w) vs stk vis hlen

theorem next_eq_ofH (g : Graph) (st : GraafVerif.Dfs.St Nat) :
    AlgoGen.DfsDist.next g (ofH st) = liftNext id ofH (ofH st) (GraafVerif.Dfs.next g GraafVerif.Dfs.childD st) :=
  next_ofH_generic conv g GraafVerif.Dfs.childD (·.1) (fun _ => rfl)
    (fun it order => AlgoGen.DfsDist.next_for0 order (it.2 + 1)) (fun _ => rfl)
    (fun q it vis => by rw [AlgoGen.DfsDist.next, vecPop_snoc])
    (fun x order => next_for0_eq order (x.2 + 1)) st

theorem next_eq (g : Graph) (s : AlgoGen.DfsDist) :
    AlgoGen.DfsDist.next g s = liftNext id ofH s (GraafVerif.Dfs.next g GraafVerif.Dfs.childD (toH s)) := by
  have h := next_eq_ofH g (toH s)
  rwa [ofH_toH] at h

end DfsDist

namespace DfsPred

/-- Rust entry `(pred, v)` ↔ hand-written entry `(v, pred)`. -/
def sw (x : Nat × Option Nat) : Option Nat × Nat := (x.2, x.1)
def ws (y : Option Nat × Nat) : Nat × Option Nat := (y.2, y.1)

def toH (s : AlgoGen.DfsPred) : GraafVerif.Dfs.St (Option Nat) := ⟨(s.stack.map ws).reverse, s.visited⟩
def ofH (st : GraafVerif.Dfs.St (Option Nat)) : AlgoGen.DfsPred := ⟨st.stack.reverse.map sw, st.visited⟩

theorem ofH_toH (s : AlgoGen.DfsPred) : ofH (toH s) = s := by
  cases s; simp [ofH, toH, Function.comp_def, sw, ws]
theorem toH_ofH (st : GraafVerif.Dfs.St (Option Nat)) : toH (ofH st) = st := by
  cases st; simp [ofH, toH, Function.comp_def, sw, ws]

theorem conv : DfsConv sw AlgoGen.DfsPred.mk toH ofH := ⟨fun _ => rfl, ofH_toH, toH_ofH⟩

theorem new_eq (g : Graph) (S : List Nat) : AlgoGen.DfsPred.new g S = .ok (ofH (GraafVerif.Dfs.new g S none)) := by
  unfold AlgoGen.DfsPred.new GraafVerif.Dfs.new
  simp [ofH, Function.comp_def, sw]

theorem next_for0_step (v order : Nat) (s : AlgoGen.DfsPred) (x : Nat) (hlen : (toH s).visited.length = order) :
    (AlgoGen.DfsPred.next_for0 v order s x : Blk _ (Option (Option Nat × Nat) × AlgoGen.DfsPred) _) =
      if x < order then .ok (ofH ⟨if GraafVerif.Dfs.isVis (toH s).visited x then (toH s).stack else (x, some v) :: (toH s).stack, (toH s).visited⟩)
      else .error (.err (.fault .panic)) :=
  push_step conv (fun _ _ _ => rfl) s x hlen

theorem next_for0_eq (v order : Nat) (xs : List Nat) (stk : List (Nat × Option Nat)) (vis : List Bool) (hlen : vis.length = order) :
    (forLoop (AlgoGen.DfsPred.next_for0 v order) xs (ofH ⟨stk, vis⟩) : Blk Empty (Option (Option Nat × Nat) × AlgoGen.DfsPred) _) =
      liftO (fun stk' => ofH ⟨stk', vis⟩) (GraafVerif.Dfs.pushAll order vis (some v) xs stk) :=
  pushAll_generic toH ofH toH_ofH _ (some v) order (next_for0_step v order) xs stk vis hlen

theorem next_eq_ofH (g : Graph) (st : GraafVerif.Dfs.St (Option Nat)) :
    AlgoGen.DfsPred.next g (ofH st) = liftNext sw ofH (ofH st) (GraafVerif.Dfs.next g GraafVerif.Dfs.childP st) :=
  next_ofH_generic conv g GraafVerif.Dfs.childP (·.2) (fun _ => rfl)
    (fun it order => AlgoGen.DfsPred.next_for0 it.2 order) (fun _ => rfl)
    (fun q it vis => by rw [AlgoGen.DfsPred.next, vecPop_snoc])
    (fun x order => next_for0_eq x.1 order) st

theorem next_eq (g : Graph) (s : AlgoGen.DfsPred) :
    AlgoGen.DfsPred.next g s = liftNext sw ofH s (GraafVerif.Dfs.next g GraafVerif.Dfs.childP (toH s)) := by
  have h := next_eq_ofH g (toH s)
  rwa [ofH_toH] at h

/-- `unsafe { *pred_ptr.add(v) = u }` in `predecessors` -/
theorem predecessors_for0_eq (t : AlgoGen.PredecessorTree) (y : Option Nat × Nat) (h : y.2 < t.pred.length) :
    (AlgoGen.DfsPred.predecessors_for0 t y : Blk _ (AlgoGen.PredecessorTree × AlgoGen.DfsPred) _) =
      .ok ⟨t.pred.set y.2 y.1⟩ :=
  (congrArg (fun r => r >>= fun t1 => pure (⟨t1⟩ : AlgoGen.PredecessorTree)) (wr_lt _ t.pred y.2 y.1 h)).trans rfl

theorem foldl_pred (xs : List (Nat × Option Nat)) : ∀ (t : AlgoGen.PredecessorTree),
    ((xs.map sw).foldl (fun (t : AlgoGen.PredecessorTree) (y : Option Nat × Nat) => (⟨t.pred.set y.2 y.1⟩ : AlgoGen.PredecessorTree)) t).pred =
      xs.foldl (fun p x => p.set x.1 x.2) t.pred :=
  fun t => (PredecessorTree.foldl_set_pred (xs.map sw) t).trans List.foldl_map

/-- `DfsPred::predecessors` on a state with `visited.len() = order`: `PredecessorTree::new` panics
for order 0; a failed `assert!` during the iteration is a panic; otherwise the tree is the
hand-written `predFold` of the items of `run` (the iteration as the code does it today: it stops
at the first stale entry). -/
theorem predecessors_eq (g : Graph) (fuel : Nat) (s : AlgoGen.DfsPred) (h : s.visited.length = g.n) :
    Except.map (fun r => r.1.pred) (AlgoGen.DfsPred.predecessors g fuel s) =
      if g.n = 0 then .error (.fault .panic)
      else if (GraafVerif.Dfs.run g GraafVerif.Dfs.childP fuel (toH s)).ending = .panic then .error (.fault .panic)
      else .ok (GraafVerif.Dfs.predFold g.n (GraafVerif.Dfs.run g GraafVerif.Dfs.childP fuel (toH s)).items) := by
  refine (PredecessorTree.map_fnBody_new_bind g.n _ _).trans (ite_congr rfl (fun _ => rfl) (fun _ => ?_))
  · refine (map_fst_iterLoop (AlgoGen.DfsPred.next g) AlgoGen.DfsPred.predecessors_for0
      (fun t (y : Option Nat × Nat) => (⟨t.pred.set y.2 y.1⟩ : AlgoGen.PredecessorTree))
      (fun s => (toH s).visited.length = g.n) (fun t => t.pred.length = g.n) ?_
      fuel s ⟨List.replicate g.n none⟩ h List.length_replicate (·.pred)).trans ?_
    · intro s y s' hP e
      obtain ⟨hP', x, rfl, hx⟩ := dfs_next_inv_generic sw toH ofH toH_ofH _ g _ (next_eq g) g.n s s' y hP e
      exact ⟨hP', fun acc hacc =>
        ⟨predecessors_for0_eq acc (sw x) (by rw [hacc]; exact hx), by rw [List.length_set, hacc]⟩⟩
    · rw [dfs_collect_generic sw toH ofH toH_ofH _ g _ (next_eq g)]
      by_cases hp : (GraafVerif.Dfs.run g GraafVerif.Dfs.childP fuel (toH s)).ending = .panic
      · rw [if_pos hp, if_pos hp]
        rfl
      · rw [if_neg hp, if_neg hp]
        exact congrArg Except.ok (foldl_pred _ _)

/-- `DfsPred::new(&digraph, sources).predecessors()` against the hand-written
`Dfs.predecessors g S` (which has no panic outcome: it folds whatever `run` yielded). -/
theorem new_predecessors_eq (g : Graph) (S : List Nat) :
    (AlgoGen.DfsPred.new g S >>= fun s =>
        Except.map (fun r => r.1.pred) (AlgoGen.DfsPred.predecessors g (GraafVerif.Dfs.fuel g) s)) =
      if g.n = 0 then .error (.fault .panic)
      else if (GraafVerif.Dfs.dfsPred g S).ending = .panic then .error (.fault .panic)
      else .ok (GraafVerif.Dfs.predecessors g S) := by
  rw [new_eq]
  refine (predecessors_eq g _ (ofH (GraafVerif.Dfs.new g S none)) List.length_replicate).trans ?_
  rw [toH_ofH]
  rfl

end DfsPred

end GraafVerif.AlgoGenThm
