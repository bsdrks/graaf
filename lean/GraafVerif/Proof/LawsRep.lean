import GraafVerif.Proof.LawsSpec
import GraafVerif.Thm.C11
import GraafVerif.Thm.C12
import GraafVerif.Thm.C14
/-!
# Laws — one bundle per representation, and the generic lifts

`Rep R` packages, for one representation `R`, exactly the black boxes the laws rest on:

* C02: the query record `core d` is correct for the abstract digraph `dig d` (`CoreCorrect`), `dig d` valid;
* C20/C11 canonicity: two well-formed values with the same abstract digraph are EQUAL;
* C11: `compl / conv / un` return a well-formed value whose abstract digraph is the set definition;
* C12: `UnaryStatement` (each predicate decides its definition);
* C14: `FamilySpec` (each generator realises its defining arc set), plus the reading of `Realises`
  on the abstract digraph (`real_ok`).

Every law is proved once, over an arbitrary `Rep`, from these fields and the set-level facts of `Proof/LawsSpec.lean`.
-/
namespace GraafVerif.Laws
open GraafVerif.Ops GraafVerif.Query GraafVerif.Pred GraafVerif.GenSpec GraafVerif.Gen

structure Rep (R : Type) where
  /-- the representation invariant under which the black boxes hold (for the matrix: incl. `order² < 2^64`) -/
  WF : R → Prop
  core : R → Core
  dig : R → Digraph
  core_ok : ∀ d, WF d → CoreCorrect (core d) (dig d)
  dig_valid : ∀ d, WF d → (dig d).Valid
  nonempty : ∀ d, WF d → (dig d).verts ≠ []
  canon : ∀ a b, WF a → WF b → toDG (dig a) = toDG (dig b) → a = b
  compl : R → Option R
  conv : R → Option R
  un : R → R → Option R
  compl_ok : ∀ d, WF d → C11.Ok WF (fun d => toDG (dig d)) (compl d) (specComplement (toDG (dig d)))
  conv_ok : ∀ d, WF d → C11.Ok WF (fun d => toDG (dig d)) (conv d) (specConverse (toDG (dig d)))
  un_ok : ∀ a b, WF a → WF b →
    C11.Ok WF (fun d => toDG (dig d)) (un a b) (specUnion (toDG (dig a)) (toDG (dig b)))
  isComplete : R → Option Bool
  isSemicomplete : R → Option Bool
  isTournament : R → Option Bool
  isSimple : R → Option Bool
  unary : ∀ d, WF d →
    C12.UnaryStatement (core d) (dig d) (isComplete d) (isSemicomplete d) (isTournament d) (isSimple d)
  fits : Nat → Prop
  fam : Family R
  Real : R → Nat → (Nat → Nat → Prop) → Prop
  famSpec : FamilySpec Real fits fam
  real_ok : ∀ d n P, 1 ≤ n → fits n → Real d n P →
    WF d ∧ (dig d).verts = List.range n ∧ ∀ u v, (dig d).adj u v = true ↔ P u v
  fits_of : ∀ d n, WF d → (∀ v, v ∈ (dig d).verts ↔ v < n) → fits n

namespace Rep
variable {R : Type} (M : Rep R)

def abs (d : R) : DG := toDG (M.dig d)
def order (d : R) : Nat := (M.core d).order
def vertices (d : R) : List Nat := (M.core d).vertices
def arcs (d : R) : List (Nat × Nat) := (M.core d).arcs
def size (d : R) : Nat := (M.core d).size
def isRegular (d : R) : Option Bool := Blanket.isRegular (M.core d)
def isBalanced (d : R) : Option Bool := Blanket.isBalanced (M.core d)
def isSymmetric (d : R) : Bool := Blanket.isSymmetric (M.core d)
def isOriented (d : R) : Bool := Blanket.isOriented (M.core d)
def isSubdigraph (h d : R) : Bool := Blanket.isSubdigraph (M.core h) (M.core d)
def isSuperdigraph (h d : R) : Bool := Blanket.isSuperdigraph (M.core h) (M.core d)
def isSpanningSubdigraph (h d : R) : Bool := Blanket.isSpanningSubdigraph (M.core h) (M.core d)

variable {M}

theorem abs_valid {d : R} (h : M.WF d) : (M.abs d).Valid := toDG_valid (M.dig_valid d h)

theorem eq_of_abs {a b : R} (ha : M.WF a) (hb : M.WF b) (h : M.abs a = M.abs b) : a = b := M.canon a b ha hb h

/-- canonicity, as it is used: a call whose result denotes `g` returns `d` exactly when `d` denotes `g` -/
theorem eq_some_iff {x : Option R} {g : DG} (hx : C11.Ok M.WF M.abs x g) {d : R} (hd : M.WF d) :
    x = some d ↔ M.abs d = g :=
  hx.eq_some_iff M.canon hd

theorem vertices_eq {d : R} (h : M.WF d) : M.vertices d = (M.dig d).verts := (M.core_ok d h).vertices

theorem mem_vertices {d : R} (h : M.WF d) {v : Nat} : v ∈ M.vertices d ↔ (M.abs d).V v := by
  rw [vertices_eq h]; exact Iff.rfl

theorem mem_arcs {d : R} (h : M.WF d) {u v : Nat} : (u, v) ∈ M.arcs d ↔ (M.abs d).A u v :=
  (M.core_ok d h).arcs_mem u v

theorem arcs_nil_iff {d : R} (h : M.WF d) : M.arcs d = [] ↔ Arcless (M.abs d) := by
  rw [List.eq_nil_iff_forall_not_mem]
  exact ⟨fun e u v x => e (u, v) ((mem_arcs h).mpr x), fun ha p x => ha p.1 p.2 ((mem_arcs h).mp x)⟩

theorem optb_iff {x : Option Bool} {P : Prop} (h : ∃ b, x = some b ∧ (b = true ↔ P)) : x = some true ↔ P := by
  obtain ⟨b, rfl, hb⟩ := h
  exact ⟨fun e => hb.mp (Option.some.inj e), fun p => by rw [hb.mpr p]⟩

theorem bool_eq {x y : Bool} {P Q : Prop} (hx : x = true ↔ P) (hy : y = true ↔ Q) (h : P ↔ Q) : x = y :=
  Bool.eq_iff_iff.mpr (hx.trans (h.trans hy.symm))

theorem optb_eq {x y : Option Bool} {P Q : Prop} (hx : ∃ b, x = some b ∧ (b = true ↔ P))
    (hy : ∃ b, y = some b ∧ (b = true ↔ Q)) (h : P ↔ Q) : x = y := by
  obtain ⟨b, rfl, hb⟩ := hx
  obtain ⟨c, rfl, hc⟩ := hy
  rw [bool_eq hb hc h]

theorem optb_congr {x : Option Bool} {P Q : Prop} (h : ∃ b, x = some b ∧ (b = true ↔ P)) (pq : P ↔ Q) :
    ∃ b, x = some b ∧ (b = true ↔ Q) :=
  h.imp fun _ c => ⟨c.1, c.2.trans pq⟩

theorem exB_complete {d : R} (h : M.WF d) : ∃ b, M.isComplete d = some b ∧ (b = true ↔ DGP.Complete (M.abs d)) :=
  optb_congr (M.unary d h).complete (def_iff_complete _)
theorem exB_semicomplete {d : R} (h : M.WF d) :
    ∃ b, M.isSemicomplete d = some b ∧ (b = true ↔ DGP.Semicomplete (M.abs d)) :=
  optb_congr (M.unary d h).semicomplete (def_iff_semicomplete _)
theorem exB_tournament {d : R} (h : M.WF d) :
    ∃ b, M.isTournament d = some b ∧ (b = true ↔ DGP.Tournament (M.abs d)) :=
  optb_congr (M.unary d h).tournament (def_iff_tournament _)

theorem complete_iff {d : R} (h : M.WF d) : M.isComplete d = some true ↔ DGP.Complete (M.abs d) :=
  optb_iff (exB_complete h)
theorem semicomplete_iff {d : R} (h : M.WF d) : M.isSemicomplete d = some true ↔ DGP.Semicomplete (M.abs d) :=
  optb_iff (exB_semicomplete h)
theorem tournament_iff {d : R} (h : M.WF d) : M.isTournament d = some true ↔ DGP.Tournament (M.abs d) :=
  optb_iff (exB_tournament h)
theorem symmetric_iff {d : R} (h : M.WF d) : M.isSymmetric d = true ↔ DGP.Symmetric (M.abs d) :=
  (M.unary d h).symmetric.trans (def_iff_symmetric _)
theorem oriented_iff {d : R} (h : M.WF d) : M.isOriented d = true ↔ DGP.Oriented (M.abs d) :=
  (M.unary d h).oriented.trans (def_iff_oriented _)
theorem regular_iff {d : R} (h : M.WF d) : M.isRegular d = some true ↔ Def.IsRegular (M.dig d) :=
  optb_iff (M.unary d h).regular

theorem sub_iff {h d : R} (hh : M.WF h) (hd : M.WF d) : M.isSubdigraph h d = true ↔ DGP.Sub (M.abs h) (M.abs d) :=
  (isSubdigraph_correct (M.core_ok h hh) (M.core_ok d hd) (M.dig_valid h hh)).trans (def_iff_sub _ _)
theorem super_iff {h d : R} (hh : M.WF h) (hd : M.WF d) : M.isSuperdigraph h d = true ↔ DGP.Sub (M.abs d) (M.abs h) :=
  sub_iff hd hh

theorem verts_eq_of_abs {h d : R} (hh : M.WF h) (hd : M.WF d) (e : ∀ v, (M.abs h).V v ↔ (M.abs d).V v) :
    (M.dig h).verts = (M.dig d).verts :=
  sortedS_ext (M.dig_valid h hh).sorted (M.dig_valid d hd).sorted e

theorem spanning_iff {h d : R} (hh : M.WF h) (hd : M.WF d) :
    M.isSpanningSubdigraph h d = true ↔ (∀ v, (M.abs h).V v ↔ (M.abs d).V v) ∧ ∀ u v, (M.abs h).A u v → (M.abs d).A u v := by
  refine (isSpanningSubdigraph_correct (M.core_ok h hh) (M.core_ok d hd)).trans ?_
  exact ⟨fun ⟨e, ha⟩ => ⟨fun v => by show v ∈ (M.dig h).verts ↔ v ∈ (M.dig d).verts; rw [e], ha⟩,
    fun ⟨e, ha⟩ => ⟨verts_eq_of_abs hh hd e, ha⟩⟩

theorem compl_spec {d : R} (h : M.WF d) : C11.Ok M.WF M.abs (M.compl d) (specComplement (M.abs d)) := M.compl_ok d h
theorem conv_spec {d : R} (h : M.WF d) : C11.Ok M.WF M.abs (M.conv d) (specConverse (M.abs d)) := M.conv_ok d h
theorem un_spec {a b : R} (ha : M.WF a) (hb : M.WF b) :
    C11.Ok M.WF M.abs (M.un a b) (specUnion (M.abs a) (M.abs b)) := M.un_ok a b ha hb

def GenOk (M : Rep R) (f : Option R) (n : Nat) (P : Nat → Nat → Prop) : Prop :=
  ∃ d, f = some d ∧ M.WF d ∧ IsGen (M.dig d) n P

theorem abs_gen {d : R} {n : Nat} {P : Nat → Nat → Prop} (h : IsGen (M.dig d) n P) : M.abs d = genDG n P := h.toDG_eq

theorem GenOk.ok {f : Option R} {n : Nat} {P : Nat → Nat → Prop} (h : GenOk M f n P) :
    C11.Ok M.WF M.abs f (genDG n P) := by
  obtain ⟨d, e, hd, gd⟩ := h
  exact ⟨d, e, hd, abs_gen gd⟩

theorem gen_spec {f : Option R} {n : Nat} {P : Nat → Nat → Prop} (hn : 1 ≤ n) (hf : M.fits n)
    (h : ∃ d, f = some d ∧ M.Real d n P) : GenOk M f n P := by
  obtain ⟨d, e, hr⟩ := h
  obtain ⟨hw, hv, ha⟩ := M.real_ok d n P hn hf hr
  exact ⟨d, e, hw, hv, ha⟩

theorem g_empty {n : Nat} (hn : 1 ≤ n) (hf : M.fits n) : GenOk M (M.fam.empty n) n (EmptyDef n) :=
  gen_spec hn hf (M.famSpec.1 n hn hf)
theorem g_complete {n : Nat} (hn : 1 ≤ n) (hf : M.fits n) : GenOk M (M.fam.complete n) n (CompleteDef n) :=
  gen_spec hn hf (M.famSpec.2.1 n hn hf)
theorem g_circuit {n : Nat} (hn : 1 ≤ n) (hf : M.fits n) : GenOk M (M.fam.circuit n) n (CircuitDef n) :=
  gen_spec hn hf (M.famSpec.2.2.1 n hn hf)
theorem g_cycle {n : Nat} (hn : 1 ≤ n) (hf : M.fits n) : GenOk M (M.fam.cycle n) n (CycleDef n) :=
  gen_spec hn hf (M.famSpec.2.2.2.1 n hn hf)
theorem g_path {n : Nat} (hn : 1 ≤ n) (hf : M.fits n) : GenOk M (M.fam.path n) n (PathDef n) :=
  gen_spec hn hf (M.famSpec.2.2.2.2.1 n hn hf)
theorem g_star {n : Nat} (hn : 1 ≤ n) (hf : M.fits n) : GenOk M (M.fam.star n) n (StarDef n) :=
  gen_spec hn hf (M.famSpec.2.2.2.2.2.1 n hn hf)
theorem g_wheel {n : Nat} (hn : 4 ≤ n) (hf : M.fits n) : GenOk M (M.fam.wheel n) n (WheelDef n) :=
  gen_spec (Nat.le_trans (by decide) hn) hf (M.famSpec.2.2.2.2.2.2.1 n hn hf)
theorem g_biclique {m n : Nat} (hm : 1 ≤ m) (hn : 1 ≤ n) (hf : M.fits (m + n)) :
    GenOk M (M.fam.biclique m n) (m + n) (BicliqueDef m n) :=
  gen_spec (Nat.le_trans hm (Nat.le_add_right m n)) hf (M.famSpec.2.2.2.2.2.2.2.1 m n hm hn hf)

theorem contig_facts {g : R} {n : Nat} (h : M.WF g) (hV : ∀ v, v ∈ M.vertices g ↔ v < n) :
    1 ≤ n ∧ M.fits n ∧ ∀ v, (M.abs g).V v ↔ v < n := by
  have hV' : ∀ v, v ∈ (M.dig g).verts ↔ v < n := fun v => by rw [← vertices_eq h]; exact hV v
  refine ⟨?_, M.fits_of g n h hV', hV'⟩
  obtain ⟨x, hx⟩ := List.exists_mem_of_ne_nil _ (M.nonempty g h)
  exact Nat.lt_of_le_of_lt (Nat.zero_le x) ((hV' x).mp hx)

/-! ## involutions, union -/

theorem complement_involutive {d : R} (h : M.WF d) : ∃ r, M.compl d = some r ∧ M.compl r = some d :=
  C11.involutionEq_of (C11.involution_of_ok M.compl_ok M.compl_ok (fun _ => abs_valid)
    fun _ hx => specComplement_involutive hx) M.canon d h

theorem converse_involutive {d : R} (h : M.WF d) : ∃ r, M.conv d = some r ∧ M.conv r = some d :=
  C11.involutionEq_of (C11.involution_of_ok M.conv_ok M.conv_ok (fun _ => abs_valid)
    fun x _ => specConverse_involutive x) M.canon d h

theorem union_algebra (M : Rep R) : C11.UnionAlgebraEq M.WF M.un := C11.unionAlgebraEq_of M.un_ok M.canon

theorem union_comm {a b : R} (ha : M.WF a) (hb : M.WF b) : ∃ r, M.un a b = some r ∧ M.un b a = some r :=
  M.union_algebra.1 a b ha hb

theorem union_idem {a : R} (ha : M.WF a) : M.un a a = some a := M.union_algebra.2.1 a ha

theorem union_assoc {a b c : R} (ha : M.WF a) (hb : M.WF b) (hc : M.WF c) :
    ∃ ab bc r, M.un a b = some ab ∧ M.un b c = some bc ∧ M.un ab c = some r ∧ M.un a bc = some r :=
  M.union_algebra.2.2 a b c ha hb hc

theorem union_arcless {g e : R} (hg : M.WF g) (he : M.WF e) (hA : M.arcs e = [])
    (hV : ∀ v, v ∈ M.vertices e → v ∈ M.vertices g) : M.un g e = some g ∧ M.un e g = some g := by
  have hA' := (arcs_nil_iff he).mp hA
  have hV' : ∀ v, (M.abs e).V v → (M.abs g).V v := fun v x => (mem_vertices hg).mp (hV v ((mem_vertices he).mpr x))
  exact ⟨(eq_some_iff (un_spec hg he) hg).mpr (specUnion_arcless_right hV' hA').symm,
    (eq_some_iff (un_spec he hg) hg).mpr (specUnion_arcless_left hV' hA').symm⟩

theorem union_empty {g : R} (hg : M.WF g) {m : Nat} (hm : 1 ≤ m) (hf : M.fits m)
    (hV : ∀ v, v < m → v ∈ M.vertices g) :
    ∃ e, M.fam.empty m = some e ∧ M.un g e = some g ∧ M.un e g = some g := by
  obtain ⟨e, ee, he, ge⟩ := g_empty (M := M) hm hf
  refine ⟨e, ee, union_arcless hg he ((arcs_nil_iff he).mpr fun u v x => (ge.adj u v).mp x) fun v hv => hV v ?_⟩
  rwa [vertices_eq he, ge.verts, List.mem_range] at hv

theorem converse_union {g h : R} (hg : M.WF g) (hh : M.WF h) :
    ∃ gh cg ch r, M.un g h = some gh ∧ M.conv g = some cg ∧ M.conv h = some ch ∧
      M.conv gh = some r ∧ M.un cg ch = some r := by
  obtain ⟨gh, e1, h1, a1⟩ := un_spec hg hh
  obtain ⟨cg, e2, h2, a2⟩ := conv_spec hg
  obtain ⟨ch, e3, h3, a3⟩ := conv_spec hh
  obtain ⟨r, e4, h4, a4⟩ := conv_spec h1
  exact ⟨gh, cg, ch, r, e1, e2, e3, e4,
    (eq_some_iff (un_spec h2 h3) h4).mpr (by rw [a4, a1, a2, a3, specConverse_union])⟩

theorem converse_complement {g : R} (hg : M.WF g) :
    ∃ c cv r, M.compl g = some c ∧ M.conv g = some cv ∧ M.conv c = some r ∧ M.compl cv = some r := by
  obtain ⟨c, e1, h1, a1⟩ := compl_spec hg
  obtain ⟨cv, e2, h2, a2⟩ := conv_spec hg
  obtain ⟨r, e3, h3, a3⟩ := conv_spec h1
  exact ⟨c, cv, r, e1, e2, e3, (eq_some_iff (compl_spec h2) h3).mpr (by rw [a3, a1, a2, specConverse_complement])⟩

theorem union_complement_complete {g : R} (hg : M.WF g) {n : Nat} (hV : ∀ v, v ∈ M.vertices g ↔ v < n) :
    ∃ c k, M.compl g = some c ∧ M.fam.complete n = some k ∧ M.un g c = some k ∧ M.un c g = some k := by
  obtain ⟨hn, hf, hV'⟩ := contig_facts hg hV
  obtain ⟨c, e1, h1, a1⟩ := compl_spec hg
  obtain ⟨k, e2, h2, g2⟩ := g_complete (M := M) hn hf
  have key : M.abs k = specUnion (M.abs g) (M.abs c) := by
    rw [a1, specUnion_complement (abs_valid hg), abs_gen g2, ← completeOn_lt, completeOn_congr hV']
  exact ⟨c, k, e1, e2, (eq_some_iff (un_spec hg h1) h2).mpr key,
    (eq_some_iff (un_spec h1 hg) h2).mpr (key.trans (specUnion_comm _ _))⟩

theorem complement_complete_empty {n : Nat} (hn : 1 ≤ n) (hf : M.fits n) :
    ∃ k e, M.fam.complete n = some k ∧ M.fam.empty n = some e ∧ M.compl k = some e ∧ M.compl e = some k := by
  obtain ⟨k, e1, h1, g1⟩ := g_complete (M := M) hn hf
  obtain ⟨e, e2, h2, g2⟩ := g_empty (M := M) hn hf
  refine ⟨k, e, e1, e2, (eq_some_iff (compl_spec h1) h2).mpr ?_, (eq_some_iff (compl_spec h2) h1).mpr ?_⟩
  · rw [abs_gen g1, abs_gen g2, ← completeOn_lt, specComplement_completeOn, emptyOn_lt]
  · rw [abs_gen g1, abs_gen g2, ← emptyOn_lt, specComplement_emptyOn, completeOn_lt]

/-! ## predicates against operations -/

theorem symmetric_iff_converse {g : R} (hg : M.WF g) : M.isSymmetric g = true ↔ M.conv g = some g := by
  rw [symmetric_iff hg, Laws.symmetric_iff_converse, eq_some_iff (conv_spec hg) hg]
  exact eq_comm

theorem complete_iff_complement_arcless {g : R} (hg : M.WF g) :
    M.isComplete g = some true ↔ ∃ c, M.compl g = some c ∧ M.arcs c = [] := by
  obtain ⟨c, e, hc, ac⟩ := compl_spec hg
  rw [complete_iff hg, Laws.complete_iff_complement_arcless, ← ac, ← arcs_nil_iff hc, e]
  exact ⟨fun h => ⟨c, rfl, h⟩, fun ⟨_, e', h⟩ => by cases e'; exact h⟩

theorem complete_iff_complement_empty {g : R} (hg : M.WF g) {n : Nat} (hV : ∀ v, v ∈ M.vertices g ↔ v < n) :
    M.isComplete g = some true ↔ ∃ e, M.fam.empty n = some e ∧ M.compl g = some e := by
  obtain ⟨hn, hf, hV'⟩ := contig_facts hg hV
  obtain ⟨e, e2, h2, g2⟩ := g_empty (M := M) hn hf
  rw [complete_iff hg, Laws.complete_iff_complement_empty, emptyOn_congr hV', emptyOn_lt, ← abs_gen g2,
    eq_comm, ← eq_some_iff (compl_spec hg) h2, e2]
  exact ⟨fun h => ⟨e, rfl, h⟩, fun ⟨_, e', h⟩ => by cases e'; exact h⟩

theorem complete_iff_eq_complete {g : R} (hg : M.WF g) {n : Nat} (hV : ∀ v, v ∈ M.vertices g ↔ v < n) :
    M.isComplete g = some true ↔ M.fam.complete n = some g := by
  obtain ⟨hn, hf, hV'⟩ := contig_facts hg hV
  rw [complete_iff hg, Laws.complete_iff_eq_completeOn (abs_valid hg), completeOn_congr hV', completeOn_lt,
    eq_some_iff (g_complete hn hf).ok hg]

theorem tournament_iff_semicomplete_oriented {g : R} (hg : M.WF g) :
    M.isTournament g = some true ↔ M.isSemicomplete g = some true ∧ M.isOriented g = true := by
  rw [tournament_iff hg, semicomplete_iff hg, oriented_iff hg]
  exact Laws.tournament_iff (abs_valid hg)

theorem tournament_iff_complement_eq_converse {g : R} (hg : M.WF g) :
    M.isTournament g = some true ↔ M.compl g = M.conv g := by
  obtain ⟨v, e2, h2, a2⟩ := conv_spec hg
  rw [tournament_iff hg, Laws.tournament_iff_complement_eq_converse (abs_valid hg), e2,
    eq_some_iff (compl_spec hg) h2, a2]
  exact eq_comm

theorem converse_preserves {g : R} (hg : M.WF g) :
    ∃ r, M.conv g = some r ∧ M.isComplete r = M.isComplete g ∧ M.isSemicomplete r = M.isSemicomplete g ∧
      M.isTournament r = M.isTournament g ∧ M.isSymmetric r = M.isSymmetric g ∧ M.isOriented r = M.isOriented g := by
  obtain ⟨r, e, hr, ar⟩ := conv_spec hg
  have := Laws.converse_preserves (M.abs g)
  rw [← ar] at this
  exact ⟨r, e, optb_eq (exB_complete hr) (exB_complete hg) this.1,
    optb_eq (exB_semicomplete hr) (exB_semicomplete hg) this.2.1,
    optb_eq (exB_tournament hr) (exB_tournament hg) this.2.2.1,
    bool_eq (symmetric_iff hr) (symmetric_iff hg) this.2.2.2.1,
    bool_eq (oriented_iff hr) (oriented_iff hg) this.2.2.2.2⟩

theorem complement_duals {g : R} (hg : M.WF g) :
    ∃ c, M.compl g = some c ∧
      (M.isSemicomplete g = some true ↔ M.isOriented c = true) ∧
      (M.isOriented g = true ↔ M.isSemicomplete c = some true) ∧
      M.isTournament c = M.isTournament g ∧ M.isSymmetric c = M.isSymmetric g := by
  obtain ⟨c, e, hc, ac⟩ := compl_spec hg
  refine ⟨c, e, ?_, ?_, ?_, ?_⟩
  · rw [semicomplete_iff hg, oriented_iff hc, ac]; exact semicomplete_iff_complement_oriented
  · rw [oriented_iff hg, semicomplete_iff hc, ac]; exact oriented_iff_complement_semicomplete (abs_valid hg)
  · exact optb_eq (exB_tournament hc) (exB_tournament hg) (by rw [ac]; exact (tournament_iff_complement_tournament (abs_valid hg)).symm)
  · exact bool_eq (symmetric_iff hc) (symmetric_iff hg)
      (by rw [ac]; exact (symmetric_iff_complement_symmetric (abs_valid hg)).symm)

theorem sub_union {g h : R} (hg : M.WF g) (hh : M.WF h) :
    ∃ r, M.un g h = some r ∧ M.isSubdigraph g r = true ∧ M.isSubdigraph h r = true ∧
      M.isSuperdigraph r g = true ∧ M.isSuperdigraph r h = true := by
  obtain ⟨r, e, hr, ar⟩ := un_spec hg hh
  have h1 : M.isSubdigraph g r = true := (sub_iff hg hr).mpr (by rw [ar]; exact sub_union_left _ _)
  have h2 : M.isSubdigraph h r = true := (sub_iff hh hr).mpr (by rw [ar]; exact sub_union_right _ _)
  exact ⟨r, e, h1, h2, h1, h2⟩

theorem sub_refl' {g : R} (hg : M.WF g) : M.isSubdigraph g g = true := (sub_iff hg hg).mpr (sub_refl _)

theorem sub_trans' {a b c : R} (ha : M.WF a) (hb : M.WF b) (hc : M.WF c) (h1 : M.isSubdigraph a b = true)
    (h2 : M.isSubdigraph b c = true) : M.isSubdigraph a c = true :=
  (sub_iff ha hc).mpr (sub_trans ((sub_iff ha hb).mp h1) ((sub_iff hb hc).mp h2))

theorem sub_antisymm {g h : R} (hg : M.WF g) (hh : M.WF h) :
    (M.isSubdigraph g h = true ∧ M.isSubdigraph h g = true) ↔ g = h := by
  rw [sub_iff hg hh, sub_iff hh hg, sub_antisymm_iff]
  exact ⟨eq_of_abs hg hh, fun e => by rw [e]⟩

theorem sub_iff_union {g h : R} (hg : M.WF g) (hh : M.WF h) : M.isSubdigraph g h = true ↔ M.un g h = some h := by
  rw [sub_iff hg hh, sub_iff_union_eq, eq_some_iff (un_spec hg hh) hh]
  exact eq_comm

theorem spanning_bounds {g : R} (hg : M.WF g) {n : Nat} (hV : ∀ v, v ∈ M.vertices g ↔ v < n) :
    ∃ e k, M.fam.empty n = some e ∧ M.fam.complete n = some k ∧
      M.isSpanningSubdigraph e g = true ∧ M.isSpanningSubdigraph g k = true := by
  obtain ⟨hn, hf, hV'⟩ := contig_facts hg hV
  obtain ⟨e, e1, h1, g1⟩ := g_empty (M := M) hn hf
  obtain ⟨k, e2, h2, g2⟩ := g_complete (M := M) hn hf
  refine ⟨e, k, e1, e2, (spanning_iff h1 hg).mpr ?_, (spanning_iff hg h2).mpr ?_⟩
  · rw [abs_gen g1]; exact ⟨fun v => (hV' v).symm, fun _ _ x => x.elim⟩
  · rw [abs_gen g2]
    refine ⟨hV', fun u v x => ?_⟩
    have := abs_valid hg u v x
    exact ⟨(hV' u).mp this.1, (hV' v).mp this.2.1, this.2.2⟩

theorem spanning_complement {g : R} (hg : M.WF g) :
    ∃ c r, M.compl g = some c ∧ M.un g c = some r ∧ M.isSpanningSubdigraph g r = true ∧
      M.isSpanningSubdigraph c r = true ∧ ∀ a, a ∈ M.arcs g → a ∉ M.arcs c := by
  obtain ⟨c, e1, h1, a1⟩ := compl_spec hg
  obtain ⟨r, e2, h2, a2⟩ := un_spec hg h1
  refine ⟨c, r, e1, e2, (spanning_iff hg h2).mpr ?_, (spanning_iff h1 h2).mpr ?_, ?_⟩
  · rw [a2, a1]; exact ⟨fun v => ⟨Or.inl, fun x => x.elim id id⟩, fun _ _ => Or.inl⟩
  · rw [a2, a1]; exact ⟨fun v => ⟨Or.inl, fun x => x.elim id id⟩, fun _ _ => Or.inr⟩
  · rintro ⟨u, v⟩ x y
    have := (mem_arcs h1).mp y
    rw [a1] at this
    exact this.2.2.2 ((mem_arcs hg).mp x)

end Rep
end GraafVerif.Laws
