import GraafVerif.Model.ChkAlgo
import GraafVerif.Proof.ChkHoare
import GraafVerif.Proof.VecLemmas
/-!
# `DistanceMatrix::new`, `BellmanFordMoore`, `FloydWarshall` — C13, P1

The invariant of every loop is the length of the vector it writes: `order` for `dist` of `BellmanFordMoore` (the
indices are endpoints of arcs, in range under `ArcsWF`), `order²` for the matrix (the indices are cells
`a * order + b` with `a, b < order`).
-/
namespace GraafVerif.Chk

/-! ### `DistanceMatrix::new`: `set_len(n)` is followed by exactly `n` writes -/

theorem fill_spec {α : Type} {site : String} (x : α) (n : Nat) :
    ∀ (a : Nat) (buf : List α), a + n ≤ buf.length → (∀ j, j < a → buf[j]? = some x) →
      Sat ((List.range' a n).foldlM (fun (b : List α) i => wr site b i x) buf)
        (fun r => r.length = buf.length ∧ ∀ j, j < a + n → r[j]? = some x) := by
  induction n with
  | zero => intro a buf _ hinit; exact Sat.pure ⟨rfl, hinit⟩
  | succ n ih =>
    intro a buf hlen hinit
    have ha : a < buf.length := Nat.lt_of_lt_of_le (Nat.lt_add_of_pos_right (Nat.succ_pos n)) hlen
    rw [List.range'_succ, List.foldlM_cons, wr_of_lt site x ha, ok_bind]
    refine (ih (a + 1) (buf.set a x) ?_ fun j hj => ?_).mono fun r h =>
      ⟨h.1.trans (List.length_set ..), fun j hj => h.2 j (Nat.add_right_comm a 1 n ▸ hj)⟩
    · rw [List.length_set, Nat.add_right_comm]
      exact hlen
    · rcases Nat.lt_succ_iff_lt_or_eq.mp hj with hj | rfl
      · rw [List.getElem?_set_ne (Nat.ne_of_gt hj)]
        exact hinit j hj
      · exact List.getElem?_set_self ha

/-- `DistanceMatrix::new` for EVERY order: no UB, and when it returns every one of the `order²`
slots has been written (none is left uninitialised after `set_len`). -/
theorem dmNew_spec (order inf : Nat) :
    Sat (dmNew order inf) (fun r => r.length = order * order ∧ ∀ j, j < order * order → r[j]? = some (some inf)) := by
  unfold dmNew
  refine Sat.assert.bind fun _ _ => Sat.ite (fun _ => Sat.panic) fun _ => Sat.ite (fun _ => Sat.panic) fun _ => ?_
  have hlen : (List.replicate (order * order) (none : Option Nat)).length = order * order := List.length_replicate ..
  refine (Sat.of_noUB (noUB_chkOff (Nat.le_of_eq hlen.symm))).bind fun _ _ => ?_
  rw [forRange, Nat.sub_zero]
  exact (fill_spec (some inf) (order * order) 0 _ (by rw [Nat.zero_add, hlen]; exact Nat.le_refl _) (fun j hj => absurd hj (Nat.not_lt_zero j))).mono
    fun r h => ⟨h.1.trans hlen, fun j hj => h.2 j (by rw [Nat.zero_add]; exact hj)⟩

theorem bfmNew_spec (order s : Nat) : Sat (bfmNew order s) (fun d => d.length = order) := by
  unfold bfmNew
  exact Sat.assert.bind fun _ hs => Sat.wrLen (List.length_replicate ..) hs

section
variable {order : Nat} {arcs : List (Nat × Nat × Int)} (hwf : ArcsWF order arcs)
include hwf

theorem bfmRelax_spec {dist : List Int} (hd : dist.length = order) {i : Nat} (hi : i < arcs.length) :
    Sat (bfmRelax arcs dist i) (fun r => r.1.length = order) := by
  unfold bfmRelax
  refine (Sat.rd hi).bind fun a ha => ?_
  obtain ⟨hu, hv⟩ := hwf a (List.mem_of_getElem? ha)
  refine (Sat.rd (hd ▸ hu)).bind fun _ _ => Sat.ite (fun _ => ?_) fun _ => Sat.pure hd
  refine (Sat.rd (hd ▸ hv)).bind fun _ _ => Sat.ite (fun _ => ?_) fun _ => Sat.pure hd
  exact (Sat.wrLen hd hv).bind fun _ hd' => Sat.pure hd'

theorem bfmRelaxIf_spec {dist : List Int} (hd : dist.length = order) (i : Nat) :
    Sat (bfmRelaxIf arcs dist i) (fun r => r.1.length = order) := by
  unfold bfmRelaxIf
  exact Sat.ite (fun hi => bfmRelax_spec hwf hd hi) fun _ => Sat.pure hd

theorem bfmPass_spec :
    ∀ (fuel i : Nat) (dist : List Int) (upd : Bool), dist.length = order →
      Sat (bfmPass arcs fuel i dist upd) (fun r => r.1.length = order) := by
  intro fuel
  induction fuel with
  | zero => intro i dist upd hd; exact Sat.pure hd
  | succ fuel ih =>
    intro i dist upd hd
    unfold bfmPass
    refine Sat.ite (fun hi => ?_) fun _ => Sat.pure hd
    exact (bfmRelax_spec hwf hd hi).bind fun _ h1 => (bfmRelaxIf_spec hwf h1 _).bind fun _ h2 =>
      (bfmRelaxIf_spec hwf h2 _).bind fun _ h3 => (bfmRelaxIf_spec hwf h3 _).bind fun _ h4 => ih _ _ _ h4

theorem bfmRounds_spec :
    ∀ (n : Nat) (dist : List Int), dist.length = order → Sat (bfmRounds arcs n dist) (fun r => r.length = order) := by
  intro n
  induction n with
  | zero => intro dist hd; exact Sat.pure hd
  | succ n ih =>
    intro dist hd
    unfold bfmRounds
    exact (bfmPass_spec hwf _ 0 dist false hd).bind fun r hr => Sat.ite (fun _ => ih _ hr) fun _ => Sat.pure hr

theorem bfmCheck_noUB {dist : List Int} (hd : dist.length = order) : NoUB (bfmCheck arcs dist) := by
  unfold bfmCheck
  refine noUB_foldlM (fun neg i hi => (Sat.rd (mem_forRange hi).2).noUB_bind fun a ha => ?_) false
  obtain ⟨hu, hv⟩ := hwf a (List.mem_of_getElem? ha)
  exact noUB_bind (noUB_rd (hd ▸ hu)) fun _ _ => noUB_bind (noUB_rd (hd ▸ hv)) fun _ _ => noUB_pure _

end

/-- `FloydWarshall::distances` on the `order²` matrix `DistanceMatrix::new` built, for every valid arc list:
every access is a cell `a * order + b` with `a, b < order`, and no write changes the length. -/
theorem fwDistances_noUB (order : Nat) (arcs : List (Nat × Nat × Int)) (hwf : ArcsWF order arcs) (dist : List Int)
    (hd : dist.length = order * order) : NoUB (fwDistances order arcs dist) := by
  unfold fwDistances
  refine (Sat.foldlM (I := fun (d : List Int) => d.length = order * order)
    (fun d a ha hd => Sat.wrLen hd (flatIdx_lt (hwf a ha).1 (hwf a ha).2)) hd).noUB_bind fun d1 hd1 => ?_
  refine (Sat.foldlM (I := fun (d : List Int) => d.length = order * order)
    (fun d i hi hd => Sat.wrLen hd (flatIdx_lt (mem_forRange hi).2 (mem_forRange hi).2)) hd1).noUB_bind fun d2 hd2 => ?_
  refine (Sat.foldlM (I := fun (d : List Int) => d.length = order * order)
    (fun d i hi hd => Sat.foldlM (fun d j hj hd => ?_) hd) hd2).1
  have hi := (mem_forRange hi).2
  have hj := (mem_forRange hj).2
  refine (Sat.rd (hd ▸ flatIdx_lt hj hi)).bind fun a _ => Sat.ite (fun _ => Sat.pure hd) fun _ =>
    Sat.foldlM (fun d k hk hd => ?_) hd
  have hk := (mem_forRange hk).2
  refine (Sat.rd (hd ▸ flatIdx_lt hi hk)).bind fun b _ => Sat.ite (fun _ => Sat.pure hd) fun _ => ?_
  exact (Sat.rd (hd ▸ flatIdx_lt hj hk)).bind fun c _ =>
    Sat.ite (fun _ => Sat.wrLen hd (flatIdx_lt hj hk)) fun _ => Sat.pure hd

end GraafVerif.Chk
