import GraafVerif.Proof.OpsSorted
/-!
# `merge_two_sorted`: fuel adequacy, members = union, sortedness (`merge_two_sorted_spec`)

`mergeFuel` and the per-thread entry merge `mergeEntriesFuel` of `AdjacencyMap::union` are the
same loop over a key and a way to combine two elements of equal key; what they have in common
is proved once, from the equations of the loop (`IsMerge`).
-/
namespace GraafVerif.Ops
open GraafVerif.Repr

/-! ## The merge loop, from its equations -/

section Merge
variable {α : Type} {key : α → Nat} {comb : α → α → α} {m : Nat → List α → List α → List α}

/-- `m` is the fuelled merge of two lists by `key`: the smaller key goes first, two elements of
equal key give the one element `comb a b`. -/
structure IsMerge (key : α → Nat) (comb : α → α → α) (m : Nat → List α → List α → List α) : Prop where
  zero : ∀ l r, m 0 l r = []
  nil_left : ∀ f r, m (f + 1) [] r = r
  nil_right : ∀ f l, m (f + 1) l [] = l
  cons_cons : ∀ f a l b r, m (f + 1) (a :: l) (b :: r) =
    if key a < key b then a :: m f l (b :: r)
    else if key b < key a then b :: m f (a :: l) r
    else comb a b :: m f l r

/-- The fuel left for each of the three recursive calls. -/
theorem merge_fuel_step {a b : α} {l r : List α} {f : Nat}
    (h : (a :: l).length + (b :: r).length ≤ f + 1) :
    l.length + (b :: r).length ≤ f ∧ (a :: l).length + r.length ≤ f ∧ l.length + r.length ≤ f :=
  have h2 : (a :: l).length + r.length ≤ f := Nat.le_of_succ_le_succ h
  ⟨Nat.le_of_succ_le_succ (Nat.le_trans (Nat.le_of_eq (Nat.succ_add l.length (r.length + 1)).symm) h), h2,
    Nat.le_trans (Nat.add_le_add_right (Nat.le_succ l.length) r.length) h2⟩

theorem lists_nil_of_length_le_zero {l r : List α} (h : l.length + r.length ≤ 0) : l = [] ∧ r = [] :=
  have h0 := Nat.add_eq_zero_iff.mp (Nat.le_zero.mp h)
  ⟨List.eq_nil_of_length_eq_zero h0.1, List.eq_nil_of_length_eq_zero h0.2⟩

theorem IsMerge.nil_nil (h : IsMerge key comb m) (f : Nat) : m f [] [] = [] := by
  cases f with
  | zero => exact h.zero _ _
  | succ f => exact h.nil_left _ _

theorem IsMerge.adequate (h : IsMerge key comb m) : ∀ (f1 f2 : Nat) (l r : List α),
    l.length + r.length ≤ f1 → l.length + r.length ≤ f2 → m f1 l r = m f2 l r := by
  intro f1
  induction f1 with
  | zero =>
    intro f2 l r h1 _
    obtain ⟨rfl, rfl⟩ := lists_nil_of_length_le_zero h1
    rw [h.nil_nil, h.nil_nil]
  | succ f1 ih =>
    intro f2 l r h1 h2
    cases f2 with
    | zero =>
      obtain ⟨rfl, rfl⟩ := lists_nil_of_length_le_zero h2
      rw [h.nil_nil, h.nil_nil]
    | succ f2 =>
      cases l with
      | nil => rw [h.nil_left, h.nil_left]
      | cons a l =>
        cases r with
        | nil => rw [h.nil_right, h.nil_right]
        | cons b r =>
          obtain ⟨a1, a2, a3⟩ := merge_fuel_step h1
          obtain ⟨b1, b2, b3⟩ := merge_fuel_step h2
          rw [h.cons_cons, h.cons_cons, ih f2 _ _ a1 b1, ih f2 _ _ a2 b2, ih f2 _ _ a3 b3]

/-! With the fuel `|l| + |r|` that the wrappers pass, the equations are those of the merge itself. -/

theorem IsMerge.full_nil_left (h : IsMerge key comb m) (r : List α) :
    m (([] : List α).length + r.length) [] r = r := by
  cases r with
  | nil => exact h.nil_nil _
  | cons b r => exact h.nil_left _ _

theorem IsMerge.full_nil_right (h : IsMerge key comb m) (l : List α) :
    m (l.length + ([] : List α).length) l [] = l := by
  cases l with
  | nil => exact h.nil_nil _
  | cons a l => exact h.nil_right _ _

theorem IsMerge.full_cons_cons (h : IsMerge key comb m) (a b : α) (l r : List α) :
    m ((a :: l).length + (b :: r).length) (a :: l) (b :: r) =
      if key a < key b then a :: m (l.length + (b :: r).length) l (b :: r)
      else if key b < key a then b :: m ((a :: l).length + r.length) (a :: l) r
      else comb a b :: m (l.length + r.length) l r := by
  have e : (a :: l).length + (b :: r).length = (l.length + r.length + 1) + 1 :=
    Nat.add_right_comm l.length 1 (r.length + 1)
  obtain ⟨h1, h2, h3⟩ := merge_fuel_step (Nat.le_of_eq e)
  rw [e, h.cons_cons, h.adequate _ _ l (b :: r) h1 (Nat.le_refl _),
    h.adequate _ _ (a :: l) r h2 (Nat.le_refl _), h.adequate _ _ l r h3 (Nat.le_refl _)]

theorem IsMerge.exists_iff (h : IsMerge key comb m) {φ : α → Prop}
    (hφ : ∀ a b, key a = key b → (φ (comb a b) ↔ φ a ∨ φ b)) : ∀ (f : Nat) (l r : List α),
    l.length + r.length ≤ f → ((∃ e ∈ m f l r, φ e) ↔ (∃ e ∈ l, φ e) ∨ (∃ e ∈ r, φ e)) := by
  have nil : ¬ ∃ e ∈ ([] : List α), φ e := fun ⟨_, he, _⟩ => nomatch he
  intro f
  induction f with
  | zero =>
    intro l r hf
    obtain ⟨rfl, rfl⟩ := lists_nil_of_length_le_zero hf
    rw [h.zero, or_self]
  | succ f ih =>
    intro l r hf
    cases l with
    | nil => rw [h.nil_left, or_iff_right nil]
    | cons a l =>
      cases r with
      | nil => rw [h.nil_right, or_iff_left nil]
      | cons b r =>
        obtain ⟨h1, h2, h3⟩ := merge_fuel_step hf
        rw [h.cons_cons, exists_mem_cons_iff (l := l), exists_mem_cons_iff (l := r)]
        by_cases hab : key a < key b
        · rw [if_pos hab, exists_mem_cons_iff, ih _ _ h1, exists_mem_cons_iff, or_assoc]
        · rw [if_neg hab]
          by_cases hba : key b < key a
          · rw [if_pos hba, exists_mem_cons_iff, ih _ _ h2, exists_mem_cons_iff]
            exact or_left_comm
          · have hk : key a = key b := Nat.le_antisymm (Nat.le_of_not_lt hba) (Nat.le_of_not_lt hab)
            rw [if_neg hba, exists_mem_cons_iff, ih _ _ h3, hφ a b hk]
            exact or_or_or_comm

theorem IsMerge.forall_mem (h : IsMerge key comb m) {ψ : α → Prop}
    (hψ : ∀ a b, key a = key b → ψ a → ψ b → ψ (comb a b)) : ∀ (f : Nat) (l r : List α),
    (∀ e ∈ l, ψ e) → (∀ e ∈ r, ψ e) → ∀ e ∈ m f l r, ψ e := by
  intro f
  induction f with
  | zero => intro l r _ _ e he; rw [h.zero] at he; cases he
  | succ f ih =>
    intro l r hl hr
    cases l with
    | nil => rw [h.nil_left]; exact hr
    | cons a l =>
      cases r with
      | nil => rw [h.nil_right]; exact hl
      | cons b r =>
        have hl' := List.forall_mem_cons.mp hl
        have hr' := List.forall_mem_cons.mp hr
        rw [h.cons_cons]
        by_cases hab : key a < key b
        · rw [if_pos hab]
          exact List.forall_mem_cons.mpr ⟨hl'.1, ih _ _ hl'.2 hr⟩
        · rw [if_neg hab]
          by_cases hba : key b < key a
          · rw [if_pos hba]
            exact List.forall_mem_cons.mpr ⟨hr'.1, ih _ _ hl hr'.2⟩
          · rw [if_neg hba]
            exact List.forall_mem_cons.mpr
              ⟨hψ a b (Nat.le_antisymm (Nat.le_of_not_lt hba) (Nat.le_of_not_lt hab)) hl'.1 hr'.1,
                ih _ _ hl'.2 hr'.2⟩

theorem IsMerge.pairwise (h : IsMerge key comb m) (hkey : ∀ a b, key a = key b → key (comb a b) = key a) :
    ∀ (f : Nat) (l r : List α), l.Pairwise (fun a b => key a < key b) → r.Pairwise (fun a b => key a < key b) →
      (m f l r).Pairwise (fun a b => key a < key b) := by
  -- the elements of a merge lie above any bound on the elements of both inputs
  have above : ∀ (k f : Nat) (l r : List α), (∀ e ∈ l, k < key e) → (∀ e ∈ r, k < key e) →
      ∀ e ∈ m f l r, k < key e := fun k =>
    h.forall_mem (ψ := fun e => k < key e) fun a b hk ha _ => by rw [hkey a b hk]; exact ha
  intro f
  induction f with
  | zero => intro l r _ _; rw [h.zero]; exact List.Pairwise.nil
  | succ f ih =>
    intro l r hl hr
    cases l with
    | nil => rw [h.nil_left]; exact hr
    | cons a l =>
      cases r with
      | nil => rw [h.nil_right]; exact hl
      | cons b r =>
        have hl' := List.pairwise_cons.mp hl
        have hr' := List.pairwise_cons.mp hr
        rw [h.cons_cons]
        by_cases hab : key a < key b
        · rw [if_pos hab]
          exact List.pairwise_cons.mpr ⟨above _ _ _ _ hl'.1
            (List.forall_mem_cons.mpr ⟨hab, fun e he => Nat.lt_trans hab (hr'.1 e he)⟩), ih _ _ hl'.2 hr⟩
        · rw [if_neg hab]
          by_cases hba : key b < key a
          · rw [if_pos hba]
            exact List.pairwise_cons.mpr ⟨above _ _ _ _
              (List.forall_mem_cons.mpr ⟨hba, fun e he => Nat.lt_trans hba (hl'.1 e he)⟩) hr'.1, ih _ _ hl hr'.2⟩
          · rw [if_neg hba]
            have hk : key a = key b := Nat.le_antisymm (Nat.le_of_not_lt hba) (Nat.le_of_not_lt hab)
            refine List.pairwise_cons.mpr ⟨?_, ih _ _ hl'.2 hr'.2⟩
            rw [hkey a b hk]
            exact above _ _ _ _ hl'.1 (fun e he => hk ▸ hr'.1 e he)

theorem cursor_lt_left {a b i j : Nat} (h : i < a) : (a - (i + 1)) + (b - j) < (a - i) + (b - j) :=
  Nat.add_lt_add_right (Nat.sub_succ_lt_self a i h) _
theorem cursor_lt_right {a b i j : Nat} (h : j < b) : (a - i) + (b - (j + 1)) < (a - i) + (b - j) :=
  Nat.add_lt_add_left (Nat.sub_succ_lt_self b j h) _
theorem cursor_lt_both {a b i j : Nat} (h : i < a) : (a - (i + 1)) + (b - (j + 1)) < (a - i) + (b - j) :=
  Nat.add_lt_add_of_lt_of_le (Nat.sub_succ_lt_self a i h) (Nat.sub_le_sub_left (Nat.le_succ j) b)

variable {M : List α → List α → List α} in
/-- One round of a three-way merge on two cursors: `L i`, `R j` are what is left of the inputs at the cursors `i`, `j`
(which run up to `A`, `B`), `a`, `b` the elements under them. -/
theorem merge_round (hM : ∀ a b l r, M (a :: l) (b :: r) =
      if key a < key b then a :: M l (b :: r) else if key b < key a then b :: M (a :: l) r else comb a b :: M l r)
    {L R : Nat → List α} {A B i j : Nat} {a b : α} (hL : L i = a :: L (i + 1)) (hR : R j = b :: R (j + 1))
    (hi : i < A) (hj : j < B) (out : List α) (s' : List α × Nat × Nat)
    (hs' : s' = if key a < key b then (out ++ [a], i + 1, j)
      else if key b < key a then (out ++ [b], i, j + 1) else (out ++ [comb a b], i + 1, j + 1)) :
    (A - s'.2.1) + (B - s'.2.2) < (A - i) + (B - j) ∧ s'.1 ++ M (L s'.2.1) (R s'.2.2) = out ++ M (L i) (R j) := by
  rw [hL, hR, hM]
  by_cases h1 : key a < key b
  · rw [if_pos h1] at hs' ⊢
    subst hs'
    exact ⟨cursor_lt_left hi, by rw [hR, List.append_assoc]; rfl⟩
  · rw [if_neg h1] at hs' ⊢
    by_cases h2 : key b < key a
    · rw [if_pos h2] at hs' ⊢
      subst hs'
      exact ⟨cursor_lt_right hj, by rw [hL, List.append_assoc]; rfl⟩
    · rw [if_neg h2] at hs' ⊢
      subst hs'
      exact ⟨cursor_lt_both hi, by rw [List.append_assoc]; rfl⟩

end Merge

/-! ## `merge_two_sorted` -/

theorem isMerge_mergeFuel : IsMerge id (fun a _ => a) mergeFuel :=
  ⟨fun _ _ => rfl, fun _ _ => rfl, fun _ l => by cases l <;> rfl, fun _ _ _ _ _ => rfl⟩

theorem mergeFuel_adequate (fuel : Nat) (l r : List Nat) (h : l.length + r.length ≤ fuel) :
    mergeFuel fuel l r = mergeTwoSorted l r :=
  isMerge_mergeFuel.adequate fuel _ l r h (Nat.le_refl _)

theorem mergeTwoSorted_nil_left (r : List Nat) : mergeTwoSorted [] r = r :=
  isMerge_mergeFuel.full_nil_left r

theorem mergeTwoSorted_nil_right (l : List Nat) : mergeTwoSorted l [] = l :=
  isMerge_mergeFuel.full_nil_right l

theorem mergeTwoSorted_cons_cons (a b : Nat) (l r : List Nat) :
    mergeTwoSorted (a :: l) (b :: r) =
      if a < b then a :: mergeTwoSorted l (b :: r)
      else if b < a then b :: mergeTwoSorted (a :: l) r
      else a :: mergeTwoSorted l r :=
  isMerge_mergeFuel.full_cons_cons a b l r

theorem mem_mergeTwoSorted {x : Nat} {l r : List Nat} : x ∈ mergeTwoSorted l r ↔ x ∈ l ∨ x ∈ r := by
  have := isMerge_mergeFuel.exists_iff (φ := (· = x))
    (fun a b (hk : a = b) => by rw [hk, or_self]) _ l r (Nat.le_refl _)
  simpa only [mergeTwoSorted, exists_eq_right] using this

theorem sorted_mergeTwoSorted {l r : List Nat} (hl : SortedS l) (hr : SortedS r) :
    SortedS (mergeTwoSorted l r) :=
  isMerge_mergeFuel.pairwise (fun _ _ _ => rfl) _ l r hl hr

theorem mem_unionSets {x : Nat} {a b : List Nat} : x ∈ unionSets a b ↔ x ∈ a ∨ x ∈ b :=
  mem_toSet.trans mem_mergeTwoSorted

theorem sorted_unionSets (a b : List Nat) : SortedS (unionSets a b) := sorted_toSet _

theorem unionSets_eq_merge {a b : List Nat} (ha : SortedS a) (hb : SortedS b) :
    unionSets a b = mergeTwoSorted a b := toSet_of_sorted (sorted_mergeTwoSorted ha hb)

end GraafVerif.Ops
