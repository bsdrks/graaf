import GraafVerif.Spec.Johnson
import GraafVerif.Proof.OracleHopDist
/-!
# The naive enumerator `allCircuits` is exactly the set of canonical elementary circuits

`allCircuits_spec` and `allCircuits_nodup`: the oracle the driver compares the implementation
against is a verified one.  At the end: a canonical elementary circuit is a closed walk, so its
vertices reach each other (`canonical_mutual`).
-/
namespace GraafVerif.Johnson
open GraafVerif

/-- `ext` extends a path ending in `v` (whose vertices are `path`) to a circuit through `s`. -/
structure Ext (g : Graph) (s : Nat) (path : List Nat) (v : Nat) (ext : List Nat) : Prop where
  walk : IsWalk g (v :: ext)
  close : g.A ((v :: ext).getLast (List.cons_ne_nil _ _)) s
  gt : ∀ x ∈ ext, s < x
  fresh : ∀ x ∈ ext, x ∉ path
  nodup : ext.Nodup
  len : 2 ≤ (path ++ ext).length

theorem Ext.nil_iff {g : Graph} {s : Nat} {path : List Nat} {v : Nat} :
    Ext g s path v [] ↔ s ∈ g.out v ∧ 2 ≤ path.length :=
  ⟨fun h => ⟨h.close, List.append_nil path ▸ h.len⟩,
   fun h => ⟨trivial, h.1, nofun, nofun, List.nodup_nil, (List.append_nil path).symm ▸ h.2⟩⟩

theorem Ext.cons_iff {g : Graph} {s : Nat} {path : List Nat} {v w : Nat} {ext : List Nat} :
    Ext g s path v (w :: ext) ↔ w ∈ g.out v ∧ s < w ∧ w ∉ path ∧ Ext g s (path ++ [w]) w ext := by
  constructor
  · intro he
    have hnd := List.nodup_cons.1 he.nodup
    refine ⟨he.walk.1, he.gt w List.mem_cons_self, he.fresh w List.mem_cons_self, he.walk.2, ?_,
      fun x hx => he.gt x (List.mem_cons_of_mem _ hx), fun x hx hp => ?_, hnd.2, ?_⟩
    · have := he.close; rwa [List.getLast_cons_cons] at this
    · rcases List.mem_append.1 hp with hp | hp
      · exact he.fresh x (List.mem_cons_of_mem _ hx) hp
      · exact hnd.1 (List.mem_singleton.1 hp ▸ hx)
    · rw [List.append_assoc]; exact he.len
  · rintro ⟨hw, hsw, hwp, he⟩
    refine ⟨⟨hw, he.walk⟩, ?_, ?_, ?_,
      List.nodup_cons.2 ⟨fun hx => he.fresh w hx (List.mem_append_right _ List.mem_cons_self), he.nodup⟩, ?_⟩
    · rw [List.getLast_cons_cons]; exact he.close
    · intro x hx
      rcases List.mem_cons.1 hx with rfl | hx
      · exact hsw
      · exact he.gt x hx
    · intro x hx
      rcases List.mem_cons.1 hx with rfl | hx
      · exact hwp
      · exact fun hp => he.fresh x hx (List.mem_append_left _ hp)
    · have := he.len; rwa [List.append_assoc] at this

/-- What the enumerator lists for one out-neighbour `w` of the last vertex of `path`. -/
def branch (g : Graph) (s F : Nat) (path : List Nat) (w : Nat) : List (List Nat) :=
  if w = s then (if 2 ≤ path.length then [path] else [])
  else if s < w ∧ w ∉ path then closingPaths g s F (path ++ [w]) w else []

theorem closingPaths_succ (g : Graph) (s F : Nat) (path : List Nat) (v : Nat) :
    closingPaths g s (F+1) path v = (g.out v).flatMap (branch g s F path) := rfl

theorem mem_branch {g : Graph} {s F : Nat} {path : List Nat} {w : Nat} {c : List Nat} :
    c ∈ branch g s F path w ↔ (w = s ∧ 2 ≤ path.length ∧ c = path) ∨
      (w ≠ s ∧ s < w ∧ w ∉ path ∧ c ∈ closingPaths g s F (path ++ [w]) w) := by
  unfold branch
  by_cases hws : w = s
  · rw [if_pos hws]
    by_cases h2 : 2 ≤ path.length
    · rw [if_pos h2, List.mem_singleton]
      exact ⟨fun h => Or.inl ⟨hws, h2, h⟩, fun h => h.elim (fun h => h.2.2) fun h => absurd hws h.1⟩
    · rw [if_neg h2]
      exact ⟨fun h => absurd h List.not_mem_nil, fun h => h.elim (fun h => absurd h.2.1 h2) fun h => absurd hws h.1⟩
  · rw [if_neg hws]
    by_cases h : s < w ∧ w ∉ path
    · rw [if_pos h]
      exact ⟨fun hc => Or.inr ⟨hws, h.1, h.2, hc⟩, fun hc => hc.elim (fun hc => absurd hc.1 hws) fun hc => hc.2.2.2⟩
    · rw [if_neg h]
      exact ⟨fun hc => absurd hc List.not_mem_nil,
        fun hc => hc.elim (fun hc => absurd hc.1 hws) fun hc => absurd ⟨hc.2.1, hc.2.2.1⟩ h⟩

theorem mem_closingPaths {g : Graph} {s fuel : Nat} {path : List Nat} {v : Nat} {c : List Nat} :
    c ∈ closingPaths g s fuel path v ↔ ∃ ext, c = path ++ ext ∧ ext.length < fuel ∧ Ext g s path v ext := by
  induction fuel generalizing path v with
  | zero => exact ⟨fun h => absurd h List.not_mem_nil, fun ⟨_, _, h, _⟩ => absurd h (Nat.not_lt_zero _)⟩
  | succ fuel ih =>
    simp only [closingPaths_succ, List.mem_flatMap, mem_branch]
    constructor
    · rintro ⟨w, hw, ⟨rfl, h2, rfl⟩ | ⟨_, hsw, hwp, hc⟩⟩
      · exact ⟨[], (List.append_nil _).symm, Nat.succ_pos _, Ext.nil_iff.2 ⟨hw, h2⟩⟩
      · obtain ⟨ext, rfl, hlen, he⟩ := ih.1 hc
        exact ⟨w :: ext, List.append_assoc path [w] ext, Nat.succ_lt_succ hlen, Ext.cons_iff.2 ⟨hw, hsw, hwp, he⟩⟩
    · rintro ⟨ext, rfl, hlen, he⟩
      cases ext with
      | nil =>
        obtain ⟨hs, h2⟩ := Ext.nil_iff.1 he
        exact ⟨s, hs, Or.inl ⟨rfl, h2, List.append_nil _⟩⟩
      | cons w ext =>
        obtain ⟨hw, hsw, hwp, he'⟩ := Ext.cons_iff.1 he
        exact ⟨w, hw, Or.inr ⟨Nat.ne_of_gt hsw, hsw, hwp,
          ih.2 ⟨ext, (List.append_assoc path [w] ext).symm, Nat.lt_of_succ_lt_succ hlen, he'⟩⟩⟩

theorem walk_has_out (g : Graph) (s : Nat) (v : Nat) (ext : List Nat) (hw : IsWalk g (v :: ext))
    (hc : g.A ((v :: ext).getLast (List.cons_ne_nil _ _)) s) : ∀ x ∈ v :: ext, ∃ y, g.A x y := by
  induction ext generalizing v with
  | nil => exact fun x hx => ⟨s, List.mem_singleton.1 hx ▸ hc⟩
  | cons w ext ih =>
    intro x hx
    rcases List.mem_cons.1 hx with rfl | hx
    · exact ⟨w, hw.1⟩
    · exact ih w hw.2 (by rwa [List.getLast_cons_cons] at hc) x hx

/-- Every vertex of a canonical circuit has an out-arc, so it is a vertex of the digraph. -/
theorem canonical_lt {g : Graph} (hg : g.WF) {c : List Nat} (hc : IsCanonicalElemCircuit g c) :
    ∀ x ∈ c, x < g.n := by
  obtain ⟨s, rest, rfl, _, _, hw, hlast, _⟩ := hc
  intro x hx
  obtain ⟨y, hy⟩ := walk_has_out g s s rest hw hlast x hx
  exact (hg x y hy).1

theorem allCircuits_spec (g : Graph) (hwf : g.WF) (c : List Nat) :
    c ∈ allCircuits g ↔ IsCanonicalElemCircuit g c := by
  simp only [allCircuits, List.mem_flatMap, List.mem_range, mem_closingPaths]
  constructor
  · rintro ⟨s, _, ext, rfl, _, he⟩
    refine ⟨s, ext, rfl, ?_, ?_, he.walk, he.close, he.gt⟩
    · have := he.len; intro h; subst h; simp at this
    · simp only [List.singleton_append]
      refine List.nodup_cons.2 ⟨?_, he.nodup⟩
      intro h; exact he.fresh s h (by simp)
  · rintro ⟨s, rest, rfl, hne, hnd, hw, hc, hgt⟩
    have hlt := canonical_lt hwf ⟨s, rest, rfl, hne, hnd, hw, hc, hgt⟩
    have hlen : (s :: rest).length ≤ g.n := length_le_of_nodup_lt hnd hlt
    refine ⟨s, hlt s List.mem_cons_self, rest, rfl, hlen, ⟨hw, hc, hgt, ?_, ?_, ?_⟩⟩
    · intro x hx hp
      simp at hp; subst hp
      exact (List.nodup_cons.1 hnd).1 hx
    · exact (List.nodup_cons.1 hnd).2
    · cases rest with
      | nil => exact absurd rfl hne
      | cons a r => simp

/-- Which neighbour `w` of the last vertex of `path` an extension `c` of `path` continues with
(`w = s`: none, the walk closes and `c` is `path` itself). -/
def Tag (s : Nat) (path c : List Nat) (w : Nat) : Prop :=
  (w = s ∧ c = path) ∨ (w ≠ s ∧ ∃ e, c = path ++ w :: e)

theorem Tag.inj {s : Nat} {path c : List Nat} {w w' : Nat} (h : Tag s path c w) (h' : Tag s path c w') :
    w = w' := by
  rcases h with ⟨h1, h2⟩ | ⟨h1, e, h2⟩ <;> rcases h' with ⟨h3, h4⟩ | ⟨h3, e', h4⟩
  · exact h1.trans h3.symm
  · rw [h2] at h4
    have := congrArg List.length h4
    simp at this
  · rw [h4] at h2
    have := congrArg List.length h2
    simp at this
  · rw [h2] at h4
    exact (List.cons.inj (List.append_cancel_left h4)).1

theorem branch_tag {g : Graph} {s F : Nat} {path : List Nat} {w : Nat} {c : List Nat}
    (h : c ∈ branch g s F path w) : Tag s path c w := by
  rcases mem_branch.1 h with ⟨h1, _, h3⟩ | ⟨h1, _, _, hc⟩
  · exact Or.inl ⟨h1, h3⟩
  · obtain ⟨e, rfl, _, _⟩ := mem_closingPaths.1 hc
    exact Or.inr ⟨h1, e, List.append_assoc path [w] e⟩

theorem closingPaths_nodup (g : Graph) (hrows : RowsNodup g) (s : Nat) (fuel : Nat) (path : List Nat) (v : Nat) :
    (closingPaths g s fuel path v).Nodup := by
  induction fuel generalizing path v with
  | zero => exact List.nodup_nil
  | succ fuel ih =>
    rw [closingPaths_succ, List.Nodup, List.pairwise_flatMap]
    constructor
    · intro w _
      unfold branch
      split
      · split
        · exact List.pairwise_singleton _ _
        · exact List.Pairwise.nil
      · split
        · exact ih _ _
        · exact List.Pairwise.nil
    · -- the branches of different neighbours carry different tags
      refine List.Pairwise.imp ?_ (hrows v)
      intro w w' hne x hx y hy hxy
      subst hxy
      exact hne ((branch_tag hx).inj (branch_tag hy))

theorem allCircuits_nodup (g : Graph) (hrows : RowsNodup g) : (allCircuits g).Nodup := by
  simp only [allCircuits]
  rw [List.Nodup, List.pairwise_flatMap]
  constructor
  · intro s _
    exact closingPaths_nodup g hrows s _ _ _
  · refine List.Pairwise.imp ?_ List.nodup_range
    intro s s' hne x hx y hy hxy
    subst hxy
    obtain ⟨e, rfl, _, _⟩ := mem_closingPaths.1 hx
    obtain ⟨e', h, _, _⟩ := mem_closingPaths.1 hy
    simp at h
    exact hne h.1

theorem canonical_isCyc {g : Graph} {c : List Nat} (hc : IsCanonicalElemCircuit g c) : OracleProof.IsCyc g c := by
  obtain ⟨s, rest, rfl, _, _, hw, hlast, _⟩ := hc
  exact OracleProof.isCyc_cons.mpr ⟨hw, hlast⟩

/-- Read the circuit from `x`: a walk's first vertex reaches all the others. -/
theorem canonical_mutual {g : Graph} {c : List Nat} (hc : IsCanonicalElemCircuit g c) :
    ∀ x ∈ c, ∀ y ∈ c, Reach g x y := by
  intro x hx y hy
  obtain ⟨a, b, rfl⟩ := List.append_of_mem hx
  have hw : IsWalk g (x :: (b ++ a)) := ((canonical_isCyc hc).rotate (List.cons_ne_nil x b)).1
  rcases List.mem_append.mp hy with h | h
  · exact OracleProof.isWalk_reach hw y (List.mem_append_right b h)
  · rcases List.mem_cons.mp h with rfl | h
    · exact Reach.refl _
    · exact OracleProof.isWalk_reach hw y (List.mem_append_left a h)

end GraafVerif.Johnson
