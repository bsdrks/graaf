import GraafVerif.Proof.ComposeHist
import GraafVerif.Proof.ComposeViewIs
import GraafVerif.Thm.C11
/-!
# Compose — the C11 operations as set definitions, under `ViewIs`

`complRel`, `convRel`, `unionRel`, `filterRel` are the set definitions of the operations over bare
relations; `DGIs s n P` says that an abstract digraph `s` of C11 (`Spec/Ops.lean`) is `(0..n, P)`,
and `specComplement` / `specConverse` / `specUnion` act on it as the set definitions do
(`DGIs.complement` …).  Relational corollaries: `rreach_converse`, SCCs invariant under converse,
uniqueness of the SCC partition as a set of blocks.
-/
namespace GraafVerif.Compose
open GraafVerif GraafVerif.Repr GraafVerif.Query GraafVerif.Ops

def complRel (n : Nat) (A : Rel) : Rel := fun u v => u < n ∧ v < n ∧ u ≠ v ∧ ¬ A u v
def convRel (A : Rel) : Rel := fun u v => A v u
def unionRel (A B : Rel) : Rel := fun u v => A u v ∨ B u v
def filterRel (p : Nat → Bool) (A : Rel) : Rel := fun u v => A u v ∧ p u = true ∧ p v = true

/-! ## C11's abstract digraphs (`DG`: read through `vertices`, `has_arc`) as `(0..n, P)`: `DGIs` of `Proof/OpsArc.lean` -/

theorem _root_.GraafVerif.Ops.DGIs.complement {s : DG} {n : Nat} {P : Rel} (h : DGIs s n P) :
    DGIs (specComplement s) n (complRel n P) :=
  ⟨h.V, fun u v => and_congr (h.V u) (and_congr (h.V v) (and_congr Iff.rfl (not_congr (h.A u v))))⟩

theorem _root_.GraafVerif.Ops.DGIs.converse {s : DG} {n : Nat} {P : Rel} (h : DGIs s n P) : DGIs (specConverse s) n (convRel P) :=
  ⟨h.V, fun u v => h.A v u⟩

theorem _root_.GraafVerif.Ops.DGIs.union {a b : DG} {m n : Nat} {P Q : Rel} (ha : DGIs a m P) (hb : DGIs b n Q) :
    DGIs (specUnion a b) (max m n) (unionRel P Q) :=
  ⟨fun v => (or_congr (ha.V v) (hb.V v)).trans Ops.lt_max_iff.symm, fun u v => or_congr (ha.A u v) (hb.A u v)⟩

/-- Two descriptions of one abstract digraph: the order and the relation of a view may be
exchanged for the other pair. -/
theorem ViewIs.of_dgIs {g : Graph} {vg : Tarjan.VGraph} {m n : Nat} {P Q : Rel} {s : DG}
    (hv : ViewIs g vg m P) (h₁ : DGIs s m P) (h₂ : DGIs s n Q) : m = n ∧ ViewIs g vg n Q := by
  obtain rfl : m = n := eq_of_lt_iff_lt fun v => (h₁.V v).symm.trans (h₂.V v)
  exact ⟨rfl, hv.congr fun u v => (h₁.A u v).symm.trans (h₂.A u v)⟩

/-! ### C11's abstraction reads `has_arc`, the views list `arcs()`: `X.mem_arcs_iff` (`Proof/ReprObs.lean`)

`d.Arc` unfolds to `Gen.ofList d.arcs`; `EdgeList.dgIs`, `AdjMatrix.dgIs` are in `Proof/OpsEL.lean`, `Proof/OpsMX.lean`. -/

theorem _root_.GraafVerif.Repr.AdjList.dgIs (d : AdjList) : DGIs (absAL d) d.order (Gen.ofList d.arcs) :=
  ⟨fun _ => absAL_V, fun u v => (AdjList.mem_arcs_iff d u v).symm⟩
theorem _root_.GraafVerif.Repr.AdjMap.dgIs (d : AdjMap) (h : d.WF) (hc : Gen.AM.Contiguous d) :
    DGIs (absAM d) d.order (Gen.ofList d.arcs) :=
  ⟨fun v => by show v ∈ d.vertices ↔ _; rw [hc, List.mem_range],
   fun u v => (AdjMap.mem_arcs_iff h.1 u v).symm⟩

/-- `ViewIs.of_dgIs` for a map: `AdjMap.viewIs` and `AdjMap.dgIs` ask for keys `0..order`, which `hs.V` gives first.
The representations of fixed order need no lemma of this kind: there the step is `(r.viewIs h).of_dgIs r.dgIs hs`. -/
theorem AM.viewIs_of_dgIs {r : AdjMap} (h : r.WF) {n : Nat} {P : Rel} (hs : DGIs (absAM r) n P) :
    r.order = n ∧ Gen.AM.Contiguous r ∧ ViewIs r.view r.vview n P := by
  obtain ⟨hc, rfl⟩ := (Gen.AM.contiguous_iff h n).mpr fun x => ((AdjMap.vertices_spec r h).2.2 x).symm.trans (hs.V x)
  exact ⟨rfl, hc, ((r.viewIs h hc).of_dgIs (r.dgIs h hc) hs).2⟩

theorem AM.tarjan_of_abs {r : AdjMap} (hw : r.WF) {s : DG} (hs : absAM r = s) {P : Rel}
    (hA : ∀ u v, s.A u v ↔ P u v) :
    (∀ x, x ∈ r.vertices ↔ s.V x) ∧ (∀ u v, r.Arc u v ↔ P u v) ∧ TarjanHolds r.vertices P r.vview := by
  subst hs
  have harc : ∀ u v, r.Arc u v ↔ P u v := fun u v => (AdjMap.mem_arcs_iff hw.1 u v).trans (hA u v)
  exact ⟨fun _ => Iff.rfl, harc, ((r.vview_spec hw).tarjan harc).1⟩

theorem rreach_converse (A : Rel) (u v : Nat) : RReach (convRel A) u v ↔ RReach A v u := by
  have key : ∀ (B : Rel) (a b : Nat), RReach B a b → RReach (convRel B) b a := by
    intro B a b h
    induction h with
    | refl => exact .refl _
    | step _ ha ih => exact RReach.trans (.step (.refl _) ha) ih
  exact ⟨fun h => key (convRel A) u v h, fun h => key A v u h⟩

theorem sccPartition_converse (verts : List Nat) (A : Rel) (cs : List (List Nat)) :
    RIsSCCPartition verts (convRel A) cs ↔ RIsSCCPartition verts A cs := by
  have key : ∀ B, RIsSCCPartition verts (convRel B) cs → RIsSCCPartition verts B cs := fun B h =>
    ⟨h.nonempty, h.disjoint, h.nodup, h.cover, fun u hu v hv => by
      rw [h.scc u hu v hv, rreach_converse, rreach_converse]; exact And.comm⟩
  exact ⟨key A, key (convRel A)⟩

theorem sccPartition_blocks_unique {verts : List Nat} {A : Rel} {cs₁ cs₂ : List (List Nat)}
    (h₁ : RIsSCCPartition verts A cs₁) (h₂ : RIsSCCPartition verts A cs₂)
    (a₁ : ∀ c ∈ cs₁, c.Pairwise (· < ·)) (a₂ : ∀ c ∈ cs₂, c.Pairwise (· < ·)) :
    ∀ c, c ∈ cs₁ ↔ c ∈ cs₂ := by
  have key : ∀ {cs cs' : List (List Nat)}, RIsSCCPartition verts A cs → RIsSCCPartition verts A cs' →
      (∀ c ∈ cs, c.Pairwise (· < ·)) → (∀ c ∈ cs', c.Pairwise (· < ·)) → ∀ c, c ∈ cs → c ∈ cs' := by
    intro cs cs' h h' a a' c hc
    obtain ⟨x, hx⟩ := List.exists_mem_of_ne_nil c (h.nonempty c hc)
    have hxv : x ∈ verts := (h.cover x).2 ⟨c, hc, hx⟩
    obtain ⟨c', hc', hx'⟩ := (h'.cover x).1 hxv
    -- whichever partition it comes from, the block of `x` is the set of vertices mutually reachable with `x`
    have same : ∀ {ds : List (List Nat)}, RIsSCCPartition verts A ds → ∀ d ∈ ds, x ∈ d →
        ∀ y, y ∈ d ↔ (y ∈ verts ∧ RReach A x y ∧ RReach A y x) := by
      intro ds hd d hdm hxd y
      constructor
      · intro hy
        have hyv : y ∈ verts := (hd.cover y).2 ⟨d, hdm, hy⟩
        exact ⟨hyv, (hd.scc x hxv y hyv).1 ⟨d, hdm, hxd, hy⟩⟩
      · rintro ⟨hyv, hr⟩
        obtain ⟨d', hd', hxd', hyd'⟩ := (hd.scc x hxv y hyv).2 hr
        obtain rfl : d = d' := Tarjan.block_eq hd.disjoint hdm hd' hxd hxd'
        exact hyd'
    have : c = c' := by
      apply Repr.sortedS_ext (a c hc) (a' c' hc')
      intro y
      rw [same h c hc hx y, same h' c' hc' hx' y]
    rw [this]; exact hc'
  intro c
  exact ⟨key h₁ h₂ a₁ a₂ c, key h₂ h₁ a₂ a₁ c⟩

theorem tarjan_same_blocks {verts : List Nat} {A : Rel} {g₁ g₂ : Tarjan.VGraph}
    (h₁ : TarjanHolds verts A g₁) (h₂ : TarjanHolds verts A g₂) :
    ∃ cs₁ cs₂, Tarjan.components g₁ = .ret cs₁ ∧ Tarjan.components g₂ = .ret cs₂ ∧ ∀ c, c ∈ cs₁ ↔ c ∈ cs₂ := by
  obtain ⟨cs₁, e₁, p₁, a₁⟩ := h₁
  obtain ⟨cs₂, e₂, p₂, a₂⟩ := h₂
  exact ⟨cs₁, cs₂, e₁, e₂, sccPartition_blocks_unique p₁ p₂ a₁ a₂⟩

theorem tarjanHolds_converse {verts : List Nat} {A : Rel} {g : Tarjan.VGraph}
    (h : TarjanHolds verts (convRel A) g) : TarjanHolds verts A g := by
  obtain ⟨cs, e, p, a⟩ := h
  exact ⟨cs, e, (sccPartition_converse verts A cs).1 p, a⟩

/-- A traversal cannot distinguish `d` from `complement(complement(d))`. -/
theorem viewIs_compl_compl {g g'' : Graph} {vg vg'' : Tarjan.VGraph} {n : Nat} {A : Rel}
    (h : ViewIs g vg n A) (h'' : ViewIs g'' vg'' n (complRel n (complRel n A))) : g'' = g ∧ vg'' = vg := by
  apply h''.unique h
  intro u v
  simp only [complRel]
  constructor
  · rintro ⟨_, _, _, hn⟩
    exact Classical.byContradiction fun hna => hn ⟨‹_›, ‹_›, ‹_›, hna⟩
  · intro ha
    have := h.arcs_lt ha
    exact ⟨this.1, this.2, fun e => h.irrefl u (e ▸ ha), fun hc => hc.2.2.2 ha⟩

theorem viewIs_conv_conv {g g'' : Graph} {vg vg'' : Tarjan.VGraph} {n : Nat} {A : Rel}
    (h : ViewIs g vg n A) (h'' : ViewIs g'' vg'' n (convRel (convRel A))) : g'' = g ∧ vg'' = vg :=
  h''.unique h (fun _ _ => Iff.rfl)

end GraafVerif.Compose
