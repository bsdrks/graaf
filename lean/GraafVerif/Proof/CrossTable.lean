import GraafVerif.Spec.Graph
/-!
# Digraphs given by a finite table of rows

The example digraphs are written `⟨n, fun u => match u with | 0 => … | _ => []⟩`.  Every
hypothesis the theorems ask of them (`WF`, `Functional`, `NonNeg`; `NoLoops`, `RowsNodup` in
`Proof/Cross2.lean`) says
something about each row that is trivially true of the empty row, so once the rows from `n` on are
known to be empty (`hout`, which holds by `rfl` for such a `match`) it is a decidable statement
about the rows `0..n`.
-/
namespace GraafVerif.Cross
open GraafVerif

theorem forall_rows {α : Type} {out : Nat → List α} {n : Nat} (hout : ∀ k, out (k + n) = [])
    {Q : Nat → List α → Prop} (hnil : ∀ u, Q u []) (h : ∀ u, u < n → Q u (out u)) (u : Nat) :
    Q u (out u) := by
  rcases Nat.lt_or_ge u n with hu | hu
  · exact h u hu
  · obtain ⟨k, rfl⟩ := Nat.exists_eq_add_of_le' hu
    rw [hout k]
    exact hnil _

section weighted
variable {g : WGraph} (hout : ∀ k, g.out (k + g.n) = [])
include hout

theorem wf_of_table (h : ∀ u, u < g.n → ∀ p ∈ g.out u, p.1 < g.n) : g.WF := fun u v w ha =>
  forall_rows hout (Q := fun u r => ∀ p ∈ r, u < g.n ∧ p.1 < g.n) (fun _ _ hp => nomatch hp)
    (fun u hu p hp => ⟨hu, h u hu p hp⟩) u (v, w) ha

theorem functional_of_table
    (h : ∀ u, u < g.n → ∀ p ∈ g.out u, ∀ q ∈ g.out u, p.1 = q.1 → p.2 = q.2) :
    g.Functional := fun u v w₁ w₂ h₁ h₂ =>
  forall_rows hout (Q := fun _ r => ∀ p ∈ r, ∀ q ∈ r, p.1 = q.1 → p.2 = q.2)
    (fun _ _ hp => nomatch hp) h u (v, w₁) h₁ (v, w₂) h₂ rfl

theorem nonneg_of_table (h : ∀ u, u < g.n → ∀ p ∈ g.out u, 0 ≤ p.2) : g.NonNeg := fun u v w ha =>
  forall_rows hout (Q := fun _ r => ∀ p ∈ r, 0 ≤ p.2) (fun _ _ hp => nomatch hp) h u (v, w) ha

/-- The arc condition of `WGraph.NoNegCycle.of_potential`. -/
theorem potential_of_table (pot : Nat → Int)
    (h : ∀ u, u < g.n → ∀ p ∈ g.out u, 0 ≤ p.2 + pot u - pot p.1) :
    ∀ u v w, g.A u v w → 0 ≤ w + pot u - pot v := fun u v w ha =>
  forall_rows hout (Q := fun u r => ∀ p ∈ r, 0 ≤ p.2 + pot u - pot p.1) (fun _ _ hp => nomatch hp)
    h u (v, w) ha

theorem toGraph_tail (k : Nat) : g.toGraph.out (k + g.toGraph.n) = [] :=
  show (g.out (k + g.n)).map (·.1) = [] by rw [hout k, List.map_nil]

end weighted

section unweighted
variable {g : Graph} (hout : ∀ k, g.out (k + g.n) = [])
include hout

theorem graph_wf_of_table (h : ∀ u, u < g.n → ∀ v ∈ g.out u, v < g.n) : g.WF := fun u v ha =>
  forall_rows hout (Q := fun u r => ∀ v ∈ r, u < g.n ∧ v < g.n) (fun _ _ hv => nomatch hv)
    (fun u hu v hv => ⟨hu, h u hu v hv⟩) u v ha

end unweighted

end GraafVerif.Cross
