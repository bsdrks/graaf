import GraafVerif.Proof.ReprRun
/-!
# `EdgeList` refines the abstract digraph (C01) and is determined by it (C20)
-/
namespace GraafVerif.Repr.EdgeList
open GraafVerif.ReprSpec GraafVerif.Repr

theorem abs_A (d : EdgeList) (u v : Nat) : d.abs.A u v = d.hasArc u v := unitOf_isSome _

theorem vertices_spec (d : EdgeList) :
    d.vertices = List.range d.order ∧ ∀ x, x ∈ d.vertices ↔ d.abs.V x = true :=
  ⟨rfl, fun _ => List.mem_range.trans decide_eq_true_iff.symm⟩

theorem WF_iff (d : EdgeList) : d.WF ↔ d.Shape ∧ d.abs.Valid :=
  (WF_iff_simple d).trans <| and_congr_right fun _ => (valid_iff_simple (vertices_spec d).2 (abs_A d)).symm

theorem abs_empty {n : Nat} {d : EdgeList} (h : empty n = some d) : d.abs = emptySpec Unit n := by
  obtain ⟨_, ⟨⟩⟩ := Option.ite_none_left_eq_some.mp h
  rfl

theorem empty_WF {n : Nat} {d : EdgeList} (h : empty n = some d) : d.WF := by
  refine (WF_iff d).mpr ⟨?_, abs_empty h ▸ emptySpec_valid Unit n⟩
  obtain ⟨hn, ⟨⟩⟩ := Option.ite_none_left_eq_some.mp h
  exact ⟨Nat.pos_of_ne_zero hn, List.Pairwise.nil⟩

theorem addArc_eq (d : EdgeList) (u v : Nat) :
    d.addArc u v = if rejected .fixed d.abs u v = true then none else some ⟨pinsert (u, v) d.arcs, d.order⟩ :=
  fixed_guard d.order _ u v _

theorem abs_update (d : EdgeList) (arcs : List (Nat × Nat)) (u v : Nat) (x : Option Unit)
    (h : ∀ a : Nat × Nat, unitOf (arcs.contains a) = if a = (u, v) then x else unitOf (d.arcs.contains a)) :
    abs ⟨arcs, d.order⟩ = ⟨d.abs.V, setW d.abs.W u v x⟩ := by
  refine SpecState.ext (fun _ => rfl) fun a b => (h (a, b)).trans ?_
  exact ite_congr (Prod.mk.injEq ..) (fun _ => rfl) (fun _ => rfl)

theorem step_spec (d : EdgeList) (op : Op Unit) (h : d.Shape) :
    Refines Shape abs (d.step op) (specStep .fixed d.abs op) := by
  cases op with
  | add u v w =>
    rw [step, addArc_eq]
    exact guarded_refines h fun _ =>
      ⟨⟨h.1, sorted_pinsert h.2⟩, abs_update d _ u v _ (unitOf_contains_insert fun _ => mem_pinsert)⟩
  | rem u v =>
    exact ⟨⟨h.1, sorted_perase h.2⟩, abs_update d _ u v _ (unitOf_contains_erase fun _ => mem_perase h.2),
      congrArg Out.bool (abs_A d u v).symm⟩

theorem step_WF (d : EdgeList) (op : Op Unit) (h : d.WF) : (d.step op).1.WF :=
  step_WF_of_shape WF_iff (specStep_valid .fixed) step_spec d op h

theorem step_refines (d : EdgeList) (op : Op Unit) (h : d.WF) :
    (d.step op).1.abs = (specStep .fixed d.abs op).1 ∧ (d.step op).2 = (specStep .fixed d.abs op).2 :=
  (step_spec d op ((WF_iff d).mp h).1).2

theorem step_rejects (d : EdgeList) (u v : Nat) (h : rejected .fixed d.abs u v = true) :
    d.step (.add u v ()) = (d, .panic) := by
  rw [step, addArc_eq, if_pos h]; rfl

theorem run_refines (ops : List (Op Unit)) (d : EdgeList) (h : d.WF) :
    (run step d ops).1.WF ∧ (run step d ops).1.abs = (run (specStep .fixed) d.abs ops).1 ∧
    (run step d ops).2 = (run (specStep .fixed) d.abs ops).2 :=
  run_refines_gen step (specStep .fixed) WF abs step_WF step_refines ops d h

theorem mem_arcs (d : EdgeList) (_ : d.WF) (u v : Nat) : (u, v) ∈ d.arcs ↔ d.abs.A u v = true := by
  rw [abs_A]; exact mem_arcs_iff d u v

theorem arcs_sorted_nodup (d : EdgeList) (h : d.WF) :
    d.arcs.Pairwise (fun a b => pairLt a b = true) ∧ d.arcs.Nodup ∧
    ∀ u v, (u, v) ∈ d.arcs ↔ d.abs.A u v = true :=
  ⟨h.2.1, sortedP_nodup h.2.1, mem_arcs d h⟩

theorem abs_valid (d : EdgeList) (h : d.WF) : d.abs.Valid := ((WF_iff d).mp h).2

/-- C20: a well-formed `EdgeList` is determined by its abstract digraph. -/
theorem abs_injective (d₁ d₂ : EdgeList) (h₁ : d₁.WF) (h₂ : d₂.WF) : d₁.abs = d₂.abs ↔ d₁ = d₂ :=
  determined_of_ext (fun d h => ((WF_iff d).mp h).1) (fun d _ => (vertices_spec d).2) (fun _ _ _ => rfl) ext
    d₁ d₂ h₁ h₂

end GraafVerif.Repr.EdgeList
