import GraafVerif.Proof.JohnsonTarjan
import GraafVerif.Spec.Johnson
import GraafVerif.Proof.RowsDesc
/-!
# The digraph the driver builds from a valid description meets the hypotheses of the C10 theorems

`Graph.ofRows (rowsOfArcs n arcs)` (what `GDesc.graph` computes) for arcs that are in range and
loop-free — exactly what the handler `H10.hCircuits` checks before it evaluates a case — is
well-formed, loop-free and has duplicate-free (strictly ascending) rows.
-/
namespace GraafVerif.Johnson
open GraafVerif

def RowsOK (n : Nat) (rows : Array (List Nat)) : Prop :=
  rows.size = n ∧ ∀ u, Asc ((rows[u]?).getD []) ∧ ∀ v ∈ (rows[u]?).getD [], v < n ∧ v ≠ u

theorem rowsOfArcs_ok (n : Nat) (arcs : List (Nat × Nat))
    (hv : ∀ a ∈ arcs, a.1 < n ∧ a.2 < n ∧ a.1 ≠ a.2) : RowsOK n (rowsOfArcs n arcs) := by
  refine ⟨rowsOfArcs_size n arcs, fun u => ?_⟩
  rw [← Array.getD_eq_getD_getElem?]
  refine ⟨(rowsOfArcs_row n arcs u).1, fun v h => ?_⟩
  have := hv _ (((rowsOfArcs_row n arcs u).2 v).mp h).1
  exact ⟨this.2.1, fun e => this.2.2 e.symm⟩

/-- The hypotheses of `C10.statement` hold for every digraph the driver evaluates. -/
theorem driver_graph_ok (n : Nat) (arcs : List (Nat × Nat))
    (hv : ∀ a ∈ arcs, a.1 < n ∧ a.2 < n ∧ a.1 ≠ a.2) :
    (Graph.ofRows (rowsOfArcs n arcs)).WF ∧ NoLoops (Graph.ofRows (rowsOfArcs n arcs)) ∧
      RowsNodup (Graph.ofRows (rowsOfArcs n arcs)) :=
  ⟨(ofArcRows_spec n arcs fun a ha => ⟨(hv a ha).1, (hv a ha).2.1⟩).2.2,
    fun u h => (hv _ (((rowsOfArcs_row n arcs u).2 u).mp h).1).2.2 rfl,
    fun u => Repr.sortedS_nodup (rowsOfArcs_row n arcs u).1⟩

end GraafVerif.Johnson
