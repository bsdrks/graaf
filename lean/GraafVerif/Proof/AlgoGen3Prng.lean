import GraafVerif.Model.AlgoGen3
import GraafVerif.Proof.AlgoGenRt
import GraafVerif.Model.Rand
/-!
# Generated `SplitMix64` / `Xoshiro256StarStar` (`Model/AlgoGen3.lean`) = the bit-exact hand-written
PRNG model of `Model/Rand.lean`

`[u64; 4]` is a list of four words on the generated side, the structure `Rand.Xo` on the
hand-written side (`ofX`).  All equalities hold for every seed / every four-word state; the raw
pointer accesses `*state_ptr.add(k)`, `k ≤ 3`, are in range on such a state (no `ub`).
`next_f64` is translated up to the 52 mantissa bits: `f64UnitOfBits` (see `Model/AlgoGenRt3.lean`
for the trusted reading of `f64::from_bits(..) - 1.0`); `nextF64_eq` shows that these bits are the
hand-written `Rand.mant` of the draw.
-/
namespace GraafVerif.AlgoGenThm
open GraafVerif GraafVerif.AlgoGen

namespace SplitMix64

theorem new_eq (seed : UInt64) : AlgoGen.SplitMix64.new seed = .ok ⟨seed⟩ := rfl

theorem next_eq (st : UInt64) :
    AlgoGen.SplitMix64.next ⟨st⟩ = .ok (some (Rand.splitMixStep st).1, ⟨(Rand.splitMixStep st).2⟩) := rfl

end SplitMix64

namespace Xoshiro256StarStar

def ofX (x : Rand.Xo) : AlgoGen.Xoshiro256StarStar := ⟨[x.s0, x.s1, x.s2, x.s3]⟩

theorem new_eq (seed : UInt64) : AlgoGen.Xoshiro256StarStar.new seed = .ok (ofX (Rand.Xo.new seed)) := by
  rfl

theorem next_eq (x : Rand.Xo) :
    AlgoGen.Xoshiro256StarStar.next (ofX x) = .ok (some (Rand.Xo.next x).1, ofX (Rand.Xo.next x).2) := by
  -- as the term `rfl` the twenty `*state_ptr.add(k)` accesses are evaluated twice
  rfl

theorem nextBool_eq (x : Rand.Xo) :
    AlgoGen.Xoshiro256StarStar.nextBool (ofX x) = .ok (Rand.nextBool (Rand.Xo.next x).1, ofX (Rand.Xo.next x).2) := by
  unfold AlgoGen.Xoshiro256StarStar.nextBool
  rw [next_eq]
  rfl

theorem or_and_mask (a w m : UInt64) (h : a &&& m = 0) : (a ||| (w &&& m)) &&& m = w &&& m := by
  have hd : (a ||| (w &&& m)) &&& m = (a &&& m) ||| ((w &&& m) &&& m) :=
    UInt64.toBitVec_inj.1 BitVec.and_or_distrib_right
  rw [hd, h, UInt64.zero_or, UInt64.and_assoc, UInt64.and_self]

/-- the bit pattern `1023 << 52 | (w & (2^52 - 1))` has the mantissa bits of `w` -/
theorem mant_bits (w : UInt64) :
    ((((1023 : UInt64) <<< (52 : UInt64)) ||| (w &&& (4503599627370495 : UInt64))) &&& (0xFFFFFFFFFFFFF : UInt64)) =
      w &&& (0xFFFFFFFFFFFFF : UInt64) :=
  or_and_mask _ w _ (by decide)

/-- the bit pattern `1023 << 52 | (w & (2^52 - 1))` has sign 0 and exponent 1023 -/
theorem exp_bits (w : UInt64) :
    ((((1023 : UInt64) <<< (52 : UInt64)) ||| (w &&& (4503599627370495 : UInt64))) >>> (52 : UInt64)) = 1023 := by
  have h1 : ((1023 : UInt64) <<< (52 : UInt64)) >>> (52 : UInt64) = 1023 := by decide
  have h2 : (4503599627370495 : UInt64) >>> (52 : UInt64) = 0 := by decide
  rw [UInt64.shiftRight_or, UInt64.shiftRight_and, h1, h2, UInt64.and_zero, UInt64.or_zero]

/-- `next_f64` up to the mantissa: the word handed to `f64::from_bits(·) - 1.0` has exponent 1023 and its 52
mantissa bits are the hand-written `Rand.mant` of the draw (the returned double is exactly `mant / 2^52`). -/
theorem nextF64_eq (x : Rand.Xo) :
    AlgoGen.Xoshiro256StarStar.nextF64 (ofX x) = .ok (Rand.mant (Rand.Xo.next x).1, ofX (Rand.Xo.next x).2) := by
  unfold AlgoGen.Xoshiro256StarStar.nextF64
  simp only [next_eq, call_ok, ok_bind, unwrapO, pure_eq_ok, fnBody_ok, f64UnitOfBits, Rand.mant, mant_bits, exp_bits,
    if_true]

end Xoshiro256StarStar

end GraafVerif.AlgoGenThm
