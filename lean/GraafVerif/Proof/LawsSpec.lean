import GraafVerif.Spec.Ops
import GraafVerif.Spec.Pred
import GraafVerif.Proof.GenDefs
/-!
# Laws — the set-level side

Over the abstract digraph `DG = (V, A)` of `Spec/Ops.lean`: C12's definitions read over a `DG` (`DGP.*`, bridged to
`Pred.Def.*` by `def_iff_*`), the digraph `genDG n P` a generator of C14 realises, and the algebra between
`specComplement / specConverse / specUnion` (C11), those predicates and the defining arc sets of the generators.
-/
namespace GraafVerif.Laws
open GraafVerif.Ops GraafVerif.Query GraafVerif.Pred GraafVerif.GenSpec GraafVerif.Gen

def toDG (G : Digraph) : DG := ⟨fun v => v ∈ G.verts, fun u v => G.adj u v = true⟩

/-- The digraph with vertex set `0..n` and arc predicate `P` (what `Realises d n P` says of `d`). -/
def genDG (n : Nat) (P : Nat → Nat → Prop) : DG := ⟨fun v => v < n, P⟩

def Arcless (g : DG) : Prop := ∀ u v, ¬ g.A u v

/-! ## C12's definitions over `DG` -/
namespace DGP
variable (g : DG)
def Complete : Prop := ∀ u v, g.V u → g.V v → u ≠ v → g.A u v
def Semicomplete : Prop := ∀ u v, g.V u → g.V v → u ≠ v → g.A u v ∨ g.A v u
def Tournament : Prop := ∀ u v, g.V u → g.V v → u ≠ v → (g.A u v ↔ ¬ g.A v u)
def Symmetric : Prop := ∀ u v, g.A u v → g.A v u
def Oriented : Prop := ∀ u v, g.A u v → ¬ g.A v u
end DGP
def DGP.Sub (h d : DG) : Prop := (∀ v, h.V v → d.V v) ∧ ∀ u v, h.A u v → d.A u v

theorem def_iff_complete (G : Digraph) : Def.IsComplete G ↔ DGP.Complete (toDG G) :=
  ⟨fun h u v hu hv hne => h u hu v hv hne, fun h u hu v hv hne => h u v hu hv hne⟩
theorem def_iff_semicomplete (G : Digraph) : Def.IsSemicomplete G ↔ DGP.Semicomplete (toDG G) :=
  ⟨fun h u v hu hv hne => h u hu v hv hne, fun h u hu v hv hne => h u v hu hv hne⟩
theorem def_iff_tournament (G : Digraph) : Def.IsTournament G ↔ DGP.Tournament (toDG G) :=
  ⟨fun h u v hu hv hne => (h u hu v hv hne).trans Bool.eq_false_iff,
    fun h u hu v hv hne => (h u v hu hv hne).trans Bool.eq_false_iff.symm⟩
theorem def_iff_symmetric (G : Digraph) : Def.IsSymmetric G ↔ DGP.Symmetric (toDG G) := Iff.rfl
theorem def_iff_oriented (G : Digraph) : Def.IsOriented G ↔ DGP.Oriented (toDG G) :=
  ⟨fun h u v x => Bool.eq_false_iff.mp (h u v x), fun h u v x => Bool.eq_false_iff.mpr (h u v x)⟩
theorem def_iff_sub (H D : Digraph) : Def.IsSubdigraph H D ↔ DGP.Sub (toDG H) (toDG D) := Iff.rfl

theorem toDG_valid {G : Digraph} (h : G.Valid) : (toDG G).Valid := fun u v huv =>
  ⟨(h.closed u v huv).1, (h.closed u v huv).2, fun e => Bool.false_ne_true ((h.irrefl u).symm.trans (e ▸ huv))⟩

/-- what `Realises d n P` says of the abstract digraph `G` of `d` -/
structure IsGen (G : Digraph) (n : Nat) (P : Nat → Nat → Prop) : Prop where
  verts : G.verts = List.range n
  adj : ∀ u v, G.adj u v = true ↔ P u v

theorem IsGen.toDG_eq {G : Digraph} {n : Nat} {P : Nat → Nat → Prop} (h : IsGen G n P) : toDG G = genDG n P := by
  rw [DG.ext_iff']
  exact ⟨fun v => by show v ∈ G.verts ↔ v < n; rw [h.verts]; exact List.mem_range, h.adj⟩

/-! ## union -/

theorem specUnion_arcless_right {g e : DG} (hV : ∀ v, e.V v → g.V v) (hA : Arcless e) :
    specUnion g e = g := by
  rw [DG.ext_iff']
  exact ⟨fun v => ⟨fun h => h.elim id (hV v), Or.inl⟩, fun u v => ⟨fun h => h.elim id (fun x => (hA u v x).elim), Or.inl⟩⟩

theorem specUnion_arcless_left {g e : DG} (hV : ∀ v, e.V v → g.V v) (hA : Arcless e) :
    specUnion e g = g := by rw [specUnion_comm, specUnion_arcless_right hV hA]

theorem specConverse_union (g h : DG) :
    specConverse (specUnion g h) = specUnion (specConverse g) (specConverse h) := rfl

theorem specConverse_complement (g : DG) :
    specConverse (specComplement g) = specComplement (specConverse g) := by
  rw [DG.ext_iff']
  refine ⟨fun _ => Iff.rfl, fun u v => ?_⟩
  exact ⟨fun ⟨a, b, c, d⟩ => ⟨b, a, fun e => c e.symm, d⟩, fun ⟨a, b, c, d⟩ => ⟨b, a, fun e => c e.symm, d⟩⟩

def completeOn (V : Nat → Prop) : DG := ⟨V, fun u v => V u ∧ V v ∧ u ≠ v⟩
def emptyOn (V : Nat → Prop) : DG := ⟨V, fun _ _ => False⟩

theorem specUnion_complement {g : DG} (h : g.Valid) : specUnion g (specComplement g) = completeOn g.V := by
  rw [DG.ext_iff']
  refine ⟨fun v => or_self_iff, fun u v => ?_⟩
  constructor
  · rintro (ha | ⟨a, b, c, _⟩)
    · exact h u v ha
    · exact ⟨a, b, c⟩
  · rintro ⟨a, b, c⟩
    exact Classical.byCases (fun ha : g.A u v => Or.inl ha) (fun hn => Or.inr ⟨a, b, c, hn⟩)

theorem specComplement_completeOn (V : Nat → Prop) : specComplement (completeOn V) = emptyOn V := by
  rw [DG.ext_iff']
  refine ⟨fun _ => Iff.rfl, fun u v => ?_⟩
  exact ⟨fun ⟨a, b, c, d⟩ => d ⟨a, b, c⟩, False.elim⟩

theorem specComplement_emptyOn (V : Nat → Prop) : specComplement (emptyOn V) = completeOn V := by
  rw [DG.ext_iff']
  refine ⟨fun _ => Iff.rfl, fun u v => ?_⟩
  exact ⟨fun ⟨a, b, c, _⟩ => ⟨a, b, c⟩, fun ⟨a, b, c⟩ => ⟨a, b, c, id⟩⟩

theorem completeOn_lt (n : Nat) : completeOn (fun v => v < n) = genDG n (CompleteDef n) := rfl
theorem emptyOn_lt (n : Nat) : emptyOn (fun v => v < n) = genDG n (EmptyDef n) := rfl

theorem completeOn_congr {V W : Nat → Prop} (h : ∀ v, V v ↔ W v) : completeOn V = completeOn W := by
  have : V = W := funext fun v => propext (h v)
  rw [this]
theorem emptyOn_congr {V W : Nat → Prop} (h : ∀ v, V v ↔ W v) : emptyOn V = emptyOn W := by
  have : V = W := funext fun v => propext (h v)
  rw [this]

/-! ## predicates against operations -/

theorem symmetric_iff_converse {g : DG} : DGP.Symmetric g ↔ specConverse g = g := by
  rw [DG.ext_iff']
  constructor
  · intro h; exact ⟨fun _ => Iff.rfl, fun u v => ⟨h v u, h u v⟩⟩
  · intro h u v huv; exact ((h.2 u v).mpr huv)

theorem complete_iff_complement_arcless {g : DG} : DGP.Complete g ↔ Arcless (specComplement g) := by
  constructor
  · intro h u v ⟨a, b, c, d⟩; exact d (h u v a b c)
  · intro h u v a b c
    exact Classical.byContradiction fun hn => h u v ⟨a, b, c, hn⟩

theorem complete_iff_complement_empty {g : DG} : DGP.Complete g ↔ specComplement g = emptyOn g.V := by
  rw [complete_iff_complement_arcless, DG.ext_iff']
  constructor
  · intro h; exact ⟨fun _ => Iff.rfl, fun u v => ⟨fun x => h u v x, False.elim⟩⟩
  · intro h u v x; exact (h.2 u v).mp x

theorem complete_iff_eq_completeOn {g : DG} (hv : g.Valid) : DGP.Complete g ↔ g = completeOn g.V := by
  rw [DG.ext_iff']
  constructor
  · intro h; exact ⟨fun _ => Iff.rfl, fun u v => ⟨fun x => hv u v x, fun ⟨a, b, c⟩ => h u v a b c⟩⟩
  · intro h u v a b c; exact (h.2 u v).mpr ⟨a, b, c⟩

theorem tournament_iff {g : DG} (hv : g.Valid) : DGP.Tournament g ↔ DGP.Semicomplete g ∧ DGP.Oriented g := by
  constructor
  · intro h
    refine ⟨fun u v a b c => ?_, fun u v x => ?_⟩
    · exact Classical.byCases (fun hx : g.A v u => Or.inr hx) (fun hn => Or.inl ((h u v a b c).mpr hn))
    · exact (h u v (hv u v x).1 (hv u v x).2.1 (hv u v x).2.2).mp x
  · rintro ⟨hs, ho⟩ u v a b c
    exact ⟨ho u v, fun hn => (hs u v a b c).elim id (fun x => (hn x).elim)⟩

theorem tournament_iff_complement_eq_converse {g : DG} (hv : g.Valid) :
    DGP.Tournament g ↔ specComplement g = specConverse g := by
  rw [DG.ext_iff']
  constructor
  · intro h
    refine ⟨fun _ => Iff.rfl, fun u v => ⟨fun ⟨a, b, c, d⟩ => ?_, fun x => ?_⟩⟩
    · exact Classical.byContradiction fun hn => d ((h u v a b c).mpr hn)
    · have := hv v u x
      exact ⟨this.2.1, this.1, fun e => this.2.2 e.symm, fun y => (h u v this.2.1 this.1 (fun e => this.2.2 e.symm)).mp y x⟩
  · intro h u v a b c
    constructor
    · intro x y
      exact ((h.2 v u).mpr x).2.2.2 y
    · intro hn
      exact Classical.byContradiction fun hx => hn ((h.2 u v).mp ⟨a, b, c, hx⟩)

theorem semicomplete_iff_complement_oriented {g : DG} :
    DGP.Semicomplete g ↔ DGP.Oriented (specComplement g) := by
  constructor
  · intro h u v ⟨a, b, c, d⟩ ⟨_, _, _, d'⟩
    exact (h u v a b c).elim d d'
  · intro h u v a b c
    exact Classical.byCases (fun x : g.A u v => Or.inl x) (fun hn =>
      Or.inr (Classical.byContradiction fun hm => h u v ⟨a, b, c, hn⟩ ⟨b, a, fun e => c e.symm, hm⟩))

/-- `complement` is an involution on valid digraphs, so each of the three facts below needs one direction only. -/
theorem oriented_iff_complement_semicomplete {g : DG} (hv : g.Valid) :
    DGP.Oriented g ↔ DGP.Semicomplete (specComplement g) := by
  rw [semicomplete_iff_complement_oriented, specComplement_involutive hv]

theorem symmetric_complement {g : DG} (h : DGP.Symmetric g) : DGP.Symmetric (specComplement g) :=
  fun u v ⟨a, b, c, d⟩ => ⟨b, a, fun e => c e.symm, fun x => d (h v u x)⟩

theorem symmetric_iff_complement_symmetric {g : DG} (hv : g.Valid) :
    DGP.Symmetric g ↔ DGP.Symmetric (specComplement g) :=
  ⟨symmetric_complement, fun h => specComplement_involutive hv ▸ symmetric_complement h⟩

theorem tournament_iff_complement_tournament {g : DG} (hv : g.Valid) :
    DGP.Tournament g ↔ DGP.Tournament (specComplement g) := by
  rw [tournament_iff hv, tournament_iff (specComplement_valid g), semicomplete_iff_complement_oriented,
    oriented_iff_complement_semicomplete hv]
  exact And.comm

theorem converse_preserves (g : DG) :
    (DGP.Complete (specConverse g) ↔ DGP.Complete g) ∧
    (DGP.Semicomplete (specConverse g) ↔ DGP.Semicomplete g) ∧
    (DGP.Tournament (specConverse g) ↔ DGP.Tournament g) ∧
    (DGP.Symmetric (specConverse g) ↔ DGP.Symmetric g) ∧
    (DGP.Oriented (specConverse g) ↔ DGP.Oriented g) := by
  refine ⟨⟨fun h u v a b c => h v u b a (fun e => c e.symm), fun h u v a b c => h v u b a (fun e => c e.symm)⟩,
    ⟨fun h u v a b c => (h u v a b c).symm, fun h u v a b c => (h u v a b c).symm⟩,
    ⟨fun h u v a b c => h v u b a (fun e => c e.symm), fun h u v a b c => h v u b a (fun e => c e.symm)⟩,
    ⟨fun h u v x => h v u x, fun h u v x => h v u x⟩,
    ⟨fun h u v x => h v u x, fun h u v x => h v u x⟩⟩

/-! ## sub- and superdigraphs -/

theorem sub_union_left (g h : DG) : DGP.Sub g (specUnion g h) := ⟨fun _ => Or.inl, fun _ _ => Or.inl⟩
theorem sub_union_right (g h : DG) : DGP.Sub h (specUnion g h) := ⟨fun _ => Or.inr, fun _ _ => Or.inr⟩
theorem sub_refl (g : DG) : DGP.Sub g g := ⟨fun _ => id, fun _ _ => id⟩
theorem sub_trans {a b c : DG} (h1 : DGP.Sub a b) (h2 : DGP.Sub b c) : DGP.Sub a c :=
  ⟨fun v x => h2.1 v (h1.1 v x), fun u v x => h2.2 u v (h1.2 u v x)⟩
theorem sub_antisymm_iff {g h : DG} : DGP.Sub g h ∧ DGP.Sub h g ↔ g = h := by
  rw [DG.ext_iff']
  exact ⟨fun ⟨a, b⟩ => ⟨fun v => ⟨a.1 v, b.1 v⟩, fun u v => ⟨a.2 u v, b.2 u v⟩⟩,
    fun ⟨a, b⟩ => ⟨⟨fun v => (a v).mp, fun u v => (b u v).mp⟩, ⟨fun v => (a v).mpr, fun u v => (b u v).mpr⟩⟩⟩
theorem sub_iff_union_eq {g h : DG} : DGP.Sub g h ↔ specUnion g h = h := by
  rw [DG.ext_iff']
  exact and_congr (forall_congr' fun _ => or_iff_right_iff_imp.symm)
    (forall_congr' fun _ => forall_congr' fun _ => or_iff_right_iff_imp.symm)
theorem sub_completeOn {g : DG} (hv : g.Valid) : DGP.Sub g (completeOn g.V) := ⟨fun _ => id, fun u v x => hv u v x⟩
theorem emptyOn_sub (g : DG) : DGP.Sub (emptyOn g.V) g := ⟨fun _ => id, fun _ _ => False.elim⟩
theorem sub_complement_iff {g h : DG} (hV : ∀ v, g.V v ↔ h.V v) (hg : g.Valid) :
    DGP.Sub g (specComplement h) ↔ ∀ u v, g.A u v → ¬ h.A u v := by
  constructor
  · intro ⟨_, b⟩ u v x; exact (b u v x).2.2.2
  · intro h'
    refine ⟨fun v x => (hV v).mp x, fun u v x => ?_⟩
    have := hg u v x
    exact ⟨(hV u).mp this.1, (hV v).mp this.2.1, this.2.2, h' u v x⟩

/-! ## the defining arc sets of the generators -/

theorem circuit_union_converse (n : Nat) :
    specUnion (genDG n (CircuitDef n)) (specConverse (genDG n (CircuitDef n))) = genDG n (CycleDef n) := by
  rw [DG.ext_iff']; exact ⟨fun _ => or_self_iff, fun _ _ => Iff.rfl⟩

theorem gen_valid {n : Nat} {P : Nat → Nat → Prop} (h : ∀ u v, P u v → u < n ∧ v < n ∧ u ≠ v) : (genDG n P).Valid := h

theorem complete_symmetric (n : Nat) : DGP.Symmetric (genDG n (CompleteDef n)) :=
  fun _ _ ⟨a, b, c⟩ => ⟨b, a, fun e => c e.symm⟩
theorem empty_symmetric (n : Nat) : DGP.Symmetric (genDG n (EmptyDef n)) := fun _ _ x => x.elim
theorem cycle_symmetric (n : Nat) : DGP.Symmetric (genDG n (CycleDef n)) := fun _ _ x => x.symm
theorem star_symmetric (n : Nat) : DGP.Symmetric (genDG n (StarDef n)) := fun _ _ x => x.symm
theorem biclique_symmetric (m n : Nat) : DGP.Symmetric (genDG (m + n) (BicliqueDef m n)) := fun _ _ x => x.symm
theorem wheel_symmetric (n : Nat) : DGP.Symmetric (genDG n (WheelDef n)) :=
  fun _ _ x => x.elim (fun y => Or.inl y.symm) (fun y => Or.inr y.symm)

theorem complete_complete (n : Nat) : DGP.Complete (genDG n (CompleteDef n)) := fun _ _ a b c => ⟨a, b, c⟩
theorem complete_semicomplete (n : Nat) : DGP.Semicomplete (genDG n (CompleteDef n)) :=
  fun _ _ a b c => Or.inl ⟨a, b, c⟩

theorem path_oriented (n : Nat) : DGP.Oriented (genDG n (PathDef n)) := by
  intro u v ⟨_, b⟩ ⟨_, d⟩
  subst b
  exact absurd d (Nat.ne_of_lt (Nat.lt_succ_of_lt (Nat.lt_succ_self u)))
theorem empty_oriented (n : Nat) : DGP.Oriented (genDG n (EmptyDef n)) := fun _ _ x => x.elim

theorem succ_mod_succ_mod_ne {n u : Nat} (hn : 3 ≤ n) (hu : u < n) : ((u + 1) % n + 1) % n ≠ u :=
  next_next_ne (s := fun x => (x + 1) % n) succ_mod_cases (c := 0) hn hu

theorem circuit_oriented {n : Nat} (hn : n ≠ 2) : DGP.Oriented (genDG n (CircuitDef n)) :=
  fun _ _ h h' => succ_mod_succ_mod_ne (Nat.lt_of_le_of_ne h.1 (Ne.symm hn)) h.2.1 (h.2.2 ▸ h'.2.2.symm)

theorem circuit2_not_oriented : ¬ DGP.Oriented (genDG 2 (CircuitDef 2)) :=
  fun h => h 0 1 (by decide : CircuitDef 2 0 1) (by decide : CircuitDef 2 1 0)

theorem cycle_not_oriented {n : Nat} (hn : 2 ≤ n) : ¬ DGP.Oriented (genDG n (CycleDef n)) := by
  intro h
  have h01 : CircuitDef n 0 1 := ⟨hn, Nat.lt_of_lt_of_le (by decide) hn, (Nat.mod_eq_of_lt hn).symm⟩
  exact h 0 1 (Or.inl h01) (Or.inr h01)

theorem path_sub_circuit (n : Nat) : DGP.Sub (genDG n (PathDef n)) (genDG n (CircuitDef n)) :=
  ⟨fun _ => id, fun u _ ⟨a, b⟩ =>
    ⟨Nat.lt_of_le_of_lt (Nat.le_add_left 1 u) a, Nat.lt_of_succ_lt a, b.trans (Nat.mod_eq_of_lt a).symm⟩⟩
theorem circuit_sub_cycle (n : Nat) : DGP.Sub (genDG n (CircuitDef n)) (genDG n (CycleDef n)) :=
  ⟨fun _ => id, fun _ _ => Or.inl⟩
theorem star_sub_wheel (n : Nat) : DGP.Sub (genDG n (StarDef n)) (genDG n (WheelDef n)) :=
  ⟨fun _ => id, fun _ _ => Or.inl⟩

end GraafVerif.Laws
