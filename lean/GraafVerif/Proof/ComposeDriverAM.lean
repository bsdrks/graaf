import GraafVerif.Proof.ComposeDriver
/-!
# Compose — sparse `[am verts arcs]` descriptions: the `VGraph` of the C09 handler is the
vertex-id view of the map the harness builds

`H09.vgraphOf d` = vertex list `vertsOf d` (the described vertices plus all arc endpoints, sorted
by an `insertAsc` fold) and rows `rowsOfArcs (max id + 1) arcs`.  `buildAM d` = the map over
`d.verts` with empty rows, then `add_arc` for every described arc (which may introduce new endpoints).
For every description with ascending `verts` and loop-free arcs the two coincide:
`(buildAM d).vview = H09.vgraphOf d`.
-/
namespace GraafVerif.Compose
open GraafVerif GraafVerif.Repr GraafVerif.ReprSpec GraafVerif.Driver

/-! ## `add_arc` folds are histories -/

theorem foldlM_addArc_am (arcs : List (Nat × Nat)) (hnl : ∀ a ∈ arcs, a.1 ≠ a.2) :
    ∀ e : AdjMap, arcs.foldlM (fun g a => g.addArc a.1 a.2) e = some (run AdjMap.step e (addOps (unitW arcs))).1 := by
  induction arcs with
  | nil => intro e; rfl
  | cons a as ih =>
    intro e
    have hne := hnl a List.mem_cons_self
    have hadd : e.addArc a.1 a.2 = some ⟨mupsert a.2 [] id (mupsert a.1 [] (sinsert a.2) e.rows)⟩ := by
      simp [AdjMap.addArc, hne]
    rw [List.foldlM_cons, hadd]
    simp only [addOps, unitW, List.map_cons, run, AdjMap.step, hadd, outOfOpt]
    exact ih (fun x hx => hnl x (List.mem_cons_of_mem _ hx)) _

theorem specStep_growing_add (s : SpecState Unit) {u v : Nat} (h : u ≠ v) :
    (∀ x, (specStep .growing s (.add u v ())).1.V x = true ↔ (s.V x = true ∨ x = u ∨ x = v)) ∧
    (∀ a b, (specStep .growing s (.add u v ())).1.A a b = true ↔ (s.A a b = true ∨ (a, b) = (u, v))) := by
  rw [specStep_add_ok () ((rejected_growing s u v).trans (decide_eq_false h))]
  refine ⟨fun x => ?_, fun a b => ?_⟩
  · show (decide (x = v) || (decide (x = u) || s.V x)) = true ↔ _
    rw [Bool.or_eq_true, Bool.or_eq_true, decide_eq_true_eq, decide_eq_true_eq, or_comm, or_comm (a := x = u), or_assoc]
  · rw [A_setW]
    by_cases hc : a = u ∧ b = v
    · rw [if_pos hc]
      exact ⟨fun _ => .inr (Prod.ext hc.1 hc.2), fun _ => rfl⟩
    · rw [if_neg hc]
      exact ⟨.inl, fun h => h.resolve_right fun e => hc ⟨congrArg Prod.fst e, congrArg Prod.snd e⟩⟩

theorem specRun_growing_adds (arcs : List (Nat × Nat)) (hnl : ∀ a ∈ arcs, a.1 ≠ a.2) :
    ∀ s : SpecState Unit,
      (∀ x, (run (specStep .growing) s (addOps (unitW arcs))).1.V x = true ↔
        (s.V x = true ∨ x ∈ arcs.map (·.1) ∨ x ∈ arcs.map (·.2))) ∧
      (∀ u v, (run (specStep .growing) s (addOps (unitW arcs))).1.A u v = true ↔ (s.A u v = true ∨ (u, v) ∈ arcs)) := by
  induction arcs with
  | nil => exact fun s => ⟨fun x => by simp [addOps, unitW, run], fun u v => by simp [addOps, unitW, run]⟩
  | cons a as ih =>
    intro s
    obtain ⟨hV, hA⟩ := specStep_growing_add s (hnl a List.mem_cons_self)
    obtain ⟨ihV, ihA⟩ := ih (fun x hx => hnl x (List.mem_cons_of_mem _ hx)) (specStep .growing s (.add a.1 a.2 ())).1
    refine ⟨fun x => (ihV x).trans ?_, fun u v => (ihA u v).trans ?_⟩
    · rw [hV x, List.map_cons, List.map_cons, List.mem_cons, List.mem_cons]
      exact or_assoc.trans (or_congr_right or_or_or_comm)
    · rw [hA u v, List.mem_cons]
      exact or_assoc

/-! ## The start map: the described vertices, no arcs -/

theorem startMap_WF (vs : List Nat) (h : vs.Pairwise (· < ·)) : (⟨vs.map (fun v => (v, []))⟩ : AdjMap).WF := by
  refine ⟨by unfold SortedK; rw [List.pairwise_map]; exact h, ?_⟩
  intro u row hm
  obtain ⟨v, _, e⟩ := List.mem_map.1 hm
  cases e
  exact ⟨List.Pairwise.nil, fun _ hv => by cases hv⟩

theorem startMap_V (vs : List Nat) (h : vs.Pairwise (· < ·)) (x : Nat) :
    (⟨vs.map (fun v => (v, []))⟩ : AdjMap).abs.V x = true ↔ x ∈ vs := by
  have e : (vs.map (fun v => (v, ([] : List Nat)))).map (·.1) = vs := (List.map_map ..).trans (List.map_id' vs)
  rw [← (AdjMap.vertices_spec _ (startMap_WF vs h)).2.2 x, AdjMap.vertices, e]

theorem startMap_noArcs (vs : List Nat) (h : vs.Pairwise (· < ·)) (u v : Nat) :
    ¬ (⟨vs.map (fun v => (v, []))⟩ : AdjMap).abs.A u v = true := by
  rw [← AdjMap.mem_arcs _ (startMap_WF vs h), AdjMap.arcs_eq, mem_rowArcs]
  rintro ⟨r, hm, hv⟩
  obtain ⟨x, _, e⟩ := List.mem_map.1 hm
  cases e
  cases hv

theorem le_foldl_max (l : List Nat) : ∀ (m x : Nat), (x ≤ m ∨ x ∈ l) → x ≤ l.foldl max m := by
  induction l with
  | nil => intro m x h; exact h.resolve_right (List.not_mem_nil)
  | cons a as ih =>
    intro m x h
    refine ih _ _ ?_
    rcases h with h | h
    · exact Or.inl (Nat.le_trans h (Nat.le_max_left m a))
    · rcases List.mem_cons.1 h with rfl | h
      · exact Or.inl (Nat.le_max_right m x)
      · exact Or.inr h

theorem vertsOf_am (d : GDesc) (hrepr : (d.repr == "am") = true) :
    (H09.vertsOf d).Pairwise (· < ·) ∧
    ∀ x, x ∈ H09.vertsOf d ↔ (x ∈ d.verts ∨ x ∈ d.arcs.map (·.1)) ∨ x ∈ d.arcs.map (·.2) := by
  have hins : (fun (acc : List Nat) x => Tarjan.insertAsc x acc) = fun acc x => sinsert x acc := by
    rw [Tarjan.insertAsc_eq_sinsert]
  have hvo : H09.vertsOf d = (d.verts ++ d.arcs.map (·.1) ++ d.arcs.map (·.2)).foldl (fun acc x => sinsert x acc) [] := by
    simp [H09.vertsOf, hrepr, hins]
  rw [hvo]
  exact ⟨sorted_foldl_sinsert _ [] .nil, fun x => by
    rw [mem_foldl_insert_nil mem_sinsert, List.mem_append, List.mem_append]⟩

/-- Every described arc lies below the handler's row bound `max id + 1`. -/
theorem arcs_lt_bound (d : GDesc) (hrepr : (d.repr == "am") = true) (hnl : ∀ a ∈ d.arcs, a.1 ≠ a.2) :
    ∀ a ∈ d.arcs, a.1 < (H09.vertsOf d).foldl max 0 + 1 ∧ a.2 < (H09.vertsOf d).foldl max 0 + 1 ∧ a.1 ≠ a.2 := by
  intro a ha
  have hm := (vertsOf_am d hrepr).2
  have h1 := le_foldl_max (H09.vertsOf d) 0 a.1 (.inr ((hm _).2 (.inl (.inr (List.mem_map_of_mem ha)))))
  have h2 := le_foldl_max (H09.vertsOf d) 0 a.2 (.inr ((hm _).2 (.inr (List.mem_map_of_mem ha))))
  exact ⟨Nat.lt_succ_of_le h1, Nat.lt_succ_of_le h2, hnl a ha⟩

theorem vgraphOf_row (d : GDesc) (hrepr : (d.repr == "am") = true) (hnl : ∀ a ∈ d.arcs, a.1 ≠ a.2) (u : Nat) :
    ((H09.vgraphOf d).out u).Pairwise (· < ·) ∧ ∀ v, v ∈ (H09.vgraphOf d).out u ↔ (u, v) ∈ d.arcs :=
  (rowsOfArcs_row _ d.arcs u).imp id fun h v =>
    (h v).trans ⟨And.left, fun h' => ⟨h', (arcs_lt_bound d hrepr hnl _ h').1⟩⟩

theorem driver_vgraph_is_vview_am (d : GDesc) (hrepr : (d.repr == "am") = true)
    (hverts : d.verts.Pairwise (· < ·)) (hnl : ∀ a ∈ d.arcs, a.1 ≠ a.2) :
    ∃ r, buildAM d = some r ∧ r.WF ∧ r.vertices = H09.vertsOf d ∧
      (∀ u v, (u, v) ∈ r.arcs ↔ (u, v) ∈ d.arcs) ∧ r.vview = H09.vgraphOf d := by
  let e : AdjMap := ⟨d.verts.map (fun v => (v, []))⟩
  have hwe : e.WF := startMap_WF d.verts hverts
  have hbuild : buildAM d = some (run AdjMap.step e (addOps (unitW d.arcs))).1 := foldlM_addArc_am d.arcs hnl e
  obtain ⟨hw, habs, _⟩ := AdjMap.run_refines (addOps (unitW d.arcs)) e hwe
  obtain ⟨hV, hA⟩ := specRun_growing_adds d.arcs hnl e.abs
  generalize (run AdjMap.step e (addOps (unitW d.arcs))).1 = r at hbuild hw habs
  have heV := startMap_V d.verts hverts
  have heA := startMap_noArcs d.verts hverts
  obtain ⟨hsorted, hmem⟩ := vertsOf_am d hrepr
  have hvs := AdjMap.vertices_spec r hw
  have hverts_eq : r.vertices = H09.vertsOf d :=
    Repr.sortedS_ext hvs.1 hsorted fun x => by rw [hvs.2.2 x, habs, hV x, heV x, hmem x, or_assoc]
  have harcs : ∀ u v, (u, v) ∈ r.arcs ↔ (u, v) ∈ d.arcs := fun u v => by
    rw [AdjMap.mem_arcs r hw u v, habs, hA u v, or_iff_right (heA u v)]
  have vs := r.vview_spec hw
  exact ⟨r, hbuild, hw, hverts_eq, harcs, vgraph_eq_of_asc hverts_eq vs.asc
    (fun u => (vgraphOf_row d hrepr hnl u).1)
    fun u v => (vs.arc_iff u v).trans ((harcs u v).trans ((vgraphOf_row d hrepr hnl u).2 v).symm)⟩

end GraafVerif.Compose
