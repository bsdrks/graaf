import GraafVerif.Proof.GenDefs
import GraafVerif.Proof.GenAddArc
import GraafVerif.Proof.Par
/-!
# C14, AdjacencyList: every generator realises its defining arc set

`AL.realises_of_rows`: every row, paired with its index `u` by `zipIdx`, is the ascending list of the
out-neighbours of `u` (`IsRow`); `zipIdx` distributes over the `map`, `replicate`, `::` and `++` the
generators build `rows` from.  `complete` is proved for every thread count via `Par.chunks_tile`.
-/
namespace GraafVerif.Gen
open GraafVerif.Repr GraafVerif.GenSpec

namespace AL

theorem mem_arcs {d : AdjList} {u v : Nat} :
    (u, v) ∈ d.arcs ↔ ∃ row, d.rows[u]? = some row ∧ v ∈ row := mem_flatRows_zero

theorem realises_of_rows {rows : List (List Nat)} {n : Nat} {P : Nat → Nat → Prop} (hn : 0 < n)
    (hlen : rows.length = n) (hrows : ∀ p ∈ rows.zipIdx, IsRow P p.2 p.1) (hvalid : ValidOn n P) :
    Realises ⟨rows⟩ n P := by
  have hrow : ∀ u row, rows[u]? = some row → IsRow P u row := fun u row h =>
    hrows (row, u) (List.mem_zipIdx_iff_getElem?.mpr h)
  subst hlen
  refine ⟨⟨hn, fun u row h => ⟨(hrow u row h).1, fun v hv => ?_⟩⟩, rfl, fun u v => ?_⟩
  · have := hvalid u v (((hrow u row h).2 v).mp hv)
    exact ⟨this.2.1, fun e => this.2.2 e.symm⟩
  · rw [mem_arcs]
    constructor
    · rintro ⟨row, h, hv⟩; exact ((hrow u row h).2 v).mp hv
    · intro hP
      have h := List.getElem?_eq_getElem (hvalid u v hP).1
      exact ⟨_, h, ((hrow u _ h).2 v).mpr hP⟩

theorem empty_spec {n : Nat} (hn : 1 ≤ n) : ∃ d, empty n = some d ∧ Realises d n (EmptyDef n) :=
  repr.yields_empty hn True.intro fun _ _ => id

theorem trivial_spec : ∃ d, trivial = some d ∧ Realises d 1 (EmptyDef 1) := empty_spec (Nat.le_refl 1)

theorem circuit_spec {n : Nat} (hn : 1 ≤ n) : ∃ d, circuit n = some d ∧ Realises d n (CircuitDef n) :=
  repr.yields_guard hn True.intro circuitDef_valid fun h2 =>
    ⟨_, rfl, realises_of_rows hn (by rw [List.length_map, length_rangeFT]; rfl)
      (by
        rw [map_rangeFT_succ]
        exact isRow_zipIdx_map fun u hu => isRow_ssetOf fun _ => circuit_row h2 (mem_rangeFT.mp hu).2)
      circuitDef_valid⟩

theorem cycle_spec {n : Nat} (hn : 1 ≤ n) : ∃ d, cycle n = some d ∧ Realises d n (CycleDef n) :=
  repr.yields_guard hn True.intro cycleDef_valid fun h2 =>
    ⟨_, rfl, realises_of_rows hn (by rw [List.length_map, length_rangeFT]; rfl)
      (isRow_zipIdx_map fun u hu => isRow_ssetOf fun _ => cycle_row h2 (mem_rangeFT.mp hu).2)
      cycleDef_valid⟩

theorem path_spec {n : Nat} (hn : 1 ≤ n) : ∃ d, path n = some d ∧ Realises d n (PathDef n) :=
  repr.yields_guard hn True.intro pathDef_valid fun _ =>
    ⟨_, rfl, realises_of_rows hn
      (by rw [List.length_append, List.length_map, length_rangeFT]; exact Nat.sub_add_cancel hn)
      (by
        rw [List.zipIdx_append, List.forall_mem_append, List.length_map, length_rangeFT,
          List.zipIdx_singleton, List.forall_mem_singleton, Nat.zero_add]
        exact ⟨isRow_zipIdx_map fun u hu =>
            isRow_ssetOf fun _ => path_row (Nat.add_lt_of_lt_sub (mem_rangeFT.mp hu).2),
          isRow_path_last hn⟩)
      pathDef_valid⟩

theorem star_spec {n : Nat} (hn : 1 ≤ n) : ∃ d, star n = some d ∧ Realises d n (StarDef n) :=
  repr.yields_guard hn True.intro starDef_valid fun _ =>
    ⟨_, rfl, realises_of_rows hn
      (by rw [List.length_cons, List.length_map, length_rangeFT]; exact Nat.sub_add_cancel hn)
      (by
        rw [List.zipIdx_cons, List.forall_mem_cons]
        exact ⟨isRow_ssetOf fun _ => star_row_hub, isRow_zipIdx_map fun u hu =>
          isRow_ssetOf fun _ => star_row_leaf (mem_rangeFT.mp hu).1 (mem_rangeFT.mp hu).2⟩)
      starDef_valid⟩

theorem wheel_spec {n : Nat} (hn : 4 ≤ n) : ∃ d, wheel n = some d ∧ Realises d n (WheelDef n) :=
  have h1 : 1 ≤ n := Nat.le_trans (by decide) hn
  have h3 : 3 ≤ n := Nat.le_of_succ_le hn
  ⟨_, if_neg (not_not_intro hn), realises_of_rows h1
    (by rw [List.length_cons, List.length_map, length_rangeFT]; exact Nat.sub_add_cancel h1)
    (by
      rw [List.zipIdx_cons, List.forall_mem_cons]
      exact ⟨isRow_ssetOf fun _ => wheel_row_hub, isRow_zipIdx_map fun u hu =>
        isRow_ssetOf fun _ => wheel_row_rim h3 (mem_rangeFT.mp hu).1 (mem_rangeFT.mp hu).2⟩)
    (wheelDef_valid h3)⟩

theorem biclique_spec {m n : Nat} (hm : 1 ≤ m) (hn : 1 ≤ n) :
    ∃ d, biclique m n = some d ∧ Realises d (m + n) (BicliqueDef m n) :=
  ⟨_, (if_neg (Nat.ne_of_gt hm)).trans (if_neg (Nat.ne_of_gt hn)),
    realises_of_rows (Nat.add_pos_left hm n)
      (by rw [List.length_append, List.length_replicate, List.length_replicate])
      (by
        rw [List.zipIdx_append, zipIdx_replicate, zipIdx_replicate, List.forall_mem_append,
          List.forall_mem_map, List.forall_mem_map, List.length_replicate, Nat.zero_add]
        exact ⟨fun u hu => isRow_ssetOf fun _ => biclique_row_left (mem_rangeFT.mp hu).2,
          fun u hu => isRow_ssetOf fun _ => biclique_row_right (mem_rangeFT.mp hu).1 (mem_rangeFT.mp hu).2⟩)
      bicliqueDef_valid⟩

theorem claw_spec : ∃ d, claw = some d ∧ Realises d 4 (BicliqueDef 1 3) :=
  biclique_spec (Nat.le_refl 1) (by decide)
theorem utility_spec : ∃ d, utility = some d ∧ Realises d 6 (BicliqueDef 3 3) :=
  biclique_spec (by decide) (by decide)

/-- The single-threaded definition `complete` is compared with (C17 piece). -/
def completeSeq (n : Nat) : Option AdjList :=
  if n = 0 then none else if n = 1 then trivial else
  some ⟨(List.range n).map (fun u => serase u (ssetOf (rangeFT 0 n)))⟩

theorem sortByKey_sorted {α : Type} (l : List (Nat × α)) (h : l.Pairwise (fun a b => a.1 ≤ b.1)) :
    sortByKey l = l := by
  induction l with
  | nil => rfl
  | cons a l ih =>
    rw [List.pairwise_cons] at h
    have : sortByKey (a :: l) = insertByKey a (sortByKey l) := rfl
    rw [this, ih h.2]
    cases l with
    | nil => rfl
    | cons b bs => exact if_pos (h.1 b (List.mem_cons_self ..))

theorem joined_eq (n : Nat) (rs : List (Nat × Nat)) :
    (rs.map (completeWorker n)).flatten =
      (Par.expand rs).map (fun u => (u, serase u (ssetOf (rangeFT 0 n)))) := by
  induction rs with
  | nil => rfl
  | cons r rs ih =>
    simp only [List.map_cons, List.flatten_cons, ih, Par.expand, List.flatMap_cons, List.map_append]
    rfl

theorem complete_eq_seq (n t : Nat) (ht : 1 ≤ t) : complete n t = completeSeq n := by
  unfold complete completeSeq
  by_cases h0 : n = 0
  · rw [if_pos h0, if_pos h0]
  by_cases h1 : n = 1
  · rw [if_neg h0, if_neg h0, if_pos h1, if_pos h1]
  have hn : 0 < n := Nat.pos_of_ne_zero h0
  simp only [h0, h1, if_false]
  rw [joined_eq, Par.chunks_tile_min n t ht hn, sortByKey_sorted, List.map_map]
  · rfl
  · exact List.pairwise_map.mpr (List.pairwise_lt_range.imp Nat.le_of_lt)

theorem completeSeq_spec {n : Nat} (hn : 1 ≤ n) :
    ∃ d, completeSeq n = some d ∧ Realises d n (CompleteDef n) :=
  repr.yields_guard hn True.intro completeDef_valid fun _ =>
    ⟨_, rfl, realises_of_rows hn (by rw [List.length_map, List.length_range])
      (by
        rw [← rangeFT_zero n]
        exact isRow_zipIdx_map fun u hu =>
          ⟨sorted_serase (sorted_ssetOf _), fun _ => complete_row (mem_rangeFT.mp hu).2⟩)
      completeDef_valid⟩

theorem complete_spec {n t : Nat} (hn : 1 ≤ n) (ht : 1 ≤ t) :
    ∃ d, complete n t = some d ∧ Realises d n (CompleteDef n) := by
  rw [complete_eq_seq n t ht]; exact completeSeq_spec hn

end AL
end GraafVerif.Gen
