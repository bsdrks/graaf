import GraafVerif.Model.Rand
import GraafVerif.Proof.Par
import GraafVerif.Proof.FoldLemmas
/-! Orientations of a pair list (the arcs-level core of the `tournament_valid_*` theorems of `Thm/C15`), the pair
list `pairs n`, and: the workers' pair lists concatenate to it for every thread count (`workers_tile`, `workerPairs_tile`;
a single worker owns all rows, `workers_single`). -/
namespace GraafVerif.Rand

/-- `arcs` decides every element of `ps` one way or the other, position by position. -/
inductive Orients : List (Nat × Nat) → List (Nat × Nat) → Prop
  | nil : Orients [] []
  | cons {a p : Nat × Nat} {as ps : List (Nat × Nat)} :
      (a = p ∨ a = (p.2, p.1)) → Orients as ps → Orients (a :: as) (p :: ps)

theorem orients_zipIdx_orient (s : Stream) (ps : List (Nat × Nat)) (k : Nat) :
    Orients ((ps.zipIdx k).map (orient s)) ps := by
  induction ps generalizing k with
  | nil => exact Orients.nil
  | cons p ps ih =>
    rw [List.zipIdx_cons, List.map_cons]
    refine Orients.cons ?_ (ih (k+1))
    unfold orient
    split
    · exact Or.inl rfl
    · exact Or.inr rfl

theorem Orients.append {a₁ p₁ a₂ p₂ : List (Nat × Nat)} (h₁ : Orients a₁ p₁) (h₂ : Orients a₂ p₂) :
    Orients (a₁ ++ a₂) (p₁ ++ p₂) := by
  induction h₁ with
  | nil => exact h₂
  | cons h _ ih => exact Orients.cons h ih

theorem Orients.flatMap {α : Type} (l : List α) (f g : α → List (Nat × Nat))
    (h : ∀ x ∈ l, Orients (f x) (g x)) : Orients (l.flatMap f) (l.flatMap g) := by
  induction l with
  | nil => exact Orients.nil
  | cons x xs ih =>
    rw [List.flatMap_cons, List.flatMap_cons]
    exact (h x List.mem_cons_self).append (ih fun y hy => h y (List.mem_cons_of_mem _ hy))

theorem Orients.mem_or {arcs ps : List (Nat × Nat)} (h : Orients arcs ps) (x : Nat × Nat) (hx : x ∈ arcs) :
    x ∈ ps ∨ (x.2, x.1) ∈ ps := by
  induction h with
  | nil => cases hx
  | cons hd _ ih =>
    rcases List.mem_cons.1 hx with rfl | hx
    · rcases hd with rfl | rfl
      · exact Or.inl List.mem_cons_self
      · exact Or.inr List.mem_cons_self
    · exact (ih hx).imp (List.mem_cons_of_mem _) (List.mem_cons_of_mem _)

theorem Orients.mem_or_swap {arcs ps : List (Nat × Nat)} (h : Orients arcs ps) (p : Nat × Nat) (hp : p ∈ ps) :
    p ∈ arcs ∨ (p.2, p.1) ∈ arcs := by
  induction h with
  | nil => cases hp
  | cons hd _ ih =>
    rcases List.mem_cons.1 hp with rfl | hp
    · exact hd.imp (fun e => List.mem_cons.2 (Or.inl e.symm)) (fun e => List.mem_cons.2 (Or.inl e.symm))
    · exact (ih hp).imp (List.mem_cons_of_mem _) (List.mem_cons_of_mem _)

theorem ne_head_of_mem_tail {q : Nat × Nat} {qs : List (Nat × Nat)} (hnd : (q :: qs).Nodup)
    (hlt : ∀ p ∈ q :: qs, p.1 < p.2) {y : Nat × Nat} (hy : y ∈ qs ∨ (y.2, y.1) ∈ qs) :
    y ≠ q ∧ y ≠ (q.2, q.1) := by
  have hq := hlt q List.mem_cons_self
  have hnot : q ∉ qs := (List.nodup_cons.1 hnd).1
  have hrev : (q.2, q.1) ∉ qs := fun h => Nat.lt_asymm hq (hlt _ (List.mem_cons_of_mem _ h))
  constructor
  · rintro rfl
    exact hy.elim hnot hrev
  · rintro rfl
    exact hy.elim hrev hnot

theorem Orients.not_both {arcs ps : List (Nat × Nat)} (h : Orients arcs ps) (hnd : ps.Nodup)
    (hlt : ∀ p ∈ ps, p.1 < p.2) : ∀ x ∈ arcs, (x.2, x.1) ∉ arcs := by
  induction h with
  | nil => exact fun _ hx => nomatch hx
  | @cons a q as qs hd htl ih =>
    have hq : q.1 < q.2 := hlt q List.mem_cons_self
    -- the tail decides other pairs than `q`, so neither orientation of the head `a` occurs in it
    have tail : ∀ y, (y.2, y.1) ∈ as → y ≠ a := fun y hy => by
      have := ne_head_of_mem_tail hnd hlt (y := y) (htl.mem_or _ hy).symm
      rcases hd with rfl | rfl
      · exact this.1
      · exact this.2
    have ha : a.2 ≠ a.1 := by
      rcases hd with rfl | rfl
      · exact Nat.ne_of_gt hq
      · exact Nat.ne_of_lt hq
    intro x hx hx'
    rcases List.mem_cons.1 hx with rfl | hx
    · exact (List.mem_cons.1 hx').elim (fun e => ha (congrArg Prod.fst e)) fun h => tail x h rfl
    · rcases List.mem_cons.1 hx' with e | hx'
      · exact tail _ hx e
      · exact ih (List.nodup_cons.1 hnd).2 (fun p hp => hlt p (List.mem_cons_of_mem _ hp)) x hx hx'

theorem mem_pairs (n u v : Nat) : (u, v) ∈ pairs n ↔ u < v ∧ v < n := by
  simp only [pairs, List.mem_flatMap, List.mem_range, List.mem_map, mem_range'_sub, Prod.mk.injEq]
  constructor
  · rintro ⟨a, _, b, hb, rfl, rfl⟩; exact hb
  · intro h; exact ⟨u, Nat.lt_trans h.1 h.2, v, h, rfl, rfl⟩

theorem pairs_lt (n : Nat) : ∀ p ∈ pairs n, p.1 < p.2 :=
  fun p hp => ((mem_pairs n p.1 p.2).1 hp).1

theorem pairs_nodup (n : Nat) : (pairs n).Nodup := by
  unfold pairs List.Nodup
  rw [List.pairwise_flatMap]
  constructor
  · intro u _
    rw [List.pairwise_map]
    exact List.Pairwise.imp (fun hab h => hab (Prod.mk.inj h).2) List.nodup_range'
  · refine List.Pairwise.imp (fun hab x hx y hy hxy => ?_) List.nodup_range
    obtain ⟨_, _, rfl⟩ := List.mem_map.1 hx
    obtain ⟨_, _, rfl⟩ := List.mem_map.1 hy
    exact hab (Prod.mk.inj hxy).1

theorem flatMap_zipIdx_fst {α β : Type} (l : List α) (k : Nat) (F : α → List β) :
    (l.zipIdx k).flatMap (fun rk => F rk.1) = l.flatMap F :=
  (List.flatMap_map Prod.fst F (l.zipIdx k)).symm.trans (congrArg (List.flatMap F) (List.zipIdx_map_fst k l))

theorem workers_tile (n t : Nat) (ht : 0 < t) (hn : 0 < n) :
    (workers n t).flatMap (fun rk => List.range' rk.1.1 (rk.1.2 - rk.1.1)) = List.range n :=
  (flatMap_zipIdx_fst (Par.ranges n (min n t)) 0 fun r => List.range' r.1 (r.2 - r.1)).trans
    (Par.chunks_tile_min n t ht hn)

/-- a single worker (`t = 1`) owns all rows -/
theorem workers_single (n : Nat) (hn : 1 ≤ n) : workers n 1 = [((0, n), 0)] := by
  have : ¬ 0 ≥ n := Nat.not_le.2 hn
  rw [workers, Nat.min_eq_right hn]
  simp [Par.ranges, Par.ranges.go, this]

/-- flattening the workers' pair lists gives `pairs n`: each pair is decided by exactly one worker -/
theorem workerPairs_tile (n t : Nat) (hn : 0 < n) (ht : 0 < t) :
    (workers n t).flatMap (fun rk => workerPairs n rk.1) = pairs n := by
  unfold workerPairs pairs
  rw [← workers_tile n t ht hn, List.flatMap_assoc]

end GraafVerif.Rand

namespace GraafVerif.AlgoGenThm.AdjacencyMap

/-- A worker's pairs lie in `0..n`.  About `Rand.workerPairs` alone, so it stands with its lemmas; the namespace is that of
its user, the generated threaded tournament (`Proof/AlgoGen4AM.lean`). -/
theorem mem_workerPairs {n : Nat} {r p : Nat × Nat} (hr : r.2 ≤ n) (h : p ∈ Rand.workerPairs n r) : p.1 < n ∧ p.2 < n := by
  obtain ⟨u, hu, hp⟩ := List.mem_flatMap.mp h
  obtain ⟨v, hv, rfl⟩ := List.mem_map.mp hp
  exact ⟨Nat.lt_of_lt_of_le (mem_range'_sub.mp hu).2 hr, (mem_range'_sub.mp hv).2⟩

end GraafVerif.AlgoGenThm.AdjacencyMap
