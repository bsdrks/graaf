import GraafVerif.Model.Bfm
import GraafVerif.Spec.Bfm
import GraafVerif.Proof.OracleWDist
/-!
# Proofs about the Bellman-Ford-Moore model (C07)

One block of the loop relaxes a one-arc row (`relax_eq_relaxRow`), so a pass over `arcs_weighted()` is
a relaxation round in the sense of `Proof/OracleWDist.lean` (`round_relax`), and since the early exit
leaves the loop at a fixpoint of the round, `rounds` is plain iteration of it (`rounds_eq_iter`).  The
facts about rounds are therefore those of `OracleProof` at the source list `[s]`: a vector the final
scan accepts makes every arc tight; a tight vector of walk weights is exact and excludes a reachable
negative circuit; without one, `order - 1` passes from ANY vector of walk weights reach a tight one.
-/
namespace GraafVerif.Bfm
open GraafVerif.OracleProof

theorem foldl_drop_step (arcs : List Arc) (i : Nat) (st : Dist × Bool) :
    (arcs.drop i).foldl relax st = (arcs.drop (i+1)).foldl relax (relaxAt arcs i st) := by
  unfold relaxAt
  by_cases h : i < arcs.length
  · rw [dif_pos h, List.drop_eq_getElem_cons h, List.foldl_cons]
  · rw [dif_neg h, List.drop_eq_nil_of_le (Nat.le_of_not_lt h),
      List.drop_eq_nil_of_le (Nat.le_succ_of_le (Nat.le_of_not_lt h))]

/-- The `4`: the body of `roundLoop` is the source's four unrolled blocks, so one unit of fuel takes four arcs. -/
theorem roundLoop_eq_foldl (arcs : List Arc) :
    ∀ (fuel i : Nat) (st : Dist × Bool), arcs.length ≤ i + 4 * fuel →
      roundLoop arcs fuel i st = (arcs.drop i).foldl relax st := by
  intro fuel
  induction fuel with
  | zero =>
    intro i st h
    rw [roundLoop, List.drop_eq_nil_of_le (by omega), List.foldl_nil]
  | succ fuel ih =>
    intro i st h
    rw [roundLoop]
    by_cases hi : i < arcs.length
    · rw [if_pos hi, ih (i+1+1+1+1) _ (by omega), foldl_drop_step arcs i, foldl_drop_step arcs (i+1),
        foldl_drop_step arcs (i+1+1), foldl_drop_step arcs (i+1+1+1)]
    · rw [if_neg hi, List.drop_eq_nil_of_le (Nat.le_of_not_lt hi), List.foldl_nil]

theorem round_eq_foldl (arcs : List Arc) (d : Dist) : round arcs d = arcs.foldl relax (d, false) := by
  rw [round, roundLoop_eq_foldl arcs arcs.length 0 _ (by omega), List.drop_zero]

theorem gtInf_false {o : Option Int} {w : Int} : gtInf o w = false ↔ ∃ dv, o = some dv ∧ dv ≤ w := by
  cases o <;> simp [gtInf]

theorem relax_eq_relaxRow (st : Dist × Bool) (a : Arc) :
    relax st a = relaxRow st (a.1, [(a.2.1, a.2.2)]) := by
  unfold relax relaxRow
  cases st.1[a.1]?.getD none with
  | none => rfl
  | some du =>
    simp only [List.foldl_cons, List.foldl_nil, wIn]
    cases st.1[a.2.1]?.getD none with
    | none => rfl
    | some dv => simp only [gtInf, gt_iff_lt, decide_eq_true_eq]

theorem round_eq_relaxRows (arcs : List Arc) (d : Dist) : round arcs d = relaxRows (arcRows arcs) d := by
  rw [round_eq_foldl, relaxRows, arcRows, List.foldl_map]
  exact congrArg (fun f => arcs.foldl f (d, false)) (funext fun st => funext (relax_eq_relaxRow st))

theorem mem_arcsOf {g : WGraph} {a : Arc} : a ∈ arcsOf g ↔ a.1 < g.n ∧ g.A a.1 a.2.1 a.2.2 :=
  mem_arcList

theorem round_relax {g : WGraph} (hwf : g.WF) (S : List Nat) : RelaxRound g S (round (arcsOf g)) := by
  rw [show round (arcsOf g) = relaxRows (arcRows (arcsOf g)) from funext (round_eq_relaxRows _)]
  exact relaxRows_relax hwf S (listsArcs_arcRows fun u v w =>
    ⟨fun h => (mem_arcsOf.mp h).2, fun h => mem_arcsOf.mpr ⟨(hwf u v w h).1, h⟩⟩)

/-- A pass that ends with `updated == false` changed nothing and left every arc tight, so the early
exit returns what the remaining passes would. -/
theorem rounds_eq_iter {g : WGraph} {S : List Nat} {arcs : List Arc} (hR : RelaxRound g S (round arcs)) :
    ∀ (k : Nat) (d : Dist), rounds arcs k d = iter (round arcs) k d := by
  intro k
  induction k with
  | zero => intro d; rfl
  | succ k ih =>
    intro d
    rw [rounds, iter]
    cases hu : (round arcs d).2 with
    | true => rw [if_pos rfl]; exact ih _
    | false =>
      obtain ⟨he, ht⟩ := hR.noupd d hu
      rw [if_neg Bool.false_ne_true, he, iter_fix hR ht]

theorem inv_init (g : WGraph) (s : Nat) (hs : s < g.n) : WInv g [s] (init g.n s) :=
  wInv_init g (single_lt hs)

theorem inv_rounds {g : WGraph} (hwf : g.WF) {s : Nat} (k : Nat) {d : Dist} (h : WInv g [s] d) :
    WInv g [s] (rounds (arcsOf g) k d) := by
  rw [rounds_eq_iter (round_relax hwf [s])]
  exact iter_inv (round_relax hwf [s]) h k

theorem stillRelaxable_false_iff {d : Dist} {a : Arc} :
    stillRelaxable d a = false ↔ ∀ du, lk d a.1 = some du → BndL d a.2.1 (du + a.2.2) := by
  unfold stillRelaxable BndL lk
  cases d[a.1]?.getD none with
  | none => exact ⟨fun _ du h => (nomatch h), fun _ => rfl⟩
  | some du =>
    rw [gtInf_false]
    exact ⟨fun h du' h' => Option.some.inj h' ▸ h, fun h => h du rfl⟩

theorem finalScan_false_iff {d : Dist} {arcs : List Arc} :
    finalScan d arcs = false ↔ ∀ a ∈ arcs, stillRelaxable d a = false := by
  induction arcs with
  | nil => simp [finalScan]
  | cons b rest ih =>
    rw [finalScan, List.forall_mem_cons, ← ih]
    cases stillRelaxable d b <;> simp

theorem tight_iff_scan {g : WGraph} (hwf : g.WF) {d : Dist} :
    TightL g d ↔ finalScan d (arcsOf g) = false := by
  rw [finalScan_false_iff]
  constructor
  · intro ht a ha
    exact stillRelaxable_false_iff.mpr fun du hdu => ht _ _ _ du (mem_arcsOf.mp ha).2 hdu
  · intro h u v w du ha hu
    exact stillRelaxable_false_iff.mp (h (u, v, w) (mem_arcsOf.mpr ⟨(hwf u v w ha).1, ha⟩)) du hu

theorem Exact.of_tight {g : WGraph} {s : Nat} {d : Dist} (hinv : WInv g [s] d) (ht : TightL g d) :
    Exact g s d := by
  obtain ⟨hfin, hinf, _⟩ := exact_of_tight hinv ht
  refine ⟨hinv.len, fun v x hx => (hfin v x).mp (lk_eq_some.mpr hx), fun v hv => (hinf v).mp ?_⟩
  unfold lk
  rw [hv]
  rfl

theorem no_neg_of_tight {g : WGraph} {s : Nat} {d : Dist} (hinv : WInv g [s] d) (ht : TightL g d) :
    ¬ NegReachable g s :=
  (exact_of_tight hinv ht).2.2

theorem scan_false_of_noNeg {g : WGraph} (hwf : g.WF) {s : Nat} (hs : s < g.n) {d : Dist}
    (hinv : WInv g [s] d) (hnn : ¬ NegReachable g s) :
    finalScan (rounds (arcsOf g) (g.n - 1) d) (arcsOf g) = false := by
  rw [← tight_iff_scan hwf, rounds_eq_iter (round_relax hwf [s])]
  exact iter_tight_of_noNeg (round_relax hwf [s]) hwf (single_lt hs) hinv hnn (g.n - 1)
    (by omega)

/-- `distances(&mut self)` does not re-initialise `self.dist`: the next call starts from the vector
this call left behind, and it returns what this call returned.  A `Some(d)` is a fixpoint (the
first pass of the next call updates nothing); after a `None` the vector still consists of walk
weights, so by the tightness argument the scan fires again. -/
theorem distancesFrom_idem {g : WGraph} (hwf : g.WF) {s : Nat} (hs : s < g.n) {d : Dist}
    (hinv : WInv g [s] d) :
    (distancesFrom g.n (arcsOf g) (distancesFrom g.n (arcsOf g) d).2).1
      = (distancesFrom g.n (arcsOf g) d).1 := by
  have hR := round_relax hwf [s]
  unfold distancesFrom
  simp only []
  cases hf : finalScan (rounds (arcsOf g) (g.n - 1) d) (arcsOf g) with
  | false => rw [rounds_eq_iter hR (g.n - 1) (rounds _ _ d), iter_fix hR ((tight_iff_scan hwf).mpr hf), hf]
  | true =>
    cases hf2 : finalScan (rounds (arcsOf g) (g.n - 1) (rounds (arcsOf g) (g.n - 1) d)) (arcsOf g) with
    | true => rfl
    | false =>
      -- the second call accepts: no negative circuit is reachable, so the first accepted as well
      have hnn := no_neg_of_tight (inv_rounds hwf _ (inv_rounds hwf _ hinv)) ((tight_iff_scan hwf).mpr hf2)
      rw [scan_false_of_noNeg hwf hs hinv hnn] at hf
      cases hf

theorem repeatFrom_const {g : WGraph} (hwf : g.WF) {s : Nat} (hs : s < g.n) :
    ∀ (k : Nat) (d : Dist), WInv g [s] d →
      repeatFrom g.n (arcsOf g) k d = List.replicate k (distancesFrom g.n (arcsOf g) d).1 := by
  intro k
  induction k with
  | zero => intro d _; rfl
  | succ k ih =>
    intro d hinv
    have hinv' : WInv g [s] (distancesFrom g.n (arcsOf g) d).2 := inv_rounds hwf _ hinv
    rw [repeatFrom, List.replicate_succ, ih _ hinv', distancesFrom_idem hwf hs hinv]

theorem distances_eq (g : WGraph) {s : Nat} (hs : s < g.n) :
    distances g s = .ret (distancesFrom g.n (arcsOf g) (init g.n s)).1 := by
  unfold distances distancesArcs distancesFrom
  simp only [hs, if_true]
  split <;> rfl

theorem distances_some {g : WGraph} {s : Nat} {d : Dist} (h : distances g s = .ret (some d)) :
    s < g.n ∧ d = rounds (arcsOf g) (g.n - 1) (init g.n s) ∧ finalScan d (arcsOf g) = false := by
  by_cases hs : s < g.n
  · rw [distances_eq g hs, distancesFrom] at h
    refine ⟨hs, ?_⟩
    split at h
    · cases h
    · next hf =>
      cases h
      exact ⟨rfl, Bool.eq_false_iff.mpr hf⟩
  · rw [distances, distancesArcs, if_neg hs] at h; cases h

theorem exact_unique {g : WGraph} {s : Nat} {d d' : Dist} (h : Exact g s d) (h' : Exact g s d') :
    d = d' :=
  Cross.isDistVec_unique (Cross.isDistVec_of_exact h) (Cross.isDistVec_of_exact h')

end GraafVerif.Bfm
