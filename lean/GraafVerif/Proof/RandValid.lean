import GraafVerif.Proof.RandReal
import GraafVerif.Proof.GenAddArcMX
/-! What the sequential generators (and the join-order run of the threaded tournament) return, for
every stream: `*_yields`, the well-formed digraph of order `n` with exactly the arcs drawn
(`X.repr.Yields r n (ofList arcs)` of `Proof/GenArcRepr.lean`; the `order == 1` shortcut of the source is
`yields_guard`: no arc fits into order 1); `*_realizes`, the same read on the `View` (`Yields.realizes`). -/
namespace GraafVerif.Rand
open GraafVerif.Repr GraafVerif.Gen

/-- `usize`: the matrix needs `order² < 2^64` (always true for a matrix that fits in memory). -/
abbrev FitsMatrix (n : Nat) : Prop := n * n < 2^64

theorem empty_one_AL : AdjList.empty 1 = some ⟨[[]]⟩ := rfl
theorem empty_one_EL : EdgeList.empty 1 = some ⟨[], 1⟩ := rfl
theorem empty_one_AM : AdjMap.empty 1 = some ⟨[(0, [])]⟩ := rfl

theorem tournamentAL_yields (s : Stream) (n : Nat) (hn : 1 ≤ n) :
    AL.repr.Yields (tournamentAL s n) n (ofList (tournamentArcs s n)) :=
  have hs := (tournamentArcs_orients s n).simple
  AL.repr.yields_guard hn trivial hs.valid.validOn fun _ => ⟨_, rfl, holds_foldl_rowInsert hn hs⟩

theorem tournamentMX_yields (s : Stream) (n : Nat) (hn : 1 ≤ n) (hb : FitsMatrix n) :
    MX.repr.Yields (tournamentMX s n) n (ofList (tournamentArcs s n)) :=
  MX.repr.yields_build hn hb (tournamentArcs_orients s n).simple.valid

theorem tournamentEL_yields (s : Stream) (n : Nat) (hn : 1 ≤ n) :
    EL.repr.Yields (tournamentEL s n) n (ofList (tournamentArcs s n)) :=
  have hs := (tournamentArcs_orients s n).simple
  EL.repr.yields_guard₁ hn trivial hs.valid.validOn fun _ => EL.repr.yields_build hn trivial hs.valid

theorem tournamentAM_yields (streams : Nat → Stream) (n t : Nat) (hn : 1 ≤ n) (ht : 1 ≤ t) :
    AM.repr.Yields (tournamentAM streams n t) n (ofList (tournamentProgs streams n t).flatten) :=
  have hs := (tournamentProgs_orients streams n t hn ht).simple
  AM.repr.yields_guard hn trivial hs.valid.validOn fun _ => ⟨_, rfl, holds_finishMap hn hs⟩

theorem tournamentAL_realizes (s : Stream) (n : Nat) (hn : 1 ≤ n) :
    ∃ g, tournamentAL s n = some g ∧ Realizes (viewAL g) n (tournamentArcs s n) :=
  (tournamentAL_yields s n hn).realizes

theorem tournamentMX_realizes (s : Stream) (n : Nat) (hn : 1 ≤ n) (hb : FitsMatrix n) :
    ∃ g, tournamentMX s n = some g ∧ Realizes (viewMX g) n (tournamentArcs s n) :=
  (tournamentMX_yields s n hn hb).realizes

theorem tournamentEL_realizes (s : Stream) (n : Nat) (hn : 1 ≤ n) :
    ∃ g, tournamentEL s n = some g ∧ Realizes (viewEL g) n (tournamentArcs s n) :=
  (tournamentEL_yields s n hn).realizes

theorem tournamentAM_realizes (streams : Nat → Stream) (n t : Nat) (hn : 1 ≤ n) (ht : 1 ≤ t) :
    ∃ g, tournamentAM streams n t = some g ∧ Realizes (viewAM g) n (tournamentProgs streams n t).flatten :=
  (tournamentAM_yields streams n t hn ht).realizes

/-- vertex 0 without out-arc, every `u ≥ 1` with its parent: the rows keyed by vertex -/
def rrtKeyed (s : Stream) (n : Nat) : List (Nat × List Nat) :=
  (0, []) :: (rrtParents s n).map fun a => (a.1, [a.2])

theorem rrtKeyed_keys (s : Stream) (n : Nat) (hn : 1 ≤ n) : (rrtKeyed s n).map (·.1) = List.range n := by
  obtain ⟨m, rfl⟩ : ∃ m, n = m + 1 := ⟨n - 1, (Nat.sub_add_cancel hn).symm⟩
  rw [rrtKeyed, rrtParents, List.map_cons, List.map_map, List.map_map, List.range_eq_range', List.range'_succ]
  exact congrArg _ (List.map_id' _)

theorem rowArcs_rrtKeyed (s : Stream) (n : Nat) : rowArcs (rrtKeyed s n) = rrtParents s n := by
  rw [rrtKeyed, rowArcs, List.flatMap_cons, List.flatMap_map]
  exact List.flatMap_singleton' _

theorem rrtKeyed_holds (s : Stream) (n : Nat) (hn : 1 ≤ n) :
    AL.repr.Holds ⟨(rrtKeyed s n).map (·.2)⟩ n (ofList (rrtParents s n)) ∧
    AM.repr.Holds ⟨collectMap (rrtKeyed s n)⟩ n (ofList (rrtParents s n)) :=
  holds_rows hn (rrtKeyed_keys s n hn)
    (List.forall_mem_cons.2 ⟨.nil, List.forall_mem_map.2 fun _ _ => List.pairwise_singleton _ _⟩)
    (fun _ _ => by rw [rowArcs_rrtKeyed]) (rrtParents_simple s n).valid.validOn

theorem rrtAL_yields (s : Stream) (n : Nat) (hn : 1 ≤ n) :
    AL.repr.Yields (rrtAL s n) n (ofList (rrtParents s n)) :=
  AL.repr.yields_guard hn trivial (rrtParents_simple s n).valid.validOn fun _ =>
    ⟨_, by rw [rrtKeyed, List.map_cons, List.map_map]; rfl, (rrtKeyed_holds s n hn).1⟩

theorem rrtAM_yields (s : Stream) (n : Nat) (hn : 1 ≤ n) :
    AM.repr.Yields (rrtAM s n) n (ofList (rrtParents s n)) :=
  AM.repr.yields_guard hn trivial (rrtParents_simple s n).valid.validOn fun _ => ⟨_, rfl, (rrtKeyed_holds s n hn).2⟩

theorem rrtMX_yields (s : Stream) (n : Nat) (hn : 1 ≤ n) (hb : FitsMatrix n) :
    MX.repr.Yields (rrtMX s n) n (ofList (rrtParents s n)) :=
  have hs := rrtParents_simple s n
  MX.repr.yields_guard₁ hn MX.fits_one hs.valid.validOn fun _ => MX.repr.yields_build hn hb hs.valid

theorem rrtEL_yields (s : Stream) (n : Nat) (hn : 1 ≤ n) :
    EL.repr.Yields (rrtEL s n) n (ofList (rrtParents s n)) :=
  have hs := rrtParents_simple s n
  EL.repr.yields_guard hn trivial hs.valid.validOn fun _ => ⟨_, rfl, holds_collectSet hn hs⟩

theorem rrtAL_realizes (s : Stream) (n : Nat) (hn : 1 ≤ n) :
    ∃ g, rrtAL s n = some g ∧ Realizes (viewAL g) n (rrtParents s n) :=
  (rrtAL_yields s n hn).realizes

theorem rrtAM_realizes (s : Stream) (n : Nat) (hn : 1 ≤ n) :
    ∃ g, rrtAM s n = some g ∧ Realizes (viewAM g) n (rrtParents s n) :=
  (rrtAM_yields s n hn).realizes

theorem rrtMX_realizes (s : Stream) (n : Nat) (hn : 1 ≤ n) (hb : FitsMatrix n) :
    ∃ g, rrtMX s n = some g ∧ Realizes (viewMX g) n (rrtParents s n) :=
  (rrtMX_yields s n hn hb).realizes

theorem rrtEL_realizes (s : Stream) (n : Nat) (hn : 1 ≤ n) :
    ∃ g, rrtEL s n = some g ∧ Realizes (viewEL g) n (rrtParents s n) :=
  (rrtEL_yields s n hn).realizes

/-! ## erdos_renyi, sequential representations

All three show the arcs `erArcs s p n othersFilter`: `(0..u).chain((u + 1)..order)` and
`(0..order).filter(|&v| u != v)` are the same candidates in the same order. -/

theorem erRows_chain (s : Stream) (p : F64) (n : Nat) : erRows s p n othersChain = (erKeyed s p n).map (·.2) := by
  rw [erKeyed, List.map_map]
  exact List.map_congr_left fun u hu => by
    show _ = erRow s p (u * (n - 1)) (othersFilter n u)
    rw [othersChain_eq_filter n u (List.mem_range.1 hu)]

theorem erAL_yields (s : Stream) (n : Nat) (p : F64) (hn : 1 ≤ n) (hp : p.inUnit = true) :
    AL.repr.Yields (erAL s n p) n (ofList (erArcs s p n othersFilter)) := by
  have hv := (erArcs_spec s p n).1.valid.validOn
  rw [erAL, if_neg (Nat.ne_of_gt hn), hp, if_neg (by decide), erRows_chain]
  exact AL.repr.yields_guard₁ hn trivial hv fun _ => ⟨_, rfl, (holds_rows hn (erKeyed_keys s p n)
    (erKeyed_rows s p n).sorted (fun _ _ => by rw [rowArcs_erKeyed]) hv).1⟩

theorem erMX_yields (s : Stream) (n : Nat) (p : F64) (hn : 1 ≤ n) (hb : FitsMatrix n) (hp : p.inUnit = true) :
    MX.repr.Yields (erMX s n p) n (ofList (erArcs s p n othersFilter)) := by
  have hs := (erArcs_spec s p n).1
  rw [erMX, hp, if_neg (by decide)]
  exact MX.repr.yields_guard₁ hn MX.fits_one hs.valid.validOn fun _ => MX.repr.yields_build hn hb hs.valid

theorem erEL_yields (s : Stream) (n : Nat) (p : F64) (hn : 1 ≤ n) (hp : p.inUnit = true) :
    EL.repr.Yields (erEL s n p) n (ofList (erArcs s p n othersFilter)) := by
  rw [erEL, if_neg (Nat.ne_of_gt hn), hp, if_neg (by decide), erArcs_chain_eq_filter]
  exact ⟨_, rfl, holds_collectSet hn (erArcs_spec s p n).1⟩

theorem erAL_realizes (s : Stream) (n : Nat) (p : F64) (hn : 1 ≤ n) (hp : p.inUnit = true) :
    ∃ g, erAL s n p = some g ∧ Realizes (viewAL g) n (erArcs s p n othersFilter) :=
  (erAL_yields s n p hn hp).realizes

theorem erMX_realizes (s : Stream) (n : Nat) (p : F64) (hn : 1 ≤ n) (hb : FitsMatrix n) (hp : p.inUnit = true) :
    ∃ g, erMX s n p = some g ∧ Realizes (viewMX g) n (erArcs s p n othersFilter) :=
  (erMX_yields s n p hn hb hp).realizes

theorem erEL_realizes (s : Stream) (n : Nat) (p : F64) (hn : 1 ≤ n) (hp : p.inUnit = true) :
    ∃ g, erEL s n p = some g ∧ Realizes (viewEL g) n (erArcs s p n othersFilter) :=
  (erEL_yields s n p hn hp).realizes

end GraafVerif.Rand
