import GraafVerif.Proof.GenAddArc
import GraafVerif.Proof.ReprAM
import GraafVerif.Proof.ReprW
import GraafVerif.Spec.GenRealises
import GraafVerif.Model.Gen
/-!
# `ArcRepr` instances: AdjacencyMap (contiguous keys) and AdjacencyListWeighted (weight 1)

The map grows its key set with `add_arc`; with the keys `0..order` (`Contiguous`, which is "the abstraction has the vertex
set `0..order`") an `add_arc` between two of them is the fixed-order call.  The weighted list is the target of the
conversions through `add_arc_weighted(u, v, 1)`: its invariant carries "every weight is 1" (`AllOne`).
-/
namespace GraafVerif.Gen
open GraafVerif.Repr GraafVerif.ReprSpec GraafVerif.GenSpec

namespace AM

theorem abs_V_of_contiguous {d : AdjMap} (h : d.WF) (hc : Contiguous d) :
    d.abs.V = fun x => decide (x < d.order) :=
  funext fun x => Bool.eq_iff_iff.mpr (((contiguous_iff h _).mp ⟨hc, rfl⟩ x).trans decide_eq_true_iff.symm)

theorem ok_of_abs_V {d : AdjMap} (h : d.WF) {n : Nat} (hn : 1 ≤ n) (hV : d.abs.V = fun x => decide (x < n)) :
    (d.WF ∧ Contiguous d ∧ 1 ≤ d.order) ∧ d.order = n :=
  have ⟨hc, ho⟩ := (contiguous_iff h n).mpr fun _ => hV ▸ decide_eq_true_iff
  ⟨⟨h, hc, ho ▸ hn⟩, ho⟩

def repr : ArcRepr AdjMap.order AdjMap.vertices AdjMap.arcs AdjMap.hasArc AdjMap.empty AdjMap.addArc where
  WF := fun d => d.WF ∧ Contiguous d ∧ 1 ≤ d.order
  fits := fun _ => True
  fits_of_empty := fun _ => True.intro
  empty_spec := fun {n} hn _ =>
    have he : AdjMap.empty n = some _ := if_neg (Nat.ne_of_gt hn)
    have hw := AdjMap.empty_WF he
    have ok := ok_of_abs_V hw hn (congrArg SpecState.V (AdjMap.abs_empty he))
    ⟨_, he, ok.1, ok.2, empty_of_abs AdjMap.mem_arcs hw (AdjMap.abs_empty he)⟩
  addArc_spec := fun d u v hwf huv hu hv =>
    have hV := abs_V_of_contiguous hwf.1 hwf.2.1
    have ⟨d', e, hw, ha, h⟩ := add_of_refines (w := ()) AdjMap.mem_arcs hwf.1 hV
      ⟨AdjMap.step_WF d (.add u v ()) hwf.1, AdjMap.step_refines d (.add u v ()) hwf.1⟩ huv hu hv
    have ok := ok_of_abs_V hw hwf.2.2 ((congrArg SpecState.V ha).trans hV)
    ⟨d', e, ok.1, ok.2, h⟩
  pos := fun h => h.2.2
  valid := fun {d} h => arcsValid_of_simple h.1.simple
    (fun _ hx => List.mem_range.mp (h.2.1 ▸ hx)) (AdjMap.mem_arcs_iff h.1.1)
  vertices_eq := fun h => h.2.1
  hasArc_iff := fun {d} h u v => (AdjMap.mem_arcs_iff h.1.1 u v).symm
  ext := fun {d d'} h h' ho ha =>
    AdjMap.ext h.1.shape h'.1.shape
      (fun x => by rw [show d.vertices = _ from h.2.1, show d'.vertices = _ from h'.2.1]; exact mem_range_congr ho x)
      (has_eq_of_arcs (AdjMap.mem_arcs_iff h.1.1) (AdjMap.mem_arcs_iff h'.1.1) ha)

end AM

namespace WL

def AllOne (d : AdjListW) : Prop := ∀ a ∈ d.arcsWeighted, a.2.2 = 1

theorem allOne_iff {d : AdjListW} (h : d.Shape) : AllOne d ↔ ∀ u v x, d.arcWeight u v = some x → x = 1 :=
  ⟨fun H u v x hx => H (u, v, x) ((AdjListW.mem_arcsWeighted_iff h u v x).mpr hx),
    fun H a ha => H a.1 a.2.1 a.2.2 ((AdjListW.mem_arcsWeighted_iff h a.1 a.2.1 a.2.2).mp ha)⟩

theorem arcWeight_eq_of_allOne {d d' : AdjListW} (hs : d.Shape) (hs' : d'.Shape) (h1 : AllOne d) (h1' : AllOne d')
    (ha : ∀ u v, (u, v) ∈ d.arcs ↔ (u, v) ∈ d'.arcs) (u v : Nat) : d.arcWeight u v = d'.arcWeight u v := by
  have hA := has_eq_of_arcs (AdjListW.mem_arcs_iff hs) (AdjListW.mem_arcs_iff hs') ha u v
  rw [AdjListW.hasArc_eq, AdjListW.hasArc_eq] at hA
  cases e : d.arcWeight u v with
  | none => cases e' : d'.arcWeight u v with
    | none => rfl
    | some y => rw [e, e'] at hA; cases hA
  | some x => cases e' : d'.arcWeight u v with
    | none => rw [e, e'] at hA; cases hA
    | some y => rw [(allOne_iff hs).mp h1 u v x e, (allOne_iff hs').mp h1' u v y e']

def repr : ArcRepr AdjListW.order AdjListW.vertices AdjListW.arcs AdjListW.hasArc AdjListW.empty
    (fun d u v => d.addArcWeighted u v 1) where
  WF := fun d => d.WF ∧ AllOne d
  fits := fun _ => True
  fits_of_empty := fun _ => True.intro
  empty_spec := fun {n} hn _ =>
    have he : AdjListW.empty n = some _ := if_neg (Nat.ne_of_gt hn)
    have hw := AdjListW.empty_WF he
    ⟨_, he, ⟨hw, (allOne_iff hw.shape).mpr fun u v x hx => by
        rw [show AdjListW.arcWeight _ u v = _ from congrFun (congrFun (congrArg SpecState.W (AdjListW.abs_empty he)) u) v]
          at hx
        cases hx⟩,
      List.length_replicate,
      empty_of_abs AdjListW.mem_arcs hw (AdjListW.abs_empty he)⟩
  addArc_spec := fun d u v hwf huv hu hv =>
    have ⟨d', e, hw, ha, h⟩ := add_of_refines (w := (1 : Int)) AdjListW.mem_arcs hwf.1 rfl
      ⟨AdjListW.step_WF d (.add u v 1) hwf.1, AdjListW.step_refines d (.add u v 1) hwf.1⟩ huv hu hv
    ⟨d', e, ⟨hw, (allOne_iff hw.shape).mpr fun a b x hx => by
        rw [show d'.arcWeight a b = setW d.abs.W u v (some 1) a b from
          congrFun (congrFun (congrArg SpecState.W ha) a) b] at hx
        unfold setW at hx
        split at hx
        · exact (Option.some.inj hx).symm
        · exact (allOne_iff hwf.1.shape).mp hwf.2 a b x hx⟩,
      lt_of_decide_lt_eq (congrArg SpecState.V ha), h⟩
  pos := fun h => h.1.1
  valid := fun {d} h => arcsValid_of_simple h.1.simple (fun _ => AdjListW.mem_vertices.mp)
    (AdjListW.mem_arcs_iff h.1.shape)
  vertices_eq := fun _ => rfl
  hasArc_iff := fun {d} h u v => (AdjListW.mem_arcs_iff h.1.shape u v).symm
  ext := fun {d d'} h h' ho ha =>
    have hs := h.1.shape
    have hs' := h'.1.shape
    AdjListW.ext hs hs' (mem_range_congr ho) (arcWeight_eq_of_allOne hs hs' h.2 h'.2 ha)

/-- of the generator traits (`src/gen`) the weighted list implements `Empty` only -/
theorem empty_spec {n : Nat} (hn : 1 ≤ n) : ∃ d, empty n = some d ∧ Realises d n (EmptyDef n) :=
  (repr.yields_empty hn True.intro fun _ _ => id).imp fun _ h => ⟨h.1, h.2.1.1, h.2.2⟩

end WL
end GraafVerif.Gen
