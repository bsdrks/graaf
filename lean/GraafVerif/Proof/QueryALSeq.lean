import GraafVerif.Proof.QueryAL
import GraafVerif.Proof.Par
/-!
# C02 — `AdjacencyList`: `indegree_sequence` (histogram fold) and the threaded `degree_sequence`

After folding `bump` over rows the entry `h[k]?.getD 0` has grown by the occurrences of `k` in the rows, i.e. (rows are
duplicate-free) by the number of rows containing `k`.  Occurrences add up over the slices that tile the rows
(`Par.chunks_tile`, `Par.flatMap_slices`) and `addVec` adds entries, so the sum of the per-thread histograms is the histogram of all rows.
-/
namespace GraafVerif.Query
open GraafVerif.Repr

namespace AL

theorem bump_length (h : List Nat) (v : Nat) : (bump h v).length = h.length := List.length_set

theorem bump_get (h : List Nat) (v k : Nat) (hk : k < h.length) :
    (bump h v)[k]?.getD 0 = h[k]?.getD 0 + (if v = k then 1 else 0) := by
  rw [bump, List.getElem?_set]
  by_cases hvk : v = k
  · subst hvk; rw [if_pos rfl, if_pos hk, if_pos rfl]; rfl
  · rw [if_neg hvk, if_neg hvk]; rfl

theorem foldl_bump (row h : List Nat) :
    (row.foldl bump h).length = h.length ∧
      ∀ k, k < h.length → (row.foldl bump h)[k]?.getD 0 = h[k]?.getD 0 + row.count k := by
  refine ⟨Vec.length_foldl_set (k := id) (val := fun acc v => acc[v]?.getD 0 + 1) row h, fun k hk => ?_⟩
  -- the bumps aimed at `k`, each adding one
  rw [List.count_eq_countP, List.countP_eq_length_filter]
  exact (Vec.getD_foldl_set 0 id (fun _ c => c + 1) row h hk).trans (by rw [List.foldl_add_const, Nat.one_mul]; rfl)

theorem histogram_spec (rows : List (List Nat)) (init : List Nat) :
    (histogram rows init).length = init.length ∧
      ∀ k, k < init.length →
        (histogram rows init)[k]?.getD 0 = init[k]?.getD 0 + (rows.map (fun r => r.count k)).sum := by
  rw [histogram, ← List.foldl_flatten]
  refine ⟨(foldl_bump _ init).1, fun k hk => ?_⟩
  rw [(foldl_bump _ init).2 k hk, List.count_flatten]

theorem histogram_zeros (rows : List (List Nat)) (n k : Nat) (hk : k < n) :
    (histogram rows (List.replicate n 0))[k]?.getD 0 = (rows.map (fun r => r.count k)).sum := by
  rw [(histogram_spec rows _).2 k (by rw [List.length_replicate]; exact hk), List.getElem?_replicate, if_pos hk]
  exact Nat.zero_add _

theorem sum_count_eq_filter (rows : List (List Nat)) (k : Nat) (hn : ∀ r ∈ rows, r.Nodup) :
    (rows.map (fun r => r.count k)).sum = (rows.filter (fun r => r.contains k)).length := by
  induction rows with
  | nil => rfl
  | cons r rows ih =>
    rw [List.map_cons, List.sum_cons, ih (fun r' h' => hn r' (List.mem_cons_of_mem r h')), List.filter_cons,
      (hn r List.mem_cons_self).count]
    by_cases hk : k ∈ r
    · rw [if_pos hk, if_pos (List.contains_iff_mem.2 hk), List.length_cons, Nat.add_comm]
    · rw [if_neg hk, if_neg (fun h => hk (List.contains_iff_mem.1 h)), Nat.zero_add]

theorem rows_nodup {d : AdjList} (h : d.WF) : ∀ r ∈ d.rows, r.Nodup := by
  intro r hr
  obtain ⟨i, hi, rfl⟩ := List.getElem_of_mem hr
  exact sortedS_nodup (h.2 i d.rows[i] (List.getElem?_eq_getElem hi)).1

theorem sum_count_rows {d : AdjList} (h : d.WF) (k : Nat) :
    (d.rows.map (fun r => r.count k)).sum = Spec.indegree (abs d) k := by
  rw [sum_count_eq_filter _ _ (rows_nodup h), indegree_spec]

theorem indegreeSequence_spec {d : AdjList} (h : d.WF) : indegreeSequence d = Spec.indegreeSequence (abs d) := by
  have hlen : (indegreeSequence d).length = d.order :=
    ((histogram_spec d.rows _).1).trans List.length_replicate
  refine List.ext_getElem (hlen.trans (by rw [Spec.indegreeSequence, List.length_map]; exact List.length_range.symm))
    (fun k h1 h2 => ?_)
  have hk : k < d.order := hlen ▸ h1
  have e : (indegreeSequence d)[k]?.getD 0 = (indegreeSequence d)[k] := by
    rw [List.getElem?_eq_getElem h1]; rfl
  refine e.symm.trans ((histogram_zeros d.rows d.order k hk).trans ((sum_count_rows h k).trans ?_))
  exact (congrArg (Spec.indegree (abs d)) (List.getElem_range (n := d.order) _).symm).trans
    (List.getElem_map (Spec.indegree (abs d))).symm

theorem addVec_get (a b : List Nat) (k : Nat) (ha : k < a.length) (hb : k < b.length) :
    (addVec a b)[k]?.getD 0 = a[k]?.getD 0 + b[k]?.getD 0 := by
  rw [addVec, List.getElem?_zipWith, List.getElem?_eq_getElem ha, List.getElem?_eq_getElem hb]; rfl

theorem foldl_addVec (ls : List (List Nat)) (acc : List Nat) (n k : Nat) (hk : k < n)
    (hacc : acc.length = n) (hls : ∀ l ∈ ls, l.length = n) :
    (ls.foldl addVec acc)[k]?.getD 0 = acc[k]?.getD 0 + (ls.map (fun l => l[k]?.getD 0)).sum := by
  induction ls generalizing acc with
  | nil => rfl
  | cons l ls ih =>
    have hl := hls l List.mem_cons_self
    have hlen : (addVec acc l).length = n := by
      rw [addVec, List.length_zipWith, hacc, hl, Nat.min_self]
    rw [List.foldl_cons, ih (addVec acc l) hlen (fun l' h' => hls l' (List.mem_cons_of_mem l h')),
      addVec_get acc l k (hacc ▸ hk) (hl ▸ hk), List.map_cons, List.sum_cons, Nat.add_assoc]

theorem sum_map_flatMap {α β : Type} (rs : List α) (f : α → List β) (g : β → Nat) :
    (rs.map (fun r => ((f r).map g).sum)).sum = ((rs.flatMap f).map g).sum := by
  induction rs with
  | nil => rfl
  | cons r rs ih => rw [List.flatMap_cons, List.map_append, List.sum_append, ← ih]; rfl

/-- The per-thread indegree histograms, summed, do not depend on the number of threads. -/
theorem par_indegrees {d : AdjList} (h : d.WF) (t : Nat) (ht : 0 < t) (k : Nat) (hk : k < d.order) :
    let zeros := List.replicate d.order 0
    let chunks := Par.ranges d.order t
    let locals := chunks.map (fun r => histogram ((d.rows.drop r.1).take (r.2 - r.1)) zeros)
        ++ List.replicate (t - chunks.length) zeros
    (locals.foldl addVec zeros)[k]?.getD 0 = Spec.indegree (abs d) k := by
  intro zeros chunks locals
  have hz : zeros.length = d.order := List.length_replicate
  have h0 : zeros[k]?.getD 0 = 0 := by rw [List.getElem?_replicate, if_pos hk]; rfl
  have hl : ∀ l ∈ locals, l.length = d.order := by
    intro l hl
    rcases List.mem_append.1 hl with hl | hl
    · obtain ⟨r, _, rfl⟩ := List.mem_map.1 hl
      exact (histogram_spec _ _).1.trans hz
    · rw [(List.mem_replicate.1 hl).2, hz]
  have hc : chunks.map (fun r => (histogram ((d.rows.drop r.1).take (r.2 - r.1)) zeros)[k]?.getD 0)
      = chunks.map (fun r => (((d.rows.drop r.1).take (r.2 - r.1)).map (fun row => row.count k)).sum) :=
    List.map_congr_left fun r _ => histogram_zeros _ d.order k hk
  have hpad : ((List.replicate (t - chunks.length) zeros).map (fun l => l[k]?.getD 0)).sum = 0 := by
    rw [List.map_replicate, h0, List.sum_replicate_nat, Nat.mul_zero]
  rw [foldl_addVec locals zeros d.order k hk hz hl, h0, Nat.zero_add, List.map_append, List.sum_append, List.map_map,
    hpad, Nat.add_zero]
  show (chunks.map (fun r => (histogram ((d.rows.drop r.1).take (r.2 - r.1)) zeros)[k]?.getD 0)).sum = _
  rw [hc, sum_map_flatMap, Par.flatMap_slices d.rows chunks Prod.fst Prod.snd (Par.chunks_tile d.order t ht h.1), sum_count_rows h]

/-- `AdjacencyList::degree_sequence` returns the degree of every vertex in vertex order, for every
number of worker threads. -/
theorem degreeSequence_par {d : AdjList} (h : d.WF) (t : Nat) (ht : 0 < t) :
    degreeSequence d t = Spec.degreeSequence (abs d) := by
  unfold degreeSequence Spec.degreeSequence
  refine List.map_congr_left (l := List.range d.order) fun u hu => ?_
  have := par_indegrees h t ht u (List.mem_range.1 hu)
  simp only at this
  rw [this, Spec.degree, Spec.outdegree, outNeighbors_spec h]
  rfl

theorem seq_correct {d : AdjList} (h : d.WF) : SeqCorrect (core d) (abs d) where
  indegreeSequence := congrArg some (indegreeSequence_spec h)
  degreeSequence := fun t ht => congrArg some (degreeSequence_par h t ht)

end AL
end GraafVerif.Query
