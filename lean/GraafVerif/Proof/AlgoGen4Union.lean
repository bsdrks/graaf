import GraafVerif.Proof.AlgoGen4Merge
import GraafVerif.Proof.OpsPar
/-!
# Generated `merge_two_sorted` and `AdjacencyList::union` = the hand-written `Ops.mergeTwoSorted`, `Ops.unionAL a b ap`
-/
namespace GraafVerif.AlgoGenThm
open GraafVerif GraafVerif.AlgoGen GraafVerif.Repr

namespace AdjacencyList

theorem mergeRounds (l r : List Nat) : MergeRounds (ρ := List Nat) (AlgoGen.AdjacencyList.mergeTwoSorted_while0 l r l.length r.length)
    (AlgoGen.AdjacencyList.mergeTwoSorted_while1 l) (AlgoGen.AdjacencyList.mergeTwoSorted_while2 r) l r :=
  .of_emitted (fun _ _ _ => rfl) (fun _ _ => rfl) (fun _ _ => rfl)

theorem mergeTwoSorted_while0_eq (l r : List Nat) (out : List Nat) (i j : Nat) (hi : i < l.length) (hj : j < r.length) :
    (AlgoGen.AdjacencyList.mergeTwoSorted_while0 l r l.length r.length (out, i, j) : Blk _ (List Nat) _) =
      .ok (if l[i] < r[j] then (out ++ [l[i]], i + 1, j)
           else if l[i] > r[j] then (out ++ [r[j]], i, j + 1) else (out ++ [l[i]], i + 1, j + 1)) :=
  (mergeRounds l r).both out i j hi hj

theorem mergeTwoSorted_while0_exit (l r : List Nat) (out : List Nat) (i j : Nat) (h : ¬ (i < l.length ∧ j < r.length)) :
    (AlgoGen.AdjacencyList.mergeTwoSorted_while0 l r l.length r.length (out, i, j) : Blk _ (List Nat) _) = brk (out, i, j) :=
  (mergeRounds l r).both_exit out i j h

theorem copy_rest (step : List Nat × Nat → Blk (List Nat × Nat) (List Nat) (List Nat × Nat)) (l : List Nat)
    (hstep : ∀ out i, (hi : i < l.length) → step (out, i) = .ok (out ++ [l[i]], i + 1))
    (hexit : ∀ out i, ¬ i < l.length → step (out, i) = brk (out, i)) :
    ∀ (m : Nat) (out : List Nat) (i F : Nat), l.length - i ≤ m → l.length - i ≤ F → ∃ i',
      (whileLoop step F (out, i) : Blk Empty (List Nat) _) = .ok (out ++ l.drop i, i') :=
  fun _ out i F _ hF => whileLoop_copy step l hstep hexit F out i hF

/-! The two copy loops each read one slice only: the other is put to `[]`. -/

theorem mergeTwoSorted_while1_eq (l : List Nat) (out : List Nat) (i : Nat) (hi : i < l.length) :
    (AlgoGen.AdjacencyList.mergeTwoSorted_while1 l (out, i) : Blk _ (List Nat) _) = .ok (out ++ [l[i]], i + 1) :=
  (mergeRounds l []).left out i hi

theorem mergeTwoSorted_while2_eq (r : List Nat) (out : List Nat) (j : Nat) (hj : j < r.length) :
    (AlgoGen.AdjacencyList.mergeTwoSorted_while2 r (out, j) : Blk _ (List Nat) _) = .ok (out ++ [r[j]], j + 1) :=
  (mergeRounds [] r).right out j hj

theorem while1_copy (l : List Nat) : ∀ (m : Nat) (out : List Nat) (i F : Nat), l.length - i ≤ m → l.length - i ≤ F → ∃ i',
    (whileLoop (AlgoGen.AdjacencyList.mergeTwoSorted_while1 l) F (out, i) : Blk Empty (List Nat) _) = .ok (out ++ l.drop i, i') :=
  copy_rest _ l (mergeRounds l []).left (mergeRounds l []).left_exit

theorem while2_copy (r : List Nat) : ∀ (m : Nat) (out : List Nat) (j F : Nat), r.length - j ≤ m → r.length - j ≤ F → ∃ j',
    (whileLoop (AlgoGen.AdjacencyList.mergeTwoSorted_while2 r) F (out, j) : Blk Empty (List Nat) _) = .ok (out ++ r.drop j, j') :=
  copy_rest _ r (mergeRounds [] r).right (mergeRounds [] r).right_exit

/-- the rest of the function after the first loop: both tails are appended (one of them is empty) -/
def mergeTail (l r : List Nat) (t : List Nat × Nat × Nat) : Blk Empty (List Nat) (List Nat) := do
  let t6 ← whileLoop (AlgoGen.AdjacencyList.mergeTwoSorted_while1 l) l.length (t.1, t.2.1)
  let t8 ← whileLoop (AlgoGen.AdjacencyList.mergeTwoSorted_while2 r) r.length (t6.1, t.2.2)
  pure t8.1

theorem mergeTail_eq (l r : List Nat) (out : List Nat) (i j : Nat) :
    mergeTail l r (out, i, j) = .ok (out ++ l.drop i ++ r.drop j) :=
  copy_tails (mergeRounds l r) out i j

theorem merge_loops (l r : List Nat) : ∀ (m : Nat) (out : List Nat) (i j F : Nat),
    (l.length - i) + (r.length - j) ≤ m → (l.length - i) + (r.length - j) ≤ F →
    ((whileLoop (AlgoGen.AdjacencyList.mergeTwoSorted_while0 l r l.length r.length) F (out, i, j) : Blk Empty (List Nat) _) >>=
      mergeTail l r) = .ok (out ++ Ops.mergeTwoSorted (l.drop i) (r.drop j)) :=
  fun _ out i j F _ hF => merge_three_loops (mergeRounds l r) F out i j hF

/-- the generated `merge_two_sorted` = the hand-written `Ops.mergeTwoSorted`, for all slices (no unchecked read is
out of bounds) -/
theorem mergeTwoSorted_eq (l r : List Nat) : AlgoGen.AdjacencyList.mergeTwoSorted l r = .ok (Ops.mergeTwoSorted l r) :=
  congrArg fnBody (merge_three_loops (mergeRounds l r) _ [] 0 0 (Nat.le_refl _))

/-- a row read behind the test `u < order`: rows beyond the order count as empty -/
theorem rowOrNil_eq {β ρ : Type} (site : String) (d : AdjList) (u : Nat) :
    ((if u < d.order then rd site d.rows u else .ok []) : Blk β ρ (List Nat)) =
      .ok (if u < d.order then d.rows[u]?.getD [] else []) := by
  by_cases h : u < d.order
  · rw [if_pos h, if_pos h, rd_lt _ _ _ h, List.getElem?_eq_getElem h]
    rfl
  · rw [if_neg h, if_neg h]

theorem union_for1_eq (a b : AdjList) (arcs : List (List Nat)) (u : Nat) (hu : u < arcs.length) :
    (AlgoGen.AdjacencyList.union_for1 a b arcs u : Blk (List (List Nat)) AdjList _) = .ok (arcs.set u (Ops.unionRowAL a b u)) := by
  unfold AlgoGen.AdjacencyList.union_for1 Ops.unionRowAL
  simp only [rowOrNil_eq, ok_bind, mergeTwoSorted_eq, call_ok, wr_lt _ _ _ _ hu, pure_eq_ok]

theorem union_for0_eq (a b : AdjList) (order chunk : Nat) (arcs : List (List Nat)) (start : Nat) (hlen : arcs.length = order) :
    (AlgoGen.AdjacencyList.union_for0 a b order chunk arcs start : Blk (List (List Nat)) AdjList _) =
        .ok ((List.range' start (min (start + chunk) order - start)).foldl (fun arcs u => arcs.set u (Ops.unionRowAL a b u)) arcs) ∧
      ((List.range' start (min (start + chunk) order - start)).foldl (fun arcs u => arcs.set u (Ops.unionRowAL a b u)) arcs).length = order :=
  forLoop_ok (I := fun x : List (List Nat) => x.length = order) hlen fun s hs u hu =>
    ⟨union_for1_eq a b s u (hs ▸ mem_range_lt (Nat.min_le_right _ _) hu), List.length_set.trans hs⟩

/-- `AdjacencyList::union` with `available_parallelism() = ap` = the hand-written `Ops.unionAL a b ap`, for every pair
of values and every `ap` (0 included: both panic; order 0: `step_by(0)` panics in both); no pointer access is out of bounds. -/
theorem union_eq (ap : Nat) (a b : AdjList) : AlgoGen.AdjacencyList.union ap a b = optR (Ops.unionAL a b ap) := by
  unfold AlgoGen.AdjacencyList.union Ops.unionAL
  dsimp only
  generalize max a.order b.order = order
  by_cases hap : ap = 0
  · subst hap
    rw [divCeilP_zero, if_pos rfl]
    rfl
  · rw [if_neg hap, divCeilP_pos _ _ (Nat.pos_of_ne_zero hap), ok_bind]
    generalize (order + ap - 1) / ap = chunk
    by_cases hc0 : chunk = 0
    · subst hc0
      rfl
    · have hc : 0 < chunk := Nat.pos_of_ne_zero hc0
      have hloop := forLoop_ok (β := Empty) (ρ := AdjList) (I := fun x : List (List Nat) => x.length = order)
        (l := (List.range ((order + chunk - 1) / chunk)).map (· * chunk)) (s := List.replicate order []) List.length_replicate
        fun s hs start _ => union_for0_eq a b order chunk s start hs
      have hcl := stepRanges_closed order chunk hc order 0
        (by rw [Nat.zero_add]; exact (Par.divCeil_le_iff _ _ hc).2 (Nat.le_mul_of_pos_right _ hc))
      rw [Nat.zero_mul, Nat.sub_zero, ← List.range_eq_range'] at hcl
      rw [if_neg hc0, stepByP_range _ _ hc, ok_bind, hloop.1, Ops.stepRanges, hcl, List.foldl_map, List.foldl_map]
      rfl

end AdjacencyList
end GraafVerif.AlgoGenThm
