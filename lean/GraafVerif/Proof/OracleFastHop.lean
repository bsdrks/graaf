import GraafVerif.Spec.OracleFast
import GraafVerif.Proof.OracleUses
/-!
# `hopDistFastA` (level-synchronous frontier search, `H04.hopDistFast`) equals `hopDistB`
# and `reachFast` equals `reachSetB`

`hopDistFastA` keeps the frontier (the vertices labelled `k`) as a list and scans only their rows;
`hopDistB` rescans all `n` vertices in each of its `n` rounds.  The scan orders differ, so instead
of relating the intermediate arrays the fast oracle is proved EXACT (`FInv`: before level `k` the
labels are hop distances `≤ k`, every vertex of hop distance `≤ k` is labelled, and the frontier
lists exactly the vertices labelled `k`): on the labels one level of the search is the level
expansion `expand` of `Proof/OracleHop.lean` over the frontier (`hfRound_fst`), so `hInv_expand`
applies; equality with `hopDistB` follows from the uniqueness of hop distances (`HDone.unique`).

`reachFast` is the same search on a Boolean array; it is the image of the hop search under
`Option.isSome` step by step (`rfGo_sim`), and `reachSetB = (hopDistB).map isSome` is proved
(`reach_eq_hop_isSome`).
-/
namespace GraafVerif.OracleFastProof
open GraafVerif GraafVerif.OracleFast GraafVerif.OracleProof

theorem hfIn_eq (k : Nat) (a : Array (Option Nat) × List Nat) (v : Nat) :
    hfIn k a v = if lk a.1.toList v = none ∧ v < a.1.size
      then (a.1.setIfInBounds v (some (k+1)), v :: a.2) else a := by
  unfold hfIn
  rw [lk_toList, Array.getD_eq_getD_getElem?]
  by_cases hv : v < a.1.size
  · rw [Array.getElem?_eq_getElem hv]
    cases a.1[v] <;> simp [hv]
  · rw [Array.getElem?_eq_none (Nat.le_of_not_lt hv), if_neg (fun h => hv h.2)]

theorem hfIn_fst (k : Nat) (a : Array (Option Nat) × List Nat) (v : Nat) :
    (hfIn k a v).1.toList = hIn k a.1.toList v := by
  rw [hfIn_eq]
  unfold hIn
  cases h : lk a.1.toList v with
  | some x => simp
  | none =>
    by_cases hv : v < a.1.size
    · simp [hv]
    · simp [hv, List.set_eq_of_length_le (Nat.le_of_not_lt hv : a.1.toList.length ≤ v)]

theorem hfRound_fst (g : Graph) (k : Nat) (front : List Nat) (d : Array (Option Nat)) :
    (hfRound g k front d).1.toList = expand g k front d.toList :=
  Fold.foldl_sim (fun a : Array (Option Nat) × List Nat => a.1.toList) (hfOut g k)
    (fun acc u => (g.out u).foldl (hIn k) acc)
    (fun a u => Fold.foldl_sim (fun a : Array (Option Nat) × List Nat => a.1.toList) (hfIn k) (hIn k)
      (hfIn_fst k) (g.out u) a) front (d, [])

/-- Inside the expansion of level `k` started at labels `d`: labels persist, and the next frontier
lists exactly the vertices labelled so far in this expansion. -/
structure Front (d : List (Option Nat)) (k : Nat) (acc : Array (Option Nat) × List Nat) : Prop where
  old : ∀ y x, lk d y = some x → lk acc.1.toList y = some x
  fr : ∀ v, v ∈ acc.2 ↔ (lk d v = none ∧ lk acc.1.toList v = some (k+1))

theorem front_hfIn {d : List (Option Nat)} {k : Nat} {acc : Array (Option Nat) × List Nat}
    (h : Front d k acc) (v : Nat) : Front d k (hfIn k acc v) := by
  rw [hfIn_eq]
  split
  · rename_i hc
    obtain ⟨hn, hv⟩ := hc
    have hdv : lk d v = none := by
      cases hd : lk d v with
      | none => rfl
      | some z => rw [h.old v z hd] at hn; cases hn
    constructor
    · intro y x hy
      show lk (acc.1.setIfInBounds v (some (k+1))).toList y = some x
      rw [Array.toList_setIfInBounds, lk_set, if_neg (fun hh => by rw [← hh.1, hdv] at hy; cases hy)]
      exact h.old y x hy
    · intro y
      show y ∈ v :: acc.2 ↔ lk d y = none ∧ lk (acc.1.setIfInBounds v (some (k+1))).toList y = some (k+1)
      rw [Array.toList_setIfInBounds, lk_set, List.mem_cons, h.fr y]
      by_cases hvy : v = y
      · subst hvy; simp [hdv, hv]
      · have : ¬ y = v := fun hh => hvy hh.symm
        simp [hvy, this]
  · exact h

theorem front_round (g : Graph) (k : Nat) (front : List Nat) (d : Array (Option Nat)) :
    Front d.toList k (hfRound g k front d) :=
  Fold.foldl_inv (Front d.toList k)
    (fun a _ _ ha => Fold.foldl_inv (Front d.toList k) (fun _ v _ hb => front_hfIn hb v) a ha)
    (d, []) ⟨fun _ _ h => h, fun _ => ⟨fun h => (nomatch h), fun h => (nomatch h.1.symm.trans h.2)⟩⟩

structure FInv (g : Graph) (S : List Nat) (k : Nat) (front : List Nat) (d : Array (Option Nat)) : Prop where
  h : HInv g S k d.toList
  le : ∀ v x, lk d.toList v = some x → x ≤ k
  front : ∀ u, u ∈ front ↔ lk d.toList u = some k

theorem fInv_round {g : Graph} (hwf : g.WF) {S : List Nat} {k : Nat} {front : List Nat} {d : Array (Option Nat)}
    (h : FInv g S k front d) : FInv g S (k+1) (hfRound g k front d).2 (hfRound g k front d).1 := by
  have hF := front_round g k front d
  refine ⟨hfRound_fst g k front d ▸ hInv_expand hwf h.h h.front, ?_, fun u => ?_⟩
  · intro v x hx
    rw [hfRound_fst, lk_expand] at hx
    split at hx
    · cases hx; exact Nat.le_refl _
    · exact Nat.le_succ_of_le (h.le v x hx)
  · rw [hF.fr u]
    refine ⟨fun hu => hu.2, fun hu => ⟨?_, hu⟩⟩
    cases hd : lk d.toList u with
    | none => rfl
    | some y =>
      rw [hF.old u y hd] at hu
      cases hu
      exact absurd (h.le u (k+1) hd) (Nat.not_succ_le_self k)

theorem hfGo_spec {g : Graph} (hwf : g.WF) {S : List Nat} (hS : ∀ s ∈ S, s < g.n) :
    ∀ (fuel k : Nat) (front : List Nat) (d : Array (Option Nat)), g.n ≤ k + fuel → FInv g S k front d →
      HDone g S (hfGo g fuel k front d).toList := by
  intro fuel
  induction fuel with
  | zero =>
    intro k front d hk h
    exact h.h.done hwf hS (Nat.le_succ_of_le hk)
  | succ f ih =>
    intro k front d hk h
    rw [hfGo]
    by_cases he : front.isEmpty = true
    · rw [if_pos he]
      refine h.h.done_of_empty (fun u hu => ?_)
      have := (h.front u).mpr hu
      rw [List.isEmpty_iff.mp he] at this; cases this
    · rw [if_neg he]
      exact ih (k+1) _ _ (Nat.succ_add k f ▸ hk) (fInv_round hwf h)

theorem hfInit_toList (g : Graph) (S : List Nat) : (hfInit g.n S).toList = hInit g S := by
  unfold hfInit hInit
  rw [toList_marks, Array.toList_replicate]

theorem fInv_init (g : Graph) {S : List Nat} (hS : ∀ s ∈ S, s < g.n) : FInv g S 0 S (hfInit g.n S) := by
  refine ⟨by rw [hfInit_toList]; exact hInv_init g hS, fun v x hx => ?_, fun u => ?_⟩
  · rw [hfInit_toList] at hx
    exact Nat.le_of_eq ((lk_marks_some 0 g.n v S x).mp hx).1
  · rw [hfInit_toList]
    exact ⟨fun hu => (lk_marks_some 0 g.n u S 0).mpr ⟨rfl, hu, hS u hu⟩,
      fun hu => ((lk_marks_some 0 g.n u S 0).mp hu).2.1⟩

theorem hopDistFastA_done {g : Graph} (hwf : g.WF) {S : List Nat} (hS : ∀ s ∈ S, s < g.n) :
    HDone g S (hopDistFastA g S) :=
  hfGo_spec hwf hS (g.n + 1) 0 S _ (by rw [Nat.zero_add]; exact Nat.le_succ _) (fInv_init g hS)

theorem hopDistFastA_eq {g : Graph} (hwf : g.WF) {S : List Nat} (hS : ∀ s ∈ S, s < g.n) :
    hopDistFastA g S = hopDistB g S :=
  (hopDistFastA_done hwf hS).unique (hopDistB_done hwf hS)

/-- A hop-search state seen as a reachability-search state. -/
def toR (a : Array (Option Nat) × List Nat) : Array Bool × List Nat := (a.1.map Option.isSome, a.2)

theorem rfIn_sim (k : Nat) (a : Array (Option Nat) × List Nat) (v : Nat) : toR (hfIn k a v) = rfIn (toR a) v := by
  unfold hfIn rfIn toR
  simp only [Array.getElem?_map]
  cases h : a.1[v]? with
  | none => rfl
  | some o =>
    cases o with
    | none => simp
    | some x => rfl

theorem rfRound_sim (g : Graph) (k : Nat) (front : List Nat) (d : Array (Option Nat)) :
    toR (hfRound g k front d) = rfRound g front (d.map Option.isSome) :=
  Fold.foldl_sim toR (hfOut g k) (fun acc u => (g.out u).foldl rfIn acc)
    (fun a u => Fold.foldl_sim toR (hfIn k) rfIn (rfIn_sim k) (g.out u) a) front (d, [])

theorem rfGo_sim (g : Graph) : ∀ (fuel k : Nat) (front : List Nat) (d : Array (Option Nat)),
    (hfGo g fuel k front d).map Option.isSome = rfGo g fuel front (d.map Option.isSome) := by
  intro fuel
  induction fuel with
  | zero => intro k front d; rfl
  | succ f ih =>
    intro k front d
    rw [hfGo, rfGo]
    split
    · rfl
    · simp only []
      rw [ih, ← rfRound_sim g k front d]
      rfl

theorem rfInit_eq (n : Nat) (S : List Nat) : rfInit n S = (hfInit n S).map Option.isSome := by
  unfold rfInit hfInit
  rw [Fold.foldl_sim (Array.map Option.isSome) (fun d s => d.setIfInBounds s (some 0))
    (fun d s => d.setIfInBounds s true) (fun _ _ => Array.map_setIfInBounds), Array.map_replicate]
  rfl

theorem reachFast_eq_hop (g : Graph) (S : List Nat) : reachFast g S = (hopDistFastA g S).map Option.isSome := by
  unfold reachFast hopDistFastA
  rw [rfInit_eq, ← rfGo_sim g (g.n + 1) 0 S]
  simp

theorem reachFast_eq {g : Graph} (hwf : g.WF) {S : List Nat} (hS : ∀ s ∈ S, s < g.n) :
    reachFast g S = reachSetB g S := by
  rw [reachFast_eq_hop, hopDistFastA_eq hwf hS, reach_eq_hop_isSome hwf hS]

end GraafVerif.OracleFastProof
