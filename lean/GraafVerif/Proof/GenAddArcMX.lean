import GraafVerif.Proof.GenAddArc
import GraafVerif.Proof.ReprMX
/-!
# `ArcRepr` instance: AdjacencyMatrix

`empty(n)` allocates `n²` bits: it accepts the orders with `n * n < 2^64` (`fits`).
-/
namespace GraafVerif.Gen
open GraafVerif.Repr GraafVerif.ReprSpec

namespace MX

def repr :
    ArcRepr AdjMatrix.order AdjMatrix.vertices AdjMatrix.arcs AdjMatrix.hasArc AdjMatrix.empty AdjMatrix.addArc where
  WF := AdjMatrix.WF
  fits := fun n => n * n < 2 ^ 64
  fits_of_empty := fun {n e} (h : AdjMatrix.empty n = some e) => Nat.not_le.mp fun hge => by
    rw [AdjMatrix.empty, if_pos hge, ite_self] at h; cases h
  empty_spec := fun {n} hn hf =>
    have he : AdjMatrix.empty n = some _ := (if_neg (Nat.ne_of_gt hn)).trans (if_neg (Nat.not_le.mpr hf))
    ⟨_, he, AdjMatrix.empty_WF he, rfl,
      empty_of_abs AdjMatrix.mem_arcs (AdjMatrix.empty_WF he) (AdjMatrix.abs_empty he)⟩
  addArc_spec := fun d u v hwf huv hu hv =>
    have ⟨d', e, hw, ha, h⟩ := add_of_refines (w := ()) AdjMatrix.mem_arcs hwf rfl
      ⟨AdjMatrix.step_WF d (.add u v) hwf, AdjMatrix.step_refines d (.add u v) hwf⟩ huv hu hv
    ⟨d', e, hw, lt_of_decide_lt_eq (congrArg SpecState.V ha), h⟩
  pos := fun h => h.1
  valid := fun {d} h => arcsValid_of_simple h.simple (fun _ => AdjMatrix.mem_vertices.mp)
    (AdjMatrix.mem_arcs_iff d)
  vertices_eq := fun _ => rfl
  hasArc_iff := fun {d} _ u v => (AdjMatrix.mem_arcs_iff d u v).symm
  ext := fun {d d'} h h' ho ha => AdjMatrix.ext h.shape h'.shape
    (mem_range_congr ho) (has_eq_of_arcs (AdjMatrix.mem_arcs_iff d) (AdjMatrix.mem_arcs_iff d') ha)

theorem fits_one : repr.fits 1 := show 1 * 1 < 2 ^ 64 by decide

end MX
end GraafVerif.Gen
