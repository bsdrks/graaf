import GraafVerif.Model.Rand
/-! The PRNG as a stream of draws: `draws x`, the stream of the PRNG state `x` (`xoStream seed` is that of `Xo.new seed`),
and how it moves with the state (`draws_succ`: one draw on; `draws_iter`: `m` draws on), from `Xo.iter` against `Xo.next`
(`iter_next`, `iter_add`); the array-backed stream the driver materialises is the stream of the seed
(`streamOfArray_xoTake`).  `Xo.next` is never unfolded (64-bit arithmetic).  The generated generators thread the PRNG
state through their loops and meet the streams of `Model/Rand.lean` through these (`forLoop_stream` of
`Proof/AlgoGen3Gen.lean`), whence the namespace. -/
namespace GraafVerif.AlgoGenThm
open GraafVerif

/-- the draws of the PRNG state `x`: `draws x i` = the `(i+1)`-th value `next()` returns -/
def draws (x : Rand.Xo) : Rand.Stream := fun i => (x.iter i).next.1

theorem iter_next (x : Rand.Xo) : ∀ i, (x.next.2).iter i = (x.iter i).next.2 :=
  fun
  | 0 => rfl
  | i + 1 => congrArg (·.next.2) (iter_next x i)

theorem iter_add (x : Rand.Xo) (m : Nat) : ∀ k, (x.iter m).iter k = x.iter (m + k)
  | 0 => rfl
  | k + 1 => congrArg (·.next.2) (iter_add x m k)

theorem draws_succ (x : Rand.Xo) (i : Nat) : draws x (i + 1) = draws x.next.2 i :=
  (congrArg (·.next.1) (iter_next x i)).symm

theorem draws_iter (x : Rand.Xo) (m i : Nat) : draws (x.iter m) i = draws x (m + i) :=
  congrArg (·.next.1) (iter_add x m i)

theorem draws_new (seed : UInt64) : draws (Rand.Xo.new seed) = Rand.xoStream seed := rfl

end GraafVerif.AlgoGenThm

namespace GraafVerif.Rand
open AlgoGenThm (draws draws_succ draws_new)

theorem xoTake_go_toList (fuel : Nat) (x : Xo) (acc : Array UInt64) :
    (xoTake.go fuel x acc).toList = acc.toList ++ (List.range fuel).map (draws x) := by
  induction fuel generalizing x acc with
  | zero => simp [xoTake.go]
  | succ f ih =>
    simp only [xoTake.go]
    rw [ih, List.range_succ_eq_map]
    simp only [Array.toList_push, List.append_assoc, List.map_cons, List.map_map, Function.comp_def,
      draws_succ, List.singleton_append]
    rfl

theorem streamOfArray_xoTake (seed : UInt64) (k i : Nat) (h : i < k) :
    streamOfArray (xoTake seed k) i = xoStream seed i := by
  unfold streamOfArray xoTake
  have : (xoTake.go k (Xo.new seed) (Array.mkEmpty k)).toList[i]? = some (xoStream seed i) := by
    rw [xoTake_go_toList, draws_new]; simp [h]
  rw [Array.getD_eq_getD_getElem?, ← Array.getElem?_toList, this]; rfl

end GraafVerif.Rand
