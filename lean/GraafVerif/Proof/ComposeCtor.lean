import GraafVerif.Proof.ComposeViewIs
import GraafVerif.Spec.Rand
/-!
# Compose — constructors (`From<rows>`, `From<arcs>`, C16) and random generators (C15) under the
traversals

* The relations a constructor argument denotes: `rowsRel rows u v := v ∈ rows[u]`, `wrowsRel`
  (used by `from_rows_views` of `Thm/Compose.lean`; `listRel arcs` is in `Proof/ComposeViewIs.lean`).
* Random generators: C15 proves validity on the observable `View` (`order`, `vertices`, `has_arc`)
  and does NOT prove the representation invariant `WF`.  The traversal theorems need less than
  `WF`: only that the view is a well-formed `Graph` with the arc relation `has_arc` (`ViewHas`) — which follows
  from `IsSimpleOn` alone (`…viewHas_of_simpleOn`), because each representation's `out_neighbors` row
  lists `v` exactly when `has_arc(u, v)` (no invariant needed).  (Johnson / view uniqueness, which
  need ascending rows, are therefore not stated for the random generators.)
-/
namespace GraafVerif.Compose
open GraafVerif GraafVerif.Repr GraafVerif.Query

def rowsRel (rows : List (List Nat)) : Rel := fun u v => v ∈ rows[u]?.getD []
def wrowsRel (rows : List (List (Nat × Int))) : WRel := fun u v w => (v, w) ∈ rows[u]?.getD []

def hasRel (has : Nat → Nat → Bool) : Rel := fun u v => has u v = true

/-- A view whose order and vertex list are those of the simple observable `d`, and whose rows list
`v` exactly when `d.has u v` (for the scanning representations: once `u, v` are in range). -/
theorem viewHas_of_simpleOn {g : Graph} {vg : Tarjan.VGraph} {n : Nat} {d : Rand.View}
    (h : Rand.IsSimpleOn n d) (ho : g.n = d.order) (hv : vg.verts = d.verts) (hout : vg.out = g.out)
    (h₁ : ∀ u v, g.A u v → d.has u v = true)
    (h₂ : ∀ u v, u < d.order → v < d.order → d.has u v = true → g.A u v) : ViewHas g vg n (hasRel d.has) := by
  obtain ⟨rfl, hvs, hs⟩ := h
  exact ⟨ho, fun u v huv => ho ▸ ⟨(hs u v (h₁ u v huv)).1, (hs u v (h₁ u v huv)).2.1⟩,
    fun u v => ⟨h₁ u v, fun hh => h₂ u v (hs u v hh).1 (hs u v hh).2.1 hh⟩, hv.trans hvs, hout⟩

theorem AL.viewHas_of_simpleOn (g : AdjList) (n : Nat) (h : Rand.IsSimpleOn n (Rand.viewAL g)) :
    ViewHas g.view g.vview n (hasRel g.hasArc) := by
  have hA : ∀ u v, g.view.A u v ↔ g.hasArc u v = true := fun _ _ => AdjList.mem_row
  exact Compose.viewHas_of_simpleOn h rfl rfl rfl (fun u v => (hA u v).1) fun u v _ _ => (hA u v).2

theorem AM.viewHas_of_simpleOn (g : AdjMap) (n : Nat) (h : Rand.IsSimpleOn n (Rand.viewAM g)) :
    ViewHas g.view g.vview n (hasRel g.hasArc) := by
  have hA : ∀ u v, g.view.A u v ↔ g.hasArc u v = true := fun _ _ => AdjMap.mem_row
  exact Compose.viewHas_of_simpleOn h rfl rfl rfl (fun u v => (hA u v).1) fun u v _ _ => (hA u v).2

theorem MX.viewHas_of_simpleOn (g : AdjMatrix) (n : Nat) (h : Rand.IsSimpleOn n (Rand.viewMX g)) :
    ViewHas g.view g.vview n (hasRel g.hasArc) :=
  Compose.viewHas_of_simpleOn h rfl rfl rfl (fun u v hm => ((g.mem_view_out u v).1 hm).2.2)
    fun u v hu hv hh => (g.mem_view_out u v).2 ⟨hu, hv, hh⟩

theorem EL.viewHas_of_simpleOn (g : EdgeList) (n : Nat) (h : Rand.IsSimpleOn n (Rand.viewEL g)) :
    ViewHas g.view g.vview n (hasRel g.hasArc) :=
  Compose.viewHas_of_simpleOn h rfl rfl rfl (fun u v hm => ((g.mem_view_out u v).1 hm).2)
    fun u v hu _ hh => (g.mem_view_out u v).2 ⟨hu, hh⟩

/-- What the composition says of a randomly generated digraph `g` with observable validity
`Valid n (view g)`: BFS / DFS (C04, C05, C06) and Tarjan (C09) are correct w.r.t. `has_arc`. -/
def RandomOK (g : Graph) (vg : Tarjan.VGraph) (n : Nat) (has : Nat → Nat → Bool) : Prop :=
  (∀ S : List Nat, (∀ s ∈ S, s < n) → S.Nodup → TraversalsHold (hasRel has) n S g) ∧
  TarjanHolds (List.range n) (hasRel has) vg

theorem ViewHas.randomOK {g : Graph} {vg : Tarjan.VGraph} {n : Nat} {has : Nat → Nat → Bool}
    (h : ViewHas g vg n (hasRel has)) : RandomOK g vg n has :=
  ⟨h.traversals, h.tarjan⟩

/-- A generator result that is valid, where validity includes `IsSimpleOn n`, is `RandomOK`
(`hvh`: the representation's `viewHas_of_simpleOn`). -/
theorem randomOK_of {T : Type} {obs : T → Rand.View} {gv : T → Graph} {vv : T → Tarjan.VGraph}
    {has : T → Nat → Nat → Bool} {n : Nat}
    (hvh : ∀ g, Rand.IsSimpleOn n (obs g) → ViewHas (gv g) (vv g) n (hasRel (has g)))
    {o : Option T} {Valid : Rand.View → Prop} (h : ∃ g, o = some g ∧ Valid (obs g))
    (hs : ∀ d, Valid d → Rand.IsSimpleOn n d) :
    ∃ g, o = some g ∧ Valid (obs g) ∧ RandomOK (gv g) (vv g) n (has g) :=
  have ⟨g, e, v⟩ := h
  ⟨g, e, v, (hvh g (hs _ v)).randomOK⟩

end GraafVerif.Compose
