import GraafVerif.Proof.AlgoGen4Par
import GraafVerif.Proof.OpsMerge
/-!
# `merge_two_sorted`, for step functions given by their equations

`adjacency_list/mod.rs` and `adjacency_map/mod.rs` each have their own `merge_two_sorted`; the two generated
definitions differ in the site strings of the unchecked reads only.  What the three loops compute is proved here
once, about arbitrary step functions `s0 s1 s2` that satisfy the equations of the generated rounds (`MergeRounds`); the
equations follow from the text of the rounds as emitted, sites left open (`MergeRounds.of_emitted`: `rfl` on either side).
The round of a three-way merge on two cursors is `Ops.merge_round` (`Proof/OpsMerge.lean`); it also serves the per-thread
loop of `AdjacencyMap::union`.
-/
namespace GraafVerif.AlgoGenThm
open GraafVerif GraafVerif.AlgoGen GraafVerif.Repr

/-- `s0`, `s1`, `s2` compute one round of the three loops of `merge_two_sorted` on the slices `l`, `r`:
the main loop while both cursors are inside, then the copy of what is left of `l`, then of `r` -/
structure MergeRounds {ρ : Type} (s0 : List Nat × Nat × Nat → Blk (List Nat × Nat × Nat) ρ (List Nat × Nat × Nat))
    (s1 s2 : List Nat × Nat → Blk (List Nat × Nat) ρ (List Nat × Nat)) (l r : List Nat) : Prop where
  both : ∀ out i j, (hi : i < l.length) → (hj : j < r.length) → s0 (out, i, j) =
    .ok (if l[i] < r[j] then (out ++ [l[i]], i + 1, j)
         else if l[i] > r[j] then (out ++ [r[j]], i, j + 1) else (out ++ [l[i]], i + 1, j + 1))
  both_exit : ∀ out i j, ¬ (i < l.length ∧ j < r.length) → s0 (out, i, j) = brk (out, i, j)
  left : ∀ out i, (hi : i < l.length) → s1 (out, i) = .ok (out ++ [l[i]], i + 1)
  left_exit : ∀ out i, ¬ i < l.length → s1 (out, i) = brk (out, i)
  right : ∀ out j, (hj : j < r.length) → s2 (out, j) = .ok (out ++ [r[j]], j + 1)
  right_exit : ∀ out j, ¬ j < r.length → s2 (out, j) = brk (out, j)

variable {β ρ : Type} {s0 : List Nat × Nat × Nat → Blk (List Nat × Nat × Nat) ρ (List Nat × Nat × Nat)}
  {s1 s2 : List Nat × Nat → Blk (List Nat × Nat) ρ (List Nat × Nat)} {l r : List Nat}

/-- the rounds as the translator emits them, the sites of the unchecked reads left open: for the `merge_two_sorted` of
either file the three hypotheses hold by `rfl` -/
theorem MergeRounds.of_emitted {sa sb sc sd : String}
    (h0 : ∀ out i j, s0 (out, i, j) =
      if (decide (i < l.length) && decide (j < r.length)) = true then
        rd sa l i >>= fun a => rd sb r j >>= fun b =>
          (if a < b then pure (out ++ [a], i + 1, j)
            else (if a > b then pure (out ++ [b], i, j + 1) else pure (out ++ [a], i + 1, j + 1)) >>= pure) >>= pure
      else brk (out, i, j))
    (h1 : ∀ out i, s1 (out, i) = if i < l.length then rd sc l i >>= fun a => pure (out ++ [a], i + 1) else brk (out, i))
    (h2 : ∀ out j, s2 (out, j) = if j < r.length then rd sd r j >>= fun b => pure (out ++ [b], j + 1) else brk (out, j)) :
    MergeRounds s0 s1 s2 l r where
  both out i j hi hj := by
    rw [h0, decide_eq_true hi, decide_eq_true hj, if_pos (Bool.and_self true), rd_lt _ _ _ hi, ok_bind, rd_lt _ _ _ hj, ok_bind,
      bind_pure_blk, bind_pure_blk, apply_ite Except.ok, apply_ite Except.ok]
    rfl
  both_exit out i j h := by rw [h0, decide_and_eq_false h, if_neg Bool.false_ne_true]
  left out i hi := by
    rw [h1, if_pos hi, rd_lt _ _ _ hi]
    rfl
  left_exit out i hi := by rw [h1, if_neg hi]
  right out j hj := by
    rw [h2, if_pos hj, rd_lt _ _ _ hj]
    rfl
  right_exit out j hj := by rw [h2, if_neg hj]

theorem copy_tails (h : MergeRounds s0 s1 s2 l r) (out : List Nat) (i j : Nat) :
    ((whileLoop s1 l.length (out, i) : Blk β ρ _) >>= fun t6 =>
      (whileLoop s2 r.length (t6.1, j) : Blk β ρ _) >>= fun t8 => pure t8.1) = .ok (out ++ l.drop i ++ r.drop j) := by
  obtain ⟨i', e1⟩ := whileLoop_copy (β := β) s1 l h.left h.left_exit l.length out i (Nat.sub_le _ _)
  obtain ⟨j', e2⟩ := whileLoop_copy (β := β) s2 r h.right h.right_exit r.length (out ++ l.drop i) j (Nat.sub_le _ _)
  rw [e1, ok_bind, e2]
  rfl

theorem whileLoop_merge (h : MergeRounds s0 s1 s2 l r) (F : Nat) (out : List Nat) (i j : Nat)
    (hF : (l.length - i) + (r.length - j) ≤ F) : ∃ t, (whileLoop s0 F (out, i, j) : Blk β ρ _) = .ok t ∧
      t.1 ++ l.drop t.2.1 ++ r.drop t.2.2 = out ++ Ops.mergeTwoSorted (l.drop i) (r.drop j) := by
  refine whileLoop_total (β := β) s0 (fun s => (l.length - s.2.1) + (r.length - s.2.2)) (fun _ => True)
    (fun s t => t.1 ++ l.drop t.2.1 ++ r.drop t.2.2 = s.1 ++ Ops.mergeTwoSorted (l.drop s.2.1) (r.drop s.2.2))
    (fun s _ => ?_) F (out, i, j) trivial hF
  by_cases hij : s.2.1 < l.length ∧ s.2.2 < r.length
  · obtain ⟨hi, hj⟩ := hij
    obtain ⟨hμ, hq⟩ := Ops.merge_round (key := id) Ops.mergeTwoSorted_cons_cons (L := fun i => l.drop i) (R := fun j => r.drop j)
      (List.drop_eq_getElem_cons hi) (List.drop_eq_getElem_cons hj) hi hj s.1 _ rfl
    exact Or.inr ⟨_, h.both s.1 s.2.1 s.2.2 hi hj, hμ, trivial, fun t ht => ht.trans hq⟩
  · refine Or.inl ⟨h.both_exit s.1 s.2.1 s.2.2 hij, ?_⟩
    rw [List.append_assoc]
    congr 1
    by_cases hi : s.2.1 < l.length
    · rw [List.drop_eq_nil_of_le (Nat.le_of_not_lt fun hj => hij ⟨hi, hj⟩), Ops.mergeTwoSorted_nil_right, List.append_nil]
    · rw [List.drop_eq_nil_of_le (Nat.le_of_not_lt hi), Ops.mergeTwoSorted_nil_left, List.nil_append]

theorem merge_three_loops (h : MergeRounds s0 s1 s2 l r) (F : Nat) (out : List Nat) (i j : Nat)
    (hF : (l.length - i) + (r.length - j) ≤ F) :
    ((whileLoop s0 F (out, i, j) : Blk β ρ _) >>= fun t =>
      (whileLoop s1 l.length (t.1, t.2.1) : Blk β ρ _) >>= fun t6 =>
      (whileLoop s2 r.length (t6.1, t.2.2) : Blk β ρ _) >>= fun t8 => pure t8.1) =
      .ok (out ++ Ops.mergeTwoSorted (l.drop i) (r.drop j)) := by
  obtain ⟨t, ht, hq⟩ := whileLoop_merge (β := β) h F out i j hF
  rw [ht, ok_bind, copy_tails h, hq]

end GraafVerif.AlgoGenThm
