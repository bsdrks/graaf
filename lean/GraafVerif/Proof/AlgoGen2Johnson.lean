import GraafVerif.Model.AlgoGen2
import GraafVerif.Proof.AlgoGenRt
import GraafVerif.Proof.JohnsonParts
import GraafVerif.Proof.JohnsonTarjanSim
/-!
# Generated `Johnson75::{new, is_blocked, unblock, circuit, circuits}` (`Model/AlgoGen2.lean`) vs the
hand-written `Model/Johnson.lean`

Differences between the two sides, and how the theorems deal with them:
* **Fuel.**  The hand-written `unblock` / `circuit` return the state unchanged when the fuel is
  used up (no fault); the generated ones answer `div`.  The equalities therefore have the form
  `Agree r h`: the generated call `r` either is `div` or returns exactly the hand-written result
  `h` — for every generated fuel `F` and every hand-written fuel `≥ F` (so the hand-written
  top-level fuel `order + 1` is covered by every `F ≤ order + 1`).
* **`unblock`: literal loop vs snapshot.**  The generated loop re-reads `b[u]` and pops its first
  element in every round; the hand-written model folds over the snapshot of `b[u]` and clears it
  first.  `unblock_setB` (a nested `unblock` neither reads nor writes `b[u]` while `u` is not
  blocked, and never re-blocks) turns one into the other.
* **Unchecked accesses / asserts.**  `*b_ptr.add(i)` is `ub` out of range and `out_neighbors(v)`
  panics for a non-key, where the hand-written model reads `getD []` / has no assert.  The
  invariant `JInv n` (|b| = n, blocked vertices < n, B-lists strictly ascending with entries < n)
  and `CompOk` (the component's out-neighbours are keys < n) exclude both; `circuits` establishes
  them from the leading `assert!` and the closedness of the digraph.
-/
namespace GraafVerif.AlgoGenThm
open GraafVerif GraafVerif.AlgoGen

namespace Johnson75
open GraafVerif.Johnson (JState AM unblock circuit circuitStep circuitFinish addToB insBlocked resetFor circuitsStep
  minByKey Asc)

/-- the fields of the struct (the `result` vector is a separate `&mut` parameter) -/
def ofH (st : JState) : AlgoGen.Johnson75 := ⟨st.B, st.blocked, st.stack⟩

def Agree {α : Type} (r : Res α) (h : α) : Prop := r = .error .div ∨ r = .ok h

def AgreeB {β ρ σ : Type} (r : Blk β ρ σ) (h : σ) : Prop := r = .error (.err .div) ∨ r = .ok h

theorem Agree.call {α β ρ : Type} {r : Res α} {a : α} (h : Agree r a) : AgreeB (call r : Blk β ρ α) a := by
  rcases h with rfl | rfl
  · exact .inl rfl
  · exact .inr rfl

theorem AgreeB.bind {β ρ σ γ : Type} {X : Blk β ρ σ} {h : σ} (hX : AgreeB X h) {f : σ → Blk β ρ γ} {r : γ}
    (hf : AgreeB (f h) r) : AgreeB (X >>= f) r := by
  rcases hX with rfl | rfl
  · exact .inl rfl
  · exact hf

theorem AgreeB.fnBody {ρ : Type} {X : Blk Empty ρ ρ} {r : ρ} (hX : AgreeB X r) : Agree (fnBody X) r := by
  rcases hX with rfl | rfl
  · exact .inl rfl
  · exact .inr rfl

theorem Agree.map {α γ : Type} {r : Res α} {a : α} (h : Agree r a) (f : α → γ) : Agree (Except.map f r) (f a) := by
  rcases h with rfl | rfl
  · exact .inl rfl
  · exact .inr rfl

theorem AgreeB.whileLoop {σ ρ : Type} {step : σ → Blk σ ρ σ} {k : Nat} {s s' r : σ} (hs : AgreeB (step s) s')
    (hk : AgreeB (whileLoop step k s' : Blk Empty ρ σ) r) : AgreeB (whileLoop step (k + 1) s : Blk Empty ρ σ) r := by
  rw [whileLoop_succ]
  rcases hs with hd | hok
  · rw [hd]; exact .inl rfl
  · rw [hok]; exact hk

theorem forLoop_agreeB {τ σ α ρ : Type} (e : τ → σ) (P : τ → Prop) (body : σ → α → Blk σ ρ σ) (step : τ → α → τ) :
    ∀ (l : List α) (t : τ), P t →
      (∀ t a, a ∈ l → P t → AgreeB (body (e t) a) (e (step t a)) ∧ P (step t a)) →
      AgreeB (forLoop body l (e t) : Blk Empty ρ σ) (e (l.foldl step t)) := by
  intro l
  induction l with
  | nil => intro t _ _; exact .inr rfl
  | cons a l ih =>
    intro t ht h
    obtain ⟨hag, hP⟩ := h t a List.mem_cons_self ht
    rcases hag with hd | hok
    · exact .inl (forLoop_cons_err _ _ _ _ _ hd)
    · rw [forLoop_cons_ok _ _ _ _ _ hok]
      exact ih _ hP (fun t b hb => h t b (List.mem_cons_of_mem _ hb))

theorem new_eq (a : AM) : AlgoGen.Johnson75.new a = .ok (ofH (JState.new a)) := rfl

theorem isBlocked_eq (st : JState) (u : Nat) : AlgoGen.Johnson75.isBlocked (ofH st) u = .ok (st.isBlocked u) := rfl

/-- `b[u] = l` -/
def setB (st : JState) (u : Nat) (l : List Nat) : JState := { st with B := st.B.set u l }

theorem setB_setB (st : JState) (u : Nat) (l l' : List Nat) : setB (setB st u l) u l' = setB st u l' := by
  simp [setB, List.set_set]

theorem setB_length (st : JState) (u : Nat) (l : List Nat) : (setB st u l).B.length = st.B.length := List.length_set

theorem setB_Bof_self (st : JState) {u : Nat} (l : List Nat) (h : u < st.B.length) : (setB st u l).Bof u = l := by
  simp only [setB, JState.Bof, List.getElem?_set_self h, Option.getD_some]

theorem setB_Bof_ne (st : JState) {u x : Nat} (l : List Nat) (h : u ≠ x) : (setB st u l).Bof x = st.Bof x := by
  simp only [setB, JState.Bof, List.getElem?_set_ne h]

theorem clear_setB (st : JState) {u x : Nat} (l : List Nat) (h : u ≠ x) : (setB st u l).clear x = setB (st.clear x) u l :=
  congrArg (fun B => ({ st with blocked := st.blocked.filter (· != x), B := B } : JState)) (List.set_comm _ _ h)

theorem setB_Bof (st : JState) {u : Nat} (h : u < st.B.length) : setB st u (st.Bof u) = st := by
  simp only [setB, JState.Bof, List.getElem?_eq_getElem h, Option.getD_some, List.set_getElem_self]

theorem setB_clear (st : JState) {u : Nat} (h : u < st.B.length) :
    setB (st.clear u) u (st.Bof u) = { st with blocked := st.blocked.filter (· != u) } :=
  (setB_setB { st with blocked := st.blocked.filter (· != u) } u [] (st.Bof u)).trans
    (setB_Bof { st with blocked := st.blocked.filter (· != u) } h)

theorem rd_b {β ρ : Type} (site : String) (st : JState) {u : Nat} (h : u < st.B.length) :
    (rd site (ofH st).b u : Blk β ρ _) = .ok (st.Bof u) :=
  (rd_lt site st.B u h).trans (by simp only [JState.Bof, List.getElem?_eq_getElem h, Option.getD_some])

theorem wr_b {β ρ : Type} (site : String) (st : JState) {u : Nat} (l : List Nat) (h : u < st.B.length) :
    (wr site (ofH st).b u l : Blk β ρ _) = .ok (setB st u l).B :=
  wr_lt site st.B u l h

theorem unblock_succ (f : Nat) (st : JState) (u : Nat) :
    unblock (f + 1) st u =
      if st.isBlocked u then
        (st.Bof u).foldl (unblock f) { st with blocked := st.blocked.filter (· != u), B := st.B.set u [] }
      else st :=
  Johnson.unblock_succ f st u

theorem foldl_sub {P : JState → Prop} (f : JState → Nat → JState) (hf : ∀ st x, P st → P (f st x)) :
    ∀ (l : List Nat) (st : JState), P st → P (l.foldl f st) :=
  fun _ => Fold.foldl_inv P fun st x _ => hf st x

theorem unblock_shrinks : ∀ (f : Nat) (st : JState) (u : Nat),
    (∀ x ∈ (unblock f st u).blocked, x ∈ st.blocked) ∧ (unblock f st u).B.length = st.B.length :=
  fun f st u => ⟨(Johnson.unblock_spec f st u).bl, (Johnson.unblock_spec f st u).blen⟩

theorem unblock_frame : ∀ (f : Nat) (st : JState) (u : Nat),
    (unblock f st u).result = st.result ∧ (unblock f st u).stack = st.stack :=
  fun f st u => ⟨(Johnson.unblock_spec f st u).result, (Johnson.unblock_spec f st u).stack⟩

/-- A nested `unblock` neither reads nor writes `b[u]` while `u` is not blocked. -/
theorem unblock_setB : ∀ (f : Nat) (st : JState) (x u : Nat) (l : List Nat), u ∉ st.blocked →
    unblock f (setB st u l) x = setB (unblock f st x) u l := by
  intro f
  induction f with
  | zero => intro st x u l _; rfl
  | succ f ih =>
    intro st x u l hu
    rw [Johnson.unblock_succ, Johnson.unblock_succ]
    show (if st.isBlocked x = true then _ else _) = _
    by_cases hx : st.isBlocked x = true
    · have hux : u ≠ x := fun e => hu (e ▸ (Johnson.mem_blocked_iff st x).1 hx)
      rw [if_pos hx, if_pos hx, setB_Bof_ne st l hux, clear_setB st l hux]
      have key : ∀ (ys : List Nat) (s0 : JState), u ∉ s0.blocked →
          ys.foldl (unblock f) (setB s0 u l) = setB (ys.foldl (unblock f) s0) u l := by
        intro ys
        induction ys with
        | nil => intro s0 _; rfl
        | cons y ys ihy =>
          intro s0 h0
          rw [List.foldl_cons, List.foldl_cons, ih s0 y u l h0]
          exact ihy _ (fun hm => h0 ((unblock_shrinks f s0 y).1 u hm))
      exact key _ _ (fun hm => hu (List.mem_filter.1 hm).1)
    · rw [if_neg hx, if_neg hx]

/-- `len` and `blk` keep `*b_ptr.add(i)` in range (no `ub`); `asc` bounds the rounds of the `while` of `unblock`
by `n` (a strictly ascending list of numbers below `n`). -/
structure JInv (n : Nat) (st : JState) : Prop where
  len : st.B.length = n
  blk : ∀ x ∈ st.blocked, x < n
  asc : ∀ l ∈ st.B, Asc l ∧ ∀ x ∈ l, x < n

theorem JInv.congr {n : Nat} {st st' : JState} (h : JInv n st) (hb : st'.blocked = st.blocked) (hB : st'.B = st.B) :
    JInv n st' :=
  ⟨hB ▸ h.len, hb ▸ h.blk, hB ▸ h.asc⟩

theorem asc_len {n : Nat} {l : List Nat} (h1 : Asc l) (h2 : ∀ x ∈ l, x < n) : l.length ≤ n :=
  length_le_of_nodup_lt (List.Pairwise.imp Nat.ne_of_lt h1) h2

theorem asc_nil (n : Nat) : Asc ([] : List Nat) ∧ ∀ x ∈ ([] : List Nat), x < n :=
  ⟨List.Pairwise.nil, fun x hx => by cases hx⟩

theorem JInv.Bof {n : Nat} {st : JState} (h : JInv n st) (u : Nat) : Asc (st.Bof u) ∧ ∀ x ∈ st.Bof u, x < n := by
  unfold JState.Bof
  cases hu : st.B[u]? with
  | none => exact asc_nil n
  | some l => exact h.asc l (List.mem_of_getElem? hu)

theorem setB_inv {n : Nat} {st : JState} (h : JInv n st) (u : Nat) (l : List Nat) (hl : Asc l ∧ ∀ x ∈ l, x < n) :
    JInv n (setB st u l) := by
  refine ⟨List.length_set.trans h.len, h.blk, ?_⟩
  intro l' hl'
  rcases List.mem_or_eq_of_mem_set hl' with h1 | h1
  · exact h.asc l' h1
  · rw [h1]; exact hl

theorem filter_inv {n : Nat} {st : JState} (h : JInv n st) (p : Nat → Bool) :
    JInv n { st with blocked := st.blocked.filter p } :=
  ⟨h.len, fun x hx => h.blk x (List.mem_filter.1 hx).1, h.asc⟩

/-- `blocked.remove(u); b[u].clear()` -/
theorem clear_inv {n : Nat} {st : JState} (h : JInv n st) (u : Nat) : JInv n (st.clear u) :=
  setB_inv (filter_inv h _) u [] (asc_nil n)

theorem unblock_inv (n : Nat) : ∀ (f : Nat) (st : JState) (u : Nat), JInv n st → JInv n (unblock f st u) := by
  intro f
  induction f with
  | zero => intro st u h; exact h
  | succ f ih =>
    intro st u h
    rw [Johnson.unblock_succ]
    split
    · exact foldl_sub (P := JInv n) (unblock f) (fun s x hs => ih s x hs) _ _ (clear_inv h u)
    · exact h

theorem unblock_while0_nil (recf : AlgoGen.Johnson75 → Nat → Res (Unit × AlgoGen.Johnson75)) (u : Nat) (st : JState)
    (hu : u < st.B.length) (hb : st.Bof u = []) :
    AlgoGen.Johnson75.unblock_while0 recf u (ofH st) = brk (ofH st) := by
  unfold AlgoGen.Johnson75.unblock_while0
  rw [rd_b _ st hu, hb]
  rfl

theorem unblock_while0_cons (recf : AlgoGen.Johnson75 → Nat → Res (Unit × AlgoGen.Johnson75)) (u : Nat) (st : JState)
    (hu : u < st.B.length) {x : Nat} {rest : List Nat} (hb : st.Bof u = x :: rest) :
    AlgoGen.Johnson75.unblock_while0 recf u (ofH st) = (call (recf (ofH (setB st u rest)) x) >>= fun t => pure t.2) := by
  unfold AlgoGen.Johnson75.unblock_while0
  rw [rd_b _ st hu, hb]
  simp only [ok_bind, popFront_cons, wr_b _ st rest hu]
  rfl

/-- `while let Some(v) = b[u].pop_first() { self.unblock(v) }` on a state whose `b[u]` is the rest
`suffix` of the snapshot = the hand-written fold over `suffix` on the state whose `b[u]` is empty. -/
theorem unblock_while0_eq (n F' : Nat) (recf : AlgoGen.Johnson75 → Nat → Res (Unit × AlgoGen.Johnson75))
    (hrec : ∀ (st' : JState) (x : Nat), JInv n st' → Agree (recf (ofH st') x) ((), ofH (unblock F' st' x)))
    (u : Nat) (hu : u < n) : ∀ (suffix : List Nat) (h : JState) (k : Nat), suffix.length < k →
      JInv n (setB h u suffix) → u ∉ h.blocked → h = setB h u [] →
      AgreeB (whileLoop (AlgoGen.Johnson75.unblock_while0 recf u) k (ofH (setB h u suffix)) :
          Blk Empty (Unit × AlgoGen.Johnson75) _) (ofH (suffix.foldl (unblock F') h)) := by
  intro suffix
  induction suffix with
  | nil =>
    intro h k hk hinv _ hh
    obtain ⟨k, rfl⟩ := Nat.exists_eq_add_one_of_ne_zero (Nat.ne_of_gt hk)
    have hlen : u < h.B.length := by rw [← setB_length h u [], hinv.len]; exact hu
    rw [← hh, whileLoop_succ, unblock_while0_nil recf u h hlen (by rw [hh]; exact setB_Bof_self h [] hlen)]
    exact .inr rfl
  | cons x rest ih =>
    intro h k hk hinv hub hh
    obtain ⟨k, rfl⟩ := Nat.exists_eq_add_one_of_ne_zero (Nat.ne_of_gt (Nat.zero_lt_of_lt hk))
    have hlen : u < (setB h u (x :: rest)).B.length := hinv.len ▸ hu
    have hBof : (setB h u (x :: rest)).Bof u = x :: rest := setB_Bof_self h _ (setB_length h u _ ▸ hlen)
    have hasc := hBof ▸ hinv.Bof u
    have hinv' : JInv n (setB h u rest) :=
      setB_setB h u (x :: rest) rest ▸
        setB_inv hinv u rest ⟨(List.pairwise_cons.1 hasc.1).2, fun y hy => hasc.2 y (List.mem_cons_of_mem _ hy)⟩
    have hrest : JInv n (setB (unblock F' h x) u rest) := unblock_setB F' h x u rest hub ▸ unblock_inv n F' _ x hinv'
    refine AgreeB.whileLoop (s' := ofH (setB (unblock F' h x) u rest)) ?_
      (ih (unblock F' h x) k (Nat.lt_of_succ_lt_succ hk) hrest (fun hm => hub ((unblock_shrinks F' h x).1 u hm)) ?_)
    · rw [unblock_while0_cons recf u _ hlen hBof, setB_setB, ← unblock_setB F' h x u rest hub]
      exact AgreeB.bind (hrec _ x hinv').call (.inr rfl)
    · conv => lhs; rw [hh]
      rw [unblock_setB F' h x u [] hub]

theorem unblock_eq (n : Nat) : ∀ (F F' : Nat) (st : JState) (u : Nat), F ≤ F' → JInv n st →
    Agree (AlgoGen.Johnson75.unblock F (ofH st) u) ((), ofH (unblock F' st u)) := by
  intro F
  induction F with
  | zero => intro F' st u _ _; exact .inl rfl
  | succ F ih =>
    intro F' st u hF hinv
    obtain ⟨F', rfl⟩ := Nat.exists_eq_add_one_of_ne_zero (Nat.ne_of_gt (Nat.zero_lt_of_lt hF))
    rw [Johnson.unblock_succ]
    unfold AlgoGen.Johnson75.unblock
    refine AgreeB.fnBody ?_
    simp only [isBlocked_eq, call_ok, ok_bind]
    by_cases hb : st.isBlocked u = true
    · have hu : u < n := hinv.blk u ((Johnson.mem_blocked_iff st u).1 hb)
      have hlen : u < st.B.length := hinv.len.symm ▸ hu
      -- the state the loop starts in: `u` unblocked, `b[u]` still the snapshot
      have hst := setB_clear st hlen
      have hw := unblock_while0_eq n F' (AlgoGen.Johnson75.unblock F)
        (fun st' x h' => ih F' st' x (Nat.le_of_succ_le_succ hF) h') u hu (st.Bof u) (st.clear u) (st.B.length + 1)
        (Nat.lt_succ_of_le (hinv.len ▸ asc_len (hinv.Bof u).1 (hinv.Bof u).2))
        (hst ▸ filter_inv hinv _) (fun hm => by simpa using (List.mem_filter.1 hm).2)
        (setB_setB { st with blocked := st.blocked.filter (· != u) } u [] []).symm
      rw [hst] at hw
      rw [if_pos hb, if_pos hb]
      exact AgreeB.bind hw (.inr rfl)
    · rw [if_neg hb, if_neg hb]
      exact .inr rfl

def CompOk (n : Nat) (comp : AM) : Prop := ∀ x ∈ comp.verts, ∀ w ∈ comp.out x, w ∈ comp.verts ∧ w < n

theorem circuit_succ (comp : AM) (s uf f : Nat) (st : JState) (v : Nat) :
    circuit comp s uf (f + 1) st v =
      let st1 : JState := { st with stack := st.stack ++ [v], blocked := insBlocked v st.blocked }
      let r := (comp.out v).foldl (circuitStep (circuit comp s uf f) s) (false, st1)
      let st2 : JState := if r.1 then unblock uf r.2 v else { r.2 with B := addToB v r.2.B (comp.out v) }
      (r.1, { st2 with stack := st2.stack.dropLast }) := rfl

theorem addToB_inv (n v : Nat) (hv : v < n) : ∀ (ws : List Nat) (st : JState), JInv n st →
    JInv n { st with B := addToB v st.B ws } := by
  intro ws
  induction ws with
  | nil => intro st h; exact h
  | cons w ws ih =>
    intro st h
    refine ih _ (setB_inv h w (insertAsc v (st.Bof w)) ⟨sorted_insertAsc (h.Bof w).1, fun x hx => ?_⟩)
    rcases mem_insertAsc.1 hx with h2 | h2
    · exact h2 ▸ hv
    · exact (h.Bof w).2 x h2

theorem circuitStep_inv {n s w : Nat} {rec : JState → Nat → Bool × JState} {acc : Bool × JState}
    (hrec : JInv n acc.2 → JInv n (rec acc.2 w).2) (h : JInv n acc.2) : JInv n (circuitStep rec s acc w).2 := by
  by_cases hws : w = s
  · rw [hws, Johnson.circuitStep_emit]
    exact h.congr rfl rfl
  · cases hb : acc.2.isBlocked w with
    | true => rw [Johnson.circuitStep_skip hws hb]; exact h
    | false => rw [Johnson.circuitStep_call hws hb]; exact hrec h

theorem foldl_circuitStep_inv (n s : Nat) (rec : JState → Nat → Bool × JState) : ∀ (ws : List Nat)
    (_hrec : ∀ st w, w ∈ ws → JInv n st → JInv n (rec st w).2) (acc : Bool × JState), JInv n acc.2 →
    JInv n (ws.foldl (circuitStep rec s) acc).2 := by
  intro ws
  induction ws with
  | nil => intro _ acc h; exact h
  | cons w ws ih =>
    intro hrec acc h
    exact ih (fun st x hx => hrec st x (List.mem_cons_of_mem _ hx)) _ (circuitStep_inv (hrec _ _ List.mem_cons_self) h)

theorem insBlocked_mem (v : Nat) (bl : List Nat) : ∀ x ∈ insBlocked v bl, x = v ∨ x ∈ bl :=
  fun x hx => (Johnson.mem_insBlocked v bl x).1 hx

/-- entering `v`: pushed on the stack and blocked -/
theorem push_inv {n : Nat} {st : JState} (h : JInv n st) {v : Nat} (hv : v < n) :
    JInv n { st with stack := st.stack ++ [v], blocked := insBlocked v st.blocked } :=
  ⟨h.len, fun x hx => (insBlocked_mem v _ x hx).elim (fun e => e ▸ hv) (h.blk x), h.asc⟩

/-- leaving `v`: `unblock(v)` or `b[w].insert(v)` for the out-neighbours, then the stack is popped -/
theorem circuitFinish_inv {n v : Nat} (comp : AM) (uf : Nat) {r : Bool × JState} (h : JInv n r.2) (hv : v < n) :
    JInv n (circuitFinish comp uf v r).2 := by
  unfold circuitFinish
  split
  · exact (unblock_inv n uf r.2 v h).congr rfl rfl
  · exact (addToB_inv n v hv (comp.out v) r.2 h).congr rfl rfl

theorem circuit_inv (n : Nat) (comp : AM) (hc : CompOk n comp) (s uf : Nat) : ∀ (f : Nat) (st : JState) (v : Nat),
    v ∈ comp.verts → v < n → JInv n st → JInv n (circuit comp s uf f st v).2 := by
  intro f
  induction f with
  | zero => intro st v _ _ h; exact h
  | succ f ih =>
    intro st v hvm hv h
    rw [Johnson.circuit_succ]
    exact circuitFinish_inv comp uf (foldl_circuitStep_inv n s (circuit comp s uf f) (comp.out v)
      (fun st' w hw hst => ih st' w (hc v hvm w hw).1 (hc v hvm w hw).2 hst) (false, _) (push_inv h hv)) hv

theorem circuit_for1_ofH (v : Nat) (st : JState) {w : Nat} (hw : w < st.B.length) :
    AlgoGen.Johnson75.circuit_for1 v (ofH st) w = .ok (ofH (setB st w (insertAsc v (st.Bof w)))) := by
  unfold AlgoGen.Johnson75.circuit_for1
  rw [rd_b _ st hw]
  simp only [ok_bind, wr_b _ st _ hw]
  rfl

/-- `for w in scc.out_neighbors(v) { b[w].insert(v) }` = the hand-written `addToB` (in range: no `ub`). -/
theorem circuit_for1_eq {β : Type} (n v : Nat) : ∀ (ws : List Nat) (st : JState), st.B.length = n → (∀ w ∈ ws, w < n) →
    (forLoop (AlgoGen.Johnson75.circuit_for1 v) ws (ofH st) :
        Blk β (Bool × AlgoGen.Johnson75 × List (List Nat)) _) = .ok (ofH { st with B := addToB v st.B ws }) := by
  intro ws
  induction ws with
  | nil => intro st _ _; rfl
  | cons w ws ih =>
    intro st hlen hws
    rw [forLoop_cons_ok _ _ _ _ _ (circuit_for1_ofH v st (hlen ▸ hws w List.mem_cons_self))]
    exact ih _ (List.length_set.trans hlen) (fun x hx => hws x (List.mem_cons_of_mem _ hx))

/-- what a hand-written `circuit` result looks like on the generated side -/
def outC (r : Bool × JState) : Bool × AlgoGen.Johnson75 × List (List Nat) := (r.1, ofH r.2, r.2.result)

/-- `if b { f = true }` -/
theorem flag_bind {β ρ γ : Type} (b f : Bool) (k : Bool → Blk β ρ γ) :
    ((if b = true then pure true else pure f : Blk β ρ Bool) >>= k) = k (f || b) := by
  cases f <;> cases b <;> rfl

theorem circuit_for0_step (s : Nat) (comp : AM)
    (recf : AlgoGen.Johnson75 → Nat → Nat → AM → List (List Nat) → Res (Bool × AlgoGen.Johnson75 × List (List Nat)))
    (rec : JState → Nat → Bool × JState) (acc : Bool × JState) (w : Nat)
    (hrec : Agree (recf (ofH acc.2) w s comp acc.2.result) (outC (rec acc.2 w))) :
    AgreeB (AlgoGen.Johnson75.circuit_for0 recf s comp (ofH acc.2, acc.2.result, acc.1) w :
        Blk _ (Bool × AlgoGen.Johnson75 × List (List Nat)) _)
      (ofH (circuitStep rec s acc w).2, (circuitStep rec s acc w).2.result, (circuitStep rec s acc w).1) := by
  unfold AlgoGen.Johnson75.circuit_for0
  dsimp only
  by_cases hws : w = s
  · subst hws
    rw [Johnson.circuitStep_emit, if_pos rfl]
    exact .inr rfl
  · rw [if_neg hws]
    cases hb : acc.2.isBlocked w with
    | true =>
      rw [Johnson.circuitStep_skip hws hb]
      refine .inr ?_
      simp only [isBlocked_eq, hb, call_ok, ok_bind]
      rfl
    | false =>
      rw [Johnson.circuitStep_call hws hb]
      simp only [isBlocked_eq, hb, call_ok, ok_bind, if_true, bind_assoc, pure_bind, flag_bind]
      exact AgreeB.bind hrec.call (.inr rfl)

theorem circuit_for0_eq (n s : Nat) (comp : AM)
    (recf : AlgoGen.Johnson75 → Nat → Nat → AM → List (List Nat) → Res (Bool × AlgoGen.Johnson75 × List (List Nat)))
    (rec : JState → Nat → Bool × JState) : ∀ (ws : List Nat)
    (_hrec : ∀ st' w, w ∈ ws → JInv n st' → Agree (recf (ofH st') w s comp st'.result) (outC (rec st' w)) ∧ JInv n (rec st' w).2)
    (acc : Bool × JState), JInv n acc.2 →
    AgreeB (forLoop (AlgoGen.Johnson75.circuit_for0 recf s comp) ws (ofH acc.2, acc.2.result, acc.1) :
        Blk Empty (Bool × AlgoGen.Johnson75 × List (List Nat)) _)
      (ofH (ws.foldl (circuitStep rec s) acc).2, (ws.foldl (circuitStep rec s) acc).2.result,
        (ws.foldl (circuitStep rec s) acc).1) := by
  intro ws hrec acc hinv
  exact forLoop_agreeB (fun acc : Bool × JState => (ofH acc.2, acc.2.result, acc.1)) (fun acc => JInv n acc.2) _
    (circuitStep rec s) ws acc hinv
    (fun acc w hw hacc => ⟨circuit_for0_step s comp recf rec acc w (hrec acc.2 w hw hacc).1,
      circuitStep_inv (fun h => (hrec acc.2 w hw h).2) hacc⟩)

theorem circuit_eq (n : Nat) (comp : AM) (hc : CompOk n comp) (s : Nat) : ∀ (F F' uf : Nat) (st : JState) (v : Nat),
    F ≤ F' → F ≤ uf → JInv n st → v ∈ comp.verts → v < n →
    Agree (AlgoGen.Johnson75.circuit F (ofH st) v s comp st.result) (outC (circuit comp s uf F' st v)) := by
  intro F
  induction F with
  | zero => intro F' uf st v _ _ _ _ _; exact .inl rfl
  | succ F ih =>
    intro F' uf st v hF huf hinv hvm hv
    obtain ⟨F', rfl⟩ := Nat.exists_eq_add_one_of_ne_zero (Nat.ne_of_gt (Nat.zero_lt_of_lt hF))
    have hF' : F ≤ F' := Nat.le_of_succ_le_succ hF
    have hrec : ∀ st' w, w ∈ comp.out v → JInv n st' → JInv n (circuit comp s uf F' st' w).2 :=
      fun st' w hw => circuit_inv n comp hc s uf F' st' w (hc v hvm w hw).1 (hc v hvm w hw).2
    have hloop := circuit_for0_eq n s comp (AlgoGen.Johnson75.circuit F) (circuit comp s uf F') (comp.out v)
      (fun st' w hw hst' => ⟨ih F' uf st' w hF' (Nat.le_of_succ_le huf) hst' (hc v hvm w hw).1 (hc v hvm w hw).2,
        hrec st' w hw hst'⟩)
      (false, { st with stack := st.stack ++ [v], blocked := insBlocked v st.blocked }) (push_inv hinv hv)
    have hinv2 := foldl_circuitStep_inv n s (circuit comp s uf F') (comp.out v) hrec
      (false, { st with stack := st.stack ++ [v], blocked := insBlocked v st.blocked }) (push_inv hinv hv)
    rw [Johnson.circuit_succ]
    generalize (comp.out v).foldl (circuitStep (circuit comp s uf F') s)
      (false, ({ st with stack := st.stack ++ [v], blocked := insBlocked v st.blocked } : JState)) = r at hloop hinv2
    unfold AlgoGen.Johnson75.circuit
    refine AgreeB.fnBody ?_
    simp only [List.contains_iff_mem.2 hvm, assert_true, ok_bind]
    refine AgreeB.bind hloop ?_
    unfold circuitFinish
    cases hr : r.1 with
    | true =>
      simp only [if_true, bind_assoc, pure_bind]
      refine AgreeB.bind (unblock_eq n F uf r.2 v (Nat.le_of_succ_le huf) hinv2).call (.inr ?_)
      simp only [outC, ofH, (unblock_frame uf r.2 v).1]
      rfl
    | false =>
      simp only [Bool.false_eq_true, if_false, ok_bind,
        circuit_for1_eq n v (comp.out v) r.2 hinv2.len (fun w hw => (hc v hvm w hw).2)]
      exact .inr rfl

theorem resetFor_inv (n : Nat) : ∀ (vs : List Nat) (st : JState), JInv n st → JInv n (resetFor vs st) := by
  intro vs st h
  exact foldl_sub (P := JInv n) _ (fun s x hs => clear_inv hs x) vs st h

theorem circuits_for1_ofH (st : JState) {x : Nat} (hx : x < st.B.length) :
    AlgoGen.Johnson75.circuits_for1 (ofH st) x = .ok (ofH (st.clear x)) := by
  unfold AlgoGen.Johnson75.circuits_for1
  simp only [ofH, wr_lt _ _ _ _ hx, ok_bind]
  rfl

/-- `for vertex in component.vertices() { blocked.remove(vertex); b[vertex].clear() }` = `resetFor`. -/
theorem circuits_for1_eq {β : Type} (n : Nat) : ∀ (vs : List Nat) (st : JState), st.B.length = n → (∀ x ∈ vs, x < n) →
    (forLoop AlgoGen.Johnson75.circuits_for1 vs (ofH st) :
        Blk β (List (List Nat) × AlgoGen.Johnson75) _) = .ok (ofH (resetFor vs st)) := by
  intro vs
  induction vs with
  | nil => intro st _ _; rfl
  | cons x vs ih =>
    intro st hlen hvs
    rw [forLoop_cons_ok _ _ _ _ _ (circuits_for1_ofH st (hlen ▸ hvs x List.mem_cons_self))]
    exact ih _ (List.length_set.trans hlen) (fun y hy => hvs y (List.mem_cons_of_mem _ hy))

/-- what `circuits` needs of the digraph: the `assert!` (vertices below the order) and closedness -/
structure AOk (a : AM) : Prop where
  lt : ∀ u ∈ a.verts, u < a.order
  closed : ∀ u ∈ a.verts, ∀ v ∈ a.out u, v ∈ a.verts

theorem filter_closed (a : AM) (h : AOk a) (p : Nat → Bool) :
    ∀ u ∈ (a.filter p).verts, ∀ v ∈ (a.filter p).out u, v ∈ (a.filter p).verts :=
  Johnson.filter_closed (a := a) h.closed p

theorem filter_compOk (a : AM) (h : AOk a) (p : Nat → Bool) : CompOk a.order (a.filter p) := by
  intro u hu v hv
  have hm := filter_closed a h p u hu v hv
  exact ⟨hm, h.lt v (Johnson.mem_filter_verts.1 hm).1⟩

theorem tarjan_members (sub : AM) (hcl : ∀ u ∈ sub.verts, ∀ v ∈ sub.out u, v ∈ sub.verts) :
    ∀ c ∈ GraafVerif.Johnson.tarjan sub, ∀ x ∈ c, x ∈ sub.verts :=
  fun c hc x hx => ((GraafVerif.Johnson.tarjan_sccPartition sub hcl).1.cover x).2 ⟨c, hc, hx⟩

theorem circuits_for0_eq (a : AM) (h : AOk a) (F : Nat) (hF : F ≤ a.order + 1) (st : JState) (hinv : JInv a.order st) (s : Nat) :
    AgreeB (AlgoGen.Johnson75.circuits_for0 a F (ofH st, st.result) s :
        Blk (AlgoGen.Johnson75 × List (List Nat)) (List (List Nat) × AlgoGen.Johnson75) _)
      (ofH (circuitsStep a st s), (circuitsStep a st s).result) ∧ JInv a.order (circuitsStep a st s) := by
  unfold AlgoGen.Johnson75.circuits_for0 circuitsStep minByKeyMin
  dsimp only
  cases hm : minByKey (Johnson.tarjan (a.filter fun u => decide (s ≤ u))) with
  | none => exact ⟨.inr rfl, hinv⟩
  | some minScc =>
    dsimp only
    generalize hcomp : (a.filter fun u => minScc.contains u) = comp
    by_cases ho : comp.order > 0
    · cases hh : minScc.head? with
      | none =>
        -- `unwrap()` of an empty component: `comp` has no vertices then
        exfalso
        rw [List.head?_eq_none_iff.1 hh] at hcomp
        subst hcomp
        exact absurd ho (by simp [AM.order, AM.filter])
      | some start =>
        have hstart : start ∈ minScc := List.mem_of_mem_head? hh
        have hsub := tarjan_members _ (filter_closed a h _) minScc (Johnson.minByKey_spec _ _ hm).1 start hstart
        have hsv : start ∈ a.verts := (Johnson.mem_filter_verts.1 hsub).1
        have hsc : start ∈ comp.verts := hcomp ▸ Johnson.mem_filter_verts.2 ⟨hsv, List.contains_iff_mem.2 hstart⟩
        have hcok : CompOk a.order comp := hcomp ▸ filter_compOk a h _
        have hlt : ∀ x ∈ comp.verts, x < a.order := fun x hx =>
          h.lt x (Johnson.mem_filter_verts.1 (hcomp ▸ hx : x ∈ (a.filter fun u => minScc.contains u).verts)).1
        have hinv1 := resetFor_inv a.order comp.verts st hinv
        have hc := circuit_eq a.order comp hcok start F (a.order + 1) (a.order + 1) (resetFor comp.verts st) start hF hF
          hinv1 hsc (h.lt start hsv)
        rw [(Johnson.resetFor_spec comp.verts st).result] at hc
        refine ⟨?_, ?_⟩
        · simp only [ho, if_true, unwrapO, ok_bind, circuits_for1_eq a.order comp.verts st hinv.len hlt, bind_assoc,
            pure_bind]
          exact AgreeB.bind hc.call (.inr rfl)
        · rw [if_pos ho]
          exact circuit_inv a.order comp hcok start (a.order + 1) (a.order + 1) _ start hsc (h.lt start hsv) hinv1
    · simp only [ho, if_false]
      exact ⟨.inr rfl, hinv⟩

theorem circuits_loop_eq (a : AM) (h : AOk a) (F : Nat) (hF : F ≤ a.order + 1) : ∀ (vs : List Nat) (st : JState),
    JInv a.order st →
    AgreeB (forLoop (AlgoGen.Johnson75.circuits_for0 a F) vs (ofH st, st.result) :
        Blk Empty (List (List Nat) × AlgoGen.Johnson75) _)
      (ofH (vs.foldl (circuitsStep a) st), (vs.foldl (circuitsStep a) st).result) := by
  intro vs st hinv
  exact forLoop_agreeB (fun st : JState => (ofH st, st.result)) (JInv a.order) _ (circuitsStep a) vs st hinv
    (fun st s _ hst => circuits_for0_eq a h F hF st hst s)

/-- `Johnson75::circuits` (one call on a value whose fields are those of `st`) agrees with the
hand-written `circuitsCall`, for every generated fuel `F ≤ order + 1`: the returned vector and the
value afterwards.  The leading `assert!` is the hypothesis `AOk.lt` (otherwise the call panics, as
`circuitsChecked` says). -/
theorem circuits_eq (a : AM) (h : AOk a) (F : Nat) (hF : F ≤ a.order + 1) (st : JState) (hinv : JInv a.order st) :
    Agree (AlgoGen.Johnson75.circuits a F (ofH st))
      ((GraafVerif.Johnson.circuitsCall a st).result, ofH (GraafVerif.Johnson.circuitsCall a st)) := by
  unfold AlgoGen.Johnson75.circuits GraafVerif.Johnson.circuitsCall
  have hall : List.all a.verts (fun u => decide (u < a.order)) = true :=
    List.all_eq_true.2 fun u hu => decide_eq_true (h.lt u hu)
  simp only [hall, assert_true, ok_bind]
  exact AgreeB.fnBody
    (AgreeB.bind (circuits_loop_eq a h F hF a.verts { st with result := [] } (hinv.congr rfl rfl)) (.inr rfl))

/-- the leading `assert!` fails: the call panics (`circuitsChecked = none`) -/
theorem circuits_panic (a : AM) (F : Nat) (s : AlgoGen.Johnson75)
    (h : a.verts.all (fun u => decide (u < a.order)) = false) :
    AlgoGen.Johnson75.circuits a F s = .error (.fault .panic) := by
  unfold AlgoGen.Johnson75.circuits
  simp only [h, assert_false, error_bind, fnBody_err]

theorem new_inv (a : AM) : JInv a.order (JState.new a) :=
  ⟨List.length_replicate, fun _ hx => (nomatch hx), fun _ hl => List.eq_of_mem_replicate hl ▸ asc_nil _⟩

end Johnson75

end GraafVerif.AlgoGenThm
