import GraafVerif.Model.ReprEqMxIter
import GraafVerif.Proof.ReprAL
/-!
# The literal `AdjacencyList::ArcsIterator` loop yields `AdjList.arcs`
-/
namespace GraafVerif.Repr.AdjList
open GraafVerif.Repr

def innerCells (u : Nat) : Option (List Nat) → List (Nat × Nat)
  | some r => r.map (fun v => (u - 1, v))
  | none => []

def innerLen : Option (List Nat) → Nat
  | some r => r.length
  | none => 0

def restM (rows : List (List Nat)) (u : Nat) : Nat := ((rows.drop u).map (fun r => r.length + 1)).sum

theorem restM_lt (rows : List (List Nat)) {u : Nat} (h : u < rows.length) :
    restM rows u = (rows[u]?.getD []).length + 1 + restM rows (u + 1) := by
  unfold restM
  rw [List.drop_eq_getElem_cons h]
  simp only [List.map_cons, List.sum_cons, List.getElem?_eq_getElem h, Option.getD_some]

theorem flatRows_drop_lt (rows : List (List Nat)) {u : Nat} (h : u < rows.length) :
    flatRows u (rows.drop u) = (rows[u]?.getD []).map (fun v => (u, v)) ++ flatRows (u + 1) (rows.drop (u + 1)) := by
  rw [List.drop_eq_getElem_cons h, flatRows_cons]
  simp only [List.getElem?_eq_getElem h, Option.getD_some]

theorem alDrain_eq (rows : List (List Nat)) : ∀ (fuel u : Nat) (inner : Option (List Nat)),
    innerLen inner + restM rows u < fuel →
    alDrain rows fuel u inner = innerCells u inner ++ flatRows u (rows.drop u) := by
  intro fuel
  induction fuel with
  | zero => intro u inner h; exact absurd h (Nat.not_lt_zero _)
  | succ fuel ih =>
    intro u inner hμ
    -- an exhausted (or not yet opened) inner iterator contributes nothing: open row `u`, or stop
    have hopen : alDrain rows (fuel + 1) u none = flatRows u (rows.drop u) := by
      show (if u ≥ rows.length then [] else alDrain rows fuel (u + 1) (some (rows[u]?.getD []))) = _
      by_cases hu : u ≥ rows.length
      · rw [if_pos hu, List.drop_eq_nil_of_le hu]; rfl
      · have hu' : u < rows.length := Nat.lt_of_not_le hu
        have hμ' : (rows[u]?.getD []).length + restM rows (u + 1) < fuel := by
          rw [restM_lt rows hu', Nat.add_right_comm] at hμ
          exact Nat.lt_of_succ_lt_succ (Nat.lt_of_le_of_lt (Nat.le_add_left _ _) hμ)
        rw [if_neg hu, ih (u + 1) (some _) hμ', flatRows_drop_lt rows hu']; rfl
    match inner with
    | none => exact hopen
    | some [] => exact hopen
    | some (v :: rest) =>
      show (u - 1, v) :: alDrain rows fuel u (some rest) = _
      have hμ' : rest.length + 1 + restM rows u < fuel + 1 := hμ
      rw [Nat.add_right_comm] at hμ'
      rw [ih u (some rest) (Nat.lt_of_succ_lt_succ hμ')]; rfl

theorem restM_zero (rows : List (List Nat)) : restM rows 0 = (rows.map List.length).sum + rows.length := by
  unfold restM
  simp only [List.drop_zero]
  induction rows with
  | nil => rfl
  | cons r rs ih => simp only [List.map_cons, List.sum_cons, List.length_cons, ih]; omega

theorem arcsIter_eq (d : AdjList) : arcsIter d = d.arcs := by
  unfold arcsIter
  rw [alDrain_eq d.rows _ 0 none (by simp only [innerLen, restM_zero, alFuel]; omega), arcs_eq]
  simp [innerCells]

/-- Fuel adequacy (termination of the loop). -/
theorem alDrain_fuel_irrelevant (rows : List (List Nat)) (u : Nat) (inner : Option (List Nat)) (f₁ f₂ : Nat)
    (h₁ : innerLen inner + restM rows u < f₁) (h₂ : innerLen inner + restM rows u < f₂) :
    alDrain rows f₁ u inner = alDrain rows f₂ u inner := by
  rw [alDrain_eq rows f₁ u inner h₁, alDrain_eq rows f₂ u inner h₂]

end GraafVerif.Repr.AdjList
