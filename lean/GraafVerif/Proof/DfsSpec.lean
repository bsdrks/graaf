import GraafVerif.Proof.DfsSearch
import GraafVerif.Proof.VecLemmas
/-!
# Coherence of the specification of "depth-first preorder" (C06)

`Spec/Dfs.lean` reads the property with an explicit *search path*.  Here is a second, path-free
reading of the same sentence,

> the parent of the next vertex is the MOST RECENTLY yielded vertex that still has an unyielded
> out-neighbour; a new root (a source) is allowed only when no yielded vertex has one; the depth is
> the parent's depth + 1,

and the proof that both readings annotate every sequence identically (`annotateLatest_eq`).
This is not needed by the property theorems; it guards the trusted reading of the property.
-/
namespace GraafVerif.Dfs
open List

/-- Path-free reading: what may be yielded after the annotated sequence `acc`. -/
def expectLatest (g : Graph) (S : List Nat) (acc : List Ann) (x : Nat) : Option (Option Nat × Nat) :=
  if (acc.map (·.1)).contains x then none
  else match acc.reverse.find? (fun a => hasFresh g (acc.map (·.1)) a.1) with
    | none => if S.contains x then some (none, 0) else none
    | some a => if (g.out a.1).contains x then some (some a.1, a.2.2 + 1) else none

def annotateLatestFrom (g : Graph) (S : List Nat) : List Ann → List Nat → Option (List Ann)
  | _, [] => some []
  | acc, x :: xs =>
    match expectLatest g S acc x with
    | none => none
    | some a => (annotateLatestFrom g S (acc ++ [(x, a)]) xs).map ((x, a) :: ·)

def annotateLatest (g : Graph) (S : List Nat) (xs : List Nat) : Option (List Ann) := annotateLatestFrom g S [] xs

/-- depths along a path stored deepest first: the entry above `k` others has depth `k`. -/
def DepthOK : List Ann → Prop
  | [] => True
  | e :: rest => e.2.2 = rest.length ∧ DepthOK rest

theorem DepthOK.of_suffix {l l' : List Ann} (h : l' <:+ l) (hd : DepthOK l) : DepthOK l' := by
  obtain ⟨t, rfl⟩ := h
  induction t with
  | nil => simpa using hd
  | cons e t ih => exact ih hd.2

theorem find?_sublist {α : Type} (p : α → Bool) {l' l : List α} (hs : l' <+ l) (hnd : l.Nodup)
    (hp : ∀ x ∈ l, p x = true → x ∈ l') : l.find? p = l'.find? p := by
  induction hs with
  | slnil => rfl
  | @cons l₁ l₂ a hs ih =>
    have hnd' := List.nodup_cons.mp hnd
    have hpa : p a = false := by
      cases h : p a
      · rfl
      · exact absurd (hs.subset (hp a (by simp) h)) hnd'.1
    rw [List.find?_cons, hpa]
    exact ih hnd'.2 (fun x hx hpx => hp x (List.mem_cons_of_mem _ hx) hpx)
  | @cons_cons l₁ l₂ a hs ih =>
    have hnd' := List.nodup_cons.mp hnd
    rw [List.find?_cons, List.find?_cons]
    cases h : p a
    · simp only
      refine ih hnd'.2 (fun x hx hpx => ?_)
      rcases List.mem_cons.mp (hp x (List.mem_cons_of_mem _ hx) hpx) with rfl | h'
      · exact absurd hx hnd'.1
      · exact h'
    · rfl

theorem find?_eq_head?_dropWhile {α : Type} (p : α → Bool) (l : List α) :
    l.find? p = (l.dropWhile (fun x => !p x)).head? := by
  induction l with
  | nil => rfl
  | cons a l ih =>
    rw [List.find?_cons, List.dropWhile_cons]
    cases h : p a <;> simp [ih]

/-- Link between the search state of `Spec/Dfs.lean` and the annotated prefix. -/
structure Coh (g : Graph) (s : Search) (acc : List Ann) (pathE : List Ann) : Prop where
  ys : s.yielded = acc.map (·.1)
  nodup : (acc.map (·.1)).Nodup
  path : s.path = pathE.map (·.1)
  sub : pathE <+ acc.reverse
  depth : DepthOK pathE
  ok : Search.OK g s

/-- The active path of a coherent state, read on the entries: the entry path cut at its first
entry with an unyielded out-neighbour — which is the most recently yielded such entry. -/
theorem Coh.active {g : Graph} {s : Search} {acc pathE : List Ann} (h : Coh g s acc pathE) :
    active g s = (pathE.dropWhile (fun e => !hasFresh g s.yielded e.1)).map (·.1) ∧
    acc.reverse.find? (fun a => hasFresh g s.yielded a.1) =
      (pathE.dropWhile (fun e => !hasFresh g s.yielded e.1)).head? ∧
    DepthOK (pathE.dropWhile (fun e => !hasFresh g s.yielded e.1)) := by
  refine ⟨?_, ?_, DepthOK.of_suffix (List.dropWhile_suffix _) h.depth⟩
  · unfold Dfs.active
    rw [h.path]
    exact List.dropWhile_map
  · have hn : acc.Nodup := List.Pairwise.of_map (·.1) (fun a b hab e => hab (by rw [e])) h.nodup
    have haccnd : acc.reverse.Nodup := List.pairwise_reverse.mpr (hn.imp Ne.symm)
    -- only path vertices can still have an unyielded out-neighbour, and a vertex has one entry
    have honpath : ∀ a ∈ acc.reverse, hasFresh g s.yielded a.1 = true → a ∈ pathE := by
      intro a ha hf
      have ha' : a ∈ acc := List.mem_reverse.mp ha
      have hap : a.1 ∈ s.path := Decidable.by_contra (fun hn => by
        rw [h.ok.off a.1 (h.ys ▸ List.mem_map_of_mem ha') hn] at hf; cases hf)
      rw [h.path] at hap
      obtain ⟨b, hb, hba⟩ := List.mem_map.mp hap
      exact Vec.eq_of_map_nodup (·.1) acc h.nodup b (List.mem_reverse.mp (h.sub.subset hb)) a ha' hba ▸ hb
    rw [find?_sublist (fun a => hasFresh g s.yielded a.1) h.sub haccnd honpath, find?_eq_head?_dropWhile]

theorem expect_eq_latest {g : Graph} (S : List Nat) {s : Search} {acc pathE : List Ann} (h : Coh g s acc pathE)
    (x : Nat) : expect g S s x = expectLatest g S acc x := by
  obtain ⟨hact, hfind, hdep⟩ := h.active
  unfold expect expectLatest
  rw [← h.ys, hfind, hact]
  cases hc : s.yielded.contains x
  · simp only [Bool.false_eq_true, if_false]
    cases hA : pathE.dropWhile (fun e => !hasFresh g s.yielded e.1) with
    | nil =>
      rw [h.ok.all_quiet (by rw [hact, hA]; rfl), Bool.and_true]
      rfl
    | cons e restE =>
      rw [hA] at hdep
      simp only [List.map_cons, List.head?_cons, List.length_map, hdep.1]
  · rfl

theorem Coh.advance {g : Graph} {S : List Nat} {s : Search} {acc pathE : List Ann} (h : Coh g s acc pathE)
    {x : Nat} {a : Option Nat × Nat} (ha : expect g S s x = some a) :
    Coh g (advance g s x) (acc ++ [(x, a)]) ((x, a) :: pathE.dropWhile (fun e => !hasFresh g s.yielded e.1)) := by
  obtain ⟨hact, _, hdep⟩ := h.active
  obtain ⟨hx, hm⟩ := expect_eq_some.mp ha
  have hadepth : a.2 = (pathE.dropWhile (fun e => !hasFresh g s.yielded e.1)).length := by
    rw [hact] at hm
    cases hA : pathE.dropWhile (fun e => !hasFresh g s.yielded e.1) with
    | nil => rw [hA] at hm; rw [hm.2.2]; rfl
    | cons e restE => rw [hA] at hm; rw [hm.2]; simp only [List.length_map, List.length_cons]
  refine ⟨?_, ?_, ?_, ?_, ⟨hadepth, hdep⟩, h.ok.advance x⟩
  · rw [Dfs.advance, h.ys, List.map_append]; rfl
  · rw [List.map_append]
    exact nodup_snoc h.nodup (h.ys ▸ hx)
  · rw [Dfs.advance, hact]; rfl
  · rw [List.reverse_append]
    exact List.Sublist.cons_cons _ ((List.dropWhile_suffix _).sublist.trans h.sub)

theorem annotateLatestFrom_eq (g : Graph) (S : List Nat) :
    ∀ (xs : List Nat) (s : Search) (acc pathE : List Ann), Coh g s acc pathE →
      annotateLatestFrom g S acc xs = annotateFrom g S s xs := by
  intro xs
  induction xs with
  | nil => intro s acc pathE _; rfl
  | cons x xs ih =>
    intro s acc pathE h
    simp only [annotateLatestFrom, annotateFrom, ← expect_eq_latest S h x]
    cases hexp : expect g S s x with
    | none => rfl
    | some a => simp only; rw [ih _ _ _ (h.advance hexp)]

theorem annotateLatest_eq (g : Graph) (S : List Nat) (xs : List Nat) :
    annotateLatest g S xs = annotate g S xs :=
  annotateLatestFrom_eq g S xs ⟨[], []⟩ [] []
    ⟨rfl, List.nodup_nil, rfl, List.Sublist.slnil, trivial, .init g⟩

end GraafVerif.Dfs
