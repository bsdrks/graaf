import GraafVerif.Model.AlgoGen5
import GraafVerif.Proof.AlgoGenCall
import GraafVerif.Proof.VecLemmas
import GraafVerif.Model.Pred
import GraafVerif.Model.DistMatrix
/-!
# Generated low-level functions, part 2: `has_walk` (pointer walk) of `AdjacencyList` / `AdjacencyMap`,
`AdjacencyList::is_tournament`, `AdjacencyMap::out_neighbors`, `DistanceMatrix::new` / `index_mut`
-/
namespace GraafVerif.AlgoGenThm
open GraafVerif GraafVerif.AlgoGen GraafVerif.Repr

theorem walkLoop_drop_cons (has : Nat → Nat → Bool) (w : List Nat) (ptr : Nat) (h1 : ptr + 1 < w.length) :
    Query.walkLoop has (w.drop ptr) =
      if has (w[ptr]'(Nat.lt_of_succ_lt h1)) w[ptr + 1] = false then false else Query.walkLoop has (w.drop (ptr + 1)) := by
  rw [List.drop_eq_getElem_cons (Nat.lt_of_succ_lt h1), List.drop_eq_getElem_cons h1, Query.walkLoop]
  generalize has _ _ = b
  cases b <;> rfl

theorem walkLoop_short (has : Nat → Nat → Bool) : ∀ (l : List Nat), l.length ≤ 1 → Query.walkLoop has l = true
  | [], _ => rfl
  | [_], _ => rfl
  | _ :: _ :: _, h => absurd h (by simp)

/-- the pointer walk over `w[ptr ..]` up to `end = e` (the last index) = the hand-written `walkLoop` on the remaining slice -/
theorem walk_loop (has : Nat → Nat → Bool) (w : List Nat) (e : Nat) (hw : w.length = e + 1) (step : Nat → Blk Nat Bool Nat)
    (hstep : ∀ ptr (_ : ptr < e) (h1 : ptr + 1 < w.length),
      step ptr = if has (w[ptr]'(Nat.lt_of_succ_lt h1)) w[ptr + 1] = false then ret false else .ok (ptr + 1))
    (hexit : ∀ ptr, ¬ ptr < e → step ptr = brk ptr) (F ptr : Nat) (hF : e - ptr ≤ F) (hp : ptr ≤ e) :
    (whileLoop step F ptr : Blk Empty Bool Nat) =
      if Query.walkLoop has (w.drop ptr) = true then .ok e else .error (.ret false) := by
  refine whileLoop_rule step (fun ptr => ptr) (· ≤ e) (e - ·)
    (fun ptr r => r = if Query.walkLoop has (w.drop ptr) = true then .ok e else .error (.ret false))
    (fun ptr _ h0 => hexit ptr (Nat.not_lt.2 (Nat.le_of_sub_eq_zero h0))) (fun ptr hp => ?_) F ptr hp hF
  by_cases h : ptr < e
  · have h1 : ptr + 1 < w.length := hw ▸ Nat.succ_lt_succ h
    have hdrop := walkLoop_drop_cons has w ptr h1
    rw [hstep ptr h h1]
    generalize has _ _ = b at hdrop ⊢
    cases b
    · show _ = _
      rw [hdrop]
      rfl
    · exact ⟨ptr + 1, rfl, h, Nat.sub_succ_lt_self e ptr h, fun _ hr => hr.trans (by rw [hdrop]; rfl)⟩
  · have hpe : ptr = e := Nat.le_antisymm hp (Nat.not_lt.1 h)
    have hlast : (w.drop ptr).length ≤ 1 := by
      rw [List.length_drop, hw, hpe, Nat.add_sub_cancel_left]
      exact Nat.le_refl 1
    rw [hexit ptr h]
    show _ = _
    rw [walkLoop_short has _ hlast, hpe]
    rfl

theorem hasWalk_fn (has : Nat → Nat → Bool) (walk : List Nat) (step : Nat → Nat → Blk Nat Bool Nat)
    (hstep : ∀ e ptr (_ : ptr < e) (h1 : ptr + 1 < walk.length),
      step e ptr = if has (walk[ptr]'(Nat.lt_of_succ_lt h1)) walk[ptr + 1] = false then ret false else .ok (ptr + 1))
    (hexit : ∀ e ptr, ¬ ptr < e → step e ptr = brk ptr) :
    (fnBody do
      let len := walk.length
      if len ≤ 1 then do
          ret false
        else do
        let ptr := 0
        let t0 ← subP len 1
        let end_ := t0
        let _ ← whileLoop (step end_) len ptr
        pure true) = .ok (Query.hasWalkPtr has walk) := by
  unfold Query.hasWalkPtr
  by_cases h : walk.length ≤ 1
  · rw [if_pos h, if_pos h]
    rfl
  · have h1 : 1 ≤ walk.length := Nat.le_of_not_le h
    have hw : walk.length = walk.length - 1 + 1 := (Nat.sub_add_cancel h1).symm
    rw [if_neg h, if_neg h, subP_le _ _ h1]
    show fnBody (whileLoop (step (walk.length - 1)) walk.length 0 >>= fun _ => pure true) = _
    rw [walk_loop has walk _ hw (step (walk.length - 1)) (hstep _) (hexit _) _ 0
      (Nat.le_trans (Nat.sub_le _ _) (Nat.sub_le _ _)) (Nat.zero_le _), List.drop_zero]
    cases Query.walkLoop has walk <;> rfl

namespace AdjacencyList

theorem hasWalk_while0_eq (d : AdjList) (w : List Nat) (e ptr : Nat) (h : ptr < e) (h1 : ptr + 1 < w.length) :
    (AlgoGen.AdjacencyList.hasWalk_while0 d w e ptr : Blk Nat Bool Nat) =
      if d.hasArc (w[ptr]'(by omega)) (w[ptr + 1]'h1) = false then ret false else .ok (ptr + 1) := by
  unfold AlgoGen.AdjacencyList.hasWalk_while0
  rw [if_pos h, rd_lt _ _ _ (Nat.lt_of_succ_lt h1), rd_lt _ _ _ h1]
  rfl

theorem hasWalk_while0_exit (d : AdjList) (w : List Nat) (e ptr : Nat) (h : ¬ ptr < e) :
    (AlgoGen.AdjacencyList.hasWalk_while0 d w e ptr : Blk Nat Bool Nat) = brk ptr :=
  if_neg h

theorem hasWalk_loop (d : AdjList) (w : List Nat) : ∀ (m ptr F : Nat), w.length - 1 - ptr ≤ m → w.length - 1 - ptr ≤ F →
    ptr ≤ w.length - 1 → 0 < w.length →
    (whileLoop (AlgoGen.AdjacencyList.hasWalk_while0 d w (w.length - 1)) F ptr : Blk Empty Bool Nat) =
      if Query.walkLoop d.hasArc (w.drop ptr) = true then .ok (w.length - 1) else .error (.ret false) :=
  fun _ ptr F _ hF hp hl =>
    walk_loop d.hasArc w _ (Nat.sub_add_cancel hl).symm _ (hasWalk_while0_eq d w _) (hasWalk_while0_exit d w _) F ptr hF hp

/-- `has_walk` (the pointer walk) = the hand-written `hasWalkPtr`, for every value and every walk: no read is out of bounds -/
theorem hasWalk_eq (d : AdjList) (w : List Nat) : AlgoGen.AdjacencyList.hasWalk d w = .ok (Query.AL.hasWalk d w) :=
  hasWalk_fn d.hasArc w _ (hasWalk_while0_eq d w) (hasWalk_while0_exit d w)

end AdjacencyList

namespace AdjacencyMap

theorem hasWalk_while0_eq (d : AdjMap) (w : List Nat) (e ptr : Nat) (h : ptr < e) (h1 : ptr + 1 < w.length) :
    (AlgoGen.AdjacencyMap.hasWalk_while0 d w e ptr : Blk Nat Bool Nat) =
      if d.hasArc (w[ptr]'(by omega)) (w[ptr + 1]'h1) = false then ret false else .ok (ptr + 1) := by
  unfold AlgoGen.AdjacencyMap.hasWalk_while0
  rw [if_pos h, rd_lt _ _ _ (Nat.lt_of_succ_lt h1), rd_lt _ _ _ h1]
  rfl

theorem hasWalk_while0_exit (d : AdjMap) (w : List Nat) (e ptr : Nat) (h : ¬ ptr < e) :
    (AlgoGen.AdjacencyMap.hasWalk_while0 d w e ptr : Blk Nat Bool Nat) = brk ptr :=
  if_neg h

theorem hasWalk_loop (d : AdjMap) (w : List Nat) : ∀ (m ptr F : Nat), w.length - 1 - ptr ≤ m → w.length - 1 - ptr ≤ F →
    ptr ≤ w.length - 1 → 0 < w.length →
    (whileLoop (AlgoGen.AdjacencyMap.hasWalk_while0 d w (w.length - 1)) F ptr : Blk Empty Bool Nat) =
      if Query.walkLoop d.hasArc (w.drop ptr) = true then .ok (w.length - 1) else .error (.ret false) :=
  fun _ ptr F _ hF hp hl =>
    walk_loop d.hasArc w _ (Nat.sub_add_cancel hl).symm _ (hasWalk_while0_eq d w _) (hasWalk_while0_exit d w _) F ptr hF hp

/-- `has_walk` (the pointer walk) = the hand-written `hasWalkPtr`, for every value and every walk: no read is out of bounds -/
theorem hasWalk_eq (d : AdjMap) (w : List Nat) : AlgoGen.AdjacencyMap.hasWalk d w = .ok (Query.AM.hasWalk d w) :=
  hasWalk_fn d.hasArc w _ (hasWalk_while0_eq d w) (hasWalk_while0_exit d w)

end AdjacencyMap

/-- `if a == b { return r }` against the negated test of the hand-written models -/
theorem test_ne {β ρ : Type} (a b : Bool) (r : ρ) :
    ((if a = b then ret r else pure ()) : Blk β ρ Unit) = if !(a == b) then .ok () else ret r := by
  cases a <;> cases b <;> rfl

namespace AdjacencyList

theorem isTournament_for1_eq (d : AdjList) (u v : Nat) (hu : u < d.rows.length) (hv : v < d.rows.length) :
    (AlgoGen.AdjacencyList.isTournament_for1 d u () v : Blk Unit Bool Unit) =
      if !((Pred.AL.row d u).contains v == (Pred.AL.row d v).contains u) then .ok () else ret false := by
  unfold AlgoGen.AdjacencyList.isTournament_for1 Pred.AL.row
  rw [rd_lt _ _ _ hu, rd_lt _ _ _ hv, List.getElem?_eq_getElem hu, List.getElem?_eq_getElem hv]
  exact test_ne _ _ false

theorem isTournament_for0_eq (d : AdjList) (u : Nat) (hu : u < d.order) :
    (AlgoGen.AdjacencyList.isTournament_for0 d d.order () u : Blk Unit Bool Unit) =
      if (Pred.above u d.order).all (fun v => !((Pred.AL.row d u).contains v == (Pred.AL.row d v).contains u)) then .ok ()
      else ret false := by
  unfold AlgoGen.AdjacencyList.isTournament_for0 Pred.above AlgoGen.range
  rw [forLoop_test (β := Unit) _ (fun v => !((Pred.AL.row d u).contains v == (Pred.AL.row d v).contains u)) false
    (List.range' (u + 1) (d.order - (u + 1))) (fun v hv => isTournament_for1_eq d u v hu
      (Nat.lt_of_lt_of_eq (List.mem_range'_1.1 hv).2 (Nat.add_sub_cancel' hu)))]
  split <;> rfl

theorem isTournament_eq (d : AdjList) (hn : 0 < d.order) :
    AlgoGen.AdjacencyList.isTournament d = .ok (Pred.AL.isTournament d) := by
  unfold AlgoGen.AdjacencyList.isTournament Pred.AL.isTournament
  dsimp only
  rw [subP_le _ _ hn]
  by_cases hs : d.size = d.order * (d.order - 1) / 2
  · rw [if_neg (by rw [bne_iff_ne]; exact not_not_intro hs)]
    simp only [ok_bind, ne_eq, hs, not_true_eq_false, if_false]
    rw [forLoop_test (β := Empty) _ (fun u => (Pred.above u d.order).all
      (fun v => !((Pred.AL.row d u).contains v == (Pred.AL.row d v).contains u))) false _
      (fun u hu => isTournament_for0_eq d u (List.mem_range.1 hu))]
    generalize List.all _ _ = b
    cases b <;> rfl
  · rw [if_pos (by rw [bne_iff_ne]; exact hs)]
    simp only [ok_bind, ne_eq, hs, not_false_eq_true, if_true]
    rfl

end AdjacencyList

namespace AdjacencyMap

/-- `AdjacencyMap::out_neighbors` = the hand-written lookup (`none` = the `assert!`); after the assert the
`unwrap_unchecked` is never applied to `None` -/
theorem outNeighbors_eq (d : AdjMap) (u : Nat) : AlgoGen.AdjacencyMap.outNeighbors d u = optR (Query.AM.outNeighbors d u) := by
  unfold AlgoGen.AdjacencyMap.outNeighbors Query.AM.outNeighbors
  cases mget u d.rows <;> rfl

end AdjacencyMap

namespace DistanceMatrix

/-- the hand-written `DistMatrix.Res DM` as a result of the generated definition -/
def ofRes : DistMatrix.Res DistMatrix.DM → Res AlgoGen.DistanceMatrix
  | .panic => .error (.fault .panic)
  | .ok m => .ok ⟨m.dist, m.infinity, m.order⟩

theorem new_for0_eq (inf : Int) (buf : List (Option Int)) (i : Nat) (hi : i < buf.length) :
    (AlgoGen.DistanceMatrix.new_for0 inf buf i : Blk (List (Option Int)) AlgoGen.DistanceMatrix _) = .ok (buf.set i (some inf)) := by
  unfold AlgoGen.DistanceMatrix.new_for0
  rw [wr_lt _ _ _ _ hi]
  rfl

theorem fill (inf : Int) : ∀ (k n : Nat), k ≤ n →
    (List.range' 0 k).foldl (fun (b : List (Option Int)) i => b.set i (some inf)) (List.replicate n none) =
      List.replicate k (some inf) ++ List.replicate (n - k) none := by
  intro k n hk
  rw [← List.range_eq_range', Vec.foldl_set_range_append (fun _ => some inf) k _ (by rw [List.length_replicate]; exact hk),
    List.map_const', List.length_range, List.drop_replicate]

theorem new_loop (inf : Int) (n : Nat) :
    (forLoop (AlgoGen.DistanceMatrix.new_for0 inf) (List.range n) (List.replicate n none) :
      Blk Empty AlgoGen.DistanceMatrix _) = .ok (List.replicate n (some inf)) := by
  rw [(forLoop_ok (I := fun b : List (Option Int) => b.length = n) List.length_replicate fun b hb i hi =>
      ⟨new_for0_eq inf b i (hb ▸ List.mem_range.1 hi), List.length_set.trans hb⟩).1,
    List.range_eq_range', fill inf n n (Nat.le_refl n), Nat.sub_self, List.replicate_zero, List.append_nil]

theorem new_eq (order : Nat) (inf : Int) : AlgoGen.DistanceMatrix.new order inf = ofRes (DistMatrix.new order inf) := by
  unfold AlgoGen.DistanceMatrix.new DistMatrix.new
  by_cases h0 : order = 0
  · subst h0
    rfl
  · rw [if_neg h0, assert_pos (Nat.pos_of_ne_zero h0)]
    unfold mulP DistMatrix.usizeMax
    by_cases hm : order * order > 2 ^ 64 - 1
    · rw [if_pos hm, if_pos hm]
      rfl
    · rw [if_neg hm, if_neg hm]
      simp only [ok_bind, List.length_replicate, setLenU, Nat.le_refl, if_true, new_loop, bufFreeze_full, pure_eq_ok, fnBody_ok]
      rfl

/-- `IndexMut<usize>`: the returned reference is the element at `index` (panic out of bounds) -/
theorem indexMut_eq (m : AlgoGen.DistanceMatrix) (i : Nat) :
    AlgoGen.DistanceMatrix.indexMut m i = if i < m.dist.length then .ok (i, m) else .error (.fault .panic) :=
  fnBody_idxPos m.dist i m

/-- `IndexMut<(usize, usize)>`: a write through the returned reference is the hand-written `DistMatrix.set` -/
theorem indexMut2_eq (m : AlgoGen.DistanceMatrix) (u v : Nat) (w : Int) :
    (AlgoGen.DistanceMatrix.indexMut2 m (u, v) >>= fun pm => (pure { pm.2 with dist := pm.2.dist.set pm.1 w } : Res AlgoGen.DistanceMatrix)) =
      ofRes (DistMatrix.set ⟨m.dist, m.infinity, m.order⟩ u v w) := by
  unfold AlgoGen.DistanceMatrix.indexMut2 DistMatrix.set
  rw [fnBody_idxPos]
  split <;> rfl

end DistanceMatrix
end GraafVerif.AlgoGenThm
