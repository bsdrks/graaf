import GraafVerif.Model.AlgoGen4
import GraafVerif.Proof.AlgoGenCall
import GraafVerif.Proof.Par
import GraafVerif.Model.Query
/-!
# Generated parallel functions (`Model/AlgoGen4.lean`): the loops they share

The spawn loop
`for thread_id in 0..t { start = id * chunk; end = min n (start + chunk); if start >= end { break } worker }`
as the loop of the workers over the hand-written `Par.ranges` with the thread ids attached (`forLoop_chunks`);
`step_by` of the runtime in closed form (`stepByP_range`).
-/
namespace GraafVerif.AlgoGenThm
open GraafVerif GraafVerif.AlgoGen GraafVerif.Repr

/-- The spawn loop is the loop of the workers `W` over the chunk ranges, the thread ids attached, when a worker that
returns keeps the invariant `P` of the shared state. -/
theorem forLoop_chunks {σ ρ β : Type} (n chunk : Nat) (P : σ → Prop) (body : σ → Nat → Blk σ ρ σ)
    (W : σ → Nat × Nat → Nat → Blk σ ρ σ)
    (hbody : ∀ s id, P s → body s id =
      if id * chunk ≥ min n (id * chunk + chunk) then brk s else W s (id * chunk, min n (id * chunk + chunk)) id)
    (hW : ∀ s r k, P s → (∃ s', W s r k = .ok s' ∧ P s') ∨ (∃ e, W s r k = .error (.err e))) :
    ∀ (fuel id : Nat) (s : σ), P s → (forLoop body (List.range' id fuel) s : Blk β ρ σ) =
      forLoop (fun s (rk : (Nat × Nat) × Nat) => W s rk.1 rk.2) ((Par.ranges.go n chunk fuel id).zipIdx id) s := by
  intro fuel
  induction fuel with
  | zero => intro id s _; rfl
  | succ fuel ih =>
    intro id s hs
    rw [List.range'_succ]
    unfold Par.ranges.go
    by_cases hge : id * chunk ≥ min n (id * chunk + chunk)
    · rw [if_pos hge, forLoop_cons_brk (s' := s) (h := by rw [hbody s id hs, if_pos hge]; rfl)]
      rfl
    · rw [if_neg hge, List.zipIdx_cons]
      rcases hW s (id * chunk, min n (id * chunk + chunk)) id hs with ⟨s', h, hs'⟩ | ⟨e, h⟩
      · rw [forLoop_cons_ok (s' := s') (h := by rw [hbody s id hs, if_neg hge]; exact h),
          forLoop_cons_ok (body := fun s (rk : (Nat × Nat) × Nat) => W s rk.1 rk.2) (s' := s') (h := h)]
        exact ih (id + 1) s' hs'
      · rw [forLoop_cons_err (e := e) (h := by rw [hbody s id hs, if_neg hge]; exact h),
          forLoop_cons_err (body := fun s (rk : (Nat × Nat) × Nat) => W s rk.1 rk.2) (e := e) (h := h)]

theorem forLoop_ranges {σ ρ β : Type} (n chunk : Nat) (body : σ → Nat → Blk σ ρ σ) (W : σ → Nat × Nat → Nat → Blk σ ρ σ)
    (hbody : ∀ s id, body s id =
      if id * chunk ≥ min n (id * chunk + chunk) then brk s else W s (id * chunk, min n (id * chunk + chunk)) id)
    (hW : ∀ s r k, (∃ s', W s r k = .ok s') ∨ (∃ e, W s r k = .error (.err e))) :
    ∀ (fuel id : Nat) (s : σ), (forLoop body (List.range' id fuel) s : Blk β ρ σ) =
      forLoop (fun s (rk : (Nat × Nat) × Nat) => W s rk.1 rk.2) ((Par.ranges.go n chunk fuel id).zipIdx id) s :=
  fun fuel id s => forLoop_chunks n chunk (fun _ => True) body W (fun s id _ => hbody s id)
    (fun s r k _ => (hW s r k).imp_left fun ⟨s', h⟩ => ⟨s', h, trivial⟩) fuel id s trivial

theorem forLoop_spawn {σ ρ β : Type} (n chunk : Nat) (P : σ → Prop) (body : σ → Nat → Blk σ ρ σ)
    (w : σ → Nat × Nat → Nat → σ)
    (hbody : ∀ s id, P s → body s id =
      if id * chunk ≥ min n (id * chunk + chunk) then brk s else .ok (w s (id * chunk, min n (id * chunk + chunk)) id))
    (hP : ∀ s r k, P s → P (w s r k)) :
    ∀ (fuel id : Nat) (s : σ), P s →
      (forLoop body (List.range' id fuel) s : Blk β ρ σ) =
          .ok (((Par.ranges.go n chunk fuel id).zipIdx id).foldl (fun s rk => w s rk.1 rk.2) s) ∧
        P (((Par.ranges.go n chunk fuel id).zipIdx id).foldl (fun s rk => w s rk.1 rk.2) s) := by
  intro fuel id s hs
  rw [forLoop_chunks n chunk P body (fun s r k => .ok (w s r k)) hbody (fun s r k hs => Or.inl ⟨_, rfl, hP s r k hs⟩) fuel id s hs]
  exact forLoop_ok hs fun s hs rk _ => ⟨rfl, hP s rk.1 rk.2 hs⟩

theorem go_mem_lt (n chunk : Nat) : ∀ (fuel id : Nat) (r : Nat × Nat), r ∈ Par.ranges.go n chunk fuel id → r.1 < r.2 ∧ r.2 ≤ n :=
  Par.go_mem_lt n chunk

namespace AdjacencyList

theorem bump_length (h : List Nat) (v : Nat) : (Query.AL.bump h v).length = h.length :=
  List.length_set

theorem mergeSort_sorted {α : Type} (l : List (Nat × α)) (h : l.Pairwise (fun a b => a.1 ≤ b.1)) : sortByKey1 l = l := by
  unfold sortByKey1
  apply List.mergeSort_of_pairwise
  exact h.imp (fun h => by simpa using h)

/-! `(0..n).step_by(chunk)`: the starts `i * chunk` of the `⌈n / chunk⌉` ranges (`ranges_closed`, `stepRanges_closed`). -/

theorem filterMap_eq_map_of {α γ : Type} (f : α → Option γ) (g : α → γ) : ∀ (l : List α), (∀ a ∈ l, f a = some (g a)) →
    l.filterMap f = l.map g := by
  intro l
  induction l with
  | nil => intro _; rfl
  | cons a l ih =>
    intro h
    rw [List.filterMap_cons, h a List.mem_cons_self, List.map_cons, ih (fun b hb => h b (List.mem_cons_of_mem _ hb))]

theorem stepByP_range {β ρ : Type} (n chunk : Nat) (hc : 0 < chunk) :
    (stepByP (List.range n) chunk : Blk β ρ (List Nat)) = .ok ((List.range ((n + chunk - 1) / chunk)).map (· * chunk)) := by
  unfold stepByP
  rw [if_neg (by omega), List.length_range]
  congr 1
  apply filterMap_eq_map_of
  intro i hi
  have hK : ¬ (n + chunk - 1) / chunk ≤ i := Nat.not_le.2 (List.mem_range.1 hi)
  exact List.getElem?_range (Nat.lt_of_not_le fun h => hK ((Par.divCeil_le_iff n i hc).2 h))

end AdjacencyList
end GraafVerif.AlgoGenThm
