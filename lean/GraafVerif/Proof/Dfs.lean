import GraafVerif.Model.Dfs
import GraafVerif.Proof.DfsSearch
import GraafVerif.Proof.VecLemmas
import GraafVerif.Proof.OracleHopDist
/-!
# Invariants of the DFS model (C06)

Invariants are proved for the corrected `runFixed` only: today's `run` is `runFixed` cut at the
first stale pop (`run_cut_fixed`), and what is proved about `run` is read off through this comparison.
`Dfs`, `DfsDist`, `DfsPred` are projections of one search annotated with (parent, depth); its stack is
the concatenation, deepest first, of what the vertices of the search path pushed (`PInv`), hence
every item is the depth-first step the property prescribes.
-/
namespace GraafVerif.Dfs

variable {α β : Type} {g : Graph} {S ys : List Nat}

theorem isVis_set {vis : List Bool} {v : Nat} (x : Nat) (hv : v < vis.length) :
    isVis (vis.set v true) x = (isVis vis x || decide (x = v)) :=
  Vec.getD_set_true vis v x hv

theorem isVis_replicate (n x : Nat) : isVis (List.replicate n false) x = false :=
  Vec.getD_replicate false n x

/-- What the neighbour loop pushes (top first). -/
def pushed (vis : List Bool) (c : α) (vs : List Nat) : List (Nat × α) :=
  ((vs.filter (fun v => !isVis vis v)).map (fun v => (v, c))).reverse

theorem pushAll_eq (order : Nat) (vis : List Bool) (c : α) (vs : List Nat)
    (stk : List (Nat × α)) (h : ∀ v ∈ vs, v < order) :
    pushAll order vis c vs stk = some (pushed vis c vs ++ stk) := by
  induction vs generalizing stk with
  | nil => rfl
  | cons v vs ih =>
    rw [pushAll, if_pos (h v List.mem_cons_self), ih _ (fun x hx => h x (List.mem_cons_of_mem _ hx))]
    cases hvis : isVis vis v <;> simp [pushed, hvis]

theorem next_cons (g : Graph) (child : Nat → α → α) (u : Nat) (a : α) (rest : List (Nat × α))
    (vis : List Bool) :
    next g child ⟨(u, a) :: rest, vis⟩ =
      if u < vis.length then
        if isVis vis u then .stale ⟨rest, vis⟩
        else match pushAll (vis.set u true).length (vis.set u true) (child u a) (g.out u) rest with
          | none => .panic
          | some stk => .item (u, a) ⟨stk, vis.set u true⟩
      else .panic :=
  rfl

theorem mem_pushed {vis : List Bool} {c : α} {vs : List Nat} {e : Nat × α} :
    e ∈ pushed vis c vs ↔ e.2 = c ∧ e.1 ∈ vs ∧ isVis vis e.1 = false := by
  simp only [pushed, List.mem_reverse, List.mem_map, List.mem_filter, Bool.not_eq_true']
  constructor
  · rintro ⟨w, ⟨hw, hv⟩, rfl⟩
    exact ⟨rfl, hw, hv⟩
  · rintro ⟨h1, h2, h3⟩
    exact ⟨e.1, ⟨h2, h3⟩, by rw [← h1]⟩

theorem pushed_length_le (vis : List Bool) (c : α) (vs : List Nat) :
    (pushed vis c vs).length ≤ vs.length := by
  rw [pushed, List.length_reverse, List.length_map]
  exact List.length_filter_le _ _

theorem pushed_covers {vis : List Bool} (hvis : ∀ x, isVis vis x = true ↔ x ∈ ys)
    (c : α) {vs : List Nat} {w : Nat} (hw : w ∈ vs) : w ∈ ys ∨ w ∈ (pushed vis c vs).map (·.1) := by
  cases hb : isVis vis w
  · exact Or.inr (List.mem_map.mpr ⟨(w, c), mem_pushed.mpr ⟨rfl, hw, hb⟩, rfl⟩)
  · exact Or.inl ((hvis w).mp hb)

theorem covered_pop {ys' : List Nat} {w : Nat} {e : Nat × α} {rest : List (Nat × α)}
    (pre : List (Nat × α)) (h : w ∈ ys ∨ w ∈ (e :: rest).map (·.1)) (hsub : ∀ y ∈ ys, y ∈ ys')
    (hu : e.1 ∈ ys') : w ∈ ys' ∨ w ∈ (pre ++ rest).map (·.1) := by
  rcases h with h | h
  · exact Or.inl (hsub w h)
  · rcases List.mem_cons.mp h with rfl | h
    · exact Or.inl hu
    · exact Or.inr (by rw [List.map_append]; exact List.mem_append_right _ h)

/-- `ys` = vertices yielded so far. -/
structure Inv {α : Type} (g : Graph) (S : List Nat) (ys : List Nat) (st : St α) : Prop where
  len : st.visited.length = g.n
  vis : ∀ x, isVis st.visited x = true ↔ x ∈ ys
  nodup : ys.Nodup
  stk_lt : ∀ e ∈ st.stack, e.1 < g.n
  reach : ∀ x ∈ ys, ReachFrom g S x
  stk_reach : ∀ e ∈ st.stack, ReachFrom g S e.1
  closed : ∀ y ∈ ys, ∀ w ∈ g.out y, w ∈ ys ∨ w ∈ st.stack.map (·.1)
  src : ∀ s ∈ S, s ∈ ys ∨ s ∈ st.stack.map (·.1)

theorem mem_new_stack {a0 : α} {e : Nat × α} (he : e ∈ (new g S a0).stack) : e.1 ∈ S ∧ e.2 = a0 := by
  obtain ⟨s, hs, rfl⟩ := List.mem_map.mp (List.mem_reverse.mp he)
  exact ⟨hs, rfl⟩

theorem mem_new_stack_fst (g : Graph) (a0 : α) {s : Nat} (hs : s ∈ S) :
    s ∈ (new g S a0).stack.map (·.1) :=
  List.mem_map.mpr ⟨(s, a0), List.mem_reverse.mpr (List.mem_map_of_mem hs), rfl⟩

theorem inv_new (hS : ∀ s ∈ S, s < g.n) (a0 : α) : Inv g S [] (new g S a0) where
  len := List.length_replicate
  vis x := by rw [new, isVis_replicate]; exact ⟨nofun, nofun⟩
  nodup := List.nodup_nil
  stk_lt e he := hS e.1 (mem_new_stack he).1
  reach := nofun
  stk_reach e he := ⟨e.1, (mem_new_stack he).1, Reach.refl e.1⟩
  closed := nofun
  src s hs := Or.inr (mem_new_stack_fst g a0 hs)

/-- The three possible outcomes of `next` under the invariant (no assert fires). -/
theorem next_cases (hg : g.WF) (child : Nat → α → α) {st : St α} (h : Inv g S ys st) :
    (st.stack = [] ∧ next g child st = .done) ∨
    (∃ u a rest, st.stack = (u, a) :: rest ∧ u ∈ ys ∧ next g child st = .stale ⟨rest, st.visited⟩) ∨
    (∃ u a rest, st.stack = (u, a) :: rest ∧ u ∉ ys ∧
      next g child st = .item (u, a)
        ⟨pushed (st.visited.set u true) (child u a) (g.out u) ++ rest, st.visited.set u true⟩) := by
  obtain ⟨stk, vis⟩ := st
  cases stk with
  | nil => exact Or.inl ⟨rfl, rfl⟩
  | cons e rest =>
    obtain ⟨u, a⟩ := e
    have hlen : vis.length = g.n := h.len
    rw [next_cons, if_pos (hlen ▸ h.stk_lt (u, a) List.mem_cons_self)]
    cases hv : isVis vis u
    · refine Or.inr (Or.inr ⟨u, a, rest, rfl, fun hu' => ?_, ?_⟩)
      · exact Bool.noConfusion (hv.symm.trans ((h.vis u).mpr hu'))
      · rw [pushAll_eq _ _ _ _ _ (fun v hv => by rw [List.length_set, hlen]; exact (hg u v hv).2)]
        rfl
    · exact Or.inr (Or.inl ⟨u, a, rest, rfl, (h.vis u).mp hv, rfl⟩)

theorem inv_stale {st : St α} {e : Nat × α} {rest : List (Nat × α)} (h : Inv g S ys st)
    (hs : st.stack = e :: rest) (hu : e.1 ∈ ys) : Inv g S ys ⟨rest, st.visited⟩ where
  len := h.len
  vis := h.vis
  nodup := h.nodup
  stk_lt e he := h.stk_lt e (hs ▸ List.mem_cons_of_mem _ he)
  reach := h.reach
  stk_reach e he := h.stk_reach e (hs ▸ List.mem_cons_of_mem _ he)
  closed y hy w hw := covered_pop [] (hs ▸ h.closed y hy w hw) (fun _ hy => hy) hu
  src s hsS := covered_pop [] (hs ▸ h.src s hsS) (fun _ hy => hy) hu

theorem inv_item (hg : g.WF) {st : St α} {u : Nat} {a : α} {rest : List (Nat × α)} (c : α)
    (h : Inv g S ys st) (hs : st.stack = (u, a) :: rest) (hu : u ∉ ys) :
    Inv g S (ys ++ [u]) ⟨pushed (st.visited.set u true) c (g.out u) ++ rest, st.visited.set u true⟩ := by
  have htop : (u, a) ∈ st.stack := hs ▸ List.mem_cons_self
  have hvis' : ∀ x, isVis (st.visited.set u true) x = true ↔ x ∈ ys ++ [u] := fun x => by
    rw [isVis_set x (h.len ▸ h.stk_lt _ htop), Bool.or_eq_true, h.vis x, decide_eq_true_eq,
      List.mem_append, List.mem_singleton]
  obtain ⟨s, hsS, hr⟩ := h.stk_reach _ htop
  have hsub : ∀ y ∈ ys, y ∈ ys ++ [u] := fun y hy => List.mem_append_left _ hy
  have hu' : u ∈ ys ++ [u] := List.mem_append_right _ List.mem_cons_self
  refine ⟨by rw [List.length_set]; exact h.len, hvis', ?_, fun e he => ?_, fun x hx => ?_, fun e he => ?_,
    fun y hy w hw => ?_, fun s hsS => covered_pop _ (hs ▸ h.src s hsS) hsub hu'⟩
  · exact nodup_snoc h.nodup hu
  · rcases List.mem_append.mp he with he | he
    · exact (hg u e.1 (mem_pushed.mp he).2.1).2
    · exact h.stk_lt e (hs ▸ List.mem_cons_of_mem _ he)
  · rcases List.mem_append.mp hx with hx | hx
    · exact h.reach x hx
    · exact List.mem_singleton.mp hx ▸ ⟨s, hsS, hr⟩
  · rcases List.mem_append.mp he with he | he
    · exact ⟨s, hsS, Reach.step hr (mem_pushed.mp he).2.1⟩
    · exact h.stk_reach e (hs ▸ List.mem_cons_of_mem _ he)
  · rcases List.mem_append.mp hy with hy | hy
    · exact covered_pop _ (hs ▸ h.closed y hy w hw) hsub hu'
    · refine (pushed_covers hvis' c (List.mem_singleton.mp hy ▸ hw)).imp_right (fun h' => ?_)
      rw [List.map_append]; exact List.mem_append_left _ h'

theorem inv_complete {st : St α} (h : Inv g S ys st) (hq : st.stack = []) :
    ∀ v, ReachFrom g S v → v ∈ ys := by
  have hcov : ∀ w, w ∈ ys ∨ w ∈ st.stack.map (·.1) → w ∈ ys := fun w hw =>
    hw.resolve_right (by rw [hq]; exact List.not_mem_nil)
  rintro v ⟨s, hs, hr⟩
  exact OracleProof.reach_closed hr (hcov _ (h.src s hs)) fun x y hx ha => hcov _ (h.closed x hx y ha)

theorem reachFrom_lt (hg : g.WF) (hS : ∀ s ∈ S, s < g.n) {v : Nat} (h : ReachFrom g S v) : v < g.n := by
  obtain ⟨s, hs, hr⟩ := h
  exact OracleProof.reach_lt hg hr (hS s hs)

/-- Unvisited out-degree mass: what can still be pushed. -/
def W (g : Graph) (vis : List Bool) : Nat :=
  (((List.range g.n).filter (fun u => !isVis vis u)).map (fun u => (g.out u).length)).sum

/-- Every pop decreases `stack.length + W`. -/
def mu (g : Graph) (st : St α) : Nat := st.stack.length + W g st.visited

theorem W_set {vis : List Bool} {u : Nat} (hu : u < vis.length) (hun : u < g.n)
    (hv : isVis vis u = false) : W g vis = W g (vis.set u true) + (g.out u).length := by
  have h := Vec.sum_filter_remove (fun u => (g.out u).length) (fun x => !isVis vis x)
    (fun x => !isVis (vis.set u true) x) u (by rw [hv]; rfl)
    (fun x => by rw [isVis_set x hu, Bool.not_or, Bool.beq_eq_decide_eq]) (List.range g.n)
  rw [List.count_range, if_pos hun, Nat.one_mul] at h
  exact h.symm

theorem mu_new (g : Graph) (S : List Nat) (a0 : α) : mu g (new g S a0) < fuelFixed g S := by
  have : (List.range g.n).filter (fun u => !isVis (List.replicate g.n false) u) = List.range g.n := by
    simp [isVis_replicate]
  simp [mu, W, new, fuelFixed, this]

theorem mu_item {st : St α} {u : Nat} {a : α} {rest : List (Nat × α)} (c : α)
    (h : Inv g S ys st) (hs : st.stack = (u, a) :: rest) (hu : u ∉ ys) :
    mu g ⟨pushed (st.visited.set u true) c (g.out u) ++ rest, st.visited.set u true⟩ < mu g st := by
  have hun : u < g.n := h.stk_lt (u, a) (hs ▸ List.mem_cons_self)
  have hnv : isVis st.visited u = false := Bool.eq_false_iff.mpr (fun hb => hu ((h.vis u).mp hb))
  have hp := pushed_length_le (st.visited.set u true) c (g.out u)
  simp only [mu, hs, List.length_cons, List.length_append, W_set (h.len ▸ hun) hun hnv]
  omega

theorem runFixed_exact (hg : g.WF) (child : Nat → α → α) :
    ∀ (f : Nat) {ys : List Nat} {st : St α}, Inv g S ys st → mu g st < f →
      (runFixed g child f st).ending = .done ∧ Exact g S (ys ++ (runFixed g child f st).verts) := by
  intro f
  induction f with
  | zero => intro ys st _ hlt; exact absurd hlt (Nat.not_lt_zero _)
  | succ f ih =>
    intro ys st h hlt
    rcases next_cases hg child h with ⟨hs, hn⟩ | ⟨u, a, rest, hs, hu, hn⟩ | ⟨u, a, rest, hs, hu, hn⟩
    · simp only [runFixed, hn, Out.verts, List.map_nil, List.append_nil]
      exact ⟨trivial, h.nodup, fun v => ⟨h.reach v, inv_complete h hs v⟩⟩
    · simp only [runFixed, hn]
      refine ih (inv_stale h hs hu) ?_
      rw [mu, hs, List.length_cons, Nat.add_right_comm] at hlt
      exact Nat.lt_of_succ_lt_succ hlt
    · have := ih (inv_item hg (child u a) h hs hu)
        (Nat.lt_of_lt_of_le (mu_item _ h hs hu) (Nat.le_of_lt_succ hlt))
      rw [Out.verts, List.append_assoc] at this
      simp only [runFixed, hn, Out.verts, List.map_cons]
      exact this

theorem run_cut_fixed (g : Graph) (child : Nat → α → α) :
    ∀ (f f' : Nat) (st : St α), f ≤ f' →
      (run g child f st).items <+: (runFixed g child f' st).items ∧
      ((run g child f st).ending = .stale →
        staleAt g child f' st = some (run g child f st).items.length) ∧
      ((run g child f st).ending = .done ∨ (run g child f st).ending = .panic →
        runFixed g child f' st = run g child f st) := by
  intro f
  induction f with
  | zero => intro f' st _; exact ⟨List.nil_prefix, nofun, fun h => by rcases h with h | h <;> cases h⟩
  | succ f ih =>
    intro f' st hle
    cases f' with
    | zero => exact absurd hle (Nat.not_succ_le_zero f)
    | succ f'' =>
      rw [run, runFixed, staleAt]
      cases next g child st with
      | done => exact ⟨List.nil_prefix, nofun, fun _ => rfl⟩
      | panic => exact ⟨List.nil_prefix, nofun, fun _ => rfl⟩
      | stale st' => exact ⟨List.nil_prefix, fun _ => rfl, fun h => by rcases h with h | h <;> cases h⟩
      | item x st' =>
        obtain ⟨h1, h2, h3⟩ := ih f'' st' (Nat.le_of_succ_le_succ hle)
        exact ⟨List.cons_prefix_cons.mpr ⟨rfl, h1⟩, fun h => congrArg (Option.map (· + 1)) (h2 h),
          fun h => congrArg (fun r : Out α => (⟨x :: r.items, r.ending⟩ : Out α)) (h3 h)⟩

theorem run_fuel_length (g : Graph) (child : Nat → α → α) :
    ∀ (f : Nat) (st : St α), (run g child f st).ending = .fuel → (run g child f st).items.length = f := by
  intro f
  induction f with
  | zero => intro _ _; rfl
  | succ f ih =>
    intro st
    rw [run]
    cases next g child st with
    | done => nofun
    | panic => nofun
    | stale st' => nofun
    | item x st' => exact fun h => congrArg (· + 1) (ih st' h)

theorem run_fuel_mono (g : Graph) (child : Nat → α → α) :
    ∀ (f f' : Nat) (st : St α), f ≤ f' → (run g child f st).ending ≠ .fuel →
      run g child f' st = run g child f st := by
  intro f
  induction f with
  | zero => intro _ _ _ h; exact absurd rfl h
  | succ f ih =>
    intro f' st hle
    cases f' with
    | zero => exact absurd hle (Nat.not_succ_le_zero f)
    | succ f'' =>
      rw [run, run]
      cases next g child st with
      | done => exact fun _ => rfl
      | panic => exact fun _ => rfl
      | stale st' => exact fun _ => rfl
      | item x st' =>
        exact fun h => congrArg (fun r : Out α => (⟨x :: r.items, r.ending⟩ : Out α))
          (ih f'' st' (Nat.le_of_succ_le_succ hle) h)

theorem runFixed_fuel_mono (g : Graph) (child : Nat → α → α) :
    ∀ (f f' : Nat) (st : St α), f ≤ f' → (runFixed g child f st).ending ≠ .fuel →
      runFixed g child f' st = runFixed g child f st := by
  intro f
  induction f with
  | zero => intro _ _ _ h; exact absurd rfl h
  | succ f ih =>
    intro f' st hle
    cases f' with
    | zero => exact absurd hle (Nat.not_succ_le_zero f)
    | succ f'' =>
      rw [runFixed, runFixed]
      cases next g child st with
      | done => exact fun _ => rfl
      | panic => exact fun _ => rfl
      | stale st' => exact ih f'' st' (Nat.le_of_succ_le_succ hle)
      | item x st' =>
        exact fun h => congrArg (fun r : Out α => (⟨x :: r.items, r.ending⟩ : Out α))
          (ih f'' st' (Nat.le_of_succ_le_succ hle) h)

/-- Re-polling today's iterator through its `None`s yields exactly the corrected variant's items. -/
theorem pollTrace_items (g : Graph) (child : Nat → α → α) :
    ∀ (f : Nat) (st : St α), (pollTrace g child f st).filterMap id = (runFixed g child f st).items := by
  intro f
  induction f with
  | zero => intro st; rfl
  | succ f ih =>
    intro st
    rw [runFixed, pollTrace]
    cases next g child st with
    | done => rfl
    | panic => rfl
    | stale st' => exact ih st'
    | item x st' => exact congrArg (x :: ·) (ih st')

def St.map (h : α → β) (st : St α) : St β := ⟨st.stack.map (fun e => (e.1, h e.2)), st.visited⟩
def Out.map (h : α → β) (o : Out α) : Out β := ⟨o.items.map (fun e => (e.1, h e.2)), o.ending⟩
def Next.map (h : α → β) : Next α → Next β
  | .done => .done
  | .panic => .panic
  | .stale st => .stale (st.map h)
  | .item x st => .item (x.1, h x.2) (st.map h)

theorem pushAll_map (h : α → β) (order : Nat) (vis : List Bool) (c : α) (vs : List Nat)
    (stk : List (Nat × α)) :
    pushAll order vis (h c) vs (stk.map (fun e => (e.1, h e.2))) =
      (pushAll order vis c vs stk).map (List.map (fun e => (e.1, h e.2))) := by
  induction vs generalizing stk with
  | nil => rfl
  | cons v vs ih =>
    rw [pushAll, pushAll, apply_ite (Option.map _), ← ih, apply_ite (List.map _)]
    rfl

theorem next_map (g : Graph) {h : α → β} {c1 : Nat → α → α} {c2 : Nat → β → β}
    (hc : ∀ u a, h (c1 u a) = c2 u (h a)) (st : St α) :
    next g c2 (st.map h) = (next g c1 st).map h := by
  obtain ⟨stk, vis⟩ := st
  cases stk with
  | nil => rfl
  | cons e rest =>
    obtain ⟨u, a⟩ := e
    show next g c2 ⟨(u, h a) :: rest.map (fun e => (e.1, h e.2)), vis⟩ = _
    rw [next_cons, next_cons, ← hc, pushAll_map, apply_ite (Next.map h), apply_ite (Next.map h)]
    cases pushAll (vis.set u true).length (vis.set u true) (c1 u a) (g.out u) rest <;> rfl

theorem run_map (g : Graph) {h : α → β} {c1 : Nat → α → α} {c2 : Nat → β → β}
    (hc : ∀ u a, h (c1 u a) = c2 u (h a)) :
    ∀ (f : Nat) (st : St α), run g c2 f (st.map h) = (run g c1 f st).map h := by
  intro f
  induction f with
  | zero => intro st; rfl
  | succ f ih =>
    intro st
    rw [run, run, next_map g hc]
    cases next g c1 st with
    | done => rfl
    | panic => rfl
    | stale st' => rfl
    | item x st' => exact congrArg (fun r : Out β => (⟨(x.1, h x.2) :: r.items, r.ending⟩ : Out β)) (ih st')

theorem runFixed_map (g : Graph) {h : α → β} {c1 : Nat → α → α} {c2 : Nat → β → β}
    (hc : ∀ u a, h (c1 u a) = c2 u (h a)) :
    ∀ (f : Nat) (st : St α), runFixed g c2 f (st.map h) = (runFixed g c1 f st).map h := by
  intro f
  induction f with
  | zero => intro st; rfl
  | succ f ih =>
    intro st
    rw [runFixed, runFixed, next_map g hc]
    cases next g c1 st with
    | done => rfl
    | panic => rfl
    | stale st' => exact ih st'
    | item x st' => exact congrArg (fun r : Out β => (⟨(x.1, h x.2) :: r.items, r.ending⟩ : Out β)) (ih st')

theorem new_map (g : Graph) (S : List Nat) (h : α → β) (a0 : α) : (new g S a0).map h = new g S (h a0) := by
  simp [new, St.map, Function.comp_def]

theorem Out.map_verts (h : α → β) (o : Out α) : (o.map h).verts = o.verts := by
  simp [Out.map, Out.verts, Function.comp_def]

/-- Payload of the annotated search: (parent, depth). -/
abbrev PD := Option Nat × Nat
def childPD : Nat → PD → PD := fun u a => (some u, a.2 + 1)

/-- `StackOK ys path stack`: the stack is, top first, what the vertices of the search path
(deepest first) pushed and is not popped yet, on top of the remaining source entries; every
still unyielded out-neighbour of a path vertex is in that vertex' segment. -/
inductive StackOK (g : Graph) (S : List Nat) (ys : List Nat) : List Nat → List (Nat × PD) → Prop
  | base (stk : List (Nat × PD)) (h1 : ∀ e ∈ stk, e.2 = (none, 0) ∧ e.1 ∈ S) : StackOK g S ys [] stk
  | cons (d : Nat) (P : List Nat) (seg rest : List (Nat × PD)) (hr : StackOK g S ys P rest)
      (h1 : ∀ e ∈ seg, e.2 = (some d, P.length + 1) ∧ e.1 ∈ g.out d)
      (h2 : ∀ w ∈ g.out d, w ∈ ys ∨ w ∈ seg.map (·.1)) : StackOK g S ys (d :: P) (seg ++ rest)

variable {P : List Nat} {stk0 : List (Nat × PD)}

theorem StackOK.mono {ys' : List Nat} (h : StackOK g S ys P stk0) (hsub : ∀ y ∈ ys, y ∈ ys') :
    StackOK g S ys' P stk0 := by
  induction h with
  | base stk h1 => exact .base stk h1
  | cons d P seg rest _ h1 h2 ih => exact .cons d P seg rest ih h1 (fun w hw => (h2 w hw).imp_left (hsub w))

theorem StackOK.pop_stale (h : StackOK g S ys P stk0) :
    ∀ e stk, stk0 = e :: stk → e.1 ∈ ys → StackOK g S ys P stk := by
  induction h with
  | base stk0 h1 =>
    rintro e stk rfl _
    exact .base stk (fun e' he' => h1 e' (List.mem_cons_of_mem _ he'))
  | cons d P seg rest hr h1 h2 ih =>
    intro e stk heq he
    cases seg with
    | nil => exact .cons d P [] stk (ih e stk heq he) nofun h2
    | cons e' seg' =>
      obtain ⟨rfl, rfl⟩ := List.cons.inj heq
      exact .cons d P seg' rest hr (fun x hx => h1 x (List.mem_cons_of_mem _ hx))
        (fun w hw => covered_pop [] (h2 w hw) (fun _ hy => hy) he)

/-- Popping an unyielded entry `e`: it hangs under the deepest path vertex that still has an
unyielded out-neighbour (it is a source entry when there is none), and the rest of the stack
belongs to the path cut back to that vertex. -/
theorem StackOK.pop_fresh (h : StackOK g S ys P stk0) :
    ∀ e stk, stk0 = e :: stk → e.1 ∉ ys →
      (P.dropWhile (fun d => !hasFresh g ys d) = [] → e.2 = (none, 0) ∧ e.1 ∈ S) ∧
      (∀ d rest', P.dropWhile (fun d => !hasFresh g ys d) = d :: rest' →
          e.2 = (some d, rest'.length + 1) ∧ e.1 ∈ g.out d) ∧
      StackOK g S (ys ++ [e.1]) (P.dropWhile (fun d => !hasFresh g ys d)) stk := by
  have hsub : ∀ (x : Nat) y, y ∈ ys → y ∈ ys ++ [x] := fun _ _ hy => List.mem_append_left _ hy
  have hlast : ∀ x : Nat, x ∈ ys ++ [x] := fun _ => List.mem_append_right _ List.mem_cons_self
  induction h with
  | base stk0 h1 =>
    rintro e stk rfl _
    exact ⟨fun _ => h1 e List.mem_cons_self, nofun, .base stk (fun e' he' => h1 e' (List.mem_cons_of_mem _ he'))⟩
  | cons d P seg rest hr h1 h2 ih =>
    intro e stk heq he
    cases seg with
    | nil =>
      have hnf : hasFresh g ys d = false :=
        hasFresh_false.mpr (fun w hw => (h2 w hw).resolve_right List.not_mem_nil)
      rw [List.dropWhile_cons_of_pos (by rw [hnf]; rfl)]
      exact ih e stk heq he
    | cons e' seg' =>
      obtain ⟨rfl, rfl⟩ := List.cons.inj heq
      have he1 := h1 e' List.mem_cons_self
      rw [List.dropWhile_cons_of_neg (by rw [hasFresh_true.mpr ⟨e'.1, he1.2, he⟩]; nofun)]
      refine ⟨nofun, fun d0 rest' heq => ?_, .cons d P seg' rest (hr.mono (hsub _))
        (fun x hx => h1 x (List.mem_cons_of_mem _ hx))
        (fun w hw => covered_pop [] (h2 w hw) (hsub _) (hlast _))⟩
      obtain ⟨rfl, rfl⟩ := List.cons.inj heq
      exact he1

variable {s : Search}

/-- The invariant tying the stack to the search state of the specification. -/
structure PInv (g : Graph) (S : List Nat) (s : Search) (st : St PD) : Prop where
  inv : Inv g S s.yielded st
  stk : StackOK g S s.yielded s.path st.stack
  ok : Search.OK g s

theorem pinv_new (hS : ∀ s ∈ S, s < g.n) : PInv g S ⟨[], []⟩ (new g S ((none, 0) : PD)) :=
  ⟨inv_new hS _,
    .base _ (fun _ he => ⟨(mem_new_stack he).2, (mem_new_stack he).1⟩),
    .init g⟩

theorem pinv_stale {st : St PD} {e : Nat × PD} {rest : List (Nat × PD)} (h : PInv g S s st)
    (hs : st.stack = e :: rest) (hu : e.1 ∈ s.yielded) : PInv g S s ⟨rest, st.visited⟩ :=
  ⟨inv_stale h.inv hs hu, h.stk.pop_stale e rest hs hu, h.ok⟩

theorem pinv_item (hg : g.WF) {st : St PD} {u : Nat} {a : PD} {rest : List (Nat × PD)} (h : PInv g S s st)
    (hs : st.stack = (u, a) :: rest) (hu : u ∉ s.yielded) :
    expect g S s u = some a ∧
    PInv g S (advance g s u)
      ⟨pushed (st.visited.set u true) (childPD u a) (g.out u) ++ rest, st.visited.set u true⟩ := by
  obtain ⟨hA0, hA1, hA2⟩ := h.stk.pop_fresh (u, a) rest hs hu
  have hinv' := inv_item hg (childPD u a) h.inv hs hu
  have hexp : expect g S s u = some a ∧ a.2 = (active g s).length := by
    rw [expect_eq_some]
    cases hA : active g s with
    | nil =>
      obtain ⟨ha, hS⟩ := hA0 hA
      exact ⟨⟨hu, hS, h.ok.all_quiet hA, ha⟩, congrArg Prod.snd ha⟩
    | cons d rest' =>
      obtain ⟨ha, hout⟩ := hA1 d rest' hA
      exact ⟨⟨hu, hout, ha⟩, congrArg Prod.snd ha⟩
  refine ⟨hexp.1, hinv', ?_, h.ok.advance u⟩
  refine .cons u (active g s) _ rest hA2 (fun e he => ?_) (fun w hw => pushed_covers hinv'.vis _ hw)
  obtain ⟨h1, h2, _⟩ := mem_pushed.mp he
  exact ⟨by rw [h1, childPD, hexp.2], h2⟩

/-- Every item the corrected search yields is the step the property prescribes, with the
prescribed parent and depth. -/
theorem runFixed_annot (hg : g.WF) :
    ∀ (f : Nat) {s : Search} {st : St PD}, PInv g S s st →
      annotateFrom g S s (runFixed g childPD f st).verts = some (runFixed g childPD f st).items := by
  intro f
  induction f with
  | zero => intro s st _; rfl
  | succ f ih =>
    intro s st h
    rcases next_cases hg childPD h.inv with ⟨hs, hn⟩ | ⟨u, a, rest, hs, hu, hn⟩ | ⟨u, a, rest, hs, hu, hn⟩
    · rw [runFixed, hn]; rfl
    · rw [runFixed, hn]
      exact ih (pinv_stale h hs hu)
    · obtain ⟨hexp, h'⟩ := pinv_item hg h hs hu
      rw [runFixed, hn]
      exact annotateFrom_cons_iff.mpr ⟨a, _, hexp, ih h', rfl⟩

theorem predFold_map (n : Nat) (ann : List Ann) :
    predFold n (ann.map (fun a => (a.1, a.2.1))) = Vec.written (·.1) (·.2.1) none n ann :=
  List.foldl_map

theorem predFold_eq_forest (n : Nat) (ann : List Ann) (hnd : (ann.map (·.1)).Nodup) :
    predFold n (ann.map (fun a => (a.1, a.2.1))) = forestOf n ann := by
  rw [predFold_map]
  apply List.ext_getElem?
  intro v
  by_cases hv : v < n
  · rw [forestOf, List.getElem?_map, List.getElem?_range hv, Option.map_some]
    cases hf : ann.find? (fun a => a.1 == v) with
    | none =>
      refine Vec.written_not_mem hv fun hm => ?_
      obtain ⟨a, ha, rfl⟩ := List.mem_map.mp hm
      exact absurd (beq_self_eq_true _) (List.find?_eq_none.mp hf a ha)
    | some a =>
      have hav := List.find?_some hf
      obtain rfl : a.1 = v := eq_of_beq hav
      exact Vec.written_mem hnd (List.mem_of_find?_eq_some hf) hv
  · rw [List.getElem?_eq_none, List.getElem?_eq_none]
    · rw [forestOf, List.length_map, List.length_range]; exact Nat.le_of_not_lt hv
    · rw [Vec.written_length]; exact Nat.le_of_not_lt hv

/-- The annotated searches all three iterators are projections of. -/
def dfsAnn (g : Graph) (S : List Nat) : Out PD := run g childPD (fuel g) (new g S (none, 0))
def dfsAnnFixed (g : Graph) (S : List Nat) : Out PD := runFixed g childPD (fuelFixed g S) (new g S (none, 0))

theorem dfs_eq_ann (g : Graph) (S : List Nat) : dfs g S = (dfsAnn g S).map (fun _ => ()) := by
  rw [dfs, dfsAnn, ← run_map g (h := fun _ => ()) (c2 := childU) (fun _ _ => rfl), new_map]
theorem dfsDist_eq_ann (g : Graph) (S : List Nat) : dfsDist g S = (dfsAnn g S).map (·.2) := by
  rw [dfsDist, dfsAnn, ← run_map g (h := fun a : PD => a.2) (c2 := childD) (fun _ _ => rfl), new_map]
theorem dfsPred_eq_ann (g : Graph) (S : List Nat) : dfsPred g S = (dfsAnn g S).map (·.1) := by
  rw [dfsPred, dfsAnn, ← run_map g (h := fun a : PD => a.1) (c2 := childP) (fun _ _ => rfl), new_map]
theorem dfsFixed_eq_ann (g : Graph) (S : List Nat) : dfsFixed g S = (dfsAnnFixed g S).map (fun _ => ()) := by
  rw [dfsFixed, dfsAnnFixed, ← runFixed_map g (h := fun _ => ()) (c2 := childU) (fun _ _ => rfl), new_map]
theorem dfsDistFixed_eq_ann (g : Graph) (S : List Nat) : dfsDistFixed g S = (dfsAnnFixed g S).map (·.2) := by
  rw [dfsDistFixed, dfsAnnFixed, ← runFixed_map g (h := fun a : PD => a.2) (c2 := childD) (fun _ _ => rfl), new_map]
theorem dfsPredFixed_eq_ann (g : Graph) (S : List Nat) : dfsPredFixed g S = (dfsAnnFixed g S).map (·.1) := by
  rw [dfsPredFixed, dfsAnnFixed, ← runFixed_map g (h := fun a : PD => a.1) (c2 := childP) (fun _ _ => rfl), new_map]

section fromNew
variable (hg : g.WF) (child : Nat → α → α) (hS : ∀ s ∈ S, s < g.n) (a0 : α)
include hg hS

theorem runFixed_new_spec :
    (runFixed g child (fuelFixed g S) (new g S a0)).ending = .done ∧
    Exact g S (runFixed g child (fuelFixed g S) (new g S a0)).verts := by
  have := runFixed_exact hg child _ (inv_new hS a0) (mu_new g S a0)
  rwa [List.nil_append] at this

theorem runFixed_new_fuel_indep (k : Nat) :
    runFixed g child (fuelFixed g S + k) (new g S a0) = runFixed g child (fuelFixed g S) (new g S a0) := by
  refine runFixed_fuel_mono g child _ _ _ (Nat.le_add_right _ k) ?_
  rw [(runFixed_new_spec hg child hS a0).1]
  nofun

theorem run_new_cut :
    (run g child (fuel g) (new g S a0)).items <+: (runFixed g child (fuelFixed g S) (new g S a0)).items ∧
    ((run g child (fuel g) (new g S a0)).ending = .done ∨ (run g child (fuel g) (new g S a0)).ending = .panic →
      runFixed g child (fuelFixed g S) (new g S a0) = run g child (fuel g) (new g S a0)) := by
  have h := run_cut_fixed g child (fuel g) (fuelFixed g S + fuel g) (new g S a0) (Nat.le_add_left _ _)
  rw [runFixed_new_fuel_indep hg child hS a0 (fuel g)] at h
  exact ⟨h.1, h.2.2⟩

/-- Today's iteration from `new`: never panics, never runs out of fuel, yields distinct reachable
vertices, and all of them when it ends on an empty stack. -/
theorem run_new_spec :
    ((run g child (fuel g) (new g S a0)).ending = .done ∨ (run g child (fuel g) (new g S a0)).ending = .stale) ∧
    (run g child (fuel g) (new g S a0)).verts.Nodup ∧
    (∀ v ∈ (run g child (fuel g) (new g S a0)).verts, ReachFrom g S v) ∧
    ((run g child (fuel g) (new g S a0)).ending = .done →
      ∀ v, ReachFrom g S v → v ∈ (run g child (fuel g) (new g S a0)).verts) := by
  obtain ⟨hd, hnd, hiff⟩ := runFixed_new_spec hg child hS a0
  obtain ⟨hpre, heq⟩ := run_new_cut hg child hS a0
  have hsub : List.Sublist (run g child (fuel g) (new g S a0)).verts
      (runFixed g child (fuelFixed g S) (new g S a0)).verts := hpre.sublist.map _
  have hreach : ∀ v ∈ (run g child (fuel g) (new g S a0)).verts, ReachFrom g S v :=
    fun v hv => (hiff v).mp (hsub.subset hv)
  refine ⟨?_, hnd.sublist hsub, hreach, fun he v hr => by rw [← heq (Or.inl he)]; exact (hiff v).mpr hr⟩
  cases he : (run g child (fuel g) (new g S a0)).ending with
  | done => exact Or.inl rfl
  | stale => exact Or.inr rfl
  | panic => rw [← heq (Or.inr he), hd] at he; cases he
  | fuel =>
    -- `order + 1` distinct vertices below `order`
    have hlen := run_fuel_length g child _ _ he
    have := length_le_of_nodup_lt (hnd.sublist hsub) fun v hv => reachFrom_lt hg hS (hreach v hv)
    rw [Out.verts, List.length_map, hlen] at this
    exact absurd this (Nat.not_succ_le_self _)

theorem run_new_fuel_indep (k : Nat) :
    run g child (fuel g + k) (new g S a0) = run g child (fuel g) (new g S a0) := by
  refine run_fuel_mono g child _ _ _ (Nat.le_add_right _ k) ?_
  rcases (run_new_spec hg child hS a0).1 with h | h <;> rw [h] <;> nofun

end fromNew

theorem dfsAnnFixed_annot (hg : g.WF) (hS : ∀ s ∈ S, s < g.n) :
    annotate g S (dfsAnnFixed g S).verts = some (dfsAnnFixed g S).items :=
  runFixed_annot hg _ (pinv_new hS)

/-- The same for today's iterator: it stops early, but what it yields is a prefix of the above. -/
theorem dfsAnn_annot (hg : g.WF) (hS : ∀ s ∈ S, s < g.n) :
    annotate g S (dfsAnn g S).verts = some (dfsAnn g S).items := by
  have hp : (dfsAnn g S).items = (dfsAnnFixed g S).items.take (dfsAnn g S).items.length :=
    List.prefix_iff_eq_take.mp (run_new_cut hg childPD hS (none, 0)).1
  have h := annotateFrom_take _ ⟨[], []⟩ _ (dfsAnn g S).items.length (dfsAnnFixed_annot hg hS)
  rwa [Out.verts, ← List.map_take, ← hp] at h

end GraafVerif.Dfs
