import GraafVerif.Proof.JohnsonCircuit
import GraafVerif.Proof.JohnsonTarjan
import GraafVerif.Proof.FoldLemmas
/-!
# Fuel adequacy of `circuit`, `connect` and `tarjanFuel`

The recursion depth of `circuit` is bounded by the number of component vertices not on the stack
(the stack is duplicate-free inside the component), that of `connect` by the number of unindexed
vertices.  Any two fuels above the bound give the same result, so the fuel values used by the
model (`order + 1`) are a termination argument, not an assumption.

`GI a st` bundles the state invariants of Tarjan's algorithm on the compact model of
`Model/JohnsonTarjan.lean` (with `TState.idxOf`, `TState.indexed`, `PoppedIn`, `TState.Popped` to say
them), and `Mono u cur cur'` what a later state of the same loop of `connect(u)` keeps; the fuel
adequacy of `connect` needs neither (`connect_fuel_irrel`: indices only grow).  `GI` is a hypothesis of
the statement `C10.connect_fuel_adequate`, which is why it stands here.
-/
namespace GraafVerif.Johnson
open GraafVerif

theorem circuit_fuel_irrel (comp : AM) (s uf : Nat)
    (hclosed : comp.vg.Closed) :
    ∀ (f1 f2 : Nat) (st : JState) (v : Nat), Inv comp st → v ∉ st.blocked → v ∈ comp.verts →
      comp.verts.length ≤ f1 + st.stack.length → comp.verts.length ≤ f2 + st.stack.length →
      circuit comp s uf f1 st v = circuit comp s uf f2 st v := by
  intro f1
  induction f1 with
  | zero =>
    intro f2 st v hinv hv hvc h1 _
    exact absurd h1 (hinv.not_fuel_zero hv hvc)
  | succ f1 ih =>
    intro f2 st v hinv hv hvc h1 h2
    cases f2 with
    | zero => exact absurd h2 (hinv.not_fuel_zero hv hvc)
    | succ f2 =>
      rw [circuit_succ, circuit_succ]
      congr 1
      -- the two loops run through the same states, which keep `Inv` and the stack `st.stack ++ [v]`
      refine (List.foldl_rel (r := fun a b => a = b ∧ Inv comp a.2 ∧ a.2.stack = st.stack ++ [v])
        ⟨rfl, hinv.push hv hvc, rfl⟩ ?_).1
      rintro w hwv acc _ ⟨rfl, hi, hst⟩
      have hpost := circuitStep_post comp s f1 (circuit comp s uf f1) (circuit_post comp s uf hclosed f1)
        hclosed st.stack v h1 w acc hwv hi hst
      refine ⟨?_, hpost.inv, hpost.stack⟩
      by_cases hws : w = s
      · subst hws; rw [circuitStep_emit, circuitStep_emit]
      · cases hbl : acc.2.isBlocked w with
        | true => rw [circuitStep_skip hws hbl, circuitStep_skip hws hbl]
        | false =>
          obtain ⟨hwc, hlen1⟩ := rec_pre hclosed hi hst hwv h1
          rw [circuitStep_call hws hbl, circuitStep_call hws hbl,
            ih f2 acc.2 w hi ((not_mem_blocked_iff acc.2 w).1 hbl) hwc hlen1
              (rec_pre hclosed hi hst hwv h2).2]

/-- `index[x]` (0 for a vertex without index). -/
def TState.idxOf (st : TState) (x : Nat) : Nat := (st.index.lookup x).getD 0
/-- `index.contains_key(x)`. -/
def TState.indexed (st : TState) (x : Nat) : Prop := (st.index.lookup x).isSome = true
def PoppedIn (cs : List (List Nat)) (x : Nat) : Prop := ∃ c ∈ cs, x ∈ c
def TState.Popped (st : TState) (x : Nat) : Prop := PoppedIn st.comps x

theorem indexed_iff {st : TState} {x : Nat} : st.indexed x ↔ ∃ k, st.index.lookup x = some k := by
  unfold TState.indexed
  cases st.index.lookup x <;> simp

/-- The classical bundle of state invariants of Tarjan's algorithm: stack ↔ on_stack, indices
increase along the stack, indexed = stack ∪ popped, `low ≤ index` on the stack, every prefix of
the emitted components is closed under out-arcs, components pairwise disjoint. -/
structure GI (a : AM) (st : TState) : Prop where
  on : ∀ x, x ∈ st.onStack ↔ x ∈ st.stack
  nd : st.stack.Nodup
  ix : ∀ x ∈ st.stack, st.indexed x
  lt : ∀ x k, st.index.lookup x = some k → k < st.i
  ord : List.Pairwise (fun x y => st.idxOf y < st.idxOf x) st.stack
  cov : ∀ x, st.indexed x → x ∈ st.stack ∨ st.Popped x
  dis : ∀ x ∈ st.stack, ¬ st.Popped x
  pix : ∀ x, st.Popped x → st.indexed x
  low : ∀ x ∈ st.stack, st.lowOf x ≤ st.idxOf x
  clp : ∀ pre post, st.comps = pre ++ post → ∀ q, PoppedIn pre q → ∀ y ∈ a.out q, PoppedIn pre y
  disj : ∀ pre c post, st.comps = pre ++ c :: post → ∀ x ∈ c, ¬ PoppedIn pre x

/-- `cur'` is a later state of the same loop of `connect(u)`. -/
structure Mono (u : Nat) (cur cur' : TState) : Prop where
  mix : ∀ x k, cur.index.lookup x = some k → cur'.index.lookup x = some k
  mlow : cur'.lowOf u ≤ cur.lowOf u
  mlw : ∀ x, cur.indexed x → x ≠ u → cur'.lowOf x = cur.lowOf x
  mstk : ∀ y, cur.indexed y → y ∈ cur'.stack → y ∈ cur.stack

theorem Mono.indexed {u : Nat} {cur cur' : TState} (h : Mono u cur cur') {x : Nat} (hx : cur.indexed x) :
    cur'.indexed x := by
  obtain ⟨k, hk⟩ := indexed_iff.1 hx
  exact indexed_iff.2 ⟨k, h.mix x k hk⟩

def unidx (a : AM) (st : TState) : Nat := (a.verts.filter (fun x => (st.index.lookup x).isNone)).length

theorem unidx_le_order (a : AM) (st : TState) : unidx a st ≤ a.order :=
  List.length_filter_le _ _

def IxLe (st st' : TState) : Prop := ∀ x k, st.index.lookup x = some k → st'.index.lookup x = some k

theorem IxLe.trans {s1 s2 s3 : TState} (h1 : IxLe s1 s2) (h2 : IxLe s2 s3) : IxLe s1 s3 :=
  fun x k h => h2 x k (h1 x k h)

theorem IxLe.of_index_eq {st st' : TState} (h : st'.index = st.index) : IxLe st st' :=
  fun _ _ hx => h ▸ hx

theorem ixLe_push {st : TState} {u : Nat} (hn : st.index.lookup u = none) : IxLe st (st.push u) := by
  intro x k hx
  show List.lookup x ((u, st.i) :: st.index) = some k
  rw [lookup_cons_eq, if_neg]
  · exact hx
  · intro e; subst e; rw [hn] at hx; cases hx

theorem connectFinish_index (u : Nat) (st : TState) : (connectFinish u st).index = st.index := by
  unfold connectFinish
  split <;> rfl

theorem connectStep_ixLe {rec : TState → Nat → TState}
    (hrec : ∀ st v, st.index.lookup v = none → IxLe st (rec st v)) (u : Nat) (st : TState) (v : Nat) :
    IxLe st (connectStep rec u st v) := by
  cases hi : st.index.lookup v with
  | none => rw [connectStep_fresh hi]; exact hrec st v hi
  | some w =>
    cases hon : st.onStack.contains v with
    | true => rw [connectStep_onStack hi hon]; exact IxLe.of_index_eq rfl
    | false => rw [connectStep_offStack hi hon]; exact IxLe.of_index_eq rfl

theorem connect_ixLe (a : AM) : ∀ (fuel : Nat) (st : TState) (u : Nat), st.index.lookup u = none →
    IxLe st (connect a fuel st u) := by
  intro fuel
  induction fuel with
  | zero => exact fun _ _ _ => IxLe.of_index_eq rfl
  | succ fuel ih =>
    intro st u hn
    rw [connect_succ]
    exact (Fold.foldl_inv (IxLe st) (fun c v _ hc => hc.trans (connectStep_ixLe ih u c v)) _
      (ixLe_push hn)).trans (IxLe.of_index_eq (connectFinish_index u _))

theorem unidx_le_of_ixLe (a : AM) {st st' : TState} (h : IxLe st st') : unidx a st' ≤ unidx a st := by
  apply filter_length_le
  intro x _ hx
  cases hk : st.index.lookup x with
  | none => rfl
  | some k => rw [h x k hk] at hx; cases hx

theorem unidx_push_lt (a : AM) (st : TState) (u : Nat) (hu : u ∈ a.verts) (hn : st.index.lookup u = none) :
    unidx a (st.push u) < unidx a st := by
  apply filter_length_lt _ _ _ _ u hu
  · rw [hn]; rfl
  · show (List.lookup u ((u, st.i) :: st.index)).isNone = false
    rw [lookup_cons_eq, if_pos rfl]; rfl
  · intro x _ hx
    cases hk : st.index.lookup x with
    | none => rfl
    | some k => rw [ixLe_push hn x k hk] at hx; cases hx

theorem connect_fuel_irrel (a : AM) (hcl : a.vg.Closed) :
    ∀ (f1 f2 : Nat) (st : TState) (u : Nat), st.index.lookup u = none → u ∈ a.verts →
      unidx a st < f1 → unidx a st < f2 → connect a f1 st u = connect a f2 st u := by
  intro f1
  induction f1 with
  | zero => intro f2 st u _ _ h _; exact absurd h (Nat.not_lt_zero _)
  | succ f1 ih =>
    intro f2 st u hstu hu h1 h2
    cases f2 with
    | zero => exact absurd h2 (Nat.not_lt_zero _)
    | succ f2 =>
      rw [connect_succ, connect_succ]
      congr 1
      have hlt := unidx_push_lt a st u hu hstu
      -- the two loops run through the same states, in which ever fewer vertices are unindexed
      refine (List.foldl_rel (r := fun c c' => c = c' ∧ unidx a c < f1 ∧ unidx a c < f2)
        ⟨rfl, Nat.lt_of_lt_of_le hlt (Nat.le_of_lt_succ h1), Nat.lt_of_lt_of_le hlt (Nat.le_of_lt_succ h2)⟩ ?_).1
      rintro y hy cur _ ⟨rfl, g1, g2⟩
      have hle := unidx_le_of_ixLe a (connectStep_ixLe (connect_ixLe a f1) u cur y)
      refine ⟨?_, Nat.lt_of_le_of_lt hle g1, Nat.lt_of_le_of_lt hle g2⟩
      cases hlk : cur.index.lookup y with
      | some w => simp only [connectStep, hlk]
      | none => rw [connectStep_fresh hlk, connectStep_fresh hlk, ih f2 cur y hlk (hcl u hu y hy) g1 g2]

theorem tarjanFuel_irrel (a : AM) (hcl : a.vg.Closed) (f : Nat)
    (hf : a.order < f) : tarjanFuel a f = tarjanFuel a (a.order + 1) := by
  refine (List.foldl_rel (r := fun c c' => c = c') rfl ?_)
  rintro v hv st _ rfl
  cases hix : st.index.lookup v with
  | some k => rfl
  | none =>
    have hle := unidx_le_order a st
    simp only [Option.isSome_none, Bool.false_eq_true, if_false]
    exact connect_fuel_irrel a hcl f (a.order + 1) st v hix hv (Nat.lt_of_le_of_lt hle hf)
      (Nat.lt_succ_of_le hle)

end GraafVerif.Johnson
