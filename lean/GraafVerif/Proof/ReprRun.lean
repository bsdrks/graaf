import GraafVerif.Model.ReprEqHist
import GraafVerif.Proof.ReprObs
/-!
# What the five representation proofs share (`Proof/ReprEL`, `ReprAL`, `ReprW`, `ReprAM`, `ReprMX`)

`WF` of every representation is a structural part (`Shape`: sortedness, lengths, no residue bits) together
with the validity of the abstract digraph (`Proof/ReprObs.lean`, read through `valid_iff_simple`); the calls
preserve the shape and refine the spec from the shape alone, and the spec preserves validity
(`step_WF_of_shape`).  A value with `Shape` is determined by its reads, hence by its abstract digraph
(`determined_of_ext`).
-/
namespace GraafVerif.Repr
open GraafVerif.ReprSpec

def Refines {σ α ο : Type} (P : σ → Prop) (abs : σ → α) (r : σ × ο) (t : α × ο) : Prop :=
  P r.1 ∧ abs r.1 = t.1 ∧ r.2 = t.2

theorem run_refines_gen {σ ο α : Type} (step : σ → ο → σ × Out) (sstep : α → ο → α × Out)
    (WF : σ → Prop) (abs : σ → α)
    (hWF : ∀ r op, WF r → WF (step r op).1)
    (href : ∀ r op, WF r → abs (step r op).1 = (sstep (abs r) op).1 ∧ (step r op).2 = (sstep (abs r) op).2) :
    ∀ (ops : List ο) (r : σ), WF r →
      WF (run step r ops).1 ∧ abs (run step r ops).1 = (run sstep (abs r) ops).1 ∧
      (run step r ops).2 = (run sstep (abs r) ops).2 := by
  intro ops
  induction ops with
  | nil => intro r h; exact ⟨h, rfl, rfl⟩
  | cons op ops ih =>
    intro r h
    have h2 := href r op h
    have h3 := ih (step r op).1 (hWF r op h)
    refine ⟨h3.1, ?_, ?_⟩
    · exact h3.2.1.trans (congrArg (fun s => (run sstep s ops).1) h2.1)
    · exact congr (congrArg List.cons h2.2) (h3.2.2.trans (congrArg (fun s => (run sstep s ops).2) h2.1))

/-- What `X.run_refines` says of a representation. -/
def RunRefines {σ ο α : Type} (WF : σ → Prop) (abs : σ → α) (step : σ → ο → σ × Out) (sstep : α → ο → α × Out) : Prop :=
  ∀ (ops : List ο) (r : σ), WF r → Refines WF abs (run step r ops) (run sstep (abs r) ops)

theorem run_append {σ ο : Type} (step : σ → ο → σ × Out) (s : σ) (xs ys : List ο) :
    run step s (xs ++ ys) =
      ((run step (run step s xs).1 ys).1, (run step s xs).2 ++ (run step (run step s xs).1 ys).2) := by
  induction xs generalizing s with
  | nil => rfl
  | cons x xs ih => simp only [List.cons_append, run, ih]

theorem step_WF_of_shape {σ ο ω : Type} {WF Shape : σ → Prop} {abs : σ → SpecState ω}
    {step : σ → ο → σ × Out} {sstep : SpecState ω → ο → SpecState ω × Out}
    (hWF : ∀ d, WF d ↔ Shape d ∧ (abs d).Valid)
    (hvalid : ∀ s op, s.Valid → (sstep s op).1.Valid)
    (hstep : ∀ d op, Shape d → Refines Shape abs (step d op) (sstep (abs d) op))
    (d : σ) (op : ο) (h : WF d) : WF (step d op).1 := by
  obtain ⟨hs, hv⟩ := (hWF d).mp h
  obtain ⟨hs', ha, _⟩ := hstep d op hs
  exact (hWF _).mpr ⟨hs', ha ▸ hvalid _ op hv⟩

theorem valid_iff_simple {ω : Type} {s : SpecState ω} {verts : List Nat} {has : Nat → Nat → Bool}
    (hV : ∀ x, x ∈ verts ↔ s.V x = true) (hA : ∀ u v, s.A u v = has u v) : s.Valid ↔ Simple verts has :=
  forall_congr' fun u => forall_congr' fun v => by
    rw [hA, hV, hV]
    exact imp_congr_right fun _ => ⟨fun h => ⟨h.2.1, h.2.2, h.1⟩, fun h => ⟨h.2.2, h.1, h.2.1⟩⟩

theorem outOfOpt_none {σ : Type} (old : σ) : outOfOpt old none = (old, .panic) := rfl
theorem outOfOpt_some {σ : Type} (old d : σ) : outOfOpt old (some d) = (d, .unit) := rfl

theorem guarded_refines {σ α : Type} {P : σ → Prop} {abs : σ → α} {d x : σ} {c : Bool} {t : α} (h : P d)
    (hx : c = false → P x ∧ abs x = t) :
    Refines P abs (outOfOpt d (if c = true then none else some x))
      (if c = true then (abs d, Out.panic) else (t, .unit)) := by
  cases c
  · exact ⟨(hx rfl).1, (hx rfl).2, rfl⟩
  · exact ⟨h, rfl, rfl⟩

/-- The three asserts of a fixed-order `add_arc` / `toggle` are the spec's `rejected`. -/
theorem fixed_guard {α ω : Type} (n : Nat) (W : Nat → Nat → Option ω) (u v : Nat) (x : α) :
    (if u = v then none else if ¬ u < n then none else if ¬ v < n then none else some x) =
      if rejected .fixed (⟨fun x => decide (x < n), W⟩ : SpecState ω) u v = true then none else some x := by
  by_cases h1 : u = v <;> by_cases h2 : u < n <;> by_cases h3 : v < n <;> simp [rejected, h1, h2, h3]

theorem accepted_fixed_range {ω : Type} {n : Nat} {W : Nat → Nat → Option ω} {u v : Nat}
    (h : rejected .fixed (⟨fun x => decide (x < n), W⟩ : SpecState ω) u v = false) : u ≠ v ∧ u < n ∧ v < n :=
  have h' := (rejected_eq_false .fixed _ u v).mp h
  ⟨h'.1, of_decide_eq_true (h'.2 rfl).1, of_decide_eq_true (h'.2 rfl).2⟩

theorem rejected_growing {ω : Type} (s : SpecState ω) (u v : Nat) : rejected .growing s u v = decide (u = v) :=
  Bool.or_false _

theorem growing_guard {α ω : Type} (s : SpecState ω) (u v : Nat) (x : α) :
    (if u = v then none else some x) = if rejected .growing s u v = true then none else some x := by
  rw [rejected_growing]
  exact ite_congr (decide_eq_true_eq ..).symm (fun _ => rfl) (fun _ => rfl)

theorem lt_of_decide_lt_eq {n m : Nat} (h : (fun x => decide (x < n)) = (fun x => decide (x < m))) : n = m :=
  eq_of_lt_iff_lt fun v => decide_eq_decide.mp (congrFun h v)

theorem addV_of_mem {V : Nat → Bool} {u : Nat} (h : V u = true) : addV V u = V := by
  funext a
  show (decide (a = u) || V a) = V a
  by_cases e : a = u
  · rw [e, h]; exact Bool.or_true _
  · rw [decide_eq_false e]; exact Bool.false_or _

theorem grow_of_endpoints {k : Kind} {V : Nat → Bool} {u v : Nat} (h : k = .growing → V u = true ∧ V v = true) :
    grow k V u v = V := by
  cases k
  · rfl
  · show addV (addV V u) v = V
    rw [addV_of_mem (h rfl).1, addV_of_mem (h rfl).2]

theorem setW_setW {ω : Type} (W : Nat → Nat → Option ω) (u v : Nat) (x y : Option ω) :
    setW (setW W u v x) u v y = setW W u v y := by
  funext a b; simp only [setW]; split <;> rfl

theorem setW_self {ω : Type} (W : Nat → Nat → Option ω) (u v : Nat) : setW W u v (W u v) = W := by
  funext a b; simp only [setW]; split
  · rename_i h; rw [h.1, h.2]
  · rfl

theorem setW_comm {ω : Type} (W : Nat → Nat → Option ω) (u v x y : Nat) (a b : Option ω) (hne : ¬ (u = x ∧ v = y)) :
    setW (setW W u v a) x y b = setW (setW W x y b) u v a := by
  funext p q
  simp only [setW]
  by_cases h1 : p = x ∧ q = y <;> by_cases h2 : p = u ∧ q = v
  · exact (hne ⟨h2.1 ▸ h1.1, h2.2 ▸ h1.2⟩).elim
  · rw [if_pos h1, if_neg h2, if_pos h1]
  · rw [if_neg h1, if_pos h2, if_pos h2]
  · rw [if_neg h1, if_neg h2, if_neg h2, if_neg h1]

theorem eq_setW_of_row {ω : Type} {W W' : Nat → Nat → Option ω} {u v : Nat} {x : Option ω}
    (hrow : ∀ b, W' u b = if b = v then x else W u b) (hother : ∀ a, a ≠ u → ∀ b, W' a b = W a b) :
    W' = setW W u v x := by
  funext a b
  show _ = if a = u ∧ b = v then x else W a b
  by_cases ha : a = u
  · rw [ha, hrow b]
    by_cases hb : b = v
    · rw [if_pos hb, if_pos ⟨rfl, hb⟩]
    · rw [if_neg hb, if_neg (fun h => hb h.2)]
  · rw [hother a ha b, if_neg (fun h => ha h.1)]

theorem rejected_setW {ω : Type} (s : SpecState ω) (W' : Nat → Nat → Option ω) (u v : Nat) :
    rejected .fixed (⟨s.V, W'⟩ : SpecState ω) u v = rejected .fixed s u v := rfl

theorem specStep_add_fixed {ω : Type} (s : SpecState ω) (u v : Nat) (w : ω) :
    (specStep .fixed s (.add u v w)).1 = ⟨s.V, bif rejected .fixed s u v then s.W else setW s.W u v (some w)⟩ := by
  cases h : rejected .fixed s u v
  · rw [specStep_add_ok w h]; rfl
  · rw [specStep_add_rej w h]; rfl

theorem rem_absent {ω : Type} {s : SpecState ω} {u v : Nat} (h : s.W u v = none) :
    s = ⟨s.V, setW s.W u v none⟩ ∧ false = s.A u v :=
  ⟨by rw [← h, setW_self], by rw [SpecState.A, h]; rfl⟩

@[simp] theorem unitOf_isSome (b : Bool) : (unitOf b).isSome = b := by cases b <;> rfl

theorem unitOf_congr {b c : Bool} (h : b = true ↔ c = true) : unitOf b = unitOf c := by
  cases b <;> cases c <;> simp_all

theorem unitOf_inj {b c : Bool} (h : unitOf b = unitOf c) : b = c := by
  cases b <;> cases c <;> simp_all [unitOf]

/-- Equal abstract digraphs show the same vertices and arcs, so by the extensionality of the
representation in its reads the structures are equal. -/
theorem determined_of_ext {σ : Type} {WF Shape : σ → Prop} {abs : σ → SpecState Unit}
    {verts : σ → List Nat} {has : σ → Nat → Nat → Bool}
    (hshape : ∀ d, WF d → Shape d) (hV : ∀ d, WF d → ∀ x, x ∈ verts d ↔ (abs d).V x = true)
    (hW : ∀ d u v, (abs d).W u v = unitOf (has d u v))
    (hext : ∀ {a b : σ}, Shape a → Shape b → (∀ x, x ∈ verts a ↔ x ∈ verts b) →
      (∀ u v, has a u v = has b u v) → a = b)
    (d₁ d₂ : σ) (h₁ : WF d₁) (h₂ : WF d₂) : abs d₁ = abs d₂ ↔ d₁ = d₂ :=
  ⟨fun h => hext (hshape d₁ h₁) (hshape d₂ h₂) (fun x => by rw [hV d₁ h₁, hV d₂ h₂, h])
    (fun u v => unitOf_inj (by rw [← hW, ← hW, h])), fun h => h ▸ rfl⟩

@[simp] theorem unitOf_true : unitOf true = some () := rfl
@[simp] theorem unitOf_false : unitOf false = none := rfl

theorem unitOf_contains_insert {α : Type} [BEq α] [LawfulBEq α] [DecidableEq α] {l l' : List α} {x : α}
    (h : ∀ a, a ∈ l' ↔ a = x ∨ a ∈ l) (a : α) :
    unitOf (l'.contains a) = if a = x then some () else unitOf (l.contains a) := by
  by_cases e : a = x
  · rw [if_pos e, List.contains_iff_mem.mpr ((h a).mpr (Or.inl e))]; rfl
  · rw [if_neg e]
    exact unitOf_congr (by rw [List.contains_iff_mem, List.contains_iff_mem, h a]; exact or_iff_right e)

theorem unitOf_contains_erase {α : Type} [BEq α] [LawfulBEq α] [DecidableEq α] {l l' : List α} {x : α}
    (h : ∀ a, a ∈ l' ↔ a ∈ l ∧ a ≠ x) (a : α) :
    unitOf (l'.contains a) = if a = x then none else unitOf (l.contains a) := by
  by_cases e : a = x
  · rw [if_pos e, Bool.eq_false_iff.mpr (fun hc => ((h a).mp (List.contains_iff_mem.mp hc)).2 e)]; rfl
  · rw [if_neg e]
    exact unitOf_congr (by rw [List.contains_iff_mem, List.contains_iff_mem, h a]; exact and_iff_left e)

/-! ## Rows that are `BTreeSet<usize>` (`AdjacencyList`, `AdjacencyMap`) -/

/-- The answer of a row to "is `v` a member": the entry of the abstract arc function. -/
def setLook (r : List Nat) (v : Nat) : Option Unit := unitOf (r.contains v)

theorem setLook_sinsert (v : Nat) (r : List Nat) (b : Nat) :
    setLook (sinsert v r) b = if b = v then some () else setLook r b :=
  unitOf_contains_insert (fun _ => mem_sinsert) b

theorem setLook_serase (v : Nat) {r : List Nat} (h : SortedS r) (b : Nat) :
    setLook (serase v r) b = if b = v then none else setLook r b :=
  unitOf_contains_erase (fun _ => mem_serase h) b

end GraafVerif.Repr
