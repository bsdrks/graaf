import GraafVerif.Model.ChkRepr
import GraafVerif.Proof.ChkPar
import GraafVerif.Proof.ChkHoare
/-!
# `AdjacencyList` — C13, P1

The unchecked accesses indexed by a loop variable are in range for arbitrary rows and every thread
count; those indexed by a SUCCESSOR (`converse`, `indegree_sequence`, `degree_sequence`) are in range
under `RowsWF`.  `has_walk`, `merge_two_sorted` and the loop of `random_tournament` are the ones
`AdjacencyMap` has too.  Here: the loops and what the functions share; the theorem of each function is in `Thm/C13.lean`.
-/
namespace GraafVerif.Chk

theorem bump_spec {site : String} {n : Nat} {cnt : List Nat} {v : Nat} (hc : cnt.length = n) (hv : v < n) :
    Sat (bump site cnt v) (fun c' => c'.length = n) :=
  Sat.rdWr hc hv

/-- The histogram loop `for row in rows { for v in row { hist[v] += 1 } }` keeps the length of `hist` when the rows' entries
are indices of it. -/
theorem histRows_sat {site : String} {n : Nat} {rows : List (List Nat)} (h : ∀ row ∈ rows, ∀ v ∈ row, v < n)
    {cnt : List Nat} (hc : cnt.length = n) :
    Sat (rows.foldlM (fun (cnt : List Nat) row => row.foldlM (bump site) cnt) cnt) (fun c' => c'.length = n) :=
  Sat.foldlM (fun _ row hrow hc => Sat.foldlM (fun _ v hv hcl => bump_spec hcl (h row hrow v hv)) hc) hc

/-! ### indexed by an argument or a loop variable: arbitrary rows -/

theorem hasWalkPtr_go_noUB (site : String) (hasArc : Nat → Nat → Bool) (walk : List Nat) :
    ∀ (fuel i : Nat), NoUB (hasWalkPtr.go site hasArc walk fuel i) := by
  intro fuel
  induction fuel with
  | zero => intro i; exact noUB_pure _
  | succ fuel ih =>
    intro i
    unfold hasWalkPtr.go
    refine noUB_ite (fun hlt => ?_) (fun _ => noUB_pure _)
    have hnext : i + 1 < walk.length := Nat.add_lt_of_lt_sub hlt
    refine noUB_bind (noUB_rd (Nat.lt_of_succ_lt hnext)) fun _ _ => noUB_bind (noUB_rd hnext) fun _ _ => ?_
    exact noUB_ite (fun _ => noUB_pure _) fun _ => noUB_bind (noUB_chkOff (Nat.le_of_lt hnext)) (fun _ _ => ih _)

theorem randomTournamentRows_spec {site : String} {order : Nat} {us : List Nat} {coin : Nat → Nat → Bool}
    (hus : ∀ u ∈ us, u < order) {arcs : Rows} (ha : arcs.length = order) :
    Sat (randomTournamentRows site order us coin arcs) (fun r => r.length = order) := by
  unfold randomTournamentRows
  refine Sat.foldlM (fun a u hu hal => Sat.foldlM (fun a' v hv hal' => ?_) hal) ha
  exact Sat.ite (fun _ => Sat.rdWr hal' (hus u hu)) (fun _ => Sat.rdWr hal' (mem_forRange hv).2)

theorem mergeMain_noUB (site : String) (lhs rhs : List Nat) :
    ∀ (fuel i j : Nat) (out : List Nat), NoUB (mergeMain site lhs rhs fuel i j out) := by
  intro fuel
  induction fuel with
  | zero => intro i j out; exact noUB_pure _
  | succ fuel ih =>
    intro i j out
    unfold mergeMain
    refine noUB_ite (fun hc => ?_) (fun _ => noUB_pure _)
    refine noUB_bind (noUB_rd (of_decide_and hc).1) fun _ _ => noUB_bind (noUB_rd (of_decide_and hc).2) fun _ _ => ?_
    exact noUB_ite (fun _ => ih _ _ _) fun _ => noUB_ite (fun _ => ih _ _ _) fun _ => ih _ _ _

theorem mergeTail_noUB (site : String) (l : List Nat) :
    ∀ (fuel i : Nat) (out : List Nat), NoUB (mergeTail site l fuel i out) := by
  intro fuel
  induction fuel with
  | zero => intro i out; exact noUB_pure _
  | succ fuel ih =>
    intro i out
    unfold mergeTail
    exact noUB_ite (fun hc => noUB_bind (noUB_rd hc) (fun _ _ => ih _ _)) (fun _ => noUB_pure _)

/-- For arbitrary slices, sorted or not. -/
theorem mergeTwoSorted_noUB (site : String) (lhs rhs : List Nat) : NoUB (mergeTwoSorted site lhs rhs) := by
  unfold mergeTwoSorted
  refine noUB_bind (mergeMain_noUB site lhs rhs _ _ _ _) fun r _ => ?_
  obtain ⟨out, i, j⟩ := r
  exact noUB_bind (mergeTail_noUB site lhs _ _ _) (fun _ _ => mergeTail_noUB site rhs _ _ _)

theorem noUB_rdIf {α : Type} (site : String) (l : List α) (u : Nat) (d : α) :
    NoUB (if u < l.length then rd site l u else pure d) :=
  noUB_ite noUB_rd (fun _ => noUB_pure _)

theorem complementRow_noUB (full out : List Nat) (u : Nat) :
    ∀ (fuel i j : Nat) (diff : List Nat), NoUB (complementRow full out u fuel i j diff) := by
  intro fuel
  induction fuel with
  | zero => intro i j diff; exact noUB_pure _
  | succ fuel ih =>
    intro i j diff
    unfold complementRow
    refine noUB_ite (fun hc => ?_) (fun _ => noUB_ite (fun hi => ?_) (fun _ => noUB_pure _))
    · refine noUB_bind (noUB_rd (of_decide_and hc).1) fun _ _ => noUB_ite (fun _ => ih _ _ _) fun _ => ?_
      exact noUB_bind (noUB_rd (of_decide_and hc).2) fun _ _ => noUB_ite (fun _ => ih _ _ _) fun _ => ih _ _ _
    · exact noUB_bind (noUB_rd hi) (fun _ _ => ih _ _ _)

/-- The workers of `complement` produce the rows `0..order` exactly once, in order. -/
theorem alComplement_rows_once (order t : Nat) (ht : 0 < t) (hn : 0 < order) :
    expandRanges (threadRanges order (min order t)) = List.range order :=
  chunks_tile order (min order t) (Nat.lt_min.mpr ⟨hn, ht⟩) hn

/-! ### indexed by a successor: under `RowsWF` -/

theorem chunksOf_mem {α : Type} (k : Nat) : ∀ (fuel : Nat) (l : List α) (ch : List α) (x : α),
    ch ∈ chunksOf k fuel l → x ∈ ch → x ∈ l := by
  intro fuel
  induction fuel with
  | zero => intro l ch x h; cases h
  | succ fuel ih =>
    intro l ch x h hx
    unfold chunksOf at h
    split at h
    · cases h
    · rcases List.mem_cons.mp h with h | h
      · rw [h] at hx; exact List.mem_of_mem_take hx
      · exact List.mem_of_mem_drop (ih _ ch x h hx)

theorem alDegreeSequence_noUB (rows : Rows) (hwf : RowsWF rows) (t : Nat) : NoUB (alDegreeSequence rows t) := by
  unfold alDegreeSequence
  refine noUB_bind (noUB_assert _) fun _ _ => ?_
  -- the workers: every local vector keeps the length `order`
  refine (Sat.mapM (P := fun (loc : List Nat) => loc.length = rows.length) ?_).noUB_bind fun locals hlocals => ?_
  · intro p hp
    obtain ⟨hch, hloc⟩ := List.of_mem_zip hp
    exact histRows_sat (fun row hrow => hwf row (chunksOf_mem _ _ _ _ _ hch hrow))
      (by rw [List.eq_of_mem_replicate hloc, List.length_replicate])
  -- summing up: `vertex` runs over the indices of a local vector
  refine (Sat.foldlM (I := fun (ind : List Nat) => ind.length = rows.length) ?_ (List.length_replicate ..)).noUB_bind
    fun indeg hil => ?_
  · intro ind loc hloc hind
    refine Sat.foldlM ?_ hind
    intro c q hq hcl
    exact Sat.rdWr hcl (hlocals.1 loc hloc ▸ List.mem_range.mp (List.of_mem_zip hq).1)
  refine noUB_mapM fun u hu => ?_
  rw [List.mem_range] at hu
  exact noUB_bind (noUB_rd (hil ▸ hu)) fun _ _ => noUB_bind (noUB_rd hu) fun _ _ => noUB_pure _

end GraafVerif.Chk
