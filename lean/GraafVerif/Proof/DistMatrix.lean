import GraafVerif.Spec.DistMatrix
import GraafVerif.Proof.VecLemmas
/-! Lemmas for C18 (`DistanceMatrix`): `chunks` yields the rows, a row is the list of its cells,
`maxOr` is the maximum, the running-minimum loop of `center` yields the ascending argmin list. -/
namespace GraafVerif.DistMatrix

theorem getElem?_some_lt {α : Type} {l : List α} {i : Nat} {a : α} (h : l[i]? = some a) : i < l.length :=
  (List.getElem?_eq_some_iff.mp h).1

theorem get_ok {m : DM} (hw : WF m) {u v : Nat} (hu : u < m.order) (hv : v < m.order) :
    get m u v = .ok (cell m u v) := by
  have hlt : u * m.order + v < m.dist.length := hw.len ▸ flatIdx_lt hu hv
  rw [get, cell, List.getElem?_eq_getElem hlt]; rfl

theorem cell_mem {m : DM} (hw : WF m) {u v : Nat} (hu : u < m.order) (hv : v < m.order) :
    cell m u v ∈ m.dist := by
  have hlt : u * m.order + v < m.dist.length := hw.len ▸ flatIdx_lt hu hv
  rw [cell, List.getElem?_eq_getElem hlt]
  exact List.getElem_mem hlt

theorem row_getElem? (m : DM) {u v : Nat} (hv : v < m.order) :
    (row m u)[v]? = m.dist[u * m.order + v]? := by
  rw [row, List.getElem?_take, if_pos hv, List.getElem?_drop]

theorem row_eq_cells {m : DM} (hw : WF m) {u : Nat} (hu : u < m.order) :
    row m u = (List.range m.order).map (cell m u) := by
  apply List.ext_getElem?
  intro v
  by_cases hv : v < m.order
  · have hlt : u * m.order + v < m.dist.length := hw.len ▸ flatIdx_lt hu hv
    rw [row_getElem? m hv, List.getElem?_map, List.getElem?_range hv]
    show _ = some (cell m u v)
    rw [cell, List.getElem?_eq_getElem hlt]; rfl
  · rw [row, List.getElem?_take, if_neg hv, List.getElem?_eq_none (by rw [List.length_map, List.length_range]; exact Nat.le_of_not_lt hv)]

theorem chunksFuel_spec {α : Type} (k : Nat) (hk : 0 < k) :
    ∀ (n f : Nat) (l : List α), l.length = n * k → n ≤ f →
      chunksFuel k f l = (List.range n).map (fun i => (l.drop (i * k)).take k) := by
  intro n
  induction n with
  | zero =>
    intro f l hl _
    cases List.length_eq_zero_iff.mp (hl.trans (Nat.zero_mul k))
    cases f <;> rfl
  | succ n ih =>
    intro f l hl hf
    have hdl : (l.drop k).length = n * k := by rw [List.length_drop, hl, Nat.succ_mul, Nat.add_sub_cancel]
    cases f with
    | zero => exact absurd hf (Nat.not_succ_le_zero n)
    | succ f =>
    cases l with
    | nil => exact absurd hl (Nat.ne_of_lt (Nat.mul_pos (Nat.succ_pos n) hk))
    | cons x xs =>
      rw [chunksFuel, ih f _ hdl (Nat.le_of_succ_le_succ hf), List.range_succ_eq_map, List.map_cons,
        List.map_map, Nat.zero_mul, List.drop_zero]
      refine congrArg _ (List.map_congr_left fun i _ => ?_)
      show ((x :: xs).drop k |>.drop (i * k)).take k = ((x :: xs).drop ((i + 1) * k)).take k
      rw [List.drop_drop, Nat.succ_mul, Nat.add_comm k]

theorem chunks_rows {m : DM} (hw : WF m) :
    chunks m.order m.dist = (List.range m.order).map (row m) :=
  chunksFuel_spec m.order hw.order_pos m.order m.dist.length m.dist hw.len
    (hw.len ▸ Nat.le_mul_of_pos_right _ hw.order_pos)

theorem maxOr_spec (d : Int) {l : List Int} (hl : l ≠ []) :
    maxOr d l ∈ l ∧ ∀ x ∈ l, x ≤ maxOr d l := by
  cases l with
  | nil => exact absurd rfl hl
  | cons x xs => exact List.max?_eq_some_iff.mp List.max?_cons'

theorem ecc_eq {m : DM} (hw : WF m) :
    ecc m = (List.range m.order).map (fun u => maxOr m.infinity (row m u)) := by
  rw [ecc, chunks_rows hw, List.map_map]; rfl

theorem ecc_length {m : DM} (hw : WF m) : (ecc m).length = m.order := by
  rw [ecc_eq hw, List.length_map, List.length_range]

theorem ecc_isMax {m : DM} (hw : WF m) {u : Nat} (hu : u < m.order) :
    ∃ e, (ecc m)[u]? = some e ∧ (∃ v, v < m.order ∧ cell m u v = e) ∧
      ∀ v, v < m.order → cell m u v ≤ e := by
  have hrow := row_eq_cells hw hu
  have hne : row m u ≠ [] := fun h => absurd ((congrArg List.length (hrow.symm.trans h)).symm.trans
    ((List.length_map ..).trans List.length_range)) (Nat.ne_of_lt hw.order_pos)
  have hget : (ecc m)[u]? = some (maxOr m.infinity (row m u)) := by
    rw [ecc_eq hw, List.getElem?_map, List.getElem?_range hu]; rfl
  obtain ⟨h1, h2⟩ := maxOr_spec m.infinity hne
  generalize maxOr m.infinity (row m u) = e at hget h1 h2
  rw [hrow] at h1 h2
  obtain ⟨v, hv, hc⟩ := List.mem_map.mp h1
  exact ⟨e, hget, ⟨v, List.mem_range.mp hv, hc⟩,
    fun v hv => h2 _ (List.mem_map_of_mem (List.mem_range.mpr hv))⟩

theorem mem_ecc {m : DM} (hw : WF m) {e : Int} (he : e ∈ ecc m) : ∃ u, u < m.order ∧ (ecc m)[u]? = some e := by
  obtain ⟨u, hu⟩ := List.mem_iff_getElem?.mp he
  exact ⟨u, ecc_length hw ▸ getElem?_some_lt hu, hu⟩

theorem ecc_ne_nil {m : DM} (hw : WF m) : ecc m ≠ [] := fun h =>
  absurd ((congrArg List.length h).symm.trans (ecc_length hw)) (Nat.ne_of_lt hw.order_pos)

theorem ecc_le_inf {m : DM} (hw : WF m) : ∀ e ∈ ecc m, e ≤ m.infinity := by
  intro e he
  obtain ⟨u, hu, heu⟩ := mem_ecc hw he
  obtain ⟨e', he', ⟨v, hv, hc⟩, _⟩ := ecc_isMax hw hu
  cases heu.symm.trans he'
  exact hc ▸ hw.le_inf _ (cell_mem hw hu hv)

theorem idxEq_cons_self (d : Int) (es : List Int) (i : Nat) :
    idxEq d (d :: es) i = i :: idxEq d es (i+1) := by
  rw [idxEq, if_pos (beq_self_eq_true d)]

theorem idxEq_cons_of_ne {d e : Int} (h : e ≠ d) (es : List Int) (i : Nat) :
    idxEq d (e :: es) i = idxEq d es (i+1) := by
  rw [idxEq, if_neg (by rw [beq_eq_false_iff_ne.mpr h]; exact Bool.false_ne_true)]

/-- `idxEq` is `enumerate().filter(..).map(index)`: membership, order and the all-equal case are facts
about `zipIdx`, `filter` and `range'`. -/
theorem idxEq_eq_filter (d : Int) : ∀ (es : List Int) (i : Nat),
    idxEq d es i = ((es.zipIdx i).filter (·.1 == d)).map (·.2) := by
  intro es
  induction es with
  | nil => intro i; rfl
  | cons e es ih =>
    intro i
    rw [idxEq, List.zipIdx_cons, List.filter_cons, ih]
    cases e == d <;> rfl

theorem mem_idxEq (d : Int) (es : List Int) (x : Nat) : x ∈ idxEq d es 0 ↔ es[x]? = some d := by
  simp [idxEq_eq_filter, List.mem_zipIdx_iff_getElem?]

theorem idxEq_sorted (d : Int) (es : List Int) (i : Nat) : (idxEq d es i).Pairwise (· < ·) := by
  rw [idxEq_eq_filter]
  exact (List.zipIdx_map_snd i es ▸ List.pairwise_lt_range').sublist (List.filter_sublist.map _)

theorem idxEq_all (d : Int) (es : List Int) (i : Nat) (h : ∀ e ∈ es, e = d) :
    idxEq d es i = List.range' i es.length := by
  rw [idxEq_eq_filter, List.filter_eq_self.mpr, List.zipIdx_map_snd]
  intro a ha
  exact beq_iff_eq.mpr (h _ (List.zipIdx_map_fst i es ▸ List.mem_map_of_mem ha))

/-- What the `center` loop computes, for ANY starting state: with `μ` the minimum of the
current `min` and the remaining eccentricities, the collected list is kept iff `μ` is not
smaller than the current `min`, and then the indices of the remaining entries equal to `μ`
are appended. -/
theorem centerLoop_eq : ∀ (es : List Int) (i : Nat) (c : List Nat) (mn μ : Int),
    μ = es.foldl min mn →
    centerLoop es i c mn = (if μ < mn then [] else c) ++ idxEq μ es i := by
  intro es
  induction es with
  | nil =>
    intro i c mn μ hμ
    cases hμ
    exact ((if_neg (Int.lt_irrefl mn)).symm ▸ (List.append_nil c).symm : c = (if mn < mn then [] else c) ++ [])
  | cons e es ih =>
    intro i c mn μ hμ
    rw [List.foldl_cons] at hμ
    have hle : μ ≤ min mn e := hμ ▸ (List.min?_eq_some_iff.mp List.min?_cons').2 _ List.mem_cons_self
    rw [centerLoop]
    cases hc : compare e mn with
    | lt =>
      have hlt : e < mn := Int.compare_eq_lt.mp hc
      rw [Int.min_eq_right (Int.le_of_lt hlt)] at hμ hle
      show centerLoop es (i+1) [i] e = _
      rw [ih _ _ _ μ hμ, if_pos (Int.lt_of_le_of_lt hle hlt), List.nil_append]
      by_cases h2 : μ < e
      · rw [if_pos h2, idxEq_cons_of_ne (Int.ne_of_gt h2)]; rfl
      · cases Int.le_antisymm hle (Int.not_lt.mp h2)
        rw [if_neg h2, idxEq_cons_self]; rfl
    | eq =>
      cases Int.compare_eq_eq.mp hc
      rw [Int.min_self] at hμ hle
      show centerLoop es (i+1) (c ++ [i]) e = _
      rw [ih _ _ _ μ hμ]
      by_cases h2 : μ < e
      · rw [if_pos h2, if_pos h2, idxEq_cons_of_ne (Int.ne_of_gt h2)]
      · cases Int.le_antisymm hle (Int.not_lt.mp h2)
        rw [if_neg h2, if_neg h2, idxEq_cons_self, List.append_assoc]; rfl
    | gt =>
      have hgt : mn < e := Int.compare_eq_gt.mp hc
      rw [Int.min_eq_left (Int.le_of_lt hgt)] at hμ hle
      show centerLoop es (i+1) c mn = _
      rw [ih _ _ _ μ hμ, idxEq_cons_of_ne (Int.ne_of_gt (Int.lt_of_le_of_lt hle hgt))]

theorem center_eq {m : DM} (hw : WF m) :
    ∃ μ, μ ∈ ecc m ∧ (∀ e ∈ ecc m, μ ≤ e) ∧ center m = idxEq μ (ecc m) 0 := by
  obtain ⟨h1, h3⟩ := List.min?_eq_some_iff.mp (List.min?_cons' (x := m.infinity) (xs := ecc m))
  refine ⟨(ecc m).foldl min m.infinity, ?_, fun e he => h3 e (List.mem_cons_of_mem _ he), ?_⟩
  · rcases List.mem_cons.mp h1 with h | h
    · -- the fold stayed at infinity: every eccentricity is infinity
      cases hE : ecc m with
      | nil => exact absurd hE (ecc_ne_nil hw)
      | cons e es =>
        have he : e ∈ ecc m := hE ▸ List.mem_cons_self
        rw [← hE, h, ← Int.le_antisymm (ecc_le_inf hw e he) (h ▸ h3 e (List.mem_cons_of_mem _ he))]
        exact he
    · exact h
  · rw [center, centerLoop_eq _ _ _ _ _ rfl]
    split <;> rfl

theorem center_all_inf {m : DM} (hw : WF m) (h : ∀ e ∈ ecc m, e = m.infinity) :
    center m = List.range m.order := by
  obtain ⟨μ, hμmem, _, hc⟩ := center_eq hw
  cases h μ hμmem
  rw [hc, idxEq_all _ (ecc m) 0 h, ecc_length hw, List.range_eq_range']

theorem connected_iff (m : DM) : isConnected m = true ↔ ∀ e ∈ ecc m, e ≠ m.infinity := by
  rw [isConnected, List.all_eq_true]
  exact forall_congr' fun e => imp_congr_right fun _ => bne_iff_ne

end GraafVerif.DistMatrix
