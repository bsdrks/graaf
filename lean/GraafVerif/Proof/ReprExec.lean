import GraafVerif.Spec.ReprExec
import GraafVerif.Proof.ReprRun
/-!
# The driver's list-set oracle is the spec

Every call of `LSpec` (`Spec/ReprExec.lean`) commutes with the abstraction to `SpecState`:
`put` is `specStep … (.add …)`, `remove` is `specStep … (.rem …)`, `toggle` is `specStepMx … (.tog …)`.
No invariant on the list is needed for this (a later `put` shadows / `drop` removes every
entry with the same endpoints).  On the weight function `cons` and `drop` are `setW`
(`wOf_cons`, `wOf_drop`); the unweighted view is the weighted one with the weights mapped away.
-/
namespace GraafVerif.ReprSpec.LSpec
open GraafVerif.Repr (setW_setW)

theorem isKey_iff (u v : Nat) (a : Nat × Nat × Int) : isKey u v a = true ↔ a.1 = u ∧ a.2.1 = v := by
  rw [isKey, Bool.and_eq_true, beq_iff_eq, beq_iff_eq]

theorem isKey_of_ne {a b u v : Nat} (h : ¬ (a = u ∧ b = v)) (w : Int) : isKey a b (u, v, w) = false :=
  Bool.eq_false_iff.mpr fun hk => h ⟨((isKey_iff a b _).mp hk).1.symm, ((isKey_iff a b _).mp hk).2.symm⟩

theorem find_drop_same (l : List (Nat × Nat × Int)) (u v : Nat) :
    (l.filter (fun a => !(isKey u v a))).find? (isKey u v) = none :=
  List.find?_eq_none.mpr fun x hx hk => by
    have := (List.mem_filter.mp hx).2
    rw [hk] at this; exact Bool.noConfusion this

theorem find_drop_other (l : List (Nat × Nat × Int)) (u v a b : Nat) (h : ¬ (a = u ∧ b = v)) :
    (l.filter (fun x => !(isKey u v x))).find? (isKey a b) = l.find? (isKey a b) := by
  induction l with
  | nil => rfl
  | cons x xs ih =>
    rw [List.filter_cons, List.find?_cons]
    cases hk : isKey u v x
    · rw [show (!false) = true from rfl, if_pos rfl, List.find?_cons, ih]
    · have hx : isKey a b x = false := Bool.eq_false_iff.mpr fun hab => h
        ⟨((isKey_iff a b x).mp hab).1.symm.trans ((isKey_iff u v x).mp hk).1,
         ((isKey_iff a b x).mp hab).2.symm.trans ((isKey_iff u v x).mp hk).2⟩
      rw [show (!true) = false from rfl, if_neg Bool.false_ne_true, hx, ih]

/-- The weight function of an arc list (`LSpec.weight` is `wOf` of the `arcs` field). -/
def wOf (l : List (Nat × Nat × Int)) (a b : Nat) : Option Int := (l.find? (isKey a b)).map (·.2.2)

theorem wOf_cons (l : List (Nat × Nat × Int)) (u v : Nat) (w : Int) :
    wOf ((u, v, w) :: l) = setW (wOf l) u v (some w) := by
  funext a b
  unfold wOf setW
  rw [List.find?_cons]
  by_cases h : a = u ∧ b = v
  · rw [if_pos h, (isKey_iff a b _).mpr ⟨h.1.symm, h.2.symm⟩]; rfl
  · rw [if_neg h, isKey_of_ne h]

theorem wOf_drop (l : List (Nat × Nat × Int)) (u v : Nat) :
    wOf (l.filter (fun x => !(isKey u v x))) = setW (wOf l) u v none := by
  funext a b
  unfold wOf setW
  by_cases h : a = u ∧ b = v
  · rw [if_pos h, h.1, h.2, find_drop_same]; rfl
  · rw [if_neg h, find_drop_other _ _ _ _ _ h]

/-- `put`: drop the old entries, cons the new one. -/
theorem wOf_put (l : List (Nat × Nat × Int)) (u v : Nat) (w : Int) :
    wOf ((u, v, w) :: l.filter (fun x => !(isKey u v x))) = setW (wOf l) u v (some w) := by
  rw [wOf_cons, wOf_drop, setW_setW]

theorem map_setW {ω ω' : Type} (f : ω → ω') (W : Nat → Nat → Option ω) (u v : Nat) (x : Option ω) :
    (fun a b => (setW W u v x a b).map f) = setW (fun a b => (W a b).map f) u v (x.map f) := by
  funext a b; exact apply_ite (Option.map f) _ _ _

theorem has_eq (s : LSpec) (u v : Nat) : s.has u v = (s.weight u v).isSome := by
  unfold has weight
  rw [Option.isSome_map, Bool.eq_iff_iff, List.any_eq_true, List.find?_isSome]

theorem rejects_eq {ω : Type} (s : LSpec) (W : Nat → Nat → Option ω) (u v : Nat) :
    s.rejects u v = rejected s.kind (⟨s.isV, W⟩ : SpecState ω) u v := by
  unfold rejects rejected kind
  rw [Bool.beq_eq_decide_eq]
  cases s.fixed <;> rfl

theorem contains_insert_absent (l : List Nat) (u x : Nat) :
    (if l.contains u then l else u :: l).contains x = (decide (x = u) || l.contains x) := by
  cases h : l.contains u
  · rw [if_neg Bool.false_ne_true, List.contains_cons, Bool.beq_eq_decide_eq]
  · rw [if_pos rfl]
    by_cases e : x = u
    · rw [e, h, Bool.or_true]
    · rw [decide_eq_false e]; rfl

theorem isV_growV (s : LSpec) (u v x : Nat) :
    ({ s with verts := s.growV u v } : LSpec).isV x = grow s.kind s.isV u v x := by
  unfold isV growV kind
  cases s.fixed
  · exact (contains_insert_absent _ v x).trans (congrArg (_ || ·) (contains_insert_absent _ u x))
  · rfl

theorem put_refinesW (s : LSpec) (u v : Nat) (w : Int) :
    (s.put u v w).1.absW = (specStep s.kind s.absW (.add u v w)).1 ∧
    (s.put u v w).2 = (specStep s.kind s.absW (.add u v w)).2 := by
  unfold put
  rw [show s.rejects u v = rejected s.kind s.absW u v from rejects_eq s s.weight u v]
  cases hrej : rejected s.kind s.absW u v
  · rw [if_neg Bool.false_ne_true, specStep_add_ok w hrej]
    exact ⟨SpecState.ext (isV_growV s u v) fun a b => congrFun (congrFun (wOf_put s.arcs u v w) a) b, rfl⟩
  · rw [if_pos rfl, specStep_add_rej w hrej]
    exact ⟨rfl, rfl⟩

theorem remove_refinesW (s : LSpec) (u v : Nat) :
    (s.remove u v).1.absW = (specStep s.kind s.absW (.rem u v)).1 ∧
    (s.remove u v).2 = (specStep s.kind s.absW (.rem u v)).2 :=
  ⟨congrArg (SpecState.mk s.isV) (wOf_drop s.arcs u v), congrArg Out.bool (has_eq s u v)⟩

/-! ## unweighted view (weights forgotten; the driver writes weight `1`) -/

theorem absU_A (s : LSpec) (u v : Nat) : s.absU.A u v = s.has u v :=
  Option.isSome_map.trans (has_eq s u v).symm

theorem absU_of_weight (s : LSpec) (vs : List Nat) (arcs : List (Nat × Nat × Int)) (u v : Nat) (x : Option Int)
    (h : wOf arcs = setW s.weight u v x) :
    ({ s with verts := vs, arcs := arcs } : LSpec).absU =
      ⟨({ s with verts := vs } : LSpec).isV, setW s.absU.W u v (x.map fun _ => ())⟩ :=
  congrArg (SpecState.mk _) ((congrArg (fun W a b => (W a b).map fun _ => ()) h).trans (map_setW _ _ u v x))

theorem put_refinesU (s : LSpec) (u v : Nat) (w : Int) :
    (s.put u v w).1.absU = (specStep s.kind s.absU (.add u v ())).1 ∧
    (s.put u v w).2 = (specStep s.kind s.absU (.add u v ())).2 := by
  unfold put
  rw [show s.rejects u v = rejected s.kind s.absU u v from rejects_eq s s.absU.W u v]
  cases hrej : rejected s.kind s.absU u v
  · rw [if_neg Bool.false_ne_true, specStep_add_ok () hrej]
    refine ⟨(absU_of_weight s _ _ u v (some w) (wOf_put s.arcs u v w)).trans ?_, rfl⟩
    exact congrArg (SpecState.mk · _) (funext (isV_growV s u v))
  · rw [if_pos rfl, specStep_add_rej () hrej]
    exact ⟨rfl, rfl⟩

theorem remove_refinesU (s : LSpec) (u v : Nat) :
    (s.remove u v).1.absU = (specStep s.kind s.absU (.rem u v)).1 ∧
    (s.remove u v).2 = (specStep s.kind s.absU (.rem u v)).2 :=
  ⟨absU_of_weight s s.verts _ u v none (wOf_drop s.arcs u v), congrArg Out.bool (absU_A s u v).symm⟩

theorem toggle_refinesU (s : LSpec) (hf : s.fixed = true) (u v : Nat) :
    (s.toggle u v).1.absU = (specStepMx s.absU (.tog u v)).1 ∧
    (s.toggle u v).2 = (specStepMx s.absU (.tog u v)).2 := by
  have hk : s.kind = .fixed := by unfold kind; rw [hf]; rfl
  unfold toggle
  rw [show s.rejects u v = rejected s.kind s.absU u v from rejects_eq s s.absU.W u v, hk]
  cases hrej : rejected .fixed s.absU u v
  · rw [if_neg Bool.false_ne_true, specStepMx_tog_ok hrej, absU_A]
    cases s.has u v
    · exact ⟨absU_of_weight s s.verts _ u v (some 1) (wOf_cons s.arcs u v 1), rfl⟩
    · exact ⟨absU_of_weight s s.verts _ u v none (wOf_drop s.arcs u v), rfl⟩
  · rw [if_pos rfl, specStepMx_tog_rej hrej]
    exact ⟨rfl, rfl⟩

end GraafVerif.ReprSpec.LSpec
