import GraafVerif.Driver.ReprDesc
import GraafVerif.Driver.H09
import GraafVerif.Proof.ComposeGen
import GraafVerif.Proof.RowsDesc
/-!
# Compose — the `Graph` the driver hands to the algorithm models IS the view of the
representation model built from the same description

In the correspondence run the harness builds the REAL structure from a description
(`empty` + `add_arc` in description order) and runs the real algorithm on it; the driver runs the
algorithm MODEL on `GDesc.graph = Graph.ofRows (rowsOfArcs order arcs)`, built from the
description directly.  `driver_graph_is_view` (`Thm/Compose.lean`) says the two meet: the
representation MODEL built the way the harness builds the real structure (`Driver/ReprDesc.lean`)
has `GDesc.graph` as its view.  Here are its parts: the driver's graph of an arc list IS `(n, listRel l)`
(`ofRows_viewIs`, from the rows of `rowsOfArcs`, `Proof/RowsDesc.lean`), the `empty` + `add_arc` loop over any
`ArcRepr` (`build_views`, by `ViewIs.unique`), the weighted fold (`foldW_rows`), and
the C09 handler's `VGraph` for fixed-order descriptions (`driver_vgraph_eq`).
-/
namespace GraafVerif.Compose
open GraafVerif GraafVerif.Repr GraafVerif.Gen GraafVerif.Driver GraafVerif.Query

theorem ofRows_viewIs {n : Nat} {l : List (Nat × Nat)} (hv : ArcsValid n l) :
    ViewIs (Graph.ofRows (rowsOfArcs n l)) ⟨List.range n, (Graph.ofRows (rowsOfArcs n l)).out⟩ n (listRel l) :=
  have hs := ofArcRows_spec n l fun a ha => (hv a ha).2
  ⟨hs.1, hs.2.2, hs.2.1, fun u => (rowsOfArcs_row n l u).1, fun _ h => (hv _ h).1 rfl, rfl, rfl⟩

theorem build_views {T : Type} {order : T → Nat} {vertices : T → List Nat} {arcs : T → List (Nat × Nat)}
    {hasArc : T → Nat → Nat → Bool} {empty : Nat → Option T} {addArc : T → Nat → Nat → Option T}
    (R : ArcRepr order vertices arcs hasArc empty addArc) {view : T → Graph} {vview : T → Tarjan.VGraph}
    (hview : ∀ r, R.WF r → ViewIs (view r) (vview r) (order r) (listRel (arcs r))) {n : Nat} {l : List (Nat × Nat)}
    (hn : 1 ≤ n) (hf : R.fits n) (hv : ArcsValid n l) :
    ∃ r, build empty addArc n l = some r ∧ R.WF r ∧ order r = n ∧ (∀ u v, (u, v) ∈ arcs r ↔ (u, v) ∈ l) ∧
      view r = Graph.ofRows (rowsOfArcs n l) ∧ vview r = ⟨List.range n, (Graph.ofRows (rowsOfArcs n l)).out⟩ :=
  have ⟨r, e, h⟩ := R.yields_build hn hf hv
  ⟨r, e, h.1, h.2.1, h.2.2, (ViewIs.of_holds hview h).unique (ofRows_viewIs hv) fun _ _ => Iff.rfl⟩

/-! ## The weighted description: `GDesc.wgraph` is the weighted view of `buildW` -/

theorem foldW_rows (n : Nat) (warcs : List (Nat × Nat × Int)) :
    ∀ (rows : Array (List (Nat × Int))) (r : AdjListW), r.rows = rows.toList → rows.size = n → r.WF →
      (∀ a ∈ warcs, a.1 ≠ a.2.1 ∧ a.1 < n ∧ a.2.1 < n) →
      ∃ r', warcs.foldlM (fun g a => g.addArcWeighted a.1 a.2.1 a.2.2) r = some r' ∧ r'.WF ∧
        r'.rows = (warcs.foldl (fun rows a => if a.1 < rows.size then rows.modify a.1 (insertAscW a.2.1 a.2.2) else rows)
          rows).toList ∧ r'.order = n := by
  induction warcs with
  | nil =>
    intro rows r hr hs hw _
    exact ⟨r, rfl, hw, hr, by rw [AdjListW.order, hr, Array.length_toList, hs]⟩
  | cons a as ih =>
    intro rows r hr hs hw hv
    obtain ⟨h1, h2, h3⟩ := hv a List.mem_cons_self
    have hord : r.order = n := by rw [AdjListW.order, hr, Array.length_toList, hs]
    -- the model's `set … (mupsert …)` is the driver's `modify … (insertAscW …)`
    have hadd : r.addArcWeighted a.1 a.2.1 a.2.2 =
        some ⟨(rows.modify a.1 (insertAscW a.2.1 a.2.2)).toList⟩ := by
      rw [Array.toList_modify, List.modify_eq_set, ← hr, insertAscW_eq_mupsert]
      simp only [AdjListW.addArcWeighted, h1, hord, h2, h3, if_false, not_true_eq_false]
      rfl
    have hwf' := AdjListW.step_WF r (.add a.1 a.2.1 a.2.2) hw
    rw [AdjListW.step, hadd] at hwf'
    rw [List.foldlM_cons, hadd, List.foldl_cons, if_pos (hs ▸ h2)]
    exact ih _ _ rfl (by rw [Array.size_modify]; exact hs) hwf' fun x hx => hv x (List.mem_cons_of_mem _ hx)

theorem wview_of_rows (r : AdjListW) (rows : Array (List (Nat × Int))) (h : r.rows = rows.toList) :
    r.wview = WGraph.ofRows rows := by
  show WGraph.mk r.rows.length (fun u => r.rows[u]?.getD []) = ⟨rows.size, fun u => rows.getD u []⟩
  simp only [h, Array.length_toList, Array.getElem?_toList, Array.getD_eq_getD_getElem?]

/-! ## The `VGraph` of the C09 handler (fixed-order descriptions) is the vertex-id view -/

theorem foldl_max_range (n : Nat) : (List.range (n + 1)).foldl max 0 = n := by
  induction n with
  | zero => rfl
  | succ k ih => rw [List.range_succ, List.foldl_append, ih]; simp

theorem driver_vgraph_eq (d : GDesc) (hn : 1 ≤ d.order) (hrepr : (d.repr == "am") = false)
    (hverts : d.verts = List.range d.order) :
    H09.vgraphOf d = ⟨List.range d.order, d.graph.out⟩ := by
  have hvs : H09.vertsOf d = List.range d.order := by simp [H09.vertsOf, hrepr, hverts]
  obtain ⟨k, hk⟩ : ∃ k, d.order = k + 1 := ⟨d.order - 1, (Nat.sub_add_cancel hn).symm⟩
  simp only [H09.vgraphOf, hvs, GDesc.graph, Graph.ofRows]
  rw [hk, foldl_max_range]

end GraafVerif.Compose
