import GraafVerif.Model.ConvEq
import GraafVerif.Proof.GenAddArcMap
/-!
# C16: rebuilding a weighted list by `empty` + `add_arc_weighted` over its own `arcs_weighted()` returns it

For the unweighted representations the rebuild is `ArcRepr.build_self`.  The weighted list carries arbitrary weights, and
`add_arc_weighted` REPLACES the weight of an arc that is there: the fold needs that the triples agree, on each arc, with
one another and with what the digraph already holds (`WL.foldlM_addArcW`).
-/
namespace GraafVerif.Conv
open GraafVerif.Repr GraafVerif.Gen GraafVerif.ReprSpec

theorem WL.addArcW_spec (d : AdjListW) (u v : Nat) (w : Int) (hwf : d.WF) (huv : u ≠ v)
    (hu : u < d.order) (hv : v < d.order) :
    ∃ d', d.addArcWeighted u v w = some d' ∧ d'.WF ∧ d'.order = d.order ∧
      ∀ a b x, (a, b, x) ∈ d'.arcsWeighted ↔
        ((a, b, x) ∈ d.arcsWeighted ∧ ¬ (a = u ∧ b = v)) ∨ (a = u ∧ b = v ∧ x = w) := by
  obtain ⟨d', e, hw, ha, _⟩ := add_of_refines (w := w) AdjListW.mem_arcs hwf rfl
    ⟨AdjListW.step_WF d (.add u v w) hwf, AdjListW.step_refines d (.add u v w) hwf⟩ huv hu hv
  refine ⟨d', e, hw, lt_of_decide_lt_eq (congrArg SpecState.V ha), fun a b x => ?_⟩
  rw [AdjListW.mem_arcsWeighted_iff hw.shape, AdjListW.mem_arcsWeighted_iff hwf.shape,
    show d'.arcWeight a b = setW d.abs.W u v (some w) a b from congrFun (congrFun (congrArg SpecState.W ha) a) b]
  unfold setW
  split
  · next h => exact ⟨fun e => Or.inr ⟨h.1, h.2, (Option.some.inj e).symm⟩, fun e =>
      e.elim (fun e => absurd h e.2) fun e => by rw [e.2.2]⟩
  · next h => exact ⟨fun e => Or.inl ⟨e, h⟩, fun e => e.elim (·.1) fun e => absurd ⟨e.1, e.2.1⟩ h⟩

theorem WL.foldlM_addArcW (l : List (Nat × Nat × Int)) :
    ∀ d : AdjListW, d.WF → (∀ a ∈ l, a.1 ≠ a.2.1 ∧ a.1 < d.order ∧ a.2.1 < d.order) →
      (∀ a b x y, (a, b, x) ∈ d.arcsWeighted ∨ (a, b, x) ∈ l → (a, b, y) ∈ l → x = y) →
      ∃ d', l.foldlM (fun g a => g.addArcWeighted a.1 a.2.1 a.2.2) d = some d' ∧ d'.WF ∧
        d'.order = d.order ∧
        ∀ a b x, (a, b, x) ∈ d'.arcsWeighted ↔ (a, b, x) ∈ d.arcsWeighted ∨ (a, b, x) ∈ l := by
  induction l with
  | nil => intro d hwf _ _; exact ⟨d, rfl, hwf, rfl, fun a b x => ⟨.inl, fun h => h.elim id fun h => nomatch h⟩⟩
  | cons t ts ih =>
    intro d hwf hv hfun
    obtain ⟨tu, tv, tw⟩ := t
    have ht := hv (tu, tv, tw) List.mem_cons_self
    obtain ⟨d1, h1, hwf1, ho1, hhas1⟩ := WL.addArcW_spec d tu tv tw hwf ht.1 ht.2.1 ht.2.2
    -- the first insert only adds its arc: an arc `(tu, tv, _)` already there has weight `tw`
    have hd1 : ∀ a b x, (a, b, x) ∈ d1.arcsWeighted ↔ (a, b, x) ∈ d.arcsWeighted ∨ (a, b, x) = (tu, tv, tw) := by
      intro a b x
      rw [hhas1, Prod.mk.injEq, Prod.mk.injEq]
      refine ⟨fun h => h.imp (·.1) id, fun h => h.elim (fun hd => ?_) .inr⟩
      by_cases hk : a = tu ∧ b = tv
      · obtain ⟨rfl, rfl⟩ := hk
        exact .inr ⟨rfl, rfl, hfun a b x tw (.inl hd) List.mem_cons_self⟩
      · exact .inl ⟨hd, hk⟩
    obtain ⟨d2, h2, hwf2, ho2, hhas2⟩ := ih d1 hwf1
      (fun a ha => ho1 ▸ hv a (List.mem_cons_of_mem _ ha))
      (fun a b x y hx hy => hfun a b x y
        (hx.elim (fun h => ((hd1 a b x).1 h).imp id fun e => List.mem_cons.2 (.inl e))
          fun h => .inr (List.mem_cons_of_mem _ h))
        (List.mem_cons_of_mem _ hy))
    refine ⟨d2, ?_, hwf2, ho2.trans ho1, fun a b x => ?_⟩
    · rw [List.foldlM_cons, h1]; exact h2
    · rw [hhas2, hd1, List.mem_cons, or_assoc]

theorem WL.rebuild_eq {d : AdjListW} (h : d.WF) : WL.rebuild d = some d := by
  have hs := h.shape
  obtain ⟨e, he, hwe, hoe, hne⟩ := Gen.WL.repr.empty_spec (n := d.order) h.1 trivial
  have hno : ∀ a b x, (a, b, x) ∉ e.arcsWeighted := fun a b x hx =>
    hne a b (List.mem_map.mpr ⟨(a, b, x), hx, rfl⟩)
  have hvalid : ∀ a ∈ d.arcsWeighted, a.1 ≠ a.2.1 ∧ a.1 < e.order ∧ a.2.1 < e.order := fun a ha =>
    hoe ▸ arcsValid_of_simple h.simple (fun _ => AdjListW.mem_vertices.mp)
      (AdjListW.mem_arcs_iff hs) (a.1, a.2.1) (List.mem_map.mpr ⟨a, ha, rfl⟩)
  obtain ⟨b, hb, hw, ho, ha⟩ := WL.foldlM_addArcW d.arcsWeighted e hwe.1 hvalid fun a b x y hx hy =>
    Option.some.inj <| ((AdjListW.mem_arcsWeighted_iff hs a b x).mp
      (hx.elim (fun hx => absurd hx (hno a b x)) id)).symm.trans ((AdjListW.mem_arcsWeighted_iff hs a b y).mp hy)
  have : b = d := AdjListW.ext hw.shape hs (mem_range_congr (ho.trans hoe)) fun u v => Option.ext fun w => by
    rw [← AdjListW.mem_arcsWeighted_iff hw.shape, ← AdjListW.mem_arcsWeighted_iff hs, ha, or_iff_right (hno u v w)]
  rw [WL.rebuild, he]
  exact this ▸ hb

end GraafVerif.Conv
