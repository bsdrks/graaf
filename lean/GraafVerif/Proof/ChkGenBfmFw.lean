import GraafVerif.Proof.ChkGenRt
import GraafVerif.Proof.AlgoGenBfm
/-!
# C13 on the regenerated `BellmanFordMoore` and `FloydWarshall::distances`
(`Model/AlgoGen.lean`, generated from `src/algo/{bellman_ford_moore,floyd_warshall}.rs`)

Direct proofs: under the representation invariant of the weighted list (`g.WF`: both endpoints of
every arc are below the order) and for a distance vector / matrix of the length `new` /
`DistanceMatrix::new` gives it, no `arcs_ptr.add(i)` / `dist_ptr.add(·)` is out of range — for every
sentinel and all weights (no "path sums fit" hypothesis is needed for memory safety).
-/
namespace GraafVerif.C13Gen
open GraafVerif GraafVerif.AlgoGen

namespace BellmanFordMoore
open GraafVerif.AlgoGenThm.BellmanFordMoore (blockK ifBlock distances_while0_unfold)

theorem new_safe (g : WGraph) (inf : Int) (s : Nat) : RSafe (AlgoGen.BellmanFordMoore.new g inf s) (fun b => b.dist.length = g.n) := by
  unfold AlgoGen.BellmanFordMoore.new
  refine safe_fnBody ?_
  refine safe_bind safe_assert (fun _ hs => ?_)
  exact safe_bind (safe_wr_len _ _ _ _ _ List.length_replicate hs) (fun t0 ht0 => safe_pure ht0)

/-- the relaxation of one arc, after the arc has been read: `dist_ptr.add(u)`, `dist_ptr.add(v)` -/
macro "bfm_relax" hs:ident hw:ident n:term "=>" t:ident ht:ident : tactic => `(tactic| (
  refine safe_bind (safe_rd _ _ _ (by rw [$hs:ident]; exact ($hw).1)) (fun du _ => ?_)
  try dsimp only
  refine safe_bind (Q' := fun (p : AlgoGen.BellmanFordMoore × Bool) => p.1.dist.length = $n) ?_ (fun $t $ht => ?_)
  · split
    · refine safe_bind (safe_rd _ _ _ (by rw [$hs:ident]; exact ($hw).2)) (fun dv _ => ?_)
      refine safe_bind (Q' := fun (p : AlgoGen.BellmanFordMoore × Bool) => p.1.dist.length = $n) ?_ (fun t ht => safe_pure ht)
      split
      · exact safe_bind (safe_wr_len _ _ _ _ $n $hs ($hw).2) (fun t5 ht5 => safe_pure ht5)
      · exact safe_pure $hs
    · exact safe_pure $hs))

section
variable {β ρ γ : Type} {Q : γ → Prop} {B : β → Prop} {R : ρ → Prop} {n : Nat} {arcs : List (Nat × Nat × Int)}
  (hwf : ∀ a ∈ arcs, a.1 < n ∧ a.2.1 < n) {self : AlgoGen.BellmanFordMoore} (hs : self.dist.length = n) {inf : Int} {updated : Bool}
include hwf hs

/-- One arc of a round (`blockK`: the block that occurs four times in the unrolled loop body of `distances`): the arc is
read (`arcs_ptr.add(i)`, under the guard `i < arcs_len`), then `dist_ptr.add(u)`, then `dist_ptr.add(v)` is read and, for a
shorter path, written; `k` is the rest of the round.  Both endpoints are below `n = dist.len()`. -/
theorem blockK_safe {i : Nat} (hi : i < arcs.length) {k : AlgoGen.BellmanFordMoore → Bool → Blk β ρ γ}
    (hk : ∀ s u, s.dist.length = n → Safe (k s u) Q B R) : Safe (blockK inf arcs i self updated k) Q B R := by
  unfold blockK
  refine safe_bind (safe_rd _ _ _ hi) (fun a ha => ?_)
  have hw := hwf a ha
  bfm_relax hs hw n => p hp
  exact hk p.1 p.2 hp

theorem ifBlock_safe (i : Nat) :
    Safe (ifBlock inf arcs arcs.length i self updated : Blk β ρ _) (fun p => p.1.dist.length = n) B R :=
  safe_ite (fun hi => blockK_safe hwf hs hi (fun _ _ h => safe_pure h)) (fun _ => safe_pure hs)

end

theorem distances_while0_safe {R : Option (List Int) × AlgoGen.BellmanFordMoore → Prop} (inf : Int) (arcs : List (Nat × Nat × Int))
    (n : Nat) (hwf : ∀ a ∈ arcs, a.1 < n ∧ a.2.1 < n) (st : AlgoGen.BellmanFordMoore × Bool × Nat) (h : st.1.dist.length = n) :
    Safe (AlgoGen.BellmanFordMoore.distances_while0 inf arcs arcs.length st) (fun s => s.1.dist.length = n)
      (fun s => s.1.dist.length = n) R := by
  obtain ⟨self, updated, i⟩ := st
  rw [distances_while0_unfold]
  refine safe_ite (fun hi => blockK_safe hwf h hi (fun s1 u1 h1 => ?_)) (fun _ => safe_brk h)
  refine safe_bind (ifBlock_safe hwf h1 _) (fun p2 h2 => ?_)
  refine safe_bind (ifBlock_safe hwf h2 _) (fun p3 h3 => ?_)
  exact safe_bind (ifBlock_safe hwf h3 _) (fun p4 h4 => safe_pure h4)

theorem distances_for0_safe {R : Option (List Int) × AlgoGen.BellmanFordMoore → Prop} (inf : Int) (arcs : List (Nat × Nat × Int))
    (n : Nat) (hwf : ∀ a ∈ arcs, a.1 < n ∧ a.2.1 < n) (self : AlgoGen.BellmanFordMoore) (x : Nat) (h : self.dist.length = n) :
    Safe (AlgoGen.BellmanFordMoore.distances_for0 inf arcs arcs.length self x) (fun s => s.dist.length = n)
      (fun s => s.dist.length = n) R := by
  unfold AlgoGen.BellmanFordMoore.distances_for0
  refine safe_bind (safe_whileLoop (fun st => st.1.dist.length = n)
    (fun st hst => distances_while0_safe inf arcs n hwf st hst) _ _ h) (fun t27 h27 => ?_)
  exact safe_ite (fun _ => safe_brk h27) (fun _ => safe_pure h27)

/-- The final pass over the arcs (negative-cycle check): it only reads. -/
theorem distances_for1_safe (inf : Int) (arcs : List (Nat × Nat × Int)) (n : Nat) (hwf : ∀ a ∈ arcs, a.1 < n ∧ a.2.1 < n)
    (self : AlgoGen.BellmanFordMoore) (h : self.dist.length = n) (u : Unit) (i : Nat) (hi : i < arcs.length) :
    Safe (AlgoGen.BellmanFordMoore.distances_for1 inf self arcs u i) (fun _ => True) (fun _ => True) (fun _ => True) := by
  unfold AlgoGen.BellmanFordMoore.distances_for1
  refine safe_bind (safe_rd _ _ _ hi) (fun a ha => ?_)
  obtain ⟨hu, hv⟩ := hwf a ha
  refine safe_bind (safe_rd _ _ _ (h ▸ hu)) (fun du _ => ?_)
  refine safe_bind (Q' := fun _ => True) (safe_ite (fun _ => ?_) (fun _ => safe_pure trivial))
    (fun _ _ => safe_ite (fun _ => safe_ret trivial) (fun _ => safe_pure trivial))
  exact safe_bind (safe_rd _ _ _ (h ▸ hv)) (fun _ _ => safe_pure trivial)

/-- `BellmanFordMoore::distances` for every well-formed weighted digraph and every object whose vector has
`order` entries (what `new` builds; `distances` keeps it, so also for every repeated call). -/
theorem distances_safe (g : WGraph) (hwf : g.WF) (inf : Int) (self : AlgoGen.BellmanFordMoore) (h : self.dist.length = g.n) :
    RSafe (AlgoGen.BellmanFordMoore.distances g inf self) (fun _ => True) := by
  unfold AlgoGen.BellmanFordMoore.distances
  have hw : ∀ a ∈ arcsWeighted g, a.1 < g.n ∧ a.2.1 < g.n := fun _ ha => arcList_lt hwf ha
  refine safe_fnBody ?_
  refine safe_bind (safe_forLoop (fun s => s.dist.length = g.n) h
    (fun s x _ hs => distances_for0_safe inf (arcsWeighted g) g.n hw s x hs)) (fun s1 hs1 => ?_)
  refine safe_bind (safe_forLoop (fun _ => True) trivial
    (fun u i hi _ => distances_for1_safe inf (arcsWeighted g) g.n hw s1 hs1 u i (List.mem_range.mp hi))) (fun _ _ => ?_)
  exact safe_pure trivial

end BellmanFordMoore
namespace FloydWarshall

/-- `FloydWarshall::distances` for every well-formed weighted digraph on an object whose matrix has
`order²` entries (what `FloydWarshall::new` → `DistanceMatrix::new` builds), every sentinel. -/
theorem distances_safe (g : WGraph) (hwf : g.WF) (inf : Int) (self : AlgoGen.FloydWarshall)
    (h : self.dist.dist.length = g.n * g.n) :
    RSafe (AlgoGen.FloydWarshall.distances g inf self) (fun r => r.2.dist.dist.length = g.n * g.n) := by
  unfold AlgoGen.FloydWarshall.distances
  let I : AlgoGen.FloydWarshall → Prop := fun s => s.dist.dist.length = g.n * g.n
  refine safe_fnBody ?_
  refine safe_bind (safe_forLoop I h (fun s x hx hs => ?_)) (fun s1 hs1 => ?_)
  · unfold AlgoGen.FloydWarshall.distances_for0
    obtain ⟨hu, hv⟩ := arcList_lt hwf hx
    exact safe_bind (safe_wr_len _ _ _ _ _ hs (flatIdx_lt hu hv)) (fun t0 ht0 => safe_pure ht0)
  refine safe_bind (safe_forLoop I hs1 (fun s i hi hs => ?_)) (fun s2 hs2 => ?_)
  · unfold AlgoGen.FloydWarshall.distances_for1
    have hi' : i < g.n := List.mem_range.mp hi
    exact safe_bind (safe_wr_len _ _ _ _ _ hs (flatIdx_lt hi' hi')) (fun t0 ht0 => safe_pure ht0)
  refine safe_bind (safe_forLoop I hs2 (fun s i hi hs => ?_)) (fun s3 hs3 => safe_pure hs3)
  unfold AlgoGen.FloydWarshall.distances_for2
  have hi' : i < g.n := List.mem_range.mp hi
  refine safe_forLoop I hs (fun s j hj hs => ?_)
  unfold AlgoGen.FloydWarshall.distances_for3
  have hj' : j < g.n := List.mem_range.mp hj
  refine safe_bind (safe_rd _ _ _ (hs ▸ flatIdx_lt hj' hi')) (fun a _ => ?_)
  refine safe_ite (fun _ => safe_pure hs) (fun _ => ?_)
  refine safe_forLoop I hs (fun s k hk hs => ?_)
  unfold AlgoGen.FloydWarshall.distances_for4
  have hk' : k < g.n := List.mem_range.mp hk
  refine safe_bind (safe_rd _ _ _ (hs ▸ flatIdx_lt hi' hk')) (fun b _ => ?_)
  refine safe_ite (fun _ => safe_pure hs) (fun _ => ?_)
  refine safe_bind (safe_rd _ _ _ (hs ▸ flatIdx_lt hj' hk')) (fun c _ => ?_)
  refine safe_ite (fun _ => ?_) (fun _ => safe_pure hs)
  exact safe_bind (safe_wr_len _ _ _ _ _ hs (flatIdx_lt hj' hk')) (fun t5 ht5 => safe_pure ht5)

end FloydWarshall

end GraafVerif.C13Gen
