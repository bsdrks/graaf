import GraafVerif.Model.QueryIter
/-!
# C02 — the consumption protocol is `take k` / `drop k` followed by the list consumer

`observe_eq` says so of what the harness op `q_iter` records.  `map_observe` is the step by which `Thm/C02` carries it
along `CoreCorrect` to the DEFINED sequence of every iterator-returning query: the oracle of `q_iter` is proved, not
sampled.
-/
namespace GraafVerif.Query.Iter

theorem advance_eq {α : Type} (k : Nat) (l : List α) : advance k l = (l.take k, l.drop k) := by
  induction k generalizing l with
  | zero => rfl
  | succ k ih =>
    cases l with
    | nil => rfl
    | cons a rest => exact congrArg (fun r : List α × List α => (a :: r.1, r.2)) (ih rest)

theorem fold_eq_foldl {α β : Type} (f : β → α → β) (acc : β) (l : List α) : fold f acc l = l.foldl f acc := by
  induction l generalizing acc with
  | nil => rfl
  | cons a rest ih => rw [fold, ih]; rfl

theorem count_eq {α : Type} (l : List α) : count l = l.length := by
  rw [count, fold_eq_foldl, List.foldl_add_const, Nat.zero_add, Nat.one_mul]

theorem last_eq {α : Type} (l : List α) : last l = l.getLast? := by
  have : ∀ (o : Option α) (l : List α), l.foldl (fun _ a => some a) o = (l.getLast?).or o := by
    intro o l
    induction l generalizing o with
    | nil => rfl
    | cons a l ih =>
      rw [List.foldl_cons, ih, List.getLast?_cons]
      cases l.getLast? <;> rfl
  rw [last, fold_eq_foldl, this, Option.or_none]

theorem forEachCollect_eq {α : Type} (l : List α) : forEachCollect l = l := by
  rw [forEachCollect, fold_eq_foldl, List.foldl_flip_cons_eq_append', List.append_nil, List.reverse_reverse]

theorem sum_eq {α : Type} (val : α → Nat) (l : List α) : sum val l = (l.map val).sum := by
  rw [sum, fold_eq_foldl, List.sum_eq_foldl, List.foldl_map]

/-- **The protocol theorem**: `k` × `next()` yields `take k`; every fold-based consumer then sees
exactly `drop k` — count = its length, last = its last element, for_each visits it in order,
the fold-sum adds it up, `skip(k).count()` counts it. -/
theorem observe_eq {α : Type} (val : α → Nat) (l : List α) (k : Nat) :
    observe val l k =
      { taken := l.take k, count := (l.drop k).length, last := (l.drop k).getLast?, rest := l.drop k,
        sum := ((l.drop k).map val).sum, skipCount := (l.drop k).length } := by
  rw [observe, advance_eq, count_eq, last_eq, forEachCollect_eq, sum_eq]

end GraafVerif.Query.Iter

namespace GraafVerif.Query
open GraafVerif.Query.Iter

theorem map_observe {α : Type} {o : Option (List α)} {l : List α} (h : o = some l) (val : α → Nat) (k : Nat) :
    o.map (fun l => observe val l k) = some (observe val l k) := by rw [h]; rfl

end GraafVerif.Query
