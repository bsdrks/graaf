import GraafVerif.Proof.JohnsonTarjan
import GraafVerif.Proof.TarjanBasic
import GraafVerif.Proof.Tarjan
/-!
# Johnson's compact Tarjan computes what the C09 model computes

`Sim st s`: the compact state `st` and the C09 state `s` hold the same data (the maps agree as
functions; `s` has not faulted).  Every step of `connect` preserves `Sim` as long as the C09 side
does not fault (`connect_sim`); on a closed digraph it never does, so `tarjan a` is the component
list of `Tarjan.run`: the partition into strongly connected components, each listed ascending
(`tarjan_sccPartition`, `tarjan_isSCC`).  The low-link argument is the one of `Proof/TarjanStep.lean`.
-/
namespace GraafVerif.Johnson
open GraafVerif

structure Sim (st : TState) (s : Tarjan.St) : Prop where
  fault : s.fault = none
  i : s.i = st.i
  stack : s.stack = st.stack
  onStack : s.onStack = st.onStack
  comps : s.comps = st.comps
  index : ∀ x, Tarjan.mget s.index x = st.index.lookup x
  low : ∀ x, Tarjan.mget s.low x = st.low.lookup x

theorem Sim.init : Sim TState.init {} :=
  ⟨rfl, rfl, rfl, rfl, rfl, fun _ => rfl, fun _ => rfl⟩

theorem Sim.push {st : TState} {s : Tarjan.St} (h : Sim st s) (u : Nat) :
    Sim (st.push u) (Tarjan.enter u s) := by
  refine ⟨h.fault, congrArg (· + 1) h.i, congrArg (u :: ·) h.stack, congrArg (u :: ·) h.onStack, h.comps, ?_, ?_⟩
  · intro x
    show Tarjan.mget (Tarjan.mset s.index u s.i) x = List.lookup x ((u, st.i) :: st.index)
    rw [Tarjan.mget_mset, lookup_cons_eq, h.index, h.i]
  · intro x
    show Tarjan.mget (Tarjan.mset s.low u s.i) x = List.lookup x ((u, st.i) :: st.low)
    rw [Tarjan.mget_mset, lookup_cons_eq, h.low, h.i]

theorem Sim.setLow {st : TState} {s : Tarjan.St} (h : Sim st s) (u k : Nat) :
    Sim { st with low := (u, k) :: st.low } { s with low := Tarjan.mset s.low u k } := by
  refine ⟨h.fault, h.i, h.stack, h.onStack, h.comps, h.index, ?_⟩
  intro x
  show Tarjan.mget (Tarjan.mset s.low u k) x = List.lookup x ((u, k) :: st.low)
  rw [Tarjan.mget_mset, lookup_cons_eq, h.low]

theorem Sim.lowOf {st : TState} {s : Tarjan.St} (h : Sim st s) {u l : Nat}
    (hl : Tarjan.mget s.low u = some l) : st.lowOf u = l := by
  rw [h.low] at hl
  simp [TState.lowOf, hl]

/-- The two pop loops differ in the order of the triple only. -/
theorem popUntil_eq (u : Nat) (stk on c : List Nat) : popUntil u stk on c =
    ((Tarjan.popTo u stk on c).2.2, (Tarjan.popTo u stk on c).1, (Tarjan.popTo u stk on c).2.1) := by
  induction stk generalizing on c with
  | nil => rfl
  | cons v stk ih =>
    rw [popUntil_cons, Tarjan.popTo, insertAsc_eq_sinsert, Tarjan.insertAsc_eq_sinsert]
    split
    · rfl
    · exact ih _ _

theorem visit_sim {rec : TState → Nat → TState} {rec' : Nat → Tarjan.St → Tarjan.St}
    (hrec : ∀ st s v, Sim st s → (rec' v s).fault = none → Sim (rec st v) (rec' v s))
    {st : TState} {s : Tarjan.St} (u v : Nat) (h : Sim st s)
    (hf : (Tarjan.visit rec' u s v).fault = none) :
    Sim (connectStep rec u st v) (Tarjan.visit rec' u s v) := by
  -- the case analysis of `Tarjan.visit`; the branches in which it raises a fault contradict `hf`
  have hs := h.fault
  cases hi : Tarjan.mget s.index v with
  | some w =>
    have hi' := hi; rw [h.index] at hi'
    cases hon : s.onStack.contains v with
    | true =>
      cases hl : Tarjan.mget s.low u with
      | none =>
        simp only [Tarjan.visit, hs, hi, hon, hl, Option.isSome_none, Bool.false_eq_true, if_false, if_true] at hf
        cases hf
      | some lu =>
        rw [Tarjan.visit_onStack hs hi hon hl, connectStep_onStack hi' (h.onStack ▸ hon), h.lowOf hl]
        exact h.setLow u _
    | false =>
      rw [Tarjan.visit_offStack hs hi hon, connectStep_offStack hi' (h.onStack ▸ hon)]
      exact h
  | none =>
    have hi' := hi; rw [h.index] at hi'
    cases hr : (rec' v s).fault with
    | some f =>
      simp only [Tarjan.visit, hs, hi, hr, Option.isSome_none, Option.isSome_some, Bool.false_eq_true, if_false, if_true] at hf
      cases hf
    | none =>
      have h' := hrec st s v h hr
      cases hlu : Tarjan.mget (rec' v s).low u with
      | none =>
        simp only [Tarjan.visit, hs, hi, hr, hlu, Option.isSome_none, Bool.false_eq_true, if_false] at hf
        cases hf
      | some lu =>
        cases hlv : Tarjan.mget (rec' v s).low v with
        | none =>
          simp only [Tarjan.visit, hs, hi, hr, hlu, hlv, Option.isSome_none, Bool.false_eq_true, if_false] at hf
          cases hf
        | some lv =>
          rw [Tarjan.visit_fresh hs hi hr hlu hlv, connectStep_fresh hi', h'.lowOf hlu, h'.lowOf hlv]
          exact h'.setLow u _

theorem foldl_visit_sim {rec : TState → Nat → TState} {rec' : Nat → Tarjan.St → Tarjan.St}
    (hrec : ∀ st s v, Sim st s → (rec' v s).fault = none → Sim (rec st v) (rec' v s)) (u : Nat) :
    ∀ (l : List Nat) (st : TState) (s : Tarjan.St), Sim st s →
      (l.foldl (Tarjan.visit rec' u) s).fault = none →
      Sim (l.foldl (connectStep rec u) st) (l.foldl (Tarjan.visit rec' u) s) := by
  intro l
  induction l with
  | nil => exact fun _ _ h _ => h
  | cons v l ih =>
    exact fun _ _ h hf => ih _ _ (visit_sim hrec u v h (Tarjan.foldl_visit_nofault hf)) hf

theorem finish_sim {st : TState} {s : Tarjan.St} (u : Nat) (h : Sim st s) :
    Sim (connectFinish u st) (Tarjan.finish u s) := by
  unfold Tarjan.finish connectFinish
  simp only [h.fault, Option.isSome_none, Bool.false_eq_true, if_false, h.index u, h.low u]
  split
  · rw [popUntil_eq, ← h.stack, ← h.onStack, ← h.comps]
    exact ⟨rfl, h.i, rfl, rfl, rfl, h.index, h.low⟩
  · exact h

theorem connect_sim (a : AM) : ∀ (fuel : Nat) (st : TState) (s : Tarjan.St) (u : Nat), Sim st s →
    (Tarjan.connect a.vg fuel u s).fault = none →
    Sim (connect a fuel st u) (Tarjan.connect a.vg fuel u s) := by
  intro fuel
  induction fuel with
  | zero => intro _ _ _ _ hf; cases hf
  | succ fuel ih =>
    intro st s u h hf
    rw [Tarjan.connect_succ] at hf ⊢
    rw [connect_succ]
    split at hf
    · rw [Tarjan.finish_fault] at hf
      rw [if_pos ‹_›]
      exact finish_sim u (foldl_visit_sim (fun st s v => ih st s v) u _ _ _ (h.push u) hf)
    · cases hf

theorem top_sim (a : AM) (hcl : a.vg.Closed) (f : Nat) (hf : a.order ≤ f) {st : TState} {s : Tarjan.St}
    (h : Sim st s) (inv : Tarjan.Inv a.vg [] s) {u : Nat} (hu : u ∈ a.verts) :
    Sim (if (st.index.lookup u).isSome then st else connect a f st u) (Tarjan.top a.vg s u) := by
  rw [Tarjan.top_eq_topWith]
  cases hi : st.index.lookup u with
  | some k =>
    rw [Tarjan.topWith_of_indexed h.fault (Tarjan.St.indexed_of_some ((h.index u).trans hi))]
    exact h
  | none =>
    have hn : ¬ s.indexed u := (s.not_indexed_iff u).2 ((h.index u).trans hi)
    have p := Tarjan.Pre.top inv hu hn
    have e1 := Tarjan.connect_fuel_adequate a.vg hcl [] u s p f (Nat.le_trans (Tarjan.unindexed_le_length a.vg s) hf)
    have e2 := Tarjan.connect_fuel_adequate a.vg hcl [] u s p (Tarjan.unindexed a.vg s + 1) (Nat.le_succ _)
    rw [Tarjan.topWith_of_fresh h.fault hn, e2.2, ← e1.2]
    exact connect_sim a f st s u h e1.1

theorem tarjanFuel_sim (a : AM) (hcl : a.vg.Closed) (f : Nat) (hf : a.order ≤ f) :
    Sim (tarjanFuel a f) (Tarjan.run a.vg) := by
  refine (List.foldl_rel (r := fun st s => Sim st s ∧ Tarjan.Inv a.vg [] s) ⟨Sim.init, Tarjan.inv_init _⟩ ?_).1
  rintro u hu st s ⟨h, inv⟩
  exact ⟨top_sim a hcl f hf h inv hu, (Tarjan.top_step (g := a.vg) hcl inv hu).1⟩

theorem tarjan_sccPartition (a : AM) (hcl : a.vg.Closed) :
    Tarjan.IsSCCPartition a.vg (tarjan a) ∧ ∀ c ∈ tarjan a, Asc c := by
  obtain ⟨inv, hall⟩ := Tarjan.run_inv (g := a.vg) hcl
  unfold tarjan
  rw [← (tarjanFuel_sim a hcl (a.order + 1) (Nat.le_succ _)).comps]
  exact ⟨Tarjan.partition_of_inv inv hall, fun c hc => (inv.compAsc c hc).1⟩

theorem tarjan_isSCC (a : AM) (hcl : a.vg.Closed) : ∀ c ∈ tarjan a, Tarjan.IsSCC a.vg c :=
  (tarjan_sccPartition a hcl).1.isSCC hcl

end GraafVerif.Johnson
