import GraafVerif.Model.ChkRepr
import GraafVerif.Model.ChkTraversal
/-!
# Specifications of `Chk` computations

`Sat x P`: `x` never reaches a violated unchecked access, and whatever it returns satisfies `P`
(a panic satisfies every `P`).  One rule per way of building a computation; a specification is
then proved by walking down the `do` block once.  The primitives state their strongest
postcondition, so that `Sat.bind` can read the intermediate assertion off its first argument.
A `for` over a list is `Sat.foldlM` / `Sat.mapM` (an invariant, the step on the members of the
list), a `for` over an iterator is `forEach_spec` with the iterator's `IterSpec`; a `while` is a
recursion on fuel of its own in the model and is proved by the induction on that fuel.
-/
namespace GraafVerif.Chk

def Sat {α : Type} (x : Chk α) (P : α → Prop) : Prop := NoUB x ∧ ∀ a, x = .ok a → P a

theorem Sat.of_noUB {α : Type} {x : Chk α} (h : NoUB x) : Sat x (fun _ => True) := ⟨h, fun _ _ => trivial⟩

theorem Sat.mono {α : Type} {x : Chk α} {P Q : α → Prop} (h : Sat x P) (hPQ : ∀ a, P a → Q a) : Sat x Q :=
  ⟨h.1, fun a e => hPQ a (h.2 a e)⟩

theorem Sat.pure {α : Type} {a : α} {P : α → Prop} (h : P a) : Sat (pure a : Chk α) P :=
  ⟨noUB_pure a, fun _ e => by cases e; exact h⟩

theorem Sat.panic {α : Type} {P : α → Prop} : Sat (throw Fault.panic : Chk α) P :=
  ⟨noUB_throw_panic, fun _ e => by cases e⟩

theorem Sat.bind {α β : Type} {x : Chk α} {f : α → Chk β} {Q : α → Prop} {P : β → Prop}
    (hx : Sat x Q) (hf : ∀ a, Q a → Sat (f a) P) : Sat (x >>= f) P := by
  refine ⟨noUB_bind hx.1 fun a e => (hf a (hx.2 a e)).1, fun b e => ?_⟩
  obtain ⟨a, ea, eb⟩ := bind_ok e
  exact (hf a (hx.2 a ea)).2 b eb

theorem Sat.noUB_bind {α β : Type} {x : Chk α} {f : α → Chk β} {Q : α → Prop}
    (hx : Sat x Q) (hf : ∀ a, Q a → NoUB (f a)) : NoUB (x >>= f) :=
  Chk.noUB_bind hx.1 fun a e => hf a (hx.2 a e)

theorem Sat.ite {α : Type} {c : Prop} [Decidable c] {x y : Chk α} {P : α → Prop}
    (hx : c → Sat x P) (hy : ¬ c → Sat y P) : Sat (if c then x else y) P := by
  by_cases h : c
  · rw [if_pos h]; exact hx h
  · rw [if_neg h]; exact hy h

theorem noUB_ite {α : Type} {c : Prop} [Decidable c] {x y : Chk α} (hx : c → NoUB x) (hy : ¬ c → NoUB y) :
    NoUB (if c then x else y) :=
  (Sat.ite (fun h => Sat.of_noUB (hx h)) (fun h => Sat.of_noUB (hy h))).1

/-- The loop conditions `i < n && j < m` / `i < n || j < m` of the two-pointer loops. -/
theorem of_decide_and {p q : Prop} [Decidable p] [Decidable q] (h : (decide p && decide q) = true) : p ∧ q := by
  rw [Bool.and_eq_true] at h
  exact ⟨of_decide_eq_true h.1, of_decide_eq_true h.2⟩

theorem of_decide_or {p q : Prop} [Decidable p] [Decidable q] (h : (decide p || decide q) = true) : p ∨ q := by
  rw [Bool.or_eq_true] at h
  exact h.imp of_decide_eq_true of_decide_eq_true

/-! ### the equations by which `x = .ok a` is computed -/

theorem ok_bind {α β : Type} (a : α) (f : α → Chk β) : ((Except.ok a : Chk α) >>= f) = f a := rfl

theorem rd_of_lt {α : Type} (site : String) {l : List α} {i : Nat} (h : i < l.length) : rd site l i = .ok l[i] := by
  unfold rd; rw [List.getElem?_eq_getElem h]

theorem rd_of_getElem? {α : Type} (site : String) {l : List α} {i : Nat} {a : α} (h : l[i]? = some a) :
    rd site l i = .ok a := by
  unfold rd; rw [h]

theorem wr_of_lt {α : Type} (site : String) {l : List α} {i : Nat} (v : α) (h : i < l.length) :
    wr site l i v = .ok (l.set i v) := by
  unfold wr; rw [if_pos h]

theorem rdChecked_of_lt {α : Type} {l : List α} {i : Nat} (h : i < l.length) : rdChecked l i = .ok l[i] := by
  unfold rdChecked; rw [List.getElem?_eq_getElem h]

theorem ite_eq_of {α : Type} {c : Prop} [Decidable c] {a b r : α} (ha : a = r) (hb : b = r) :
    (if c then a else b) = r := by
  by_cases h : c
  · rw [if_pos h, ha]
  · rw [if_neg h, hb]

theorem mapM_ok {α β : Type} {f : α → Chk β} {g : α → β} {l : List α} (h : ∀ a ∈ l, f a = .ok (g a)) :
    l.mapM f = .ok (l.map g) := by
  induction l with
  | nil => rfl
  | cons a l ih =>
    rw [List.mapM_cons, h a List.mem_cons_self, ok_bind, ih fun x hx => h x (List.mem_cons_of_mem _ hx), ok_bind]
    rfl

theorem Sat.assert {p : Prop} [Decidable p] : Sat (assert (decide p)) (fun _ => p) :=
  ⟨noUB_assert _, fun _ e => of_decide_eq_true (assert_ok e)⟩

theorem Sat.assertBool {b : Bool} : Sat (Chk.assert b) (fun _ => b = true) :=
  ⟨noUB_assert _, fun _ e => assert_ok e⟩

theorem noUB_chkSome {α : Type} {site : String} {o : Option α} (h : o.isSome = true) : NoUB (chkSome site o) := by
  obtain ⟨a, rfl⟩ := Option.isSome_iff_exists.mp h
  exact noUB_ok a

theorem noUB_chkOff {site : String} {k len : Nat} (h : k ≤ len) : NoUB (chkOff site k len) := by
  unfold chkOff; rw [if_pos h]; exact noUB_ok _

/-- The loop variable of `for u in a..b`. -/
theorem mem_forRange {a b u : Nat} (h : u ∈ forRange a b) : a ≤ u ∧ u < b := by
  obtain ⟨h1, h2⟩ := List.mem_range'_1.mp h
  exact ⟨h1, Nat.sub_add_cancel h1 ▸ Nat.add_lt_of_lt_sub (Nat.sub_lt_left_of_lt_add h1 h2)⟩

theorem mem_setInsert {v x : Nat} {row : List Nat} (h : x ∈ setInsert v row) : x = v ∨ x ∈ row := by
  unfold setInsert at h
  split at h
  · exact Or.inr h
  · exact List.mem_cons.mp h

theorem Sat.rd {α : Type} {site : String} {l : List α} {i : Nat} (h : i < l.length) :
    Sat (rd site l i) (fun a => l[i]? = some a) :=
  ⟨noUB_rd h, fun a e => by rw [rd_of_lt site h] at e; cases e; exact List.getElem?_eq_getElem h⟩

theorem Sat.wr {α : Type} {site : String} {l : List α} {i : Nat} {v : α} (h : i < l.length) :
    Sat (wr site l i v) (fun l' => l' = l.set i v) :=
  ⟨noUB_wr h, fun _ e => (wr_ok e).1⟩

theorem Sat.wrLen {α : Type} {site : String} {l : List α} {i n : Nat} {v : α} (hl : l.length = n) (hi : i < n) :
    Sat (Chk.wr site l i v) (fun l' => l'.length = n) :=
  ⟨noUB_wr (hl ▸ hi), fun _ e => (wr_length e).trans hl⟩

/-- `*p.add(i) = g(*p.add(i))`. -/
theorem Sat.rdWr {α : Type} {s₁ s₂ : String} {l : List α} {i n : Nat} {g : α → α} (hl : l.length = n) (hi : i < n) :
    Sat (Chk.rd s₁ l i >>= fun a => Chk.wr s₂ l i (g a)) (fun l' => l'.length = n) :=
  (Sat.rd (hl ▸ hi)).bind fun _ _ => Sat.wrLen hl hi

theorem Sat.foldlM {σ α : Type} {I : σ → Prop} {f : σ → α → Chk σ} {l : List α}
    (hstep : ∀ s a, a ∈ l → I s → Sat (f s a) I) {s : σ} (h0 : I s) : Sat (l.foldlM f s) I :=
  foldlM_inv_mem I f l hstep s h0

theorem noUB_foldlM {σ α : Type} {f : σ → α → Chk σ} {l : List α} (hstep : ∀ s a, a ∈ l → NoUB (f s a)) (s : σ) :
    NoUB (l.foldlM f s) :=
  (Sat.foldlM (I := fun _ => True) (fun s a ha _ => Sat.of_noUB (hstep s a ha)) trivial).1

theorem Sat.mapM {α β : Type} {f : α → Chk β} {P : β → Prop} {l : List α} (h : ∀ a ∈ l, Sat (f a) P) :
    Sat (l.mapM f) (fun bs => (∀ b ∈ bs, P b) ∧ bs.length = l.length) := by
  induction l with
  | nil => exact Sat.pure ⟨fun _ hb => (nomatch hb), rfl⟩
  | cons a l ih =>
    rw [List.mapM_cons]
    refine (h a List.mem_cons_self).bind fun b hb => ?_
    refine (ih fun x hx => h x (List.mem_cons_of_mem _ hx)).bind fun bs hbs =>
      Sat.pure ⟨List.forall_mem_cons.mpr ⟨hb, hbs.1⟩, ?_⟩
    rw [List.length_cons, List.length_cons, hbs.2]

theorem noUB_mapM {α β : Type} {f : α → Chk β} {l : List α} (h : ∀ a ∈ l, NoUB (f a)) : NoUB (l.mapM f) :=
  (Sat.mapM fun a ha => Sat.of_noUB (h a ha)).1

/-! ### `for it in self { … }` -/

/-- What a loop over an iterator needs from it: an invariant `I` kept by `next`, under which
`next` has no UB and every yielded item satisfies `Q`.  With a constructor that establishes `I`
the iterator is safe in every state it can reach (`C13.iterSafe_of_iterSpec`, beside `C13.IterSafe`). -/
def IterSpec {σ ι : Type} (next : σ → Chk (Option ι × σ)) (I : σ → Prop) (Q : ι → Prop) : Prop :=
  ∀ st, I st → Sat (next st) (fun r => I r.2 ∧ ∀ it, r.1 = some it → Q it)

theorem forEach_spec {σ ι α : Type} {next : σ → Chk (Option ι × σ)} {body : α → ι → Chk α}
    {I : σ → Prop} {Q : ι → Prop} {J : α → Prop} (hnext : IterSpec next I Q)
    (hbody : ∀ acc it, J acc → Q it → Sat (body acc it) J) :
    ∀ (fuel : Nat) (st : σ) (acc : α), I st → J acc →
      Sat (forEach next body fuel st acc) (fun r => J r.1 ∧ I r.2) := by
  intro fuel
  induction fuel with
  | zero => intro st acc hi hj; exact Sat.pure ⟨hj, hi⟩
  | succ fuel ih =>
    intro st acc hi hj
    unfold forEach
    refine (hnext st hi).bind fun r hr => ?_
    obtain ⟨o, st'⟩ := r
    cases o with
    | none => exact Sat.pure ⟨hj, hr.1⟩
    | some it => exact (hbody acc it hj (hr.2 it rfl)).bind fun acc' hacc' => ih st' acc' hr.1 hacc'

end GraafVerif.Chk
