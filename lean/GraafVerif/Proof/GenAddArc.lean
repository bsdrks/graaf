import GraafVerif.Proof.GenArcRepr
import GraafVerif.Proof.ReprAL
import GraafVerif.Proof.ReprEL
/-!
# `ArcRepr` instances: AdjacencyList, EdgeList

The fields are C01 and C20 read on `order()` and `arcs()`: `empty_spec` is `abs_empty` / `empty_WF`, `addArc_spec` is the
refinement of an accepted `add_arc` (`step_WF`, `step_refines`), `ext` is `X.ext` of `Proof/ReprObs.lean`.  The three
lemmas that do the reading are stated over an arbitrary abstraction and serve all five representations.
-/
namespace GraafVerif.Gen
open GraafVerif.Repr GraafVerif.ReprSpec

theorem arcsValid_of_simple {verts : List Nat} {has : Nat → Nat → Bool} {n : Nat} {l : List (Nat × Nat)}
    (hs : Simple verts has) (hv : ∀ x, x ∈ verts → x < n) (hl : ∀ u v, (u, v) ∈ l ↔ has u v = true) : ArcsValid n l :=
  fun a ha => have := hs a.1 a.2 ((hl a.1 a.2).mp ha); ⟨this.2.2, hv _ this.1, hv _ this.2.1⟩

section
variable {T ω : Type} {WF : T → Prop} {abs : T → SpecState ω} {arcs : T → List (Nat × Nat)}
  (hA : ∀ d, WF d → ∀ u v, (u, v) ∈ arcs d ↔ (abs d).A u v = true)
include hA

theorem empty_of_abs {n : Nat} {e : T} (hw : WF e) (ha : abs e = emptySpec ω n) : ∀ u v, (u, v) ∉ arcs e :=
  fun u v h => by have := (hA e hw u v).mp h; rw [ha] at this; cases this

/-- `add_arc` of two distinct vertices of a digraph on `0..n` (`r`: what the call returns): accepted, and the
digraph gains exactly that arc. -/
theorem add_of_refines {k : Kind} {r : Option T} {w : ω} {d : T} {u v n : Nat} (hwf : WF d)
    (hV : (abs d).V = fun x => decide (x < n))
    (hstep : Refines WF abs (outOfOpt d r) (specStep k (abs d) (.add u v w)))
    (huv : u ≠ v) (hu : u < n) (hv : v < n) :
    ∃ d', r = some d' ∧ WF d' ∧ abs d' = ⟨(abs d).V, setW (abs d).W u v (some w)⟩ ∧
      ∀ a b, (a, b) ∈ arcs d' ↔ (a, b) ∈ arcs d ∨ (a = u ∧ b = v) := by
  have hm : ∀ {x}, x < n → (abs d).V x = true := fun hx => (congrFun hV _).trans (decide_eq_true hx)
  have hrej : rejected k (abs d) u v = false := (rejected_eq_false k _ u v).mpr ⟨huv, fun _ => ⟨hm hu, hm hv⟩⟩
  rw [specStep_add_ok w hrej, grow_of_endpoints fun _ => ⟨hm hu, hm hv⟩] at hstep
  obtain ⟨h1, h2, h3⟩ := hstep
  cases r with
  | none => cases h3
  | some d' =>
    have h2 : abs d' = ⟨(abs d).V, setW (abs d).W u v (some w)⟩ := h2
    refine ⟨d', rfl, h1, h2, fun a b => ?_⟩
    rw [hA d' h1, hA d hwf, h2, A_setW]
    split
    · next h => exact ⟨fun _ => Or.inr h, fun _ => rfl⟩
    · next h => exact ⟨Or.inl, fun x => x.resolve_right h⟩

end

namespace AL

def repr : ArcRepr AdjList.order AdjList.vertices AdjList.arcs AdjList.hasArc AdjList.empty AdjList.addArc where
  WF := AdjList.WF
  fits := fun _ => True
  fits_of_empty := fun _ => True.intro
  empty_spec := fun {n} hn _ =>
    have he : AdjList.empty n = some _ := if_neg (Nat.ne_of_gt hn)
    ⟨_, he, AdjList.empty_WF he, List.length_replicate,
      empty_of_abs AdjList.mem_arcs (AdjList.empty_WF he) (AdjList.abs_empty he)⟩
  addArc_spec := fun d u v hwf huv hu hv =>
    have ⟨d', e, hw, ha, h⟩ := add_of_refines (w := ()) AdjList.mem_arcs hwf rfl
      ⟨AdjList.step_WF d (.add u v ()) hwf, AdjList.step_refines d (.add u v ()) hwf⟩ huv hu hv
    ⟨d', e, hw, lt_of_decide_lt_eq (congrArg SpecState.V ha), h⟩
  pos := fun h => h.1
  valid := fun {d} h => arcsValid_of_simple h.simple (fun _ => AdjList.mem_vertices.mp)
    (AdjList.mem_arcs_iff d)
  vertices_eq := fun _ => rfl
  hasArc_iff := fun {d} _ u v => (AdjList.mem_arcs_iff d u v).symm
  ext := fun {d d'} h h' ho ha => AdjList.ext h.shape h'.shape
    (mem_range_congr ho) (has_eq_of_arcs (AdjList.mem_arcs_iff d) (AdjList.mem_arcs_iff d') ha)

end AL

namespace EL

def repr : ArcRepr EdgeList.order EdgeList.vertices EdgeList.arcs EdgeList.hasArc EdgeList.empty EdgeList.addArc where
  WF := EdgeList.WF
  fits := fun _ => True
  fits_of_empty := fun _ => True.intro
  empty_spec := fun {n} hn _ =>
    have he : EdgeList.empty n = some _ := if_neg (Nat.ne_of_gt hn)
    ⟨_, he, EdgeList.empty_WF he, rfl,
      empty_of_abs EdgeList.mem_arcs (EdgeList.empty_WF he) (EdgeList.abs_empty he)⟩
  addArc_spec := fun d u v hwf huv hu hv =>
    have ⟨d', e, hw, ha, h⟩ := add_of_refines (w := ()) EdgeList.mem_arcs hwf rfl
      ⟨EdgeList.step_WF d (.add u v ()) hwf, EdgeList.step_refines d (.add u v ()) hwf⟩ huv hu hv
    ⟨d', e, hw, lt_of_decide_lt_eq (congrArg SpecState.V ha), h⟩
  pos := fun h => h.1
  valid := fun {d} h => arcsValid_of_simple h.simple (fun _ => EdgeList.mem_vertices.mp)
    (EdgeList.mem_arcs_iff d)
  vertices_eq := fun _ => rfl
  hasArc_iff := fun {d} _ u v => (EdgeList.mem_arcs_iff d u v).symm
  ext := fun {d d'} h h' ho ha => EdgeList.ext h.shape h'.shape
    (mem_range_congr ho) (has_eq_of_arcs (EdgeList.mem_arcs_iff d) (EdgeList.mem_arcs_iff d') ha)

end EL
end GraafVerif.Gen
