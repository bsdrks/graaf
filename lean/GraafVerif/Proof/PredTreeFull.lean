import GraafVerif.Proof.PredTree
import GraafVerif.Proof.PredTreeChain
/-! Completeness, fuel adequacy (termination) and path-shape lemmas for C19, in the form of its statements:
positions `chain pred s k`, the list `chainPath pred s k`, `InRange`.  `tchain_chainPath` is the bridge to
the vertex lists of `Proof/PredTreeChain.lean`: the positions up to the first target are a `TChain`. -/
namespace GraafVerif.PredTree

theorem count_false_set {vis : List Bool} {i : Nat} (h : vis[i]? = some false) :
    (vis.set i true).count false + 1 = vis.count false := by
  obtain ⟨hi, hget⟩ := List.getElem?_eq_some_iff.mp h
  rw [List.count_set hi, hget]
  exact Nat.sub_add_cancel (List.count_pos_iff.mpr (hget ▸ List.getElem_mem hi))

theorem loop_fuel_indep (pred : Pred) (isT) :
    ∀ (f g s : Nat) (vis : List Bool) (path : List Nat),
      vis.count false + 1 ≤ f → vis.count false + 1 ≤ g →
      loop pred isT f s vis path = loop pred isT g s vis path := by
  intro f
  induction f with
  | zero => intro g s vis path hf; exact absurd hf (Nat.not_succ_le_zero _)
  | succ f ih =>
    intro g s vis path hf hg
    cases g with
    | zero => exact absurd hg (Nat.not_succ_le_zero _)
    | succ g =>
      -- both sides take the same step; a step that goes on marks a fresh vertex
      refine Option.ext fun p => ?_
      rw [loop_succ_some, loop_succ_some]
      refine exists_congr fun v => and_congr_right fun _ => or_congr_right (and_congr_right fun _ =>
        exists_congr fun v' => and_congr_right fun _ => and_congr_right fun hvis => ?_)
      have hc := count_false_set hvis
      rw [ih g v' _ _ (Nat.le_of_succ_le_succ (hc ▸ hf)) (Nat.le_of_succ_le_succ (hc ▸ hg))]

theorem chain_none_add {pred : Pred} {s k : Nat} (h : chain pred s k = none) (m : Nat) :
    chain pred s (k + m) = none := by
  induction m with
  | zero => exact h
  | succ m ih => rw [← Nat.add_assoc, chain, ih]

theorem chain_some_of_le {pred : Pred} {s k x : Nat} (h : chain pred s k = some x) {j : Nat} (hj : j ≤ k) :
    ∃ y, chain pred s j = some y := by
  cases hc : chain pred s j with
  | some y => exact ⟨y, rfl⟩
  | none =>
    have := chain_none_add hc (k - j)
    rw [Nat.add_sub_cancel' hj, h] at this
    cases this

def InRange (pred : Pred) : Prop := ∀ x ∈ pred, ∀ v, x = some v → v < pred.length

theorem link_lt {pred : Pred} (hr : InRange pred) {y v : Nat} (h : (pred[y]?).getD none = some v) :
    v < pred.length := by
  cases hp : pred[y]? with
  | none => rw [hp] at h; cases h
  | some e => rw [hp] at h; exact hr e (List.mem_of_getElem? hp) v h

theorem chain_lt {pred : Pred} (hr : InRange pred) {s : Nat} (hs : s < pred.length) :
    ∀ k x, chain pred s k = some x → x < pred.length := by
  intro k
  induction k with
  | zero => intro x h; cases h; exact hs
  | succ k ih =>
    intro x h
    rw [chain] at h
    cases hc : chain pred s k with
    | none => rw [hc] at h; cases h
    | some y => rw [hc] at h; exact link_lt hr h

theorem chain_distinct_before_first {pred : Pred} {isT} {s k x : Nat}
    (hx : chain pred s k = some x) (_ht : target pred isT x = true)
    (hmin : ∀ j, j < k → ∀ y, chain pred s j = some y → target pred isT y = false) :
    ∀ i j, i < j → j ≤ k → chain pred s i ≠ chain pred s j := by
  intro i j hij hjk heq
  -- a repeat `i < j` would bring the target forward from position `k` to `i + (k - j)`
  obtain ⟨a, ha⟩ := chain_some_of_le hx hjk
  have h3 : chain pred s (i + (k - j)) = some x := by
    rw [chain_add (heq.trans ha) (k - j), ← chain_add ha (k - j), Nat.add_sub_cancel' hjk, hx]
  have hlt : i + (k - j) < k :=
    Nat.lt_of_lt_of_eq (Nat.add_lt_add_right hij (k - j)) (Nat.add_sub_cancel' hjk)
  rw [hmin _ hlt x h3] at _ht
  cases _ht

/-- Termination: `len + 2` iterations are enough; more fuel never changes the result.
(No hypothesis on the entries: each continuing iteration marks a fresh slot of `visited`.) -/
theorem searchByFuel_adequate (pred : Pred) (s : Nat) (isT) (fuel : Nat) (hf : pred.length + 2 ≤ fuel) :
    searchByFuel pred s isT fuel = searchBy pred s isT := by
  unfold searchBy searchByFuel
  cases pred[s]? with
  | none => rfl
  | some ps =>
    have hc : (List.replicate pred.length false).count false + 1 ≤ pred.length + 2 := by
      rw [List.count_replicate_self]; exact Nat.le_succ _
    show (if isT s ps = true then _ else Res.ret (loop pred isT fuel s _ [s])) = _
    rw [loop_fuel_indep pred isT fuel (pred.length + 2) s _ [s] (Nat.le_trans hc hf) hc]

def chainPath (pred : Pred) (s k : Nat) : List Nat :=
  (List.range (k+1)).map (fun j => (chain pred s j).getD 0)

theorem chainPath_getElem? {pred : Pred} {s k x : Nat} (hx : chain pred s k = some x) (i : Nat) :
    (chainPath pred s k)[i]? = if i ≤ k then chain pred s i else none := by
  rw [chainPath, List.getElem?_map]
  split
  · next hi =>
    obtain ⟨y, hy⟩ := chain_some_of_le hx hi
    rw [List.getElem?_range (Nat.lt_succ_of_le hi), hy]
    exact congrArg (fun o : Option Nat => some (o.getD 0)) hy
  · next hi => rw [List.getElem?_eq_none (by rw [List.length_range]; exact Nat.lt_of_not_le hi)]; rfl

theorem chainPath_get_some {pred : Pred} {s k x : Nat} (hx : chain pred s k = some x) {i a : Nat}
    (h : (chainPath pred s k)[i]? = some a) : i ≤ k ∧ chain pred s i = some a := by
  rw [chainPath_getElem? hx] at h
  split at h
  · exact ⟨‹_›, h⟩
  · cases h

theorem chainPath_length (pred : Pred) (s k : Nat) : (chainPath pred s k).length = k + 1 := by
  rw [chainPath, List.length_map, List.length_range]

theorem chainPath_head {pred : Pred} {s k x : Nat} (hx : chain pred s k = some x) :
    (chainPath pred s k).head? = some s := by
  rw [List.head?_eq_getElem?, chainPath_getElem? hx, if_pos (Nat.zero_le k)]; rfl

theorem chainPath_last {pred : Pred} {s k x : Nat} (hx : chain pred s k = some x) :
    (chainPath pred s k).getLast? = some x := by
  rw [List.getLast?_eq_getElem?, chainPath_length, chainPath_getElem? hx, Nat.add_sub_cancel,
    if_pos (Nat.le_refl k), hx]

theorem chainPath_links {pred : Pred} {s k x : Nat} (hx : chain pred s k = some x)
    (i a b : Nat) (ha : (chainPath pred s k)[i]? = some a) (hb : (chainPath pred s k)[i+1]? = some b) :
    pred[a]? = some (some b) := by
  have hb' : (pred[a]?).getD none = some b := by
    have := (chainPath_get_some hx hb).2
    rwa [chain, (chainPath_get_some hx ha).2] at this
  cases hp : pred[a]? with
  | none => rw [hp] at hb'; cases hb'
  | some e => rw [hp] at hb'; exact congrArg some hb'

theorem chainPath_nodup {pred : Pred} {s k x : Nat} (hx : chain pred s k = some x)
    (hdist : ∀ i j, i < j → j ≤ k → chain pred s i ≠ chain pred s j) :
    (chainPath pred s k).Nodup := by
  rw [List.Nodup, List.pairwise_iff_getElem]
  intro i j hi hj hij heq
  obtain ⟨_, h1⟩ := chainPath_get_some hx (List.getElem?_eq_getElem hi)
  obtain ⟨hjk, h2⟩ := chainPath_get_some hx (List.getElem?_eq_getElem hj)
  exact hdist i j hij hjk (h1.trans (heq ▸ h2.symm))

theorem chainPath_before_last {pred : Pred} {isT} {s k x : Nat} (hx : chain pred s k = some x)
    (hmin : ∀ j, j < k → ∀ y, chain pred s j = some y → target pred isT y = false)
    (i y : Nat) (hi : i + 1 < (chainPath pred s k).length) (hy : (chainPath pred s k)[i]? = some y) :
    target pred isT y = false :=
  hmin i (Nat.lt_of_succ_lt_succ (by rwa [chainPath_length] at hi)) y (chainPath_get_some hx hy).2

theorem chainPath_eq_cons (pred : Pred) (s k : Nat) :
    chainPath pred s k = s :: (List.range k).map (fun j => (chain pred s (j+1)).getD 0) := by
  rw [chainPath, List.range_succ_eq_map, List.map_cons, List.map_map]; rfl

theorem chainPath_succ {pred : Pred} {s v' : Nat} (h : (pred[s]?).getD none = some v') (k : Nat) :
    chainPath pred s (k+1) = s :: chainPath pred v' k := by
  rw [chainPath_eq_cons]
  exact congrArg (s :: ·) (List.map_congr_left fun j _ => congrArg (·.getD 0) (chain_succ_of_link h j))

theorem TChain.cons {pred : Pred} {isT} {a b : Nat} {l : List Nat} (h1 : pred[a]? = some (some b))
    (h2 : isT a (some b) = false) (hb : l.head? = some b) (hl : TChain pred isT l) :
    TChain pred isT (a :: l) := by
  cases l with
  | nil => cases hb
  | cons c r => cases hb; exact ⟨h1, h2, hl⟩

theorem tchain_chainPath {pred : Pred} {isT} (hr : InRange pred) :
    ∀ (k s x : Nat), s < pred.length → chain pred s k = some x → target pred isT x = true →
      (∀ j, j < k → ∀ y, chain pred s j = some y → target pred isT y = false) →
      TChain pred isT (chainPath pred s k) := by
  intro k
  induction k with
  | zero =>
    intro s x hs hx ht _
    cases hx
    have hps : pred[s]? = some pred[s] := List.getElem?_eq_getElem hs
    exact ⟨pred[s], hps, by rwa [target, hps] at ht⟩
  | succ k ih =>
    intro s x hs hx ht hmin
    have hps : pred[s]? = some pred[s] := List.getElem?_eq_getElem hs
    obtain ⟨v', hv'⟩ := chain_some_of_le hx (Nat.le_add_left 1 k)
    have hlink : (pred[s]?).getD none = some v' := hv'
    have hpsv : pred[s] = some v' := by rwa [hps] at hlink
    have hts : isT s (some v') = false := by
      have := hmin 0 (Nat.succ_pos k) s rfl
      rwa [target, hps, hpsv] at this
    have hx' : chain pred v' k = some x := (chain_succ_of_link hlink k).symm.trans hx
    rw [chainPath_succ hlink]
    exact TChain.cons (by rw [hps, hpsv]) hts (chainPath_head hx')
      (ih v' x (link_lt hr hlink) hx' ht fun j hj y hy =>
        hmin (j+1) (Nat.succ_lt_succ hj) y ((chain_succ_of_link hlink j).trans hy))

/-- Completeness of `search_by`, with the path: the first target on the chain is found, and the result
is the chain up to it (which repeats no vertex, so it is not longer than the vector). -/
theorem searchBy_first {pred : Pred} {isT} (hr : InRange pred) {s : Nat} (hs : s < pred.length) {k x : Nat}
    (hx : chain pred s k = some x) (ht : target pred isT x = true)
    (hmin : ∀ j, j < k → ∀ y, chain pred s j = some y → target pred isT y = false) :
    searchBy pred s isT = .ret (some (chainPath pred s k)) := by
  have hnd := chainPath_nodup hx (chain_distinct_before_first hx ht hmin)
  have hlen := length_le_of_nodup_lt hnd fun y hy => by
    obtain ⟨i, hi⟩ := List.mem_iff_getElem?.mp hy
    exact chain_lt hr hs i y (chainPath_get_some hx hi).2
  have htc := tchain_chainPath hr k s x hs hx ht hmin
  rw [chainPath_length] at hlen
  rw [chainPath_eq_cons] at hnd htc ⊢
  exact searchBy_of_tchain pred isT s _ htc hnd
    (by rw [List.length_map, List.length_range]; exact Nat.lt_succ_of_le (Nat.le_succ_of_le (Nat.le_of_succ_le hlen)))

end GraafVerif.PredTree
