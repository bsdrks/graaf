import GraafVerif.Proof.FoldLemmas
/-!
# A representation with `empty` and `add_arc`, and the digraph a value holds (C14, C15, C16)

`ArcRepr order vertices arcs hasArc empty addArc`: what C01 says of `empty` and of `add_arc` on a valid arc, what C20
says of equality, and what the public API shows, for one unweighted representation with vertex set `0..order()`.
`R.Holds d n A`: `d` is well formed, has order `n` and exactly the arcs `A`; `R.Yields r n A`: the call `r` returned
such a value.  A well-formed value is determined by `(n, A)` (`Holds.unique`), so "returns a value holding `(n, A)`" and
"returns THE value holding `(n, A)`" coincide (`Yields.eq_some`).  `yields_build` is every `empty` + `add_arc` loop:
C14's matrix generators, C15's matrix and edge-list generators, the body of C16's `From` impls, the driver's `build*`.
-/
namespace GraafVerif.Gen

def ArcsValid (n : Nat) (arcs : List (Nat × Nat)) : Prop :=
  ∀ a ∈ arcs, a.1 ≠ a.2 ∧ a.1 < n ∧ a.2 < n

def ValidOn (n : Nat) (P : Nat → Nat → Prop) : Prop := ∀ u v, P u v → u < n ∧ v < n ∧ u ≠ v

theorem ValidOn.sym {n : Nat} {Q : Nat → Nat → Prop} (h : ValidOn n Q) :
    ValidOn n (fun u v => Q u v ∨ Q v u) := fun u v hq =>
  hq.elim (h u v) fun hq => have := h v u hq; ⟨this.2.1, this.1, fun e => this.2.2 e.symm⟩

theorem ValidOn.or {n : Nat} {P Q : Nat → Nat → Prop} (hP : ValidOn n P) (hQ : ValidOn n Q) :
    ValidOn n (fun u v => P u v ∨ Q u v) := fun u v h => h.elim (hP u v) (hQ u v)

theorem ValidOn.not_one {P : Nat → Nat → Prop} (h : ValidOn 1 P) (u v : Nat) : ¬ P u v := fun hp =>
  have := h u v hp
  this.2.2 ((Nat.lt_one_iff.mp this.1).trans (Nat.lt_one_iff.mp this.2.1).symm)

abbrev ofList (l : List (Nat × Nat)) : Nat → Nat → Prop := fun u v => (u, v) ∈ l

theorem ArcsValid.validOn {n : Nat} {l : List (Nat × Nat)} (h : ArcsValid n l) : ValidOn n (ofList l) :=
  fun u v huv => have := h (u, v) huv; ⟨this.2.1, this.2.2, this.1⟩

theorem ValidOn.arcsValid {n : Nat} {l : List (Nat × Nat)} (h : ValidOn n (ofList l)) : ArcsValid n l :=
  fun a ha => have := h a.1 a.2 ha; ⟨this.2.2, this.1, this.2.1⟩

/-- `let mut d = Self::empty(n); for (u, v) in l { d.add_arc(u, v) }` -/
def build {T : Type} (empty : Nat → Option T) (addArc : T → Nat → Nat → Option T) (n : Nat)
    (l : List (Nat × Nat)) : Option T := do
  let e ← empty n
  l.foldlM (fun g a => addArc g a.1 a.2) e

/-- The six functions are parameters, not fields: a statement about `AdjList.empty` then meets the theorems below
syntactically.  (As fields of a bundle the unifier unfolds `AdjList.empty` before it looks into the bundle, at every use.) -/
structure ArcRepr {T : Type} (order : T → Nat) (vertices : T → List Nat) (arcs : T → List (Nat × Nat))
    (hasArc : T → Nat → Nat → Bool) (empty : Nat → Option T) (addArc : T → Nat → Nat → Option T) where
  WF : T → Prop
  /-- the orders `empty` accepts (the matrix: `n * n` fits a `usize`) -/
  fits : Nat → Prop
  fits_of_empty : ∀ {n e}, empty n = some e → fits n
  empty_spec : ∀ {n}, 1 ≤ n → fits n → ∃ e, empty n = some e ∧ WF e ∧ order e = n ∧ ∀ u v, (u, v) ∉ arcs e
  addArc_spec : ∀ d u v, WF d → u ≠ v → u < order d → v < order d →
    ∃ d', addArc d u v = some d' ∧ WF d' ∧ order d' = order d ∧
      ∀ a b, (a, b) ∈ arcs d' ↔ (a, b) ∈ arcs d ∨ (a = u ∧ b = v)
  pos : ∀ {d}, WF d → 1 ≤ order d
  valid : ∀ {d}, WF d → ArcsValid (order d) (arcs d)
  vertices_eq : ∀ {d}, WF d → vertices d = List.range (order d)
  hasArc_iff : ∀ {d}, WF d → ∀ u v, hasArc d u v = true ↔ (u, v) ∈ arcs d
  /-- C20 -/
  ext : ∀ {d d'}, WF d → WF d' → order d = order d' → (∀ u v, (u, v) ∈ arcs d ↔ (u, v) ∈ arcs d') → d = d'

section
variable {T : Type} {order : T → Nat} {vertices : T → List Nat} {arcs : T → List (Nat × Nat)}
  {hasArc : T → Nat → Nat → Bool} {empty : Nat → Option T} {addArc : T → Nat → Nat → Option T}

theorem foldlM_addArc (R : ArcRepr order vertices arcs hasArc empty addArc) (l : List (Nat × Nat)) :
    ∀ d, R.WF d → ArcsValid (order d) l →
      ∃ d', l.foldlM (fun g a => addArc g a.1 a.2) d = some d' ∧ R.WF d' ∧
        order d' = order d ∧ ∀ a b, (a, b) ∈ arcs d' ↔ (a, b) ∈ arcs d ∨ (a, b) ∈ l := by
  induction l with
  | nil => intro d hwf _; exact ⟨d, rfl, hwf, rfl, fun _ _ => (or_iff_left List.not_mem_nil).symm⟩
  | cons x xs ih =>
    intro d hwf hv
    have hx := hv x (List.mem_cons_self ..)
    obtain ⟨d1, h1, hwf1, ho1, hhas1⟩ := R.addArc_spec d x.1 x.2 hwf hx.1 hx.2.1 hx.2.2
    have hv1 : ArcsValid (order d1) xs := by
      intro a ha; rw [ho1]; exact hv a (List.mem_cons_of_mem _ ha)
    obtain ⟨d2, h2, hwf2, ho2, hhas2⟩ := ih d1 hwf1 hv1
    refine ⟨d2, ?_, hwf2, by rw [ho2, ho1], ?_⟩
    · rw [List.foldlM_cons, h1]; exact h2
    · intro a b
      rw [hhas2, hhas1, List.mem_cons, or_assoc]
      exact or_congr_right (or_congr_left (Prod.ext_iff (x := (a, b)) (y := x)).symm)

end

/-- A fold with an extra per-step guard that is true on valid arcs (the two asserts of the
`From` macro bodies) is the plain fold. -/
theorem foldlM_guard {T : Type} (f : T → Nat × Nat → Option T) (g : Nat × Nat → Bool)
    (arcs : List (Nat × Nat)) (hg : ∀ a ∈ arcs, g a = true) (d : T) :
    arcs.foldlM (fun h a => if g a = true then f h a else none) d = arcs.foldlM f d :=
  AlgoGenThm.foldlM_congr_mem arcs _ f (fun _ a ha => if_pos (hg a ha)) d

namespace ArcRepr
variable {T : Type} {order : T → Nat} {vertices : T → List Nat} {arcs : T → List (Nat × Nat)}
  {hasArc : T → Nat → Nat → Bool} {empty : Nat → Option T} {addArc : T → Nat → Nat → Option T}
  (R : ArcRepr order vertices arcs hasArc empty addArc)

def Holds (d : T) (n : Nat) (A : Nat → Nat → Prop) : Prop := R.WF d ∧ order d = n ∧ ∀ u v, (u, v) ∈ arcs d ↔ A u v

def Yields (r : Option T) (n : Nat) (A : Nat → Nat → Prop) : Prop := ∃ d, r = some d ∧ R.Holds d n A

variable {R}

theorem holds_self {d : T} (h : R.WF d) : R.Holds d (order d) (ofList (arcs d)) := ⟨h, rfl, fun _ _ => Iff.rfl⟩

namespace Holds
variable {d d' : T} {n : Nat} {A B : Nat → Nat → Prop}

theorem congr (h : R.Holds d n A) (hab : ∀ u v, A u v ↔ B u v) : R.Holds d n B :=
  ⟨h.1, h.2.1, fun u v => (h.2.2 u v).trans (hab u v)⟩

theorem unique (h : R.Holds d n A) (h' : R.Holds d' n A) : d = d' :=
  R.ext h.1 h'.1 (h.2.1.trans h'.2.1.symm) fun u v => (h.2.2 u v).trans (h'.2.2 u v).symm

end Holds

namespace Yields
variable {r : Option T} {d : T} {n : Nat} {A B : Nat → Nat → Prop}

theorem congr (h : R.Yields r n A) (hab : ∀ u v, A u v ↔ B u v) : R.Yields r n B :=
  h.imp fun _ h => ⟨h.1, h.2.congr hab⟩

theorem holds_of_eq (h : R.Yields r n A) (e : r = some d) : R.Holds d n A := by
  obtain ⟨d', rfl, h⟩ := h
  cases e; exact h

theorem eq_some (h : R.Yields r n A) (hd : R.Holds d n A) : r = some d := by
  obtain ⟨d', rfl, h⟩ := h
  rw [h.unique hd]

end Yields

variable (R) {n : Nat} {l : List (Nat × Nat)} {A : Nat → Nat → Prop}

theorem yields_build (hn : 1 ≤ n) (hf : R.fits n) (hv : ArcsValid n l) :
    R.Yields (build empty addArc n l) n (ofList l) := by
  obtain ⟨e, he, hwf, ho, hno⟩ := R.empty_spec hn hf
  obtain ⟨d, hd, hwf', ho', hhas⟩ := foldlM_addArc R l e hwf (ho.symm ▸ hv)
  exact ⟨d, by rw [build, he]; exact hd, hwf', ho'.trans ho, fun u v => (hhas u v).trans (or_iff_right (hno u v))⟩

theorem yields_build_of (hn : 1 ≤ n) (hf : R.fits n) (hmem : ∀ u v, (u, v) ∈ l ↔ A u v) (hvalid : ValidOn n A) :
    R.Yields (build empty addArc n l) n A :=
  (R.yields_build hn hf (ValidOn.arcsValid fun u v h => hvalid u v ((hmem u v).mp h))).congr hmem

theorem yields_empty (hn : 1 ≤ n) (hf : R.fits n) (hA : ∀ u v, ¬ A u v) : R.Yields (empty n) n A :=
  have ⟨e, he, hwf, ho, hno⟩ := R.empty_spec hn hf
  ⟨e, he, hwf, ho, fun u v => ⟨fun h => absurd h (hno u v), fun h => absurd h (hA u v)⟩⟩

/-- `if order == 1 { return Self::trivial() }`: no arc fits into order 1, so the shortcut returns what the general path
would. -/
theorem yields_guard₁ {x : Option T} (hn : 1 ≤ n) (hf : R.fits 1) (hA : ValidOn n A) (h : 2 ≤ n → R.Yields x n A) :
    R.Yields (if n = 1 then empty 1 else x) n A := by
  split
  · next h1 => subst h1; exact R.yields_empty (Nat.le_refl 1) hf hA.not_one
  · next h1 => exact h (Nat.lt_of_le_of_ne hn (Ne.symm h1))

/-- `assert!(order > 0)` before it -/
theorem yields_guard {x : Option T} (hn : 1 ≤ n) (hf : R.fits 1) (hA : ValidOn n A) (h : 2 ≤ n → R.Yields x n A) :
    R.Yields (if n = 0 then none else if n = 1 then empty 1 else x) n A := by
  rw [if_neg (Nat.ne_of_gt hn)]; exact R.yields_guard₁ hn hf hA h

theorem build_self {d : T} (hd : R.WF d) (hf : R.fits (order d)) : build empty addArc (order d) (arcs d) = some d :=
  (R.yields_build (R.pos hd) hf (R.valid hd)).eq_some (holds_self hd)

end ArcRepr
end GraafVerif.Gen
