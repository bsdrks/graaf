import GraafVerif.Proof.Query
/-!
# C02 — `EdgeList` (ordered arc set): every core query equals its definition (P1)

The arc set is lexicographically sorted with the members of `A`, so it IS `Spec.arcs`, and its rows and
columns are the neighbourhoods (`Proof/Query.lean`).
-/
namespace GraafVerif.Query
open GraafVerif.Repr

namespace EL

theorem abs_valid {d : EdgeList} (h : d.WF) : (abs d).Valid :=
  valid_of_simple List.pairwise_lt_range h.simple (unitWt_isSome d.hasArc)

theorem arcs_spec {d : EdgeList} (h : d.WF) : d.arcs = Spec.arcs (abs d) :=
  arcs_eq_of (abs_valid h) h.2.1 (EdgeList.mem_arcs_iff d)

theorem outNeighbors_spec {d : EdgeList} (h : d.WF) (u : Nat) :
    d.arcs.filterMap (fun a => if a.1 == u then some a.2 else none) = Spec.outNeighbors (abs d) u :=
  row_eq_outNeighbors (abs_valid h) h.2.1 (EdgeList.mem_arcs_iff d) u

theorem inNeighbors_spec {d : EdgeList} (h : d.WF) (v : Nat) :
    d.arcs.filterMap (fun a => if v == a.2 then some a.1 else none) = Spec.inNeighbors (abs d) v :=
  col_eq_inNeighbors (abs_valid h) h.2.1 (EdgeList.mem_arcs_iff d) v

theorem all_ne_eq_filter_zero {α : Type} (l : List α) (p : α → Bool) :
    l.all (fun a => !p a) = ((l.filter p).length == 0) := (filter_length_eq_zero p l).symm

theorem size_spec {d : EdgeList} (h : d.WF) : d.size = Spec.size (abs d) :=
  congrArg List.length (arcs_spec h)

theorem outdegree_spec {d : EdgeList} (h : d.WF) (u : Nat) :
    (d.arcs.filter (fun a => u == a.1)).length = Spec.outdegree (abs d) u := by
  rw [Spec.outdegree, ← outNeighbors_spec h, length_filterMap_ite]
  exact congrArg List.length (List.filter_congr fun a _ => BEq.comm)

theorem indegree_spec {d : EdgeList} (h : d.WF) (v : Nat) :
    (d.arcs.filter (fun a => v == a.2)).length = Spec.indegree (abs d) v := by
  rw [Spec.indegree, ← inNeighbors_spec h, length_filterMap_ite]

theorem core_correct {d : EdgeList} (h : d.WF) : CoreCorrect (core d) (abs d) where
  order := (List.length_range).symm
  vertices := rfl
  arcs_mem := EdgeList.mem_arcs_iff d
  size := size_spec h
  hasArc := fun _ _ => rfl
  hasEdge := fun _ _ => rfl
  hasWalk := fun w => hasWalkZip_eq (abs d) d.hasArc (fun _ _ => rfl) w
  outNeighbors := fun u hu => by
    rw [← outNeighbors_spec h]; exact if_pos (EdgeList.mem_vertices.1 hu)
  inNeighbors := inNeighbors_spec h
  indegree := fun v hv => by
    rw [← indegree_spec h]; exact if_pos (EdgeList.mem_vertices.1 hv)
  isSource := fun v => by
    rw [Spec.isSource, ← indegree_spec h, filter_length_eq_zero]
    exact congrArg d.arcs.all (funext fun a => congrArg not BEq.comm)
  outdegree := fun u hu => by
    rw [← outdegree_spec h]; exact if_pos (EdgeList.mem_vertices.1 hu)
  isSink := fun u hu => by
    rw [Spec.isSink, ← outdegree_spec h, filter_length_eq_zero]
    refine (if_pos (EdgeList.mem_vertices.1 hu)).trans (congrArg some ?_)
    exact congrArg d.arcs.all (funext fun a => congrArg not BEq.comm)

theorem seq_correct {d : EdgeList} (h : d.WF) : SeqCorrect (core d) (abs d) :=
  seqCorrect_default (core_correct h) rfl (fun _ => rfl)

theorem panics_outside {d : EdgeList} {u : Nat} (hu : ¬ u < d.order) :
    (core d).outNeighbors u = none ∧ (core d).indegree u = none ∧ (core d).outdegree u = none ∧ (core d).isSink u = none :=
  ⟨if_neg hu, if_neg hu, if_neg hu, if_neg hu⟩

theorem removeArc_absent (d : EdgeList) {u v : Nat} (h : d.hasArc u v = false) : d.removeArc u v = (d, false) := by
  have hm : (u, v) ∉ d.arcs := fun hm => Bool.eq_false_iff.1 h ((EdgeList.mem_arcs_iff d u v).1 hm)
  rw [EdgeList.removeArc, perase_absent hm, show d.arcs.contains (u, v) = false from h]

end EL
end GraafVerif.Query
