import GraafVerif.Proof.Pred
import GraafVerif.Proof.QueryAM
import GraafVerif.Proof.QueryWL
/-!
# C12 — `AdjacencyMap`, `AdjacencyListWeighted`: the per-representation predicates
-/
namespace GraafVerif.Pred
open GraafVerif.Query GraafVerif.Repr

namespace AM
open GraafVerif.Query.AM (abs abs_valid hasArc_row outNeighbors_row size_spec)

theorem verts_length (d : AdjMap) : (abs d).verts.length = d.order := List.length_map _

theorem isSimple_true {d : AdjMap} (h : d.WF) : isSimple d = true := by
  rw [isSimple, List.all_eq_true]
  intro r hr
  rw [Bool.not_eq_true']
  exact Bool.eq_false_iff.2 fun hc => ((h.2 r.1 r.2 hr).2 r.1 (List.contains_iff_mem.1 hc)).1 rfl

theorem isComplete_correct {d : AdjMap} (h : d.WF) : isComplete d = true ↔ Def.IsComplete (abs d) := by
  rw [isComplete_iff_outdegree (abs_valid h), verts_length, isComplete, List.all_eq_true]
  show _ ↔ ∀ u ∈ d.rows.map (·.1), _
  rw [List.forall_mem_map]
  refine forall_congr' fun r => imp_congr_right fun hr => ?_
  rw [Spec.outdegree, outNeighbors_row h (u := r.1) (row := r.2) hr]
  exact beq_iff_eq

theorem rowsScan_iff (d : AdjMap) (bad : Nat × List Nat → Nat × List Nat → Bool) (g : Nat → Nat → Prop)
    (hfg : ∀ a ∈ d.rows, ∀ b ∈ d.rows, a.1 ≠ b.1 → (bad a b = false ↔ g a.1 b.1)) :
    d.rows.all (fun a => d.rows.all (fun b => !(a.1 != b.1 && bad a b))) = true
      ↔ ∀ u ∈ (abs d).verts, ∀ v ∈ (abs d).verts, u ≠ v → g u v := by
  show _ ↔ ∀ u ∈ d.rows.map (·.1), ∀ v ∈ d.rows.map (·.1), _
  simp only [List.all_eq_true, List.forall_mem_map]
  refine forall_congr' fun a => imp_congr_right fun ha => forall_congr' fun b => imp_congr_right fun hb => ?_
  by_cases hne : a.1 = b.1
  · rw [(bne_eq_false_iff_eq).2 hne]
    exact ⟨fun _ h => absurd hne h, fun _ => rfl⟩
  · rw [bne_iff_ne.2 hne, Bool.true_and, Bool.not_eq_true', hfg a ha b hb hne]
    exact ⟨fun h _ => h, fun h => h hne⟩

theorem isSemicomplete_correct {d : AdjMap} (h : d.WF) : isSemicomplete d = true ↔ Def.IsSemicomplete (abs d) := by
  have hscan : d.rows.all (fun a => d.rows.all (fun b =>
      !(a.1 != b.1 && (!a.2.contains b.1 && !b.2.contains a.1)))) = true ↔ Def.IsSemicomplete (abs d) :=
    rowsScan_iff d (fun a b => !a.2.contains b.1 && !b.2.contains a.1)
      (fun u v => (abs d).adj u v = true ∨ (abs d).adj v u = true)
      (fun a ha b hb _ => by
        rw [← Bool.not_or, Bool.not_eq_false', Bool.or_eq_true, ← hasArc_row h (u := a.1) (row := a.2) ha,
          ← hasArc_row h (u := b.1) (row := b.2) hb]
        rfl)
  simp only [isSemicomplete, Bool.and_assoc]
  exact semicomplete_guard (abs_valid h) (size_spec h) (verts_length d) hscan

theorem isTournament_correct {d : AdjMap} (h : d.WF) : isTournament d = true ↔ Def.IsTournament (abs d) := by
  have hscan : d.rows.all (fun a => d.rows.all (fun b =>
      !(a.1 != b.1 && (a.2.contains b.1 == b.2.contains a.1)))) = true ↔ Def.IsTournament (abs d) :=
    rowsScan_iff d (fun a b => a.2.contains b.1 == b.2.contains a.1)
      (fun u v => (abs d).adj u v = true ↔ (abs d).adj v u = false)
      (fun a ha b hb _ => by
        rw [← Bool.not_eq_true', ← bne, bne_iff, ← hasArc_row h (u := a.1) (row := a.2) ha,
          ← hasArc_row h (u := b.1) (row := b.2) hb]
        rfl)
  exact tournament_guard (abs_valid h) (size_spec h) (verts_length d) hscan
end AM

namespace WL
open GraafVerif.Query.WL (abs abs_valid size_spec zipIdx_rows)
theorem isSemicomplete_correct {d : AdjListW} (h : d.WF) : isSemicomplete d = true ↔ Def.IsSemicomplete (abs d) :=
  semiScan_correct (abs_valid h) d.order rfl d.size (size_spec h)
theorem isTournament_correct {d : AdjListW} (h : d.WF) : isTournament d = true ↔ Def.IsTournament (abs d) :=
  tourScan_correct (abs_valid h) d.order rfl d.size (size_spec h)
theorem isSimple_true {d : AdjListW} (h : d.WF) : isSimple d = true := by
  rw [isSimple, zipIdx_rows, List.all_map, List.all_eq_true]
  intro u _
  show (!(mget u (Query.WL.row d u)).isSome) = true
  rw [Bool.not_eq_true']
  refine Bool.eq_false_iff.2 fun hc => ?_
  obtain ⟨w, hw⟩ := Option.isSome_iff_exists.1 hc
  exact (h.simple u u ((AdjListW.hasArc_iff_row h.shape).mpr ⟨_, mem_of_mget_eq_some hw, rfl⟩)).2.2 rfl

/-- `is_complete`: `size == n(n-1)` and every unordered pair is an edge; in a complete digraph every
outdegree is `n - 1`, so the size test holds. -/
theorem isComplete_correct {d : AdjListW} (h : d.WF) : isComplete d = true ↔ Def.IsComplete (abs d) := by
  have hscan : (List.range d.order).all (fun u => (above u d.order).all (fun v => Query.WL.hasEdge d u v)) = true
      ↔ Def.IsComplete (abs d) := scan_complete (G := abs d) rfl
  rw [isComplete, Bool.and_eq_true, hscan, beq_iff_eq]
  refine ⟨fun hh => hh.2, fun hdef => ⟨?_, hdef⟩⟩
  have hlen : (abs d).verts.length = d.order := List.length_range
  rw [size_spec h, size_of_const ((isComplete_iff_outdegree (abs_valid h)).1 hdef), hlen]
end WL

end GraafVerif.Pred
