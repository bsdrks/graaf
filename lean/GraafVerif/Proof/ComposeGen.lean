import GraafVerif.Proof.ComposeViewIs
import GraafVerif.Thm.C14
import GraafVerif.Thm.C16
/-!
# Compose — generators (C14) and conversions (C16) under the traversals

* A generated digraph `Realises d n P` ⇒ its views ARE `(n, P)` (`X.viewIs_of_realises`: instances of
  `ViewIs.of_holds`; the map's `Realises` spells out the vertex list and has its own line),
  so every traversal property holds w.r.t. the DEFINING arc set `P`.
* Sanity family: BFS on `circuit(n)` from `[0]` — `BfsDist` yields `(0,0), (1,1), …, (n-1,n-1)`
  and `distances()` is `[0, 1, …, n-1]`, for every `n ≥ 1`, in every representation.
* A conversion result has the SAME VIEWS as its source (`ViewIs.of_good`: both `ViewIs` the
  source's order and arc list, by `ViewIs.of_holds` under C16's `OkX`, and `ViewIs.unique`), so every
  algorithm that is generic in `Order + OutNeighbors (+ Vertices)` returns the very same value on both.
  `viewIs_okAM` is also the `hview` of `build_views` for `Gen.AM.repr`, whose `WF` is `C16.OkAM`.
-/
namespace GraafVerif.Compose
open GraafVerif GraafVerif.Repr GraafVerif.Query GraafVerif.GenSpec

theorem RIsHopDist.unique {A : Rel} {S : List Nat} {v d₁ d₂ : Nat}
    (h₁ : RIsHopDist A S v d₁) (h₂ : RIsHopDist A S v d₂) : d₁ = d₂ :=
  least_unique (P := fun k => ∃ s ∈ S, RReachIn A k s v) h₁ h₂

theorem contiguous_of_realises {d : AdjMap} {n : Nat} {P : Nat → Nat → Prop} (h : Gen.AM.Realises d n P) :
    Gen.AM.Contiguous d := by
  unfold Gen.AM.Contiguous; rw [h.2.2.1, h.2.1]

theorem AL.viewIs_of_realises {d : AdjList} {n : Nat} {P : Nat → Nat → Prop} (h : Gen.AL.Realises d n P) :
    ViewIs d.view d.vview n P := ViewIs.of_holds AdjList.viewIs h

theorem MX.viewIs_of_realises {d : AdjMatrix} {n : Nat} {P : Nat → Nat → Prop} (h : Gen.MX.Realises d n P) :
    ViewIs d.view d.vview n P := ViewIs.of_holds AdjMatrix.viewIs h

theorem EL.viewIs_of_realises {d : EdgeList} {n : Nat} {P : Nat → Nat → Prop} (h : Gen.EL.Realises d n P) :
    ViewIs d.view d.vview n P := ViewIs.of_holds EdgeList.viewIs h

theorem AM.viewIs_of_realises {d : AdjMap} {n : Nat} {P : Nat → Nat → Prop} (h : Gen.AM.Realises d n P) :
    ViewIs d.view d.vview n P := (d.viewIs h.1 (contiguous_of_realises h)).cast h.2.1 h.2.2.2

theorem circuit_reachIn (n v : Nat) (hv : v < n) : RReachIn (CircuitDef n) v 0 v := by
  induction v with
  | zero => exact .zero 0
  | succ k ih =>
    refine .succ (ih (Nat.lt_of_succ_lt hv))
      ⟨Nat.lt_of_le_of_lt (Nat.succ_le_succ (Nat.zero_le k)) hv, Nat.lt_of_succ_lt hv, ?_⟩
    rw [Nat.mod_eq_of_lt hv]

theorem circuit_reachIn_le (n k x : Nat) (h : RReachIn (CircuitDef n) k 0 x) : x ≤ k := by
  generalize hz : (0 : Nat) = z at h
  induction h with
  | zero => exact hz ▸ Nat.le_refl 0
  | succ _ ha ih =>
    obtain ⟨_, _, rfl⟩ := ha
    exact Nat.le_trans (Nat.mod_le _ _) (Nat.succ_le_succ (ih hz))

theorem circuit_reach_lt (n : Nat) (hn : 1 ≤ n) (x : Nat) (h : RReach (CircuitDef n) 0 x) : x < n := by
  generalize hz : (0 : Nat) = z at h
  induction h with
  | refl => exact hz ▸ hn
  | step _ ha _ =>
    obtain ⟨_, _, rfl⟩ := ha
    exact Nat.mod_lt _ hn

theorem circuit_isHopDist (n v : Nat) (hv : v < n) : RIsHopDist (CircuitDef n) [0] v v := by
  refine ⟨⟨0, by simp, circuit_reachIn n v hv⟩, ?_⟩
  rintro k hk ⟨s, hs, hr⟩
  simp only [List.mem_singleton] at hs
  subst hs
  exact Nat.not_le_of_lt hk (circuit_reachIn_le n k v hr)

theorem circuit_reachFrom_iff (n : Nat) (hn : 1 ≤ n) (v : Nat) : RReachFrom (CircuitDef n) [0] v ↔ v < n := by
  constructor
  · rintro ⟨s, hs, hr⟩
    simp only [List.mem_singleton] at hs
    subst hs
    exact circuit_reach_lt n hn v hr
  · intro hv
    exact ⟨0, by simp, (circuit_reachIn n v hv).toReach⟩

theorem bfs_on_circuit {g : Graph} {n : Nat} (hn : 1 ≤ n) (h : BfsHolds (CircuitDef n) n [0] g)
    (inf : Nat) (hinf : n ≤ inf) :
    Bfs.bfs g [0] = .ok (List.range n) ∧
    Bfs.bfsDist g [0] = .ok ((List.range n).map (fun v => (v, v))) ∧
    Bfs.distances g [0] inf = .ok (List.range n) := by
  obtain ⟨⟨out, ho, hnd, hmem, hord⟩, ⟨outd, hod, hob, hex⟩, hdist⟩ := h
  have hlt : ∀ v, v ∈ out ↔ v < n := fun v => (hmem v).trans (circuit_reachFrom_iff n hn v)
  -- non-decreasing hop distance (= the vertex itself) + duplicate-free = strictly ascending
  have hasc : out.Pairwise (· < ·) :=
    (hord.and hnd).imp_of_mem fun ha hb hab => Nat.lt_of_le_of_ne
      (hab.1 _ _ (circuit_isHopDist n _ ((hlt _).1 ha)) (circuit_isHopDist n _ ((hlt _).1 hb))) hab.2
  obtain rfl : out = List.range n :=
    Repr.sortedS_ext hasc List.pairwise_lt_range fun x => by rw [hlt x, List.mem_range]
  refine ⟨ho, ?_, ?_⟩
  · have hfst : outd.map (·.1) = List.range n := (Bfs.Res.ok.inj (ho.symm.trans hob)).symm
    have hsnd : ∀ p ∈ outd, p.2 = p.1 := fun p hp =>
      (hex p hp).unique (circuit_isHopDist n p.1 (List.mem_range.1 (hfst ▸ List.mem_map_of_mem hp)))
    have e : outd.map (fun p => (p.1, p.1)) = outd :=
      (List.map_congr_left fun p hp => (Prod.ext rfl (hsnd p hp).symm : (p.1, p.1) = id p)).trans (List.map_id outd)
    rw [hod, ← hfst, List.map_map]
    exact congrArg _ e.symm
  · obtain ⟨d, hd, hlen, hk, _⟩ := hdist inf hinf
    rw [hd]
    refine congrArg _ (List.ext_getElem (hlen.trans List.length_range.symm) fun v h1 _ => ?_)
    rw [List.getElem_range]
    exact Option.some.inj ((List.getElem?_eq_getElem h1).symm.trans (hk v v (circuit_isHopDist n v (hlen ▸ h1))))

theorem viewIs_okAL (d : AdjList) (h : C16.OkAL d) : ViewIs d.view d.vview d.order (listRel d.arcs) := d.viewIs h
theorem viewIs_okMX (d : AdjMatrix) (h : C16.OkMX d) : ViewIs d.view d.vview d.order (listRel d.arcs) := d.viewIs h.1
theorem viewIs_okEL (d : EdgeList) (h : C16.OkEL d) : ViewIs d.view d.vview d.order (listRel d.arcs) := d.viewIs h
theorem viewIs_okAM (d : AdjMap) (h : C16.OkAM d) : ViewIs d.view d.vview d.order (listRel d.arcs) :=
  d.viewIs h.1 h.2.1
theorem viewIs_okWL (d : AdjListW) (h : C16.OkWL1 d) : ViewIs d.view d.vview d.order (listRel d.arcs) :=
  d.viewIs h.1

/-- A conversion result that is `Ok` (`src`: the target representation's `viewIs_ok…`) with the
order and arcs of the source has the source's views: `C16.GoodAL` … `C16.GoodWL` are `hg`. -/
theorem ViewIs.of_good {o : Nat} {a : List (Nat × Nat)} {g : Graph} {vg : Tarjan.VGraph}
    (hs : ViewIs g vg o (listRel a)) {T : Type} {Ok : T → Prop} {order : T → Nat} {arcs : T → List (Nat × Nat)}
    {view : T → Graph} {vview : T → Tarjan.VGraph}
    (src : ∀ t, Ok t → ViewIs (view t) (vview t) (order t) (listRel (arcs t))) {r : Option T}
    (hg : ∃ t, r = some t ∧ Ok t ∧ C16.Same o a (order t) (arcs t)) :
    ∀ t, r = some t → view t = g ∧ vview t = vg := by
  obtain ⟨t, rfl, hok, hsame⟩ := hg
  rintro _ ⟨⟩
  exact (ViewIs.of_holds src ⟨hok, hsame⟩).unique hs fun _ _ => Iff.rfl

/-- The weighted target additionally carries weight 1 on every arc. -/
theorem ViewIs.of_goodWL {o : Nat} {a : List (Nat × Nat)} {g : Graph} {vg : Tarjan.VGraph}
    (hs : ViewIs g vg o (listRel a)) {r : Option AdjListW} (hg : C16.GoodWL o a r) :
    ∀ t, r = some t → t.view = g ∧ t.vview = vg ∧ ∀ u v w, t.wview.A u v w ↔ (g.A u v ∧ w = 1) := by
  intro t ht
  obtain ⟨e1, e2⟩ := hs.of_good viewIs_okWL hg t ht
  obtain ⟨t', rfl, hok, _⟩ := hg
  cases ht
  have ws := t.wview_spec hok.1
  refine ⟨e1, e2, fun u v w => ?_⟩
  have one : ∀ w, t.wview.A u v w → w = 1 := fun w hw => hok.2 (u, v, w) ((ws.arc_iff u v w).1 hw)
  rw [← e1, (t.view_spec hok.1).arc_iff u v, ← ws.arcs_iff u v]
  exact ⟨fun hw => ⟨⟨w, hw⟩, one w hw⟩, fun ⟨⟨w', hw'⟩, hw⟩ => hw ▸ one w' hw' ▸ hw'⟩

end GraafVerif.Compose
