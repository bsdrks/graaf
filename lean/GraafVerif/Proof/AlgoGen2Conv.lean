import GraafVerif.Model.AlgoGen2
import GraafVerif.Proof.AlgoGenCall
import GraafVerif.Model.Conv
/-!
# Generated `impl From<$type> for T` (`Model/AlgoGen2.lean`) = hand-written `Model/Conv.lean` (C16)

The sixteen bodies are the macro of each `src/repr/*/mod.rs` expanded per instantiation (the two weight types of
the weighted list share one definition): one block over the target's `empty` and `add_arc` (`fromDigraph_eq`).
The equalities hold for every value of the source representation.
-/
namespace GraafVerif.AlgoGenThm
open GraafVerif GraafVerif.AlgoGen GraafVerif.Repr

/-- The loop body of the macros `impl_from_arcs_empty_order!` / `impl_from_arcs_order!`,
`for (u, v) in digraph.arcs() { assert_ne!(u, v); assert!(v < order); h.add_arc(u, v) }`, over the target's
`add_arc`: every generated `from…_for0` is this block by definition. -/
theorem conv_step {T : Type} (add : T → Nat → Nat → Option T) (order : Nat) (h : T) (x : Nat × Nat) :
    ((do
        assert (x.1 != x.2)
        assert (decide (x.2 < order))
        let t ← optP (add h x.1 x.2)
        let h := t
        pure h) : Blk T T T) = optP (Conv.step add order h x) := by
  unfold Conv.step
  by_cases h1 : x.1 = x.2
  · rw [if_pos h1, (bne_eq_false_iff_eq.2 h1 : (x.1 != x.2) = false)]
    rfl
  · rw [if_neg h1, bne_iff_ne.2 h1, assert_true, ok_bind, assert_bind]
    by_cases h2 : x.2 < order
    · rw [if_pos h2, if_neg (not_not_intro h2)]
      exact bind_pure_blk _
    · rw [if_neg h2, if_pos h2]
      rfl

/-- The function the macros expand to, over the target's `empty` and a loop body that is `Conv.step add`:
every generated `from…` is this block by definition, every `Conv.xToY` is this `fromDigraph`. -/
theorem fromDigraph_eq {T : Type} (empty : Nat → Option T) (add : T → Nat → Nat → Option T)
    (body : Nat → T → Nat × Nat → Blk T T T) (hbody : ∀ o h x, body o h x = optP (Conv.step add o h x))
    (order : Nat) (arcs : List (Nat × Nat)) :
    fnBody (do assert (decide (order > 0)); let e ← optP (empty order); let h ← forLoop (body order) arcs e; pure h) =
      optR (Conv.fromDigraph empty add order arcs) := by
  unfold Conv.fromDigraph
  by_cases h0 : order = 0
  · subst h0; rfl
  · simp only [Nat.pos_of_ne_zero h0, decide_true, assert_true, ok_bind, h0, if_false, forLoop_optP _ _ (hbody order)]
    exact fnBody_optP_bind _ _

namespace AdjacencyList

theorem fromAdjacencyMap_for0_step (order : Nat) (h : AdjList) (x : Nat × Nat) :
    (AlgoGen.AdjacencyList.fromAdjacencyMap_for0 order h x : Blk AdjList AdjList AdjList) = optP (Conv.step AdjList.addArc order h x) :=
  conv_step AdjList.addArc order h x

theorem fromAdjacencyMap_for0_eq (order : Nat) (arcs : List (Nat × Nat)) (h : AdjList) :
    (forLoop (AlgoGen.AdjacencyList.fromAdjacencyMap_for0 order) arcs h : Blk Empty AdjList AdjList) = optP (arcs.foldlM (Conv.step AdjList.addArc order) h) :=
  forLoop_optP _ _ (fromAdjacencyMap_for0_step order) arcs h

theorem fromAdjacencyMap_eq (d : AdjMap) : AlgoGen.AdjacencyList.fromAdjacencyMap d = optR (Conv.amToAL d) :=
  fromDigraph_eq AdjList.empty AdjList.addArc _ fromAdjacencyMap_for0_step d.order d.arcs

theorem fromAdjacencyMatrix_for0_step (order : Nat) (h : AdjList) (x : Nat × Nat) :
    (AlgoGen.AdjacencyList.fromAdjacencyMatrix_for0 order h x : Blk AdjList AdjList AdjList) = optP (Conv.step AdjList.addArc order h x) :=
  conv_step AdjList.addArc order h x

theorem fromAdjacencyMatrix_for0_eq (order : Nat) (arcs : List (Nat × Nat)) (h : AdjList) :
    (forLoop (AlgoGen.AdjacencyList.fromAdjacencyMatrix_for0 order) arcs h : Blk Empty AdjList AdjList) = optP (arcs.foldlM (Conv.step AdjList.addArc order) h) :=
  forLoop_optP _ _ (fromAdjacencyMatrix_for0_step order) arcs h

theorem fromAdjacencyMatrix_eq (d : AdjMatrix) : AlgoGen.AdjacencyList.fromAdjacencyMatrix d = optR (Conv.mxToAL d) :=
  fromDigraph_eq AdjList.empty AdjList.addArc _ fromAdjacencyMatrix_for0_step d.order d.arcs

theorem fromEdgeList_for0_step (order : Nat) (h : AdjList) (x : Nat × Nat) :
    (AlgoGen.AdjacencyList.fromEdgeList_for0 order h x : Blk AdjList AdjList AdjList) = optP (Conv.step AdjList.addArc order h x) :=
  conv_step AdjList.addArc order h x

theorem fromEdgeList_for0_eq (order : Nat) (arcs : List (Nat × Nat)) (h : AdjList) :
    (forLoop (AlgoGen.AdjacencyList.fromEdgeList_for0 order) arcs h : Blk Empty AdjList AdjList) = optP (arcs.foldlM (Conv.step AdjList.addArc order) h) :=
  forLoop_optP _ _ (fromEdgeList_for0_step order) arcs h

theorem fromEdgeList_eq (d : EdgeList) : AlgoGen.AdjacencyList.fromEdgeList d = optR (Conv.elToAL d) :=
  fromDigraph_eq AdjList.empty AdjList.addArc _ fromEdgeList_for0_step d.order d.arcs

end AdjacencyList

namespace AdjacencyMap

theorem fromAdjacencyList_for0_step (order : Nat) (h : AdjMap) (x : Nat × Nat) :
    (AlgoGen.AdjacencyMap.fromAdjacencyList_for0 order h x : Blk AdjMap AdjMap AdjMap) = optP (Conv.step AdjMap.addArc order h x) :=
  conv_step AdjMap.addArc order h x

theorem fromAdjacencyList_for0_eq (order : Nat) (arcs : List (Nat × Nat)) (h : AdjMap) :
    (forLoop (AlgoGen.AdjacencyMap.fromAdjacencyList_for0 order) arcs h : Blk Empty AdjMap AdjMap) = optP (arcs.foldlM (Conv.step AdjMap.addArc order) h) :=
  forLoop_optP _ _ (fromAdjacencyList_for0_step order) arcs h

theorem fromAdjacencyList_eq (d : AdjList) : AlgoGen.AdjacencyMap.fromAdjacencyList d = optR (Conv.alToAM d) :=
  fromDigraph_eq AdjMap.empty AdjMap.addArc _ fromAdjacencyList_for0_step d.order d.arcs

theorem fromAdjacencyMatrix_for0_step (order : Nat) (h : AdjMap) (x : Nat × Nat) :
    (AlgoGen.AdjacencyMap.fromAdjacencyMatrix_for0 order h x : Blk AdjMap AdjMap AdjMap) = optP (Conv.step AdjMap.addArc order h x) :=
  conv_step AdjMap.addArc order h x

theorem fromAdjacencyMatrix_for0_eq (order : Nat) (arcs : List (Nat × Nat)) (h : AdjMap) :
    (forLoop (AlgoGen.AdjacencyMap.fromAdjacencyMatrix_for0 order) arcs h : Blk Empty AdjMap AdjMap) = optP (arcs.foldlM (Conv.step AdjMap.addArc order) h) :=
  forLoop_optP _ _ (fromAdjacencyMatrix_for0_step order) arcs h

theorem fromAdjacencyMatrix_eq (d : AdjMatrix) : AlgoGen.AdjacencyMap.fromAdjacencyMatrix d = optR (Conv.mxToAM d) :=
  fromDigraph_eq AdjMap.empty AdjMap.addArc _ fromAdjacencyMatrix_for0_step d.order d.arcs

theorem fromEdgeList_for0_step (order : Nat) (h : AdjMap) (x : Nat × Nat) :
    (AlgoGen.AdjacencyMap.fromEdgeList_for0 order h x : Blk AdjMap AdjMap AdjMap) = optP (Conv.step AdjMap.addArc order h x) :=
  conv_step AdjMap.addArc order h x

theorem fromEdgeList_for0_eq (order : Nat) (arcs : List (Nat × Nat)) (h : AdjMap) :
    (forLoop (AlgoGen.AdjacencyMap.fromEdgeList_for0 order) arcs h : Blk Empty AdjMap AdjMap) = optP (arcs.foldlM (Conv.step AdjMap.addArc order) h) :=
  forLoop_optP _ _ (fromEdgeList_for0_step order) arcs h

theorem fromEdgeList_eq (d : EdgeList) : AlgoGen.AdjacencyMap.fromEdgeList d = optR (Conv.elToAM d) :=
  fromDigraph_eq AdjMap.empty AdjMap.addArc _ fromEdgeList_for0_step d.order d.arcs

end AdjacencyMap

namespace AdjacencyMatrix

theorem fromAdjacencyList_for0_step (order : Nat) (h : AdjMatrix) (x : Nat × Nat) :
    (AlgoGen.AdjacencyMatrix.fromAdjacencyList_for0 order h x : Blk AdjMatrix AdjMatrix AdjMatrix) = optP (Conv.step AdjMatrix.addArc order h x) :=
  conv_step AdjMatrix.addArc order h x

theorem fromAdjacencyList_for0_eq (order : Nat) (arcs : List (Nat × Nat)) (h : AdjMatrix) :
    (forLoop (AlgoGen.AdjacencyMatrix.fromAdjacencyList_for0 order) arcs h : Blk Empty AdjMatrix AdjMatrix) = optP (arcs.foldlM (Conv.step AdjMatrix.addArc order) h) :=
  forLoop_optP _ _ (fromAdjacencyList_for0_step order) arcs h

theorem fromAdjacencyList_eq (d : AdjList) : AlgoGen.AdjacencyMatrix.fromAdjacencyList d = optR (Conv.alToMX d) :=
  fromDigraph_eq AdjMatrix.empty AdjMatrix.addArc _ fromAdjacencyList_for0_step d.order d.arcs

theorem fromAdjacencyMap_for0_step (order : Nat) (h : AdjMatrix) (x : Nat × Nat) :
    (AlgoGen.AdjacencyMatrix.fromAdjacencyMap_for0 order h x : Blk AdjMatrix AdjMatrix AdjMatrix) = optP (Conv.step AdjMatrix.addArc order h x) :=
  conv_step AdjMatrix.addArc order h x

theorem fromAdjacencyMap_for0_eq (order : Nat) (arcs : List (Nat × Nat)) (h : AdjMatrix) :
    (forLoop (AlgoGen.AdjacencyMatrix.fromAdjacencyMap_for0 order) arcs h : Blk Empty AdjMatrix AdjMatrix) = optP (arcs.foldlM (Conv.step AdjMatrix.addArc order) h) :=
  forLoop_optP _ _ (fromAdjacencyMap_for0_step order) arcs h

theorem fromAdjacencyMap_eq (d : AdjMap) : AlgoGen.AdjacencyMatrix.fromAdjacencyMap d = optR (Conv.amToMX d) :=
  fromDigraph_eq AdjMatrix.empty AdjMatrix.addArc _ fromAdjacencyMap_for0_step d.order d.arcs

theorem fromEdgeList_for0_step (order : Nat) (h : AdjMatrix) (x : Nat × Nat) :
    (AlgoGen.AdjacencyMatrix.fromEdgeList_for0 order h x : Blk AdjMatrix AdjMatrix AdjMatrix) = optP (Conv.step AdjMatrix.addArc order h x) :=
  conv_step AdjMatrix.addArc order h x

theorem fromEdgeList_for0_eq (order : Nat) (arcs : List (Nat × Nat)) (h : AdjMatrix) :
    (forLoop (AlgoGen.AdjacencyMatrix.fromEdgeList_for0 order) arcs h : Blk Empty AdjMatrix AdjMatrix) = optP (arcs.foldlM (Conv.step AdjMatrix.addArc order) h) :=
  forLoop_optP _ _ (fromEdgeList_for0_step order) arcs h

theorem fromEdgeList_eq (d : EdgeList) : AlgoGen.AdjacencyMatrix.fromEdgeList d = optR (Conv.elToMX d) :=
  fromDigraph_eq AdjMatrix.empty AdjMatrix.addArc _ fromEdgeList_for0_step d.order d.arcs

end AdjacencyMatrix

namespace EdgeList

theorem fromAdjacencyList_for0_step (order : Nat) (h : EdgeList) (x : Nat × Nat) :
    (AlgoGen.EdgeList.fromAdjacencyList_for0 order h x : Blk EdgeList EdgeList EdgeList) = optP (Conv.step EdgeList.addArc order h x) :=
  conv_step EdgeList.addArc order h x

theorem fromAdjacencyList_for0_eq (order : Nat) (arcs : List (Nat × Nat)) (h : EdgeList) :
    (forLoop (AlgoGen.EdgeList.fromAdjacencyList_for0 order) arcs h : Blk Empty EdgeList EdgeList) = optP (arcs.foldlM (Conv.step EdgeList.addArc order) h) :=
  forLoop_optP _ _ (fromAdjacencyList_for0_step order) arcs h

theorem fromAdjacencyList_eq (d : AdjList) : AlgoGen.EdgeList.fromAdjacencyList d = optR (Conv.alToEL d) :=
  fromDigraph_eq EdgeList.empty EdgeList.addArc _ fromAdjacencyList_for0_step d.order d.arcs

theorem fromAdjacencyMap_for0_step (order : Nat) (h : EdgeList) (x : Nat × Nat) :
    (AlgoGen.EdgeList.fromAdjacencyMap_for0 order h x : Blk EdgeList EdgeList EdgeList) = optP (Conv.step EdgeList.addArc order h x) :=
  conv_step EdgeList.addArc order h x

theorem fromAdjacencyMap_for0_eq (order : Nat) (arcs : List (Nat × Nat)) (h : EdgeList) :
    (forLoop (AlgoGen.EdgeList.fromAdjacencyMap_for0 order) arcs h : Blk Empty EdgeList EdgeList) = optP (arcs.foldlM (Conv.step EdgeList.addArc order) h) :=
  forLoop_optP _ _ (fromAdjacencyMap_for0_step order) arcs h

theorem fromAdjacencyMap_eq (d : AdjMap) : AlgoGen.EdgeList.fromAdjacencyMap d = optR (Conv.amToEL d) :=
  fromDigraph_eq EdgeList.empty EdgeList.addArc _ fromAdjacencyMap_for0_step d.order d.arcs

theorem fromAdjacencyMatrix_for0_step (order : Nat) (h : EdgeList) (x : Nat × Nat) :
    (AlgoGen.EdgeList.fromAdjacencyMatrix_for0 order h x : Blk EdgeList EdgeList EdgeList) = optP (Conv.step EdgeList.addArc order h x) :=
  conv_step EdgeList.addArc order h x

theorem fromAdjacencyMatrix_for0_eq (order : Nat) (arcs : List (Nat × Nat)) (h : EdgeList) :
    (forLoop (AlgoGen.EdgeList.fromAdjacencyMatrix_for0 order) arcs h : Blk Empty EdgeList EdgeList) = optP (arcs.foldlM (Conv.step EdgeList.addArc order) h) :=
  forLoop_optP _ _ (fromAdjacencyMatrix_for0_step order) arcs h

theorem fromAdjacencyMatrix_eq (d : AdjMatrix) : AlgoGen.EdgeList.fromAdjacencyMatrix d = optR (Conv.mxToEL d) :=
  fromDigraph_eq EdgeList.empty EdgeList.addArc _ fromAdjacencyMatrix_for0_step d.order d.arcs

end EdgeList

namespace AdjacencyListWeighted

theorem fromAdjacencyList_for0_step (order : Nat) (h : AdjListW) (x : Nat × Nat) :
    (AlgoGen.AdjacencyListWeighted.fromAdjacencyList_for0 order h x : Blk AdjListW AdjListW AdjListW) = optP (Conv.step (fun h u v => AdjListW.addArcWeighted h u v 1) order h x) :=
  conv_step (fun h u v => AdjListW.addArcWeighted h u v 1) order h x

theorem fromAdjacencyList_for0_eq (order : Nat) (arcs : List (Nat × Nat)) (h : AdjListW) :
    (forLoop (AlgoGen.AdjacencyListWeighted.fromAdjacencyList_for0 order) arcs h : Blk Empty AdjListW AdjListW) = optP (arcs.foldlM (Conv.step (fun h u v => AdjListW.addArcWeighted h u v 1) order) h) :=
  forLoop_optP _ _ (fromAdjacencyList_for0_step order) arcs h

theorem fromAdjacencyList_eq (d : AdjList) : AlgoGen.AdjacencyListWeighted.fromAdjacencyList d = optR (Conv.alToWL d) :=
  fromDigraph_eq AdjListW.empty (fun h u v => AdjListW.addArcWeighted h u v 1) _ fromAdjacencyList_for0_step d.order d.arcs

theorem fromAdjacencyMap_for0_step (order : Nat) (h : AdjListW) (x : Nat × Nat) :
    (AlgoGen.AdjacencyListWeighted.fromAdjacencyMap_for0 order h x : Blk AdjListW AdjListW AdjListW) = optP (Conv.step (fun h u v => AdjListW.addArcWeighted h u v 1) order h x) :=
  conv_step (fun h u v => AdjListW.addArcWeighted h u v 1) order h x

theorem fromAdjacencyMap_for0_eq (order : Nat) (arcs : List (Nat × Nat)) (h : AdjListW) :
    (forLoop (AlgoGen.AdjacencyListWeighted.fromAdjacencyMap_for0 order) arcs h : Blk Empty AdjListW AdjListW) = optP (arcs.foldlM (Conv.step (fun h u v => AdjListW.addArcWeighted h u v 1) order) h) :=
  forLoop_optP _ _ (fromAdjacencyMap_for0_step order) arcs h

theorem fromAdjacencyMap_eq (d : AdjMap) : AlgoGen.AdjacencyListWeighted.fromAdjacencyMap d = optR (Conv.amToWL d) :=
  fromDigraph_eq AdjListW.empty (fun h u v => AdjListW.addArcWeighted h u v 1) _ fromAdjacencyMap_for0_step d.order d.arcs

theorem fromAdjacencyMatrix_for0_step (order : Nat) (h : AdjListW) (x : Nat × Nat) :
    (AlgoGen.AdjacencyListWeighted.fromAdjacencyMatrix_for0 order h x : Blk AdjListW AdjListW AdjListW) = optP (Conv.step (fun h u v => AdjListW.addArcWeighted h u v 1) order h x) :=
  conv_step (fun h u v => AdjListW.addArcWeighted h u v 1) order h x

theorem fromAdjacencyMatrix_for0_eq (order : Nat) (arcs : List (Nat × Nat)) (h : AdjListW) :
    (forLoop (AlgoGen.AdjacencyListWeighted.fromAdjacencyMatrix_for0 order) arcs h : Blk Empty AdjListW AdjListW) = optP (arcs.foldlM (Conv.step (fun h u v => AdjListW.addArcWeighted h u v 1) order) h) :=
  forLoop_optP _ _ (fromAdjacencyMatrix_for0_step order) arcs h

theorem fromAdjacencyMatrix_eq (d : AdjMatrix) : AlgoGen.AdjacencyListWeighted.fromAdjacencyMatrix d = optR (Conv.mxToWL d) :=
  fromDigraph_eq AdjListW.empty (fun h u v => AdjListW.addArcWeighted h u v 1) _ fromAdjacencyMatrix_for0_step d.order d.arcs

theorem fromEdgeList_for0_step (order : Nat) (h : AdjListW) (x : Nat × Nat) :
    (AlgoGen.AdjacencyListWeighted.fromEdgeList_for0 order h x : Blk AdjListW AdjListW AdjListW) = optP (Conv.step (fun h u v => AdjListW.addArcWeighted h u v 1) order h x) :=
  conv_step (fun h u v => AdjListW.addArcWeighted h u v 1) order h x

theorem fromEdgeList_for0_eq (order : Nat) (arcs : List (Nat × Nat)) (h : AdjListW) :
    (forLoop (AlgoGen.AdjacencyListWeighted.fromEdgeList_for0 order) arcs h : Blk Empty AdjListW AdjListW) = optP (arcs.foldlM (Conv.step (fun h u v => AdjListW.addArcWeighted h u v 1) order) h) :=
  forLoop_optP _ _ (fromEdgeList_for0_step order) arcs h

theorem fromEdgeList_eq (d : EdgeList) : AlgoGen.AdjacencyListWeighted.fromEdgeList d = optR (Conv.elToWL d) :=
  fromDigraph_eq AdjListW.empty (fun h u v => AdjListW.addArcWeighted h u v 1) _ fromEdgeList_for0_step d.order d.arcs

end AdjacencyListWeighted

end GraafVerif.AlgoGenThm
