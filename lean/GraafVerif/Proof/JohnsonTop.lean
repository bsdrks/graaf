import GraafVerif.Proof.JohnsonParts
import GraafVerif.Proof.JohnsonCircuit
import GraafVerif.Proof.JohnsonTarjanSim
/-!
# What round `s` of `circuits` works on

`min_by_key` picks the component with the smallest vertex; on the vertices `≥ s` that is the strongly
connected component of `s` (`round_shape`), so round `s` is never skipped and runs `circuit` from `s` on
it, after `resetFor`, from a state that meets what `circuit` needs (`round_pre`).  `GInv` is what holds
of the state between rounds.
-/
namespace GraafVerif.Johnson
open GraafVerif

theorem isWalk_filter {a : AM} (p : Nat → Bool) {c : List Nat} (hw : IsWalk a.gr c) (hp : ∀ x ∈ c, p x = true) :
    IsWalk (a.filter p).gr c :=
  OracleProof.isWalk_imp c hw fun u hu v hv e => mem_filter_out.2 ⟨hp u hu, e, hp v hv⟩

/-- Invariant between rounds. -/
structure GInv (st : JState) : Prop where
  i1 : ∀ y, y ∉ st.blocked → st.Bof y = []
  stack : st.stack = []

theorem GInv.new (a : AM) : GInv (JState.new a) :=
  ⟨fun y _ => by simp only [JState.Bof, JState.new, List.getElem?_replicate]; split <;> rfl, rfl⟩

theorem Inv.of_ginv {st : JState} (h : GInv st) (comp : AM) : Inv comp st := by
  refine ⟨h.i1, ?_, ?_, ?_, ?_⟩
  · intro l1 a l2 hs; rw [h.stack] at hs; simp at hs
  · intro x hx; rw [h.stack] at hx; simp at hx
  · rw [h.stack]; exact List.nodup_nil
  · intro x hx; rw [h.stack] at hx; simp at hx

theorem GInv.reset {st : JState} (h : GInv st) (vs : List Nat) : GInv (resetFor vs st) :=
  ⟨(resetFor_spec vs st).i1 h.i1, (resetFor_spec vs st).stack.trans h.stack⟩

/-- Round `s` is never skipped, and the component it works on has smallest vertex `s`: the vertices
`≥ s` are closed under arcs, so Tarjan's output partitions them (`tarjan_sccPartition`). -/
theorem round_shape {a : AM} (hcl : a.vg.Closed) {s : Nat} (hs : s ∈ a.verts) (st : JState) :
    ∃ minScc, minScc ∈ tarjan (a.filter (fun u => decide (s ≤ u))) ∧ s ∈ minScc ∧
      (∀ x ∈ minScc, s ≤ x) ∧
      circuitsStep a st s =
        (circuit (a.filter (fun u => minScc.contains u)) s (a.order + 1) (a.order + 1)
          (resetFor (a.filter (fun u => minScc.contains u)).verts st) s).2 := by
  obtain ⟨hp, hasc⟩ := tarjan_sccPartition _ (filter_closed hcl fun u => decide (s ≤ u))
  have hsv : s ∈ (a.filter (fun u => decide (s ≤ u))).verts :=
    mem_filter_verts.2 ⟨hs, decide_eq_true (Nat.le_refl s)⟩
  unfold circuitsStep
  simp only []
  generalize tarjan (a.filter (fun u => decide (s ≤ u))) = comps at hp hasc ⊢
  obtain ⟨cs, hcs, hscs⟩ := (hp.cover s).1 hsv
  obtain ⟨minScc, hmin⟩ := minByKey_some_of_ne_nil comps (List.ne_nil_of_mem hcs)
  obtain ⟨hmem, hle⟩ := minByKey_spec comps minScc hmin
  have hge : ∀ x ∈ minScc, s ≤ x := fun x hx =>
    of_decide_eq_true (mem_filter_verts.1 (hp.mem_verts hmem hx)).2
  rw [hmin]
  simp only []
  cases hhead : minScc.head? with
  | none => exact absurd (List.head?_eq_none_iff.1 hhead) (hp.nonempty minScc hmem)
  | some start =>
    have hstart_mem : start ∈ minScc := List.mem_of_mem_head? hhead
    -- `start ≤ s`: the component of `s` has a head `≤ s`, and `minScc` has the smallest head
    have h2 : start ≤ s := by
      cases hch : cs.head? with
      | none => rw [List.head?_eq_none_iff.1 hch] at hscs; exact absurd hscs List.not_mem_nil
      | some h =>
        have := hle cs hcs
        rw [hch, hhead] at this
        exact Nat.le_trans (Nat.le_of_succ_le_succ (keyLt_eq_false.1 this))
          (asc_head_le (hasc cs hcs) hch s hscs)
    obtain rfl : start = s := Nat.le_antisymm h2 (hge start hstart_mem)
    have hord : (a.filter (fun u => minScc.contains u)).order > 0 :=
      List.length_pos_of_mem (mem_filter_verts.2 ⟨hs, by simpa using hstart_mem⟩)
    refine ⟨minScc, hmem, hstart_mem, hge, ?_⟩
    simp only [hord, if_true]

/-- What `circuit` needs when a round starts it on `comp` at `s` from `st0`. -/
structure RoundPre (comp : AM) (s fuel : Nat) (st0 : JState) : Prop where
  closed : comp.vg.Closed
  ginv : GInv st0
  free : s ∉ st0.blocked
  vert : s ∈ comp.verts
  fuel : comp.verts.length ≤ fuel

/-- Clearing the vertices of a closed `comp` leaves a state from which a round may start at any of them. -/
theorem round_pre {comp : AM} (hcl : comp.vg.Closed) {s fuel : Nat} (hs : s ∈ comp.verts)
    (hf : comp.order ≤ fuel) {st : JState} (hst : GInv st) :
    RoundPre comp s fuel (resetFor comp.verts st) :=
  ⟨hcl, hst.reset _, fun hb => ((resetFor_spec _ st).bl s hb).2 hs, hs, hf⟩

theorem RoundPre.post {comp : AM} {s fuel : Nat} {st0 : JState} (h : RoundPre comp s fuel st0) (uf : Nat) :
    Post comp st0 s (circuit comp s uf fuel st0 s) :=
  circuit_post comp s uf h.closed fuel st0 s (Inv.of_ginv h.ginv comp) h.free h.vert
    (by rw [h.ginv.stack]; exact h.fuel)

end GraafVerif.Johnson
