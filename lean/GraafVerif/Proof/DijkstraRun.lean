import GraafVerif.Proof.DijkstraInv
import GraafVerif.Spec.Dijkstra
/-!
# Rounds of `run`, whole runs, and what follows for the emitted entries and for `distances()`

A round pops one entry: a fresh one is emitted and its out-arcs are relaxed (`round_fresh`), a
superseded one is dropped (`round_stale`).  Either way `heap.length + pending` drops, and it is
`S.length + arcCount g` at the start (`init_measure`): `fuel` is one more.  That a key is minimal when it is emitted rests
on `frontier`.
-/
namespace GraafVerif.Dijkstra
open GraafVerif

variable {g : WGraph} {S : List Nat} {tag : Nat → Option Nat}

theorem Inv.emitted_or_fresh {out : List Entry} {st : State} (inv : Inv g S tag out [] st) {y : Nat} {d : Int}
    (hd : dOf st.dist y = some d) : (∃ e ∈ st.heap, e.d = d) ∨ (∃ e ∈ out, e.v = y ∧ e.d = d) := by
  by_cases hm : y ∈ out.map (·.v)
  · obtain ⟨e, he, rfl⟩ := List.mem_map.mp hm
    exact .inr ⟨e, he, rfl, Option.some.inj ((inv.final e he).symm.trans hd)⟩
  · obtain ⟨e, he, _, hed⟩ := inv.fresh y d hd hm
    exact .inl ⟨e, he, hed⟩

/-- Between two rounds every walk from a source either meets the emitted set with a key not above
its weight or is "cut" by a heap entry whose key is not above its weight. -/
theorem frontier (hnn : g.NonNeg) {out : List Entry} {st : State} (inv : Inv g S tag out [] st) :
    ∀ {s y k wt}, WWalk g s y k wt → s ∈ S →
      (∃ e ∈ st.heap, e.d ≤ wt) ∨ (∃ e ∈ out, e.v = y ∧ e.d ≤ wt) := by
  intro s y k wt hw
  induction hw with
  | nil =>
    intro hs
    exact (inv.emitted_or_fresh (inv.src s hs)).imp
      (fun ⟨e, he, hd⟩ => ⟨e, he, Int.le_of_eq hd⟩) (fun ⟨e, he, hv, hd⟩ => ⟨e, he, hv, Int.le_of_eq hd⟩)
  | @snoc v x k wt w _ ha ih =>
    intro hs
    have hw0 : 0 ≤ w := hnn _ _ _ ha
    rcases ih hs with ⟨e, he, hle⟩ | ⟨e, he, rfl, hle⟩
    · exact .inl ⟨e, he, Int.le_trans hle (Int.le_add_of_nonneg_right hw0)⟩
    · -- the arc out of the emitted `e.v` has been relaxed
      rcases inv.relaxed e he (x, w) ha with h | ⟨dx, h1, h2⟩
      · cases h
      · have hle' : dx ≤ wt + w := Int.le_trans h2 (Int.add_le_add_right hle w)
        exact (inv.emitted_or_fresh h1).imp
          (fun ⟨e', he', hd⟩ => ⟨e', he', hd ▸ hle'⟩) (fun ⟨e', he', hv, hd⟩ => ⟨e', he', hv, hd ▸ hle'⟩)

theorem OutOK.snoc {out : List Entry} {e : Entry} (ok : OutOK g S out) (hle : ∀ e' ∈ out, e'.d ≤ e.d)
    (hnot : e.v ∉ out.map (·.v)) (hmin : ∀ wt, SrcWalk g S e.v wt → e.d ≤ wt)
    (hpred : ∀ u, e.p = some u → ∃ eu ∈ out, eu.v = u) : OutOK g S (out ++ [e]) := by
  refine { sorted := ?_, nodup := ?_, minimal := ?_, predBefore := ?_ }
  · exact List.pairwise_append.mpr ⟨ok.sorted, List.pairwise_singleton _ _,
      fun a ha b hb => List.mem_singleton.mp hb ▸ hle a ha⟩
  · rw [List.map_append]
    exact nodup_snoc ok.nodup hnot
  · exact forall_mem_snoc ok.minimal hmin
  · intro pre b post hsplit u hu
    rcases List.eq_nil_or_concat post with rfl | ⟨L, x, rfl⟩
    · obtain ⟨rfl, h4⟩ := List.append_inj' hsplit rfl
      cases h4
      exact hpred u hu
    · have h2 : out ++ [e] = (pre ++ b :: L) ++ [x] := by
        rw [hsplit, List.concat_eq_append, List.append_assoc]; rfl
      exact ok.predBefore pre b L (List.append_inj' h2 rfl).1 u hu

theorem emit_inv (hnn : g.NonNeg) {out : List Entry} {st : State} {e : Entry} {h' : List Entry}
    (inv : Inv g S tag out [] st) (ok : OutOK g S out)
    (hp : popMax st.heap = some (e, h')) (hf : dOf st.dist e.v = some e.d) :
    Inv g S tag (out ++ [e]) ((g.out e.v).map (fun xw => (e.v, xw.1, xw.2)) ++ []) ⟨st.dist, h'⟩ ∧
    OutOK g S (out ++ [e]) ∧ (∀ e' ∈ out ++ [e], e'.d ≤ e.d) ∧ e.v ∉ out.map (·.v) ∧ e.v < g.n := by
  obtain ⟨hmem, rfl, hmin⟩ := popMax_some hp
  have hsub : ∀ b ∈ st.heap.erase e, b ∈ st.heap := fun b hb => List.mem_of_mem_erase hb
  have hsub' : ∀ b ∈ st.heap.erase e ++ (out ++ [e]), b ∈ st.heap ++ out :=
    List.forall_mem_append.mpr ⟨fun b hb => List.mem_append_left _ (hsub b hb),
      forall_mem_snoc (fun b hb => List.mem_append_right _ hb) (List.mem_append_left _ hmem)⟩
  have hnot : e.v ∉ out.map (·.v) := inv.notEmitted e hmem hf
  have hle : ∀ e' ∈ out, e'.d ≤ e.d := fun e' he' => inv.mono e' he' e hmem
  refine ⟨?_, ?_, forall_mem_snoc hle (Int.le_refl _), hnot, inv.len ▸ OracleProof.lk_lt hf⟩
  · exact
    { len := inv.len, sound := inv.sound, src := inv.src
      heapKey := fun b hb => inv.heapKey b (hsub b hb)
      fresh := fun v d hv hvo =>
        have ⟨b, hb, hbv, hbd⟩ := inv.fresh v d hv fun h => hvo (mem_map_snoc.mpr (.inl h))
        have hne : b ≠ e := fun h => hvo (mem_map_snoc.mpr (.inr (h ▸ hbv).symm))
        ⟨b, (List.mem_erase_of_ne hne).mpr hb, hbv, hbd⟩
      final := forall_mem_snoc inv.final hf
      relaxed := forall_mem_snoc (fun b hb xw hxw => (inv.relaxed b hb xw hxw).imp_left fun h => nomatch h)
        fun xw hxw => .inl (List.mem_append_left _ (List.mem_map.mpr ⟨xw, hxw, rfl⟩))
      mono := forall_mem_snoc (fun b hb b' hb' => inv.mono b hb b' (hsub b' hb'))
        fun b' hb' => hmin b' (hsub b' hb')
      keyNodup := nodup_map_erase inv.keyNodup
      notEmitted := fun b hb hbd hv =>
        (mem_map_snoc.mp hv).elim (inv.notEmitted b (hsub b hb) hbd) fun hv =>
          -- a second fresh entry for `e.v` would have the key `(e.d, e.v)` of `e`
          mem_erase_of_key_nodup (fun e : Entry => (e.d, e.v)) st.heap e b inv.keyNodup hmem hb
            (by rw [hv] at hbd; rw [hv, Option.some.inj (hbd.symm.trans hf)])
      predSome := fun b hb u hu =>
        have ⟨eu, h1, h2⟩ := inv.predSome b (hsub' b hb) u hu
        ⟨eu, List.mem_append_left _ h1, h2⟩
      predNone := fun hne b hb => inv.predNone hne b (hsub' b hb)
      srcNone := fun b hb => inv.srcNone b (hsub' b hb) }
  · refine ok.snoc hle hnot ?_ ?_
    · -- a walk to `e.v` is cut by a heap entry, and `e` has the least key in the heap
      rintro wt ⟨s, hs, k, hk⟩
      rcases frontier hnn inv hk hs with ⟨b', hb', hle'⟩ | ⟨b', hb', hbv, _⟩
      · exact Int.le_trans (hmin b' hb') hle'
      · exact absurd (List.mem_map.mpr ⟨b', hb', hbv⟩) hnot
    · intro u hu
      obtain ⟨eu, h5, h6, _⟩ := inv.predSome e (List.mem_append_left _ hmem) u hu
      exact ⟨eu, h5, h6⟩

theorem stale_inv {out : List Entry} {st : State} {e : Entry} {h' : List Entry}
    (inv : Inv g S tag out [] st) (hp : popMax st.heap = some (e, h')) (hf : dOf st.dist e.v ≠ some e.d) :
    Inv g S tag out [] ⟨st.dist, h'⟩ := by
  obtain ⟨hmem, rfl, _⟩ := popMax_some hp
  have hsub : ∀ b, b ∈ st.heap.erase e → b ∈ st.heap := fun b hb => List.mem_of_mem_erase hb
  have hsub' : ∀ b, b ∈ st.heap.erase e ++ out → b ∈ st.heap ++ out := fun b hb =>
    (List.mem_append.mp hb).elim (fun h => List.mem_append_left _ (hsub b h)) (List.mem_append_right _)
  refine { inv with heapKey := ?_, fresh := ?_, mono := ?_, keyNodup := ?_, notEmitted := ?_,
                    predSome := ?_, predNone := ?_, srcNone := ?_ }
  · intro b hb; exact inv.heapKey b (hsub b hb)
  · intro v d hv hvo
    obtain ⟨b, hb, hbv, hbd⟩ := inv.fresh v d hv hvo
    have : b ≠ e := fun h => hf (by rw [← h, hbv, hbd]; exact hv)
    exact ⟨b, (List.mem_erase_of_ne this).mpr hb, hbv, hbd⟩
  · intro b hb b' hb'; exact inv.mono b hb b' (hsub b' hb')
  · exact nodup_map_erase inv.keyNodup
  · intro b hb hbd; exact inv.notEmitted b (hsub b hb) hbd
  · intro b hb u hu; exact inv.predSome b (hsub' b hb) u hu
  · intro hne b hb hp'; exact inv.predNone hne b (hsub' b hb) hp'
  · intro b hb hs; exact inv.srcNone b (hsub' b hb) hs

/-- Total out-degree of the vertices not emitted yet. -/
def pending (g : WGraph) (out : List Entry) : Nat :=
  (((List.range g.n).filter (fun u => !(out.map (·.v)).contains u)).map (fun u => (g.out u).length)).sum

theorem pending_emit (g : WGraph) (out : List Entry) (e : Entry) (hn : e.v < g.n) (hnot : e.v ∉ out.map (·.v)) :
    pending g (out ++ [e]) + (g.out e.v).length = pending g out := by
  unfold pending
  have h := Vec.sum_filter_remove (fun u => (g.out u).length) (fun u => !(out.map (·.v)).contains u)
    (fun u => !((out ++ [e]).map (·.v)).contains u) e.v
    (by rw [Bool.not_eq_true', List.contains_eq_mem, decide_eq_false_iff_not]; exact hnot)
    (fun x => by
      rw [List.map_append, List.contains_eq_mem, List.contains_eq_mem, List.map_singleton,
        ← Bool.not_or, Bool.not_inj_iff, Bool.eq_iff_iff]
      simp only [List.mem_append, List.mem_singleton, decide_eq_true_eq, Bool.or_eq_true, beq_iff_eq])
    (List.range g.n)
  rwa [List.count_range, if_pos hn, Nat.one_mul] at h

theorem pending_nil (g : WGraph) : pending g [] = arcCount g := by
  simp [pending, arcCount, List.filter_eq_self.mpr]

theorem round_fresh (hwf : g.WF) (hnn : g.NonNeg) (htag : TagOK tag) {out : List Entry} {st : State}
    {e : Entry} {h' : List Entry} (inv : Inv g S tag out [] st) (ok : OutOK g S out)
    (hp : popMax st.heap = some (e, h')) (hf : dOf st.dist e.v = some e.d) :
    Inv g S tag (out ++ [e]) [] ((g.out e.v).foldl (relax tag e.v e.d) ⟨st.dist, h'⟩) ∧
    OutOK g S (out ++ [e]) ∧
    ((g.out e.v).foldl (relax tag e.v e.d) ⟨st.dist, h'⟩).heap.length + pending g (out ++ [e])
      < st.heap.length + pending g out := by
  obtain ⟨inv1, ok1, hmax, hnot, hvn⟩ := emit_inv hnn inv ok hp hf
  refine ⟨foldl_relax_inv hwf hnn htag ok1 (List.mem_append_right _ (List.mem_singleton.mpr rfl))
    hmax (g.out e.v) (fun _ h => h) [] _ inv1, ok1, ?_⟩
  have hl : _ ≤ h'.length + _ := foldl_relax_heap_len tag e.v e.d (g.out e.v) ⟨st.dist, h'⟩
  have hpe := pending_emit g out e hvn hnot
  have hlen := popMax_len hp
  omega

theorem round_stale {out : List Entry} {st : State} {e : Entry} {h' : List Entry}
    (inv : Inv g S tag out [] st) (hp : popMax st.heap = some (e, h')) (hf : dOf st.dist e.v ≠ some e.d) :
    Inv g S tag out [] ⟨st.dist, h'⟩ ∧ h'.length + pending g out < st.heap.length + pending g out :=
  ⟨stale_inv inv hp hf, Nat.add_lt_add_right (popMax_len hp ▸ Nat.lt_succ_self _) _⟩

theorem run_inv (hwf : g.WF) (hnn : g.NonNeg) (htag : TagOK tag) :
    ∀ (fuel : Nat) (out : List Entry) (st : State), Inv g S tag out [] st → OutOK g S out →
      st.heap.length + pending g out < fuel →
      (∃ st', Inv g S tag (out ++ run g tag fuel st) [] st' ∧ st'.heap = []) ∧
      OutOK g S (out ++ run g tag fuel st) ∧
      ∀ fuel', st.heap.length + pending g out < fuel' → run g tag fuel' st = run g tag fuel st := by
  intro fuel
  induction fuel with
  | zero => intro out st _ _ h; exact absurd h (Nat.not_lt_zero _)
  | succ f ih =>
    intro out st inv ok hm
    -- a fuel above the measure is a successor
    suffices H : (∃ st', Inv g S tag (out ++ run g tag (f+1) st) [] st' ∧ st'.heap = []) ∧
        OutOK g S (out ++ run g tag (f+1) st) ∧
        ∀ k, st.heap.length + pending g out < k + 1 → run g tag (k+1) st = run g tag (f+1) st by
      refine ⟨H.1, H.2.1, fun fuel' hf' => ?_⟩
      cases fuel' with
      | zero => exact absurd hf' (Nat.not_lt_zero _)
      | succ k => exact H.2.2 k hf'
    cases hp : popMax st.heap with
    | none =>
      simp only [run_none g tag hp, List.append_nil]
      exact ⟨⟨st, inv, popMax_none hp⟩, ok, fun _ _ => trivial⟩
    | some p =>
      obtain ⟨e, h'⟩ := p
      by_cases hf : dOf st.dist e.v = some e.d
      · obtain ⟨inv2, ok1, hm2⟩ := round_fresh hwf hnn htag inv ok hp hf
        obtain ⟨hex, hok, hfu⟩ := ih (out ++ [e]) _ inv2 ok1 (Nat.lt_of_lt_of_le hm2 (Nat.le_of_lt_succ hm))
        rw [List.append_assoc] at hex hok
        simp only [run_fresh g tag hp hf]
        exact ⟨hex, hok, fun k hk => congrArg _ (hfu k (Nat.lt_of_lt_of_le hm2 (Nat.le_of_lt_succ hk)))⟩
      · obtain ⟨inv1, hm2⟩ := round_stale inv hp hf
        obtain ⟨hex, hok, hfu⟩ := ih out _ inv1 ok (Nat.lt_of_lt_of_le hm2 (Nat.le_of_lt_succ hm))
        simp only [run_stale g tag hp hf]
        exact ⟨hex, hok, fun k hk => hfu k (Nat.lt_of_lt_of_le hm2 (Nat.le_of_lt_succ hk))⟩

/-- `new` writes `0` at every source and pushes the sources in order. -/
theorem init_fold (S : List Nat) : ∀ st : State,
    (S.foldl (fun st s => (⟨st.dist.set s (some 0), ⟨0, none, s⟩ :: st.heap⟩ : State)) st).dist =
      S.foldl (fun d s => d.set s (some 0)) st.dist ∧
    (S.foldl (fun st s => (⟨st.dist.set s (some 0), ⟨0, none, s⟩ :: st.heap⟩ : State)) st).heap =
      S.reverse.map (fun s => (⟨0, none, s⟩ : Entry)) ++ st.heap := by
  induction S with
  | nil => intro st; exact ⟨rfl, rfl⟩
  | cons s S ih =>
    intro st
    obtain ⟨h1, h2⟩ := ih ⟨st.dist.set s (some 0), ⟨0, none, s⟩ :: st.heap⟩
    refine ⟨h1, h2.trans ?_⟩
    rw [List.reverse_cons, List.map_append, List.append_assoc]; rfl

theorem init_heap (n : Nat) (S : List Nat) :
    (init n S).heap = S.reverse.map (fun s => (⟨0, none, s⟩ : Entry)) :=
  ((init_fold S _).2).trans (List.append_nil _)

/-- `new` marks the sources as the oracles do (`OracleProof.lk_marks`). -/
theorem dOf_init {n : Nat} {S : List Nat} (hS : ∀ s ∈ S, s < n) (v : Nat) :
    dOf (init n S).dist v = if v ∈ S then some 0 else none := by
  rw [init, (init_fold S _).1, dOf_eq_lk, OracleProof.lk_marks]
  exact ite_cond_congr (propext ⟨And.left, fun h => ⟨h, hS v h⟩⟩)

theorem dOf_init_some {n : Nat} {S : List Nat} {v : Nat} {d : Int}
    (h : dOf (init n S).dist v = some d) : v ∈ S ∧ d = 0 := by
  rw [init, (init_fold S _).1] at h
  exact ⟨((OracleProof.lk_marks_some ..).mp h).2.1, ((OracleProof.lk_marks_some ..).mp h).1⟩

theorem init_inv (hS : ∀ s ∈ S, s < g.n) (hnd : S.Nodup) :
    Inv g S tag [] [] (init g.n S) ∧ OutOK g S [] := by
  have hd := dOf_init hS
  have hh := init_heap g.n S
  have hmemh : ∀ e ∈ (init g.n S).heap ++ [], e.v ∈ S ∧ e.d = 0 ∧ e.p = none := by
    intro e he
    rw [List.append_nil, hh] at he
    obtain ⟨s, hs, rfl⟩ := List.mem_map.mp he
    exact ⟨List.mem_reverse.mp hs, rfl, rfl⟩
  refine ⟨{ len := ?_, sound := ?_, src := ?_, heapKey := ?_, fresh := ?_, final := fun _ h => (nomatch h),
            relaxed := fun _ h => (nomatch h), mono := fun _ h => (nomatch h), keyNodup := ?_,
            notEmitted := fun _ _ _ h => (nomatch h), predSome := ?_, predNone := ?_, srcNone := ?_ },
          ⟨List.Pairwise.nil, List.Pairwise.nil, fun _ h => (nomatch h),
           fun pre e post h => absurd (congrArg List.length h) (by simp)⟩⟩
  · exact (congrArg List.length (init_fold S _).1).trans (Vec.written_length (k := id) (val := fun _ => some (0 : Int)) none g.n S)
  · intro v d hv
    obtain ⟨hvS, rfl⟩ := dOf_init_some hv
    exact SrcWalk.src hvS
  · intro s hs; rw [hd s, if_pos hs]
  · intro e he
    obtain ⟨h1, h2, _⟩ := hmemh e (List.mem_append_left _ he)
    exact ⟨0, by rw [hd, if_pos h1], Int.le_of_eq h2.symm⟩
  · intro v d hv _
    obtain ⟨hvS, rfl⟩ := dOf_init_some hv
    exact ⟨⟨0, none, v⟩, hh ▸ List.mem_map.mpr ⟨v, List.mem_reverse.mpr hvS, rfl⟩, rfl, rfl⟩
  · rw [hh, List.map_map]
    exact (List.pairwise_map.mpr ((List.pairwise_reverse.mpr hnd).imp
      fun hab h => hab (Prod.mk.inj h).2.symm))
  · intro e he u hu
    rw [(hmemh e he).2.2] at hu
    cases hu
  · intro _ e he _
    exact ⟨(hmemh e he).1, (hmemh e he).2.1⟩
  · intro e he _
    exact (hmemh e he).2.2

theorem init_measure : (init g.n S).heap.length + pending g [] < fuel g S := by
  rw [init_heap, pending_nil, List.length_map, List.length_reverse]
  exact Nat.lt_succ_self _

theorem entries_spec (h : Hyp g S) (htag : TagOK tag) :
    OutOK g S (entries g tag S) ∧
    (∃ st', Inv g S tag (entries g tag S) [] st' ∧ st'.heap = []) ∧
    ∀ f, fuel g S ≤ f → run g tag f (init g.n S) = entries g tag S := by
  obtain ⟨inv0, ok0⟩ := init_inv (g := g) (S := S) (tag := tag) h.srcRange h.srcNodup
  obtain ⟨hex, hok, hfu⟩ := run_inv h.wf h.nonneg htag (fuel g S) [] (init g.n S) inv0 ok0 init_measure
  exact ⟨hok, hex, fun f hf => hfu f (Nat.lt_of_lt_of_le init_measure hf)⟩

theorem entries_walk (h : Hyp g S) (htag : TagOK tag) : ∀ e ∈ entries g tag S, SrcWalk g S e.v e.d := by
  obtain ⟨_, ⟨st', inv, _⟩, _⟩ := entries_spec h htag
  exact fun e he => inv.sound _ _ (inv.final e he)

theorem entries_lt (h : Hyp g S) (htag : TagOK tag) : ∀ e ∈ entries g tag S, e.v < g.n := by
  obtain ⟨_, ⟨st', inv, _⟩, _⟩ := entries_spec h htag
  exact fun e he => inv.len ▸ OracleProof.lk_lt (inv.final e he)

theorem entries_min (h : Hyp g S) (htag : TagOK tag) : ∀ e ∈ entries g tag S, IsMinDist g S e.v e.d := by
  obtain ⟨ok, _, _⟩ := entries_spec h htag
  exact fun e he => ⟨entries_walk h htag e he, fun s hs k wt hk => ok.minimal e he wt ⟨s, hs, k, hk⟩⟩

theorem entries_mem_iff (h : Hyp g S) (htag : TagOK tag) (v : Nat) :
    v ∈ (entries g tag S).map (·.v) ↔ WReachFrom g S v := by
  obtain ⟨_, ⟨st', inv, hh⟩, _⟩ := entries_spec h htag
  constructor
  · intro hv
    obtain ⟨e, he, rfl⟩ := List.mem_map.mp hv
    obtain ⟨s, hs, k, hk⟩ := entries_walk h htag e he
    exact ⟨s, hs, k, e.d, hk⟩
  · rintro ⟨s, hs, k, wt, hk⟩
    -- the heap is empty at the end: no walk is cut
    rcases frontier h.nonneg inv hk hs with ⟨e, he, _⟩ | ⟨e, he, hev, _⟩
    · rw [hh] at he; cases he
    · exact List.mem_map.mpr ⟨e, he, hev⟩

theorem isMinDist_unique {v : Nat} {d d' : Int} (h1 : IsMinDist g S v d) (h2 : IsMinDist g S v d') : d = d' :=
  h1.unique h2

theorem distances_eq_written (g : WGraph) (S : List Nat) :
    distances g S = Vec.written (·.v) (fun e : Entry => some e.d) none g.n (entries g (fun _ => none) S) := by
  rw [distances, distancesOf, dijkstraDist, List.foldl_map]; rfl

/-- `distances()` is the distance vector: the key `v` was emitted with, the sentinel for a vertex that
was not emitted. -/
theorem distances_isDistVec (h : Hyp g S) : Cross.IsDistVec g S (distances g S) := by
  obtain ⟨ok, _, _⟩ := entries_spec h tagOK_none
  have hlt := entries_lt h tagOK_none
  rw [distances_eq_written]
  refine Cross.isDistVec_of_sound (Vec.written_length ..) (fun v x hx => ?_) (fun v hx hr => ?_)
  · by_cases hm : v ∈ (entries g (fun _ => none) S).map (·.v)
    · obtain ⟨e, he, rfl⟩ := List.mem_map.mp hm
      rw [Vec.written_mem ok.nodup he (hlt e he)] at hx
      cases hx
      exact entries_min h tagOK_none e he
    · rw [Vec.written, Vec.foldl_set_not_mem _ _ _ _ v hm, List.getElem?_replicate] at hx
      split at hx <;> cases hx
  · obtain ⟨e, he, rfl⟩ := List.mem_map.mp ((entries_mem_iff h tagOK_none v).mpr hr)
    rw [Vec.written_mem ok.nodup he (hlt e he)] at hx
    cases hx

end GraafVerif.Dijkstra
