import GraafVerif.Model.Dijkstra
import GraafVerif.Proof.OracleFold
import GraafVerif.Proof.VecLemmas
/-! Basic lemmas for the Dijkstra proofs: the heap (`popMax`), `dOf`/`set`, the equations of `run` and
`next`; between them four facts about any list that `Proof/DijkstraRun.lean` uses on the emitted entries
and the heap: an element appended (`forall_mem_snoc`, `mem_map_snoc`), an element erased from a list with
distinct keys (`mem_erase_of_key_nodup`, `nodup_map_erase`). -/
namespace GraafVerif.Dijkstra
open GraafVerif

/-- The greater of two entries in the derived order has the smaller distance. -/
theorem pick_spec (a b : Entry) :
    ((if a.lt b then b else a) = a ∨ (if a.lt b then b else a) = b) ∧
    (if a.lt b then b else a).d ≤ a.d ∧ (if a.lt b then b else a).d ≤ b.d := by
  by_cases h : a.lt b = true
  · rw [if_pos h]
    simp only [Entry.lt, Bool.or_eq_true, Bool.and_eq_true, decide_eq_true_eq] at h
    exact ⟨.inr rfl, by omega, Int.le_refl _⟩
  · rw [if_neg h]
    simp only [Entry.lt, Bool.or_eq_true, Bool.and_eq_true, decide_eq_true_eq, not_or] at h
    exact ⟨.inl rfl, Int.le_refl _, by omega⟩

theorem maxEntry_spec (a : Entry) (r : List Entry) :
    maxEntry a r ∈ a :: r ∧ ∀ b ∈ a :: r, (maxEntry a r).d ≤ b.d := by
  induction r generalizing a with
  | nil => exact ⟨List.mem_singleton.mpr rfl, fun b hb => List.mem_singleton.mp hb ▸ Int.le_refl _⟩
  | cons c r ih =>
    obtain ⟨hmem, hle⟩ := ih (if a.lt c then c else a)
    obtain ⟨hpick, hpa, hpc⟩ := pick_spec a c
    have hm := hle _ List.mem_cons_self
    rw [maxEntry]
    refine ⟨?_, fun b hb => ?_⟩
    · rcases List.mem_cons.mp hmem with h | h
      · rw [h]
        rcases hpick with h' | h' <;> rw [h']
        · exact List.mem_cons_self
        · exact List.mem_cons_of_mem _ List.mem_cons_self
      · exact List.mem_cons_of_mem _ (List.mem_cons_of_mem _ h)
    · rcases List.mem_cons.mp hb with rfl | hb
      · exact Int.le_trans hm hpa
      · rcases List.mem_cons.mp hb with rfl | hb
        · exact Int.le_trans hm hpc
        · exact hle b (List.mem_cons_of_mem _ hb)

theorem popMax_some {h h' : List Entry} {e : Entry} (hp : popMax h = some (e, h')) :
    e ∈ h ∧ h' = h.erase e ∧ ∀ b ∈ h, e.d ≤ b.d := by
  cases h with
  | nil => cases hp
  | cons a r =>
    cases hp
    exact ⟨(maxEntry_spec a r).1, rfl, (maxEntry_spec a r).2⟩

theorem popMax_none {h : List Entry} (hp : popMax h = none) : h = [] := by
  cases h with
  | nil => rfl
  | cons a r => cases hp

theorem popMax_len {h h' : List Entry} {e : Entry} (hp : popMax h = some (e, h')) :
    h'.length + 1 = h.length := by
  obtain ⟨hmem, rfl, _⟩ := popMax_some hp
  rw [List.length_erase_of_mem hmem]
  exact Nat.sub_add_cancel (List.length_pos_of_mem hmem)

/-- The lookup of the model is that of the oracles: the `lk_*` lemmas of `Proof/OracleFold.lean`
(`lk_lt`, `lk_set`, `lk_set_bound`) speak of `dOf`. -/
theorem dOf_eq_lk : dOf = OracleProof.lk := rfl

theorem dOf_set_eq {dist : List (Option Int)} {x : Nat} {a : Option Int} (h : x < dist.length) :
    dOf (dist.set x a) x = a := by
  rw [dOf_eq_lk, OracleProof.lk_set, if_pos ⟨rfl, h⟩]

theorem dOf_set_ne {dist : List (Option Int)} {x y : Nat} {a : Option Int} (h : y ≠ x) :
    dOf (dist.set x a) y = dOf dist y := by
  rw [dOf_eq_lk, OracleProof.lk_set, if_neg fun e => h e.1.symm]

theorem dOf_replicate (n v : Nat) : dOf (List.replicate n none) v = none :=
  Vec.getD_replicate none n v

theorem improves_iff (dn : Int) (o : Option Int) :
    improves dn o = true ↔ ∀ dx, o = some dx → dn < dx := by
  cases o <;> simp [improves]

theorem forall_mem_snoc {α : Type} {p : α → Prop} {l : List α} {a : α} (h : ∀ x ∈ l, p x) (ha : p a) :
    ∀ x ∈ l ++ [a], p x :=
  List.forall_mem_append.mpr ⟨h, List.forall_mem_singleton.mpr ha⟩

theorem mem_map_snoc {α β : Type} {f : α → β} {l : List α} {a : α} {b : β} :
    b ∈ (l ++ [a]).map f ↔ b ∈ l.map f ∨ b = f a := by
  rw [List.map_append, List.mem_append, List.map_singleton, List.mem_singleton]

theorem mem_erase_of_key_nodup {α β : Type} [DecidableEq α] (f : α → β) (l : List α) (e e' : α)
    (hnd : (l.map f).Nodup) (he : e ∈ l) (he' : e' ∈ l.erase e) : f e' ≠ f e := by
  have hnd' : ((e :: l.erase e).map f).Nodup := ((List.perm_cons_erase he).map f).nodup_iff.mp hnd
  rw [List.map_cons, List.nodup_cons] at hnd'
  exact fun heq => hnd'.1 (heq ▸ List.mem_map_of_mem he')

theorem nodup_map_erase {α β : Type} [DecidableEq α] {f : α → β} {l : List α} {e : α}
    (hnd : (l.map f).Nodup) : ((l.erase e).map f).Nodup :=
  hnd.sublist (List.erase_sublist.map f)

variable (g : WGraph) (tag : Nat → Option Nat)

theorem run_none {st : State} (hp : popMax st.heap = none) (f : Nat) : run g tag (f+1) st = [] := by
  rw [run, hp]

theorem run_fresh {st : State} {e : Entry} {h : List Entry} (hp : popMax st.heap = some (e, h))
    (hf : dOf st.dist e.v = some e.d) (f : Nat) :
    run g tag (f+1) st = e :: run g tag f ((g.out e.v).foldl (relax tag e.v e.d) ⟨st.dist, h⟩) := by
  rw [run, hp]; exact if_pos hf

theorem run_stale {st : State} {e : Entry} {h : List Entry} (hp : popMax st.heap = some (e, h))
    (hf : dOf st.dist e.v ≠ some e.d) (f : Nat) : run g tag (f+1) st = run g tag f ⟨st.dist, h⟩ := by
  rw [run, hp]; exact if_neg hf

theorem next_none {st : State} (hp : popMax st.heap = none) (k : Nat) : next g tag (k+1) st = none := by
  rw [next, hp]

theorem next_fresh {st : State} {e : Entry} {h : List Entry} (hp : popMax st.heap = some (e, h))
    (hf : dOf st.dist e.v = some e.d) (k : Nat) :
    next g tag (k+1) st = some (e, (g.out e.v).foldl (relax tag e.v e.d) ⟨st.dist, h⟩) := by
  rw [next, hp]; exact if_pos hf

theorem next_stale {st : State} {e : Entry} {h : List Entry} (hp : popMax st.heap = some (e, h))
    (hf : dOf st.dist e.v ≠ some e.d) (k : Nat) : next g tag (k+1) st = next g tag k ⟨st.dist, h⟩ := by
  rw [next, hp]; exact if_neg hf

end GraafVerif.Dijkstra
