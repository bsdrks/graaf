/-!
# `Chk`: functions whose memory safety is at stake (DESIGN.md §4.4, property C13)

`Chk α := Except Fault α` with `Fault = panic | ub site`.  Every raw-pointer access
`*ptr.add(i)`, `get_unchecked(i)`, `get_unchecked_mut(i)` of the Rust source is an `rd`/`wr`
(or a bare `chkIdx`) on the list that models the allocation: it yields `ub site` exactly when
`i` is not smaller than the length of that allocation.  `unwrap_unchecked` on an `Option`
is `chkSome`.  Rust `assert!`/`panic!`/checked indexing is `.panic`.

A theorem `NoUB (f inputs)` for all inputs therefore says: on no input does the code as
modelled reach an unchecked access whose precondition is false.  What such a theorem cannot
say (allocator behaviour, use-after-free inside `std`, data races) is exercised by the tie only.
No imports: usable from the compiled driver.
-/
namespace GraafVerif.Chk

inductive Fault where
  | panic
  | ub (site : String)
  deriving DecidableEq, Repr

abbrev Chk (α : Type) := Except Fault α

instance instDecEqChk {α : Type} [DecidableEq α] : DecidableEq (Except Fault α) := fun a b =>
  match a, b with
  | .ok x, .ok y => if h : x = y then isTrue (by rw [h]) else isFalse (by intro e; cases e; exact h rfl)
  | .error x, .error y => if h : x = y then isTrue (by rw [h]) else isFalse (by intro e; cases e; exact h rfl)
  | .ok _, .error _ => isFalse (by intro e; cases e)
  | .error _, .ok _ => isFalse (by intro e; cases e)

/-- The computation never reaches a violated precondition of an unchecked operation. -/
def NoUB {α : Type} (x : Chk α) : Prop := ∀ s, x ≠ .error (.ub s)

/-- Precondition of `ptr.add(i)` + dereference / `get_unchecked(i)` on an allocation of `len` elements. -/
def chkIdx (site : String) (i len : Nat) : Chk Unit :=
  if i < len then .ok () else .error (.ub site)

/-- `unwrap_unchecked`. -/
def chkSome {α : Type} (site : String) : Option α → Chk α
  | some a => .ok a
  | none => .error (.ub site)

/-- `assert!(b)`. -/
def assert (b : Bool) : Chk Unit := if b then .ok () else .error .panic

/-- Unchecked read `*ptr.add(i)` from the allocation modelled by `l`. -/
def rd {α : Type} (site : String) (l : List α) (i : Nat) : Chk α :=
  match l[i]? with
  | some a => .ok a
  | none => .error (.ub site)

/-- Unchecked write `*ptr.add(i) = v`. -/
def wr {α : Type} (site : String) (l : List α) (i : Nat) (v : α) : Chk (List α) :=
  if i < l.length then .ok (l.set i v) else .error (.ub site)

/-- Checked read `l[i]` (panics when out of range). -/
def rdChecked {α : Type} (l : List α) (i : Nat) : Chk α :=
  match l[i]? with
  | some a => .ok a
  | none => .error .panic

/-! ## Basic facts -/

theorem noUB_ok {α : Type} (a : α) : NoUB (.ok a : Chk α) := by intro s h; cases h
theorem noUB_pure {α : Type} (a : α) : NoUB (pure a : Chk α) := noUB_ok a
theorem noUB_panic {α : Type} : NoUB (.error .panic : Chk α) := by intro s h; cases h
theorem noUB_throw_panic {α : Type} : NoUB (throw Fault.panic : Chk α) := noUB_panic

theorem noUB_assert (b : Bool) : NoUB (assert b) := by
  unfold assert; split
  · exact noUB_ok _
  · exact noUB_panic

theorem assert_ok {b : Bool} {u : Unit} (h : assert b = .ok u) : b = true := by
  unfold assert at h; split at h
  · assumption
  · cases h

theorem noUB_bind {α β : Type} {x : Chk α} {f : α → Chk β}
    (hx : NoUB x) (hf : ∀ a, x = .ok a → NoUB (f a)) : NoUB (x >>= f) := by
  intro s h
  cases x with
  | error e =>
    have : (Except.error e : Chk α) >>= f = .error e := rfl
    rw [this] at h
    cases h
    exact hx s rfl
  | ok a => exact hf a rfl s h

theorem bind_ok {α β : Type} {x : Chk α} {f : α → Chk β} {b : β} (h : x >>= f = .ok b) :
    ∃ a, x = .ok a ∧ f a = .ok b := by
  cases x with
  | error e => cases h
  | ok a => exact ⟨a, rfl, h⟩

theorem noUB_chkIdx {site : String} {i len : Nat} (h : i < len) : NoUB (chkIdx site i len) := by
  unfold chkIdx; rw [if_pos h]; exact noUB_ok _

theorem noUB_rd {α : Type} {site : String} {l : List α} {i : Nat} (h : i < l.length) : NoUB (rd site l i) := by
  unfold rd
  rw [List.getElem?_eq_getElem h]
  exact noUB_ok _

theorem noUB_rdChecked {α : Type} (l : List α) (i : Nat) : NoUB (rdChecked l i) := by
  unfold rdChecked; split
  · exact noUB_ok _
  · exact noUB_panic

theorem noUB_wr {α : Type} {site : String} {l : List α} {i : Nat} {v : α} (h : i < l.length) :
    NoUB (wr site l i v) := by
  unfold wr; rw [if_pos h]; exact noUB_ok _

theorem wr_ok {α : Type} {site : String} {l l' : List α} {i : Nat} {v : α} (h : wr site l i v = .ok l') :
    l' = l.set i v ∧ i < l.length := by
  unfold wr at h; split at h
  · cases h; exact ⟨rfl, by assumption⟩
  · cases h

theorem wr_length {α : Type} {site : String} {l l' : List α} {i : Nat} {v : α} (h : wr site l i v = .ok l') :
    l'.length = l.length := by
  rw [(wr_ok h).1]; simp

/-- Invariant rule for `foldlM`: on the members of the list the step is `NoUB` and preserves `P` under `P`. -/
theorem foldlM_inv_mem {σ α : Type} (P : σ → Prop) (f : σ → α → Chk σ) (l : List α)
    (hstep : ∀ s a, a ∈ l → P s → NoUB (f s a) ∧ ∀ s', f s a = .ok s' → P s') :
    ∀ (s : σ), P s → NoUB (l.foldlM f s) ∧ ∀ s', l.foldlM f s = .ok s' → P s' := by
  induction l with
  | nil =>
    intro s hs
    refine ⟨noUB_pure s, ?_⟩
    intro s' h
    cases h
    exact hs
  | cons a l ih =>
    intro s hs
    rw [List.foldlM_cons]
    obtain ⟨h1, h2⟩ := hstep s a (List.mem_cons_self) hs
    have ih' := ih (fun s b hb => hstep s b (List.mem_cons_of_mem _ hb))
    refine ⟨noUB_bind h1 (fun s1 e => (ih' s1 (h2 s1 e)).1), ?_⟩
    intro s' h
    obtain ⟨s1, e1, e2⟩ := bind_ok h
    exact (ih' s1 (h2 s1 e1)).2 s' e2

theorem foldlM_inv {σ α : Type} (P : σ → Prop) (f : σ → α → Chk σ)
    (hstep : ∀ s a, P s → NoUB (f s a) ∧ ∀ s', f s a = .ok s' → P s') :
    ∀ (l : List α) (s : σ), P s → NoUB (l.foldlM f s) ∧ ∀ s', l.foldlM f s = .ok s' → P s' :=
  fun l => foldlM_inv_mem P f l fun s a _ => hstep s a

end GraafVerif.Chk
