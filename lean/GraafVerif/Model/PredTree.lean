/-!
# Model of `PredecessorTree::search_by` / `search`  (src/algo/predecessor_tree.rs)

`pred : Vec<Option<usize>>` is a `List (Option Nat)`.  The `while let Some(&v) = self.pred.get(s)`
loop is structural recursion on fuel; `searchByFuel_adequate` (Proof/PredTreeFull) shows the result
is the same for every fuel ≥ `pred.length + 2`, so `search` fixes that fuel.  The model follows the
code after the `fix:` that bounds-checks `visited` (an out-of-range entry ends the search).
-/
namespace GraafVerif.PredTree

abbrev Pred := List (Option Nat)

/-- The `while let Some(&v) = self.pred.get(s)` loop. -/
def loop (pred : Pred) (isT : Nat → Option Nat → Bool) :
    Nat → Nat → List Bool → List Nat → Option (List Nat)
  | 0, _, _, _ => none
  | fuel+1, s, visited, path =>
    match pred[s]? with
    | none => none                                   -- `pred.get(s)` is `None`: loop ends
    | some v =>
      if isT s v then some path
      else match v with
        | none => none                               -- `else { break }`
        | some v' =>
          match visited[v']? with
          | none => none                             -- out-of-range entry: `break` (fix)
          | some true => none                        -- already visited: `break`
          | some false =>
            loop pred isT fuel v' (visited.set v' true) (if v' ≠ s then path ++ [v'] else path)

/-- Outcome of a call: Rust panics on `self.pred[s]` when `s` is out of range. -/
inductive Res where
  | panic
  | ret (p : Option (List Nat))
  deriving DecidableEq, Repr

def searchByFuel (pred : Pred) (s : Nat) (isT : Nat → Option Nat → Bool) (fuel : Nat) : Res :=
  match pred[s]? with
  | none => .panic
  | some ps =>
    if isT s ps then .ret (some [s])
    else .ret (loop pred isT fuel s (List.replicate pred.length false) [s])

def searchBy (pred : Pred) (s : Nat) (isT : Nat → Option Nat → Bool) : Res :=
  searchByFuel pred s isT (pred.length + 2)

def search (pred : Pred) (s t : Nat) : Res := searchBy pred s (fun v _ => v == t)

/-- k-th iterate of the predecessor link (`none` once the chain has ended or left the vector). -/
def chain (pred : Pred) (s : Nat) : Nat → Option Nat
  | 0 => some s
  | k+1 => match chain pred s k with
    | none => none
    | some x => ((pred[x]?).getD none)

/-- The predicate as a function of the vertex alone (it is given the vertex and its entry). -/
def target (pred : Pred) (isT : Nat → Option Nat → Bool) (x : Nat) : Bool :=
  isT x ((pred[x]?).getD none)

example : search [some 1, some 2, some 3, none] 0 3 = .ret (some [0,1,2,3]) := by decide
example : search [some 1, some 0] 0 5 = .ret none := by decide
example : search [some 0] 0 5 = .ret none := by decide
example : search [some 7, none] 0 1 = .ret none := by decide
example : search [some 1, none] 2 1 = .panic := by decide

end GraafVerif.PredTree
