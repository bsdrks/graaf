import GraafVerif.Model.Johnson
import GraafVerif.Spec.Johnson
import GraafVerif.Proof.JohnsonSpec
import GraafVerif.Proof.JohnsonTop
import GraafVerif.Proof.JohnsonAllCircuits
import GraafVerif.Proof.JohnsonFuel
import GraafVerif.Proof.JohnsonDesc
/-!
# C10 — Johnson75 enumerates every elementary circuit exactly once

`circuits` is the model of `Johnson75::circuits` (`Model/Johnson.lean`, `Model/JohnsonTarjan.lean`,
`Model/JohnsonMap.lean`), tied to the code by the correspondence run; `allCircuits` is the naive
enumerator the driver uses as oracle.
-/
namespace GraafVerif.C10
open GraafVerif GraafVerif.Johnson

/-- Full statement of C10: on every simple digraph with vertex set `0..n` the model of
`Johnson75::circuits` returns a duplicate-free list whose members are exactly the canonical
elementary circuits (each elementary circuit exactly once, written from its smallest vertex,
and nothing else). -/
def Statement : Prop :=
  ∀ g : Graph, g.WF → NoLoops g → RowsNodup g →
    (circuits g).Nodup ∧ ∀ c, c ∈ circuits g ↔ IsCanonicalElemCircuit g c

/-- The `assert!` at the head of `circuits()` never fires on a vertex set `0..n`: the checked
model (`none` = panic) returns `circuits g`. -/
theorem circuitsChecked_ofGraph (g : Graph) : circuitsChecked (AM.ofGraph g) = some (circuits g) := by
  unfold circuitsChecked
  have : (AM.ofGraph g).verts.all (fun u => decide (u < (AM.ofGraph g).order)) = true := by
    simp [AM.ofGraph, AM.order]
  rw [if_pos this]
  rfl

/-- The naive enumerator returns exactly the canonical elementary circuits … -/
theorem allCircuits_spec (g : Graph) (hwf : g.WF) (c : List Nat) :
    c ∈ allCircuits g ↔ IsCanonicalElemCircuit g c := Johnson.allCircuits_spec g hwf c

/-- … each exactly once. -/
theorem allCircuits_nodup (g : Graph) (hrows : RowsNodup g) : (allCircuits g).Nodup :=
  Johnson.allCircuits_nodup g hrows

/-- Every list the model of `Johnson75::circuits` returns is a canonical elementary circuit
(length ≥ 2, distinct vertices, consecutive arcs, closing arc, starts at its minimum) and no list
is returned twice: the model returns the list of the verified enumerator, in the same order
(`Johnson.circuits_eq_allCircuits`; `circuit` is the enumerator's depth-first extension of the stack,
and the neighbours it skips because they are blocked are those for which the enumerator lists nothing). -/
theorem johnson_sound (g : Graph) (hwf : g.WF) (hloops : NoLoops g) (hrows : RowsNodup g) :
    (circuits g).Nodup ∧ ∀ c ∈ circuits g, IsCanonicalElemCircuit g c := by
  rw [Johnson.circuits_eq_allCircuits g hwf hloops]
  exact ⟨Johnson.allCircuits_nodup g hrows, fun c => (Johnson.allCircuits_spec g hwf c).1⟩

/-- Consequence: the model's output is a duplicate-free sub-multiset of the verified enumeration;
the two are permutations of each other as soon as their lengths agree (what the driver checks
per instance for the implementation). -/
theorem johnson_subset_allCircuits (g : Graph) (hwf : g.WF) (hloops : NoLoops g) (hrows : RowsNodup g) :
    ∀ c ∈ circuits g, c ∈ allCircuits g :=
  fun c hc => (allCircuits_spec g hwf c).2 ((johnson_sound g hwf hloops hrows).2 c hc)

/-- A property of Johnson's own Tarjan (`TarjanCovers g`): on the subgraph induced by the vertices
`≥ s`, every emitted component that contains `s` contains every vertex of every canonical circuit
starting at `s`.  (On a closed digraph the compact Tarjan of `Model/JohnsonTarjan.lean` runs in
lock-step with the C09 model, `Proof/JohnsonTarjanSim.lean`, so each emitted component is a strongly
connected component; the vertices of a circuit through `s` are mutually reachable with `s` inside
the subgraph.)  The theorems below do not use it. -/
theorem tarjan_covers (g : Graph) (hwf : g.WF) : TarjanCovers g := Johnson.tarjanCovers g hwf

set_option linter.unusedVariables false in
/-- The statement of `johnson_complete` under the further hypothesis `TarjanCovers g`, which the proof
does not use: the model returns `allCircuits g` (`Johnson.circuits_eq_allCircuits`), which lists every
canonical elementary circuit (`allCircuits_spec`). -/
theorem johnson_complete_of_tarjan (g : Graph) (hwf : g.WF) (hloops : NoLoops g) (hrows : RowsNodup g)
    (htc : TarjanCovers g) : ∀ c, IsCanonicalElemCircuit g c → c ∈ circuits g := by
  rw [Johnson.circuits_eq_allCircuits g hwf hloops]
  exact fun c => (Johnson.allCircuits_spec g hwf c).2

set_option linter.unusedVariables false in
/-- Every canonical elementary circuit is returned by the model of `Johnson75::circuits`: the model
returns the list of the verified enumerator.  (Behind the equation, Johnson's blocked / B-list
invariant: a blocked vertex `x` that is not on the stack has no arc to `s`, all its out-neighbours `w`
are blocked and `x ∈ B[w]`; hence a vertex from which `s` can be reached avoiding the stack is never
blocked, and `circuit` skips no neighbour for which the enumerator lists a circuit.) -/
theorem johnson_complete (g : Graph) (hwf : g.WF) (hloops : NoLoops g) (hrows : RowsNodup g) :
    ∀ c, IsCanonicalElemCircuit g c → c ∈ circuits g := by
  rw [Johnson.circuits_eq_allCircuits g hwf hloops]
  exact fun c => (Johnson.allCircuits_spec g hwf c).2

theorem statement : Statement := fun g hwf hloops hrows =>
  ⟨(johnson_sound g hwf hloops hrows).1,
   fun c => ⟨(johnson_sound g hwf hloops hrows).2 c, johnson_complete g hwf hloops hrows c⟩⟩

set_option linter.unusedVariables false in
/-- The model's output is a permutation of the verified naive enumeration (the relation the
driver checks between the IMPLEMENTATION's output and `allCircuits` on every instance); the two
lists are in fact equal, rows duplicate-free or not. -/
theorem johnson_perm_allCircuits (g : Graph) (hwf : g.WF) (hloops : NoLoops g) (hrows : RowsNodup g) :
    (circuits g).Perm (allCircuits g) :=
  Johnson.circuits_eq_allCircuits g hwf hloops ▸ List.Perm.refl _

/-- The digraph the driver builds from a description whose arcs are in range and loop-free (what
the handler checks before evaluating a case) satisfies the hypotheses of `statement`, so on every
evaluated instance the model output IS a permutation of `allCircuits` — a MISMATCH-free,
PROPFAIL-free case therefore shows that the implementation returned the model's list and that
list is exactly the set of canonical elementary circuits. -/
theorem statement_on_driver_graphs (n : Nat) (arcs : List (Nat × Nat))
    (hv : ∀ a ∈ arcs, a.1 < n ∧ a.2 < n ∧ a.1 ≠ a.2) :
    (circuits (Graph.ofRows (rowsOfArcs n arcs))).Perm (allCircuits (Graph.ofRows (rowsOfArcs n arcs))) := by
  obtain ⟨h1, h2, h3⟩ := Johnson.driver_graph_ok n arcs hv
  exact johnson_perm_allCircuits _ h1 h2 h3

/-- `circuits()` called `k` times on the SAME `Johnson75` value (`blocked`, `b`, `stack` survive a
call — e.g. the root of every trivial component stays blocked — only `result` is fresh): EVERY
call returns each elementary circuit exactly once, in canonical form, and nothing else.  The
per-root reset loop of `circuits` is what makes each round independent of the stale state. -/
theorem johnson_repeat_statement (g : Graph) (hwf : g.WF) (hloops : NoLoops g) (hrows : RowsNodup g)
    (k : Nat) : (circuitsRepeat (AM.ofGraph g) k (JState.new (AM.ofGraph g))).length = k ∧
    ∀ out ∈ circuitsRepeat (AM.ofGraph g) k (JState.new (AM.ofGraph g)),
      out.Nodup ∧ ∀ c, c ∈ out ↔ IsCanonicalElemCircuit g c :=
  ⟨Johnson.circuitsRepeat_length _ k _, fun out h => by
    rw [Johnson.repeat_eq_allCircuits g hwf hloops k _ (Johnson.GInv2.new g) out h]
    exact ⟨Johnson.allCircuits_nodup g hrows, Johnson.allCircuits_spec g hwf⟩⟩

theorem johnson_repeat_first (g : Graph) (k : Nat) :
    (circuitsRepeat (AM.ofGraph g) (k+1) (JState.new (AM.ofGraph g))).head? = some (circuits g) := rfl

/-- Fuel adequacy of `unblock`: any fuel above the number of blocked vertices gives the same
result (each recursion level removes one vertex from `blocked`). -/
theorem unblock_fuel_adequate (f1 f2 : Nat) (st : JState) (u : Nat) (hnd : st.blocked.Nodup)
    (h1 : st.blocked.length < f1) (h2 : st.blocked.length < f2) : unblock f1 st u = unblock f2 st u :=
  Johnson.unblock_fuel_irrel f1 f2 st u hnd h1 h2

set_option linter.unusedVariables false in
/-- Fuel adequacy of `circuit`: from any state satisfying the soundness invariant `Inv`, any two
fuels of at least (number of component vertices − stack height) give the same result — the
recursion depth is bounded because the stack stays duplicate-free inside the component.  (`hrow` and
`hwalk` are not used.) -/
theorem circuit_fuel_adequate (comp : AM) (s uf : Nat) (hrow : ∀ u, (comp.out u).Nodup)
    (hclosed : ∀ u ∈ comp.verts, ∀ w ∈ comp.out u, w ∈ comp.verts)
    (f1 f2 : Nat) (st : JState) (v : Nat) (hinv : Inv comp st) (hv : v ∉ st.blocked) (hvc : v ∈ comp.verts)
    (hwalk : IsWalk comp.gr (st.stack ++ [v])) (h1 : comp.verts.length ≤ f1 + st.stack.length)
    (h2 : comp.verts.length ≤ f2 + st.stack.length) :
    circuit comp s uf f1 st v = circuit comp s uf f2 st v :=
  Johnson.circuit_fuel_irrel comp s uf hclosed f1 f2 st v hinv hv hvc h1 h2

set_option linter.unusedVariables false in
/-- Fuel adequacy of `connect` of Johnson's own Tarjan (`Model/JohnsonTarjan.lean`), from any state:
every call indexes a new vertex, so any two fuels above the number of unindexed vertices give the same
result.  (The bound needs no state invariant: `hgi`, the classical invariants of Tarjan's algorithm,
is not used.) -/
theorem connect_fuel_adequate (a : AM) (hcl : ∀ u ∈ a.verts, ∀ v ∈ a.out u, v ∈ a.verts)
    (f1 f2 : Nat) (st : TState) (u : Nat) (hgi : GI a st) (hu : st.index.lookup u = none) (hv : u ∈ a.verts)
    (h1 : unidx a st < f1) (h2 : unidx a st < f2) : connect a f1 st u = connect a f2 st u :=
  Johnson.connect_fuel_irrel a hcl f1 f2 st u hu hv h1 h2

theorem tarjan_fuel_adequate (a : AM) (hcl : ∀ u ∈ a.verts, ∀ v ∈ a.out u, v ∈ a.verts) (f : Nat)
    (hf : a.order < f) : tarjanFuel a f = tarjanFuel a (a.order + 1) :=
  Johnson.tarjanFuel_irrel a hcl f hf

/-- Non-vacuity: two 2-circuits sharing vertex 0 and a triangle. -/
def gEx : Graph := ⟨3, fun u => match u with | 0 => [1, 2] | 1 => [0, 2] | 2 => [0] | _ => []⟩
theorem gEx_wf : gEx.WF := by
  intro u v h
  change v ∈ gEx.out u at h
  match u with
  | 0 | 1 | 2 => exact ⟨by decide, by revert v; decide⟩
  | _+3 => exact absurd h List.not_mem_nil
example : allCircuits gEx = [[0, 1], [0, 1, 2], [0, 2]] := by decide +kernel
example : circuits gEx = [[0, 1], [0, 1, 2], [0, 2]] := by decide +kernel
theorem gEx_noloops : NoLoops gEx := by
  intro u
  match u with
  | 0 | 1 | 2 => decide
  | _+3 => exact List.not_mem_nil
theorem gEx_rows : RowsNodup gEx := by
  intro u
  match u with
  | 0 | 1 | 2 => decide
  | _+3 => exact List.nodup_nil
example : IsCanonicalElemCircuit gEx [0, 1, 2] :=
  (johnson_sound gEx gEx_wf gEx_noloops gEx_rows).2 _ (by decide +kernel)
example : [0, 1, 2] ∈ circuits gEx :=
  johnson_complete gEx gEx_wf gEx_noloops gEx_rows _ ((allCircuits_spec gEx gEx_wf _).1 (by decide +kernel))
example : circuitsRepeat (AM.ofGraph gEx) 3 (JState.new (AM.ofGraph gEx)) =
    [[[0, 1], [0, 1, 2], [0, 2]], [[0, 1], [0, 1, 2], [0, 2]], [[0, 1], [0, 1, 2], [0, 2]]] := by decide +kernel
example : (circuits gEx).Perm (allCircuits gEx) := johnson_perm_allCircuits gEx gEx_wf gEx_noloops gEx_rows
example : IsCanonicalElemCircuit gEx [0, 1, 2] := (allCircuits_spec gEx gEx_wf _).1 (by decide +kernel)

end GraafVerif.C10
