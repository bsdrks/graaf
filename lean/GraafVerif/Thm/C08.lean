import GraafVerif.Proof.Fw
import GraafVerif.Proof.RowsDesc
import GraafVerif.Proof.FwFast
import GraafVerif.Proof.CrossTable
/-!
# C08 — Floyd-Warshall returns the exact all-pairs matrix

"For every arc-weighted digraph without negative-weight circuits,
`FloydWarshall::distances()[(u, v)]` is the minimum weight of a walk from `u` to `v`, `0` on the
diagonal, and `isize::MAX` exactly when `v` is unreachable from `u`.  Row `s` therefore equals
BellmanFordMoore from `s`, and on non-negative weights equals Dijkstra from `s`."

`Fw.distances` (Model/Fw.lean) is the literal model of `FloydWarshall::distances` (flat matrix, `i`
outermost, in place), `Fw.get` the `(u, v)` index of `DistanceMatrix`; `none` is `isize::MAX`.  The
digraph is any `WGraph` that is well formed (`WF`: arcs join vertices `< n`) and has at most one
weight per ordered pair (`Functional`: rows of `AdjacencyListWeighted` are maps).  Path sums are
unbounded `Int`s (overflow is excluded by the property, DESIGN §4.1).
-/
namespace GraafVerif.C08
open GraafVerif GraafVerif.Fw

def Statement : Prop :=
  ∀ g : WGraph, g.WF → g.Functional → g.NoNegCycle →
    ∀ u v, u < g.n → v < g.n →
      -- the pair index reads the flat vector row-major
      get g.n (distances g) u v = ((distances g)[u * g.n + v]?).getD none ∧
      -- a finite entry is exactly the minimum walk weight
      (∀ d, get g.n (distances g) u v = some d ↔ IsMinDist g [u] v d) ∧
      -- `isize::MAX` exactly when unreachable
      (get g.n (distances g) u v = none ↔ ¬ WReachFrom g [u] v) ∧
      -- zero diagonal
      get g.n (distances g) u u = some 0 ∧
      -- row `u` equals ANY exact single-source distance vector (what C07 proves of
      -- BellmanFordMoore and C03 of Dijkstra on non-negative weights)
      (∀ r : List (Option Int), r.length = g.n →
        (∀ x, x < g.n → ∀ d, r[x]? = some (some d) ↔ IsMinDist g [u] x d) →
        row g.n (distances g) u = r)

/-- `dist[(u, v)]` reads the flat vector at `u * order + v` (row-major: `u` selects the row). -/
theorem fw_index (n : Nat) (m : Mat) (u v : Nat) : get n m u v = (m[u * n + v]?).getD none := rfl

/-- … for in-range pairs that index is in bounds and determines the pair (no two cells alias;
in particular `(u, v)` and `(v, u)` are different cells for `u ≠ v`), and the matrix the
algorithm returns has exactly `order * order` cells. -/
theorem fw_index_inj {n u v u' v' : Nat} (hu : u < n) (hv : v < n) (hv' : v' < n) :
    u * n + v < n * n ∧ (u * n + v = u' * n + v' → u = u' ∧ v = v') :=
  ⟨flatIdx_lt hu hv, flatIdx_inj hv hv'⟩

theorem fw_length (g : WGraph) (hwf : g.WF) : (distances g).length = g.n * g.n :=
  (distances_invK hwf).1

/-- Every finite entry `(u, v)` is the weight of a walk `u → v` — at EVERY point of the loop
nest (`stateAt g I J Kc`: outer iterations `0..I`, rows `0..J` of iteration `I` and cells
`0..Kc` of row `J` done), with or without negative circuits.  More precisely the walk's
interior vertices are `≤ I`. -/
theorem fw_entries_walks (g : WGraph) (hwf : g.WF) {I J Kc : Nat} (hI : I < g.n) (hJ : J < g.n)
    (hKc : Kc ≤ g.n) {u v : Nat} (hu : u < g.n) (hv : v < g.n) {x : Int}
    (h : get g.n (stateAt g I J Kc) u v = some x) :
    WalkIn g (I+1) u v x ∧ ∃ k, WWalk g u v k x :=
  have hw := (stateAt_invK hwf hI hJ hKc).2 u v hu hv x h
  ⟨hw, hw.toWWalk⟩

/-- What "path sums fit" is about: the only sums the loop ever forms — `s = a + b` with `a` read
at the start of row `J` and `b` read when cell `(J, Kc)` is reached — are weights of walks
`J → I → Kc` of the digraph (interior `≤ I`). -/
theorem fw_sums_walks (g : WGraph) (hwf : g.WF) {I J Kc : Nat} (hI : I < g.n) (hJ : J < g.n)
    (hKc : Kc < g.n) {a b : Int} (ha : get g.n (stateAt g I J 0) J I = some a)
    (hb : get g.n (stateAt g I J Kc) I Kc = some b) : WalkIn g (I+1) J Kc (a + b) :=
  have h1 := (stateAt_invK hwf hI hJ (Nat.zero_le _)).2 J I hJ hI a ha
  have h2 := (stateAt_invK hwf hI hJ (Nat.le_of_lt hKc)).2 I Kc hI hKc b hb
  h2.append h1 (Nat.lt_succ_self I)

/-- `stateAt` enumerates the states of the loop nest and ends in `distances`. -/
theorem fw_stateAt_end (g : WGraph) (hn : 0 < g.n) : stateAt g (g.n - 1) (g.n - 1) g.n = distances g :=
  stateAt_end g hn

/-- The result: every finite entry is a walk weight (no hypothesis on circuits). -/
theorem fw_result_walks (g : WGraph) (hwf : g.WF) {u v : Nat} (hu : u < g.n) (hv : v < g.n) {x : Int}
    (h : get g.n (distances g) u v = some x) : ∃ k, WWalk g u v k x :=
  ((distances_invK hwf).2 u v hu hv x h).toWWalk

/-- The textbook invariant, on the IN-PLACE loop: after the outer iterations for the
intermediate vertices `0..K` (i.e. after the iteration for `i = K-1`), entry `(u, v)` is exactly
the minimum weight of a walk `u → v` whose interior vertices are `< K`, and `isize::MAX` exactly
when there is none. -/
theorem fw_intermediate (g : WGraph) (hwf : g.WF) (hfun : g.Functional) (hnc : g.NoNegCycle)
    {K : Nat} (hK : K ≤ g.n) {u v : Nat} (hu : u < g.n) (hv : v < g.n) :
    (∀ d, get g.n (loopTo g.n (init g) K) u v = some d ↔ IsMinIn g K u v d) ∧
    (get g.n (loopTo g.n (init g) K) u v = none ↔ ¬ ∃ wt, WalkIn g K u v wt) :=
  (loopTo_init_inv hwf hfun hnc hK).isMinIn hu hv

theorem fw_exact (g : WGraph) (hwf : g.WF) (hfun : g.Functional) (hnc : g.NoNegCycle)
    {u v : Nat} (hu : u < g.n) (hv : v < g.n) :
    (∀ d, get g.n (distances g) u v = some d ↔ IsMinDist g [u] v d) ∧
    (get g.n (distances g) u v = none ↔ ¬ WReachFrom g [u] v) := by
  obtain ⟨h1, h2⟩ := fw_intermediate g hwf hfun hnc (Nat.le_refl g.n) hu hv
  exact ⟨fun d => (h1 d).trans (isMinIn_iff_isMinDist hwf u v d),
    h2.trans (not_congr (walkIn_iff_reach hwf u v))⟩

theorem fw_diag (g : WGraph) (hwf : g.WF) (hfun : g.Functional) (hnc : g.NoNegCycle)
    {u : Nat} (hu : u < g.n) : get g.n (distances g) u u = some 0 := by
  have hinv := distances_inv hwf hfun hnc
  obtain ⟨x, hx, hle⟩ := hinv.2 u u hu hu 0 (.nil u) 0 rfl
  rw [hx, Int.le_antisymm hle ((hinv.1.2 u u hu hu x hx).closed_nonneg hnc)]

/-- Row `s` is the distance vector from `s`. -/
theorem fw_row_isDistVec (g : WGraph) (hwf : g.WF) (hfun : g.Functional) (hnc : g.NoNegCycle)
    {s : Nat} (hs : s < g.n) : Cross.IsDistVec g [s] (row g.n (distances g) s) := by
  refine ⟨row_length .., fun v hv x => ?_, fun v hv => ?_⟩
  · rw [row_getElem? _ _ _ hv, Option.some.injEq]
    exact (fw_exact g hwf hfun hnc hs hv).1 x
  · rw [row_getElem? _ _ _ hv, Option.some.injEq]
    exact (fw_exact g hwf hfun hnc hs hv).2

/-- Row `u` equals any exact single-source distance vector from `u` — the spec-level form of
"row `s` equals BellmanFordMoore from `s` and, on non-negative weights, Dijkstra from `s`"
(both are characterised by `IsMinDist` in C07 / C03; agreement with the REAL implementations
is checked by the harness on every generated case). -/
theorem fw_row_eq_exact (g : WGraph) (hwf : g.WF) (hfun : g.Functional) (hnc : g.NoNegCycle)
    {u : Nat} (hu : u < g.n) (r : List (Option Int)) (hlen : r.length = g.n)
    (hr : ∀ x, x < g.n → ∀ d, r[x]? = some (some d) ↔ IsMinDist g [u] x d) :
    row g.n (distances g) u = r :=
  (fw_row_isDistVec g hwf hfun hnc hu).tab.unique (.of_getElem? hlen hr)

theorem fw_statement : Statement := by
  intro g hwf hfun hnc u v hu hv
  exact ⟨rfl, (fw_exact g hwf hfun hnc hu hv).1, (fw_exact g hwf hfun hnc hu hv).2,
    fw_diag g hwf hfun hnc hu, fw_row_eq_exact g hwf hfun hnc hu⟩

/-- The hypotheses `WF` and `Functional` are not assumptions about the inputs of the
correspondence run: every description `[wi n arcs]` with heads in range (anything
`add_arc_weighted` accepts) yields a model digraph that satisfies them, so the statement applies
to every digraph the harness can build. -/
theorem fw_desc_hyps (n : Nat) (arcs : List (Nat × Nat × Int)) (harcs : ∀ a ∈ arcs, a.2.1 < n) :
    (WGraph.ofRows (wrowsOfArcs n arcs)).n = n ∧ (WGraph.ofRows (wrowsOfArcs n arcs)).WF ∧
    (WGraph.ofRows (wrowsOfArcs n arcs)).Functional :=
  ofRows_hyps n arcs harcs

/-- State carried between calls: `distances()` keeps its matrix in the object and does not
re-initialise it; a SECOND call on the same object (`distances2`: arc cells and diagonal
overwritten, triple loop re-run on the previous result) returns exactly the same matrix.
`call g (distances g) = distances g` is a fixed point, so every later call does too; the
statement above therefore holds of every call. -/
theorem fw_twice (g : WGraph) (hwf : g.WF) (hfun : g.Functional) (hnc : g.NoNegCycle) :
    distances2 g = distances g :=
  call_eq_distances hwf hfun hnc (distances_invK hwf)

/-- Any call on an object whose matrix holds walk weights (e.g. after any number of earlier
calls) yields the matrix of minima. -/
theorem fw_call_again (g : WGraph) (hwf : g.WF) (hfun : g.Functional) (hnc : g.NoNegCycle)
    (m : Mat) (hm : InvK g g.n m) : call g m = distances g :=
  call_eq_distances hwf hfun hnc hm

/-- The compiled driver runs an `Array` twin of the model (`Model/FwFast.lean`); it computes the
same lists, for every digraph (no hypotheses). -/
theorem fw_fast_eq (g : WGraph) :
    (distancesA g).toList = distances g ∧ (distances2A g).toList = distances2 g :=
  ⟨distancesA_toList g, distances2A_toList g⟩

/-- `run` is `distances` on every digraph with at least one vertex (order 0 panics in
`DistanceMatrix::new`). -/
theorem fw_run_ok (g : WGraph) (hn : 0 < g.n) : run g = .ok (distances g) := by
  simp [run, Nat.ne_of_gt hn]

/-! ## Non-vacuity: the doctest digraph of `FloydWarshall` (negative arcs, a circuit
`1 → 2 → 3 → 1` of weight 4, no negative circuit) meets all hypotheses. -/

/-- Potentials certify the absence of negative circuits. -/
theorem noNegCycle_of_potential (g : WGraph) (p : Nat → Int)
    (h : ∀ u v w, g.A u v w → 0 ≤ w + p u - p v) : g.NoNegCycle :=
  .of_potential p h

def ex : WGraph := ⟨4, fun u => match u with
  | 0 => [(2, -2)] | 1 => [(0, 4), (2, 3)] | 2 => [(3, 2)] | 3 => [(1, -1)] | _ => []⟩

theorem ex_tail (k : Nat) : ex.out (k + ex.n) = [] := rfl

theorem ex_wf : ex.WF := Cross.wf_of_table ex_tail (by decide)

theorem ex_functional : ex.Functional := Cross.functional_of_table ex_tail (by decide)

theorem ex_noNegCycle : ex.NoNegCycle :=
  noNegCycle_of_potential ex _
    (Cross.potential_of_table ex_tail (fun u => [4, 0, 2, 4].getD u 0) (by decide))

example : ex.WF := ex_wf

example : ex.Functional := ex_functional

example : ex.NoNegCycle := ex_noNegCycle

/-- The run on the doctest digraph, evaluated once for the examples here and in `Thm/Cross*`. -/
theorem ex_fw : distances ex =
    [some 0, some (-1), some (-2), some 0,
     some 4, some 0, some 2, some 4,
     some 5, some 1, some 0, some 2,
     some 3, some (-1), some 1, some 0] := by decide +kernel

/-- The matrix of the doctest (`dist[(0,1)] = -1`, … `dist[(3,0)] = 3`). -/
example : distances ex =
    [some 0, some (-1), some (-2), some 0,
     some 4, some 0, some 2, some 4,
     some 5, some 1, some 0, some 2,
     some 3, some (-1), some 1, some 0] := ex_fw

set_option maxRecDepth 10000 in
/-- Second call on the doctest digraph, evaluated. -/
example : distances2 ex = distances ex := by
  rw [distances2, ex_fw]
  decide +kernel

/-- An unreachable pair yields `none`. -/
example : get 2 (distances ⟨2, fun u => if u = 0 then [(1, 5)] else []⟩) 1 0 = none := by decide +kernel

end GraafVerif.C08
