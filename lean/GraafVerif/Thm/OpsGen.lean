import GraafVerif.Model.OpsGen
import GraafVerif.Proof.SortedInserts
/-!
# Theorems about the GENERATED definitions of the `src/op` blanket impls (C02 / C12)

`Model/OpsGen.lean` is regenerated from `/repo/src/op/*.rs` by `tools/translate_ops.py` on every
run of the C02 / C12 checks, and this file is re-checked against it: if the code's expression
changes so that one of these statements no longer holds (a swapped argument, a flipped
comparison, a dropped conjunct), the PROOF breaks.  Each theorem states the textbook definition
of the property text over the abstract digraph `(V, A)` with `V = c.vertices`,
`A u v = (u, v) ∈ c.arcs`, under the hypothesis `Core.Sound` that the core queries agree with `(V, A)`.
`Sound` is assumed: `OpsGen.Core` is the generated record (total `indegree` / `outdegree`), not
`Query.Core`, and no theorem derives `Sound` from C02's `CoreCorrect` (which fixes `is_sink`, `indegree`, `outdegree` on
the vertices only, where `Sound` speaks of every `u`, and has no `endpoints` without validity); `ex` shows it can be met.
-/
namespace GraafVerif.OpsGen

/-- The core queries agree with the abstract digraph `(vertices, arcs)`. -/
structure Core.Sound (c : Core) : Prop where
  hasArc_iff : ∀ u v, c.hasArc u v = true ↔ (u, v) ∈ c.arcs
  endpoints : ∀ u v, (u, v) ∈ c.arcs → u ∈ c.vertices ∧ v ∈ c.vertices
  isSink_iff : ∀ u, c.isSink u = true ↔ c.outdegree u = 0
  isSource_iff : ∀ u, c.isSource u = true ↔ c.indegree u = 0

theorem mem_toSet (xs : List Nat) (y : Nat) : y ∈ toSet xs ↔ y ∈ xs := by
  unfold toSet
  rw [insertAsc_eq_sinsert]
  exact Repr.mem_foldl_insert_nil Repr.mem_sinsert xs

theorem maxOr_spec (xs : List Nat) (k : Nat) :
    (xs = [] → maxOr xs k = k) ∧ (xs ≠ [] → maxOr xs k ∈ xs ∧ ∀ y ∈ xs, y ≤ maxOr xs k) := by
  cases xs with
  | nil => exact ⟨fun _ => rfl, fun h => absurd rfl h⟩
  | cons x r => exact ⟨(nomatch ·), fun _ => List.max?_eq_some_iff.1 (List.max?_cons' (x := x) (xs := r))⟩

theorem minOr_spec (xs : List Nat) (k : Nat) :
    (xs = [] → minOr xs k = k) ∧ (xs ≠ [] → minOr xs k ∈ xs ∧ ∀ y ∈ xs, minOr xs k ≤ y) := by
  cases xs with
  | nil => exact ⟨fun _ => rfl, fun h => absurd rfl h⟩
  | cons x r => exact ⟨(nomatch ·), fun _ => List.min?_eq_some_iff.1 (List.min?_cons' (x := x) (xs := r))⟩

theorem maxOr_map_spec (vs : List Nat) (f : Nat → Nat) (hne : vs ≠ []) :
    (∃ u ∈ vs, f u = maxOr (vs.map f) 0) ∧ ∀ u ∈ vs, f u ≤ maxOr (vs.map f) 0 := by
  have h := (maxOr_spec (vs.map f) 0).2 (fun e => hne (List.map_eq_nil_iff.1 e))
  obtain ⟨u, hu, he⟩ := List.mem_map.1 h.1
  exact ⟨⟨u, hu, he⟩, fun u hu => h.2 _ (List.mem_map.2 ⟨u, hu, rfl⟩)⟩

theorem minOr_map_spec (vs : List Nat) (f : Nat → Nat) (hne : vs ≠ []) :
    (∃ u ∈ vs, f u = minOr (vs.map f) 0) ∧ ∀ u ∈ vs, minOr (vs.map f) 0 ≤ f u := by
  have h := (minOr_spec (vs.map f) 0).2 (fun e => hne (List.map_eq_nil_iff.1 e))
  obtain ⟨u, hu, he⟩ := List.mem_map.1 h.1
  exact ⟨⟨u, hu, he⟩, fun u hu => h.2 _ (List.mem_map.2 ⟨u, hu, rfl⟩)⟩

/-! ## C02: derived queries -/

theorem degree_spec (c : Core) (u : Nat) : degree c u = c.indegree u + c.outdegree u := by
  simp [degree]

theorem sinks_spec (c : Core) (hs : c.Sound) :
    sinks c = c.vertices.filter (fun u => c.outdegree u == 0) :=
  List.filter_congr fun u _ => Bool.eq_iff_iff.2 ((hs.isSink_iff u).trans beq_iff_eq.symm)

theorem sources_spec (c : Core) (hs : c.Sound) :
    sources c = c.vertices.filter (fun u => c.indegree u == 0) :=
  List.filter_congr fun u _ => Bool.eq_iff_iff.2 ((hs.isSource_iff u).trans beq_iff_eq.symm)

theorem outdegreeSequence_spec (c : Core) : outdegreeSequence c = c.vertices.map c.outdegree := rfl
theorem semidegreeSequence_spec (c : Core) :
    semidegreeSequence c = c.vertices.map (fun u => (c.indegree u, c.outdegree u)) := rfl

theorem isIsolated_spec (c : Core) (hs : c.Sound) (u : Nat) :
    isIsolated c u = true ↔ c.indegree u = 0 ∧ c.outdegree u = 0 := by
  rw [isIsolated, Bool.and_eq_true, hs.isSink_iff, hs.isSource_iff]
  exact And.comm

theorem isPendant_spec (c : Core) (u : Nat) :
    isPendant c u = true ↔ c.indegree u + c.outdegree u = 1 := by
  simp [isPendant, degree]

theorem isSourceDefault_spec (c : Core) (v : Nat) : isSourceDefault c v = true ↔ c.indegree v = 0 := by
  simp [isSourceDefault]
theorem isSinkDefault_spec (c : Core) (u : Nat) : isSinkDefault c u = true ↔ c.outdegree u = 0 := by
  simp [isSinkDefault]

theorem maxIndegree_spec (c : Core) (hne : c.vertices ≠ []) :
    (∃ u ∈ c.vertices, c.indegree u = maxIndegree c) ∧ ∀ u ∈ c.vertices, c.indegree u ≤ maxIndegree c :=
  maxOr_map_spec c.vertices c.indegree hne

theorem minIndegree_spec (c : Core) (hne : c.vertices ≠ []) :
    (∃ u ∈ c.vertices, c.indegree u = minIndegree c) ∧ ∀ u ∈ c.vertices, minIndegree c ≤ c.indegree u :=
  minOr_map_spec c.vertices c.indegree hne

theorem maxOutdegree_spec (c : Core) (hne : c.vertices ≠ []) :
    (∃ u ∈ c.vertices, c.outdegree u = maxOutdegree c) ∧ ∀ u ∈ c.vertices, c.outdegree u ≤ maxOutdegree c :=
  maxOr_map_spec c.vertices c.outdegree hne

theorem minOutdegree_spec (c : Core) (hne : c.vertices ≠ []) :
    (∃ u ∈ c.vertices, c.outdegree u = minOutdegree c) ∧ ∀ u ∈ c.vertices, minOutdegree c ≤ c.outdegree u :=
  minOr_map_spec c.vertices c.outdegree hne

theorem maxDegree_spec (c : Core) (hne : c.vertices ≠ []) :
    (∃ u ∈ c.vertices, c.indegree u + c.outdegree u = maxDegree c) ∧
    ∀ u ∈ c.vertices, c.indegree u + c.outdegree u ≤ maxDegree c :=
  maxOr_map_spec c.vertices (degree c) hne

theorem minDegree_spec (c : Core) (hne : c.vertices ≠ []) :
    (∃ u ∈ c.vertices, c.indegree u + c.outdegree u = minDegree c) ∧
    ∀ u ∈ c.vertices, minDegree c ≤ c.indegree u + c.outdegree u :=
  minOr_map_spec c.vertices (degree c) hne

/-- with no vertex at all the documented neutral answer 0 is returned. -/
theorem maxmin_empty (c : Core) (h : c.vertices = []) :
    maxIndegree c = 0 ∧ minIndegree c = 0 ∧ maxOutdegree c = 0 ∧ minOutdegree c = 0 ∧
    maxDegree c = 0 ∧ minDegree c = 0 := by
  simp [maxIndegree, minIndegree, maxOutdegree, minOutdegree, maxDegree, minDegree, h, maxOr, minOr]

/-! ## C12: structural predicates -/

theorem isBalanced_spec (c : Core) :
    isBalanced c = true ↔ ∀ u ∈ c.vertices, c.indegree u = c.outdegree u := by
  simp [isBalanced]

theorem isSymmetric_spec (c : Core) (hs : c.Sound) :
    isSymmetric c = true ↔ ∀ u v, (u, v) ∈ c.arcs → (v, u) ∈ c.arcs := by
  simp only [isSymmetric, List.all_eq_true]
  constructor
  · intro h u v huv; exact (hs.hasArc_iff v u).mp (h (u, v) huv)
  · intro h a ha; obtain ⟨u, v⟩ := a; exact (hs.hasArc_iff v u).mpr (h u v ha)

theorem isOriented_spec (c : Core) (hs : c.Sound) :
    isOriented c = true ↔ ∀ u v, (u, v) ∈ c.arcs → (v, u) ∉ c.arcs := by
  simp only [isOriented, List.all_eq_true]
  constructor
  · intro h u v huv hvu
    have := h (u, v) huv
    simp [(hs.hasArc_iff v u).mpr hvu] at this
  · intro h a ha; obtain ⟨u, v⟩ := a
    have := h u v ha
    cases hh : c.hasArc v u
    · rfl
    · exact absurd ((hs.hasArc_iff v u).mp hh) this

/-- `H.is_subdigraph(D)` iff `V(H) ⊆ V(D)` and `A(H) ⊆ A(D)` (for `H` whose arcs join its own vertices). -/
theorem isSubdigraph_spec (h d : Core) (hh : h.Sound) (hd : d.Sound) :
    isSubdigraph h d = true ↔ (∀ v ∈ h.vertices, v ∈ d.vertices) ∧ (∀ a ∈ h.arcs, a ∈ d.arcs) := by
  simp only [isSubdigraph, Bool.and_eq_true, List.all_eq_true, List.contains_iff_mem, mem_toSet]
  constructor
  · rintro ⟨h1, h2⟩
    refine ⟨fun v hv => h2 v hv, fun a ha => ?_⟩
    obtain ⟨u, v⟩ := a
    exact (hd.hasArc_iff u v).mp (h1 (u, v) ha).1.1
  · rintro ⟨h1, h2⟩
    refine ⟨fun a ha => ?_, fun v hv => h1 v hv⟩
    obtain ⟨u, v⟩ := a
    exact ⟨⟨(hd.hasArc_iff u v).mpr (h2 (u, v) ha), (hh.endpoints u v ha).1⟩, (hh.endpoints u v ha).2⟩

theorem isSuperdigraph_spec (h d : Core) : isSuperdigraph h d = isSubdigraph d h := rfl

theorem isSpanningSubdigraph_spec (h d : Core) (hd : d.Sound) :
    isSpanningSubdigraph h d = true ↔ h.vertices = d.vertices ∧ ∀ a ∈ h.arcs, a ∈ d.arcs := by
  simp only [isSpanningSubdigraph, Bool.and_eq_true, List.all_eq_true, beq_iff_eq]
  constructor
  · rintro ⟨h1, h2⟩; exact ⟨h1, fun a ha => by obtain ⟨u, v⟩ := a; exact (hd.hasArc_iff u v).mp (h2 (u, v) ha)⟩
  · rintro ⟨h1, h2⟩; exact ⟨h1, fun a ha => by obtain ⟨u, v⟩ := a; exact (hd.hasArc_iff u v).mpr (h2 (u, v) ha)⟩

/-! ## non-vacuity: a concrete 3-vertex digraph 0→1, 1→0, 1→2 with sound core queries -/

def ex : Core where
  vertices := [0, 1, 2]
  arcs := [(0, 1), (1, 0), (1, 2)]
  hasArc := fun u v => [(0, 1), (1, 0), (1, 2)].contains (u, v)
  indegree := fun v => ([(0, 1), (1, 0), (1, 2)].filter (fun a => a.2 == v)).length
  outdegree := fun u => ([(0, 1), (1, 0), (1, 2)].filter (fun a => a.1 == u)).length
  isSource := fun v => ([(0, 1), (1, 0), (1, 2)].filter (fun a => a.2 == v)).length == 0
  isSink := fun u => ([(0, 1), (1, 0), (1, 2)].filter (fun a => a.1 == u)).length == 0

example : ex.Sound where
  hasArc_iff := fun _ _ => List.contains_iff_mem
  endpoints := fun u v h => (by decide : ∀ a ∈ ex.arcs, a.1 ∈ ex.vertices ∧ a.2 ∈ ex.vertices) (u, v) h
  isSink_iff := fun _ => beq_iff_eq
  isSource_iff := fun _ => beq_iff_eq

example : sinks ex = [2] ∧ sources ex = [] ∧ isSymmetric ex = false ∧ isOriented ex = false ∧
    isBalanced ex = false ∧ maxIndegree ex = 1 ∧ minDegree ex = 1 ∧ isSubdigraph ex ex = true := by decide +kernel

end GraafVerif.OpsGen
