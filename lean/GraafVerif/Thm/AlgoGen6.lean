import GraafVerif.Proof.ReprObs
import GraafVerif.Proof.AlgoGen6
import GraafVerif.Proof.AlgoGenFw
import GraafVerif.Proof.AlgoGenPredTree
/-!
# Set 6 of the imperative-Rust-subset → Lean translator: the function bodies that sets 1–5 do not regenerate

`Model/AlgoGen6.lean` is GENERATED from `/repo/src` by `tools/translate_algo.py --set 6`; every generated definition `X.f` has
an equality theorem `GraafVerif.AlgoGenThm.X.f_eq` (`Proof/AlgoGen6.lean`).  This file adds the whole-call transports
(constructor + method from generated definitions only) and non-vacuity examples.
-/
namespace GraafVerif.AlgoGenThm
open GraafVerif GraafVerif.AlgoGen GraafVerif.Repr

/-- **C02 on the regenerated `indegree_sequence`**: for a well-formed list no `*ptr.add(v) += 1` is out of bounds and the
result is the hand-written histogram -/
theorem c02_generated_indegree_sequence (d : AdjList) (h : d.WF) :
    AlgoGen.AdjacencyList.indegreeSequence d = .ok (Query.AL.indegreeSequence d) :=
  AdjacencyList.indegreeSequence_eq d h.row_lt

/-- **C08 from generated definitions only**: `FloydWarshall::new(&digraph).distances()` — the generated constructor
(`DistanceMatrix::new` with its raw buffer included) followed by the generated `distances` — is the hand-written
`Fw.distances g` (hypotheses of `distances_fresh_eq`: no path sum reaches the sentinel) -/
theorem c08_generated_new_distances (g : WGraph) (inf : Int) (hinf : inf ≠ 0) (hn : 0 < g.n)
    (hsz : g.n * g.n ≤ DistMatrix.usizeMax) (hwf : g.WF) (hw : ∀ u, ∀ vw ∈ g.out u, vw.2 ≠ inf)
    (hok : FloydWarshall.CallOk inf g (List.replicate (g.n * g.n) none)) :
    (AlgoGen.FloydWarshall.new g inf >>= fun fw => AlgoGen.FloydWarshall.distances g inf fw) =
      .ok ((FloydWarshall.mk inf ⟨[], inf, g.n⟩ (GraafVerif.Fw.distances g)).dist,
           FloydWarshall.mk inf ⟨[], inf, g.n⟩ (GraafVerif.Fw.distances g)) := by
  rw [FloydWarshall.new_fresh g inf hn hsz]
  exact FloydWarshall.distances_fresh_eq g inf hinf ⟨[], inf, g.n⟩ hwf hw hok

/-- order 0: the constructor panics (`Fw.run g = .panic`) -/
theorem c08_generated_new_zero (g : WGraph) (inf : Int) (hn : g.n = 0) :
    (AlgoGen.FloydWarshall.new g inf >>= fun fw => AlgoGen.FloydWarshall.distances g inf fw) = .error (.fault .panic) ∧
      GraafVerif.Fw.run g = .panic := by
  rw [FloydWarshall.new_zero g inf hn]
  exact ⟨rfl, by simp [GraafVerif.Fw.run, hn]⟩

/-- **C05 / C19 from generated definitions only**: `PredecessorTree::from(pred).search(s, t)` is the hand-written search on
`pred` -/
theorem c19_generated_from_search (pred : List (Option Nat)) (s t : Nat) :
    (AlgoGen.PredecessorTree.fromVec pred >>= fun tr => AlgoGen.PredecessorTree.search (pred.length + 2) tr s t) =
      PredecessorTree.liftP (PredTree.search pred s t) := by
  rw [PredecessorTree.fromVec_eq]
  exact PredecessorTree.search_eq_search ⟨pred⟩ s t

/-- a write through `IndexMut` followed by a read through `Index` (both checked): the written value -/
theorem c19_generated_index_roundtrip (t : AlgoGen.PredecessorTree) (i : Nat) (x : Option Nat) (hi : i < t.pred.length) :
    (AlgoGen.PredecessorTree.indexMut t i >>= fun pt =>
        AlgoGen.PredecessorTree.index { pt.2 with pred := pt.2.pred.set pt.1 x } i) = .ok x := by
  rw [PredecessorTree.indexMut_eq, if_pos hi]
  show AlgoGen.PredecessorTree.index { t with pred := t.pred.set i x } i = .ok x
  rw [PredecessorTree.index_eq, List.getElem?_set_self hi]

theorem AdjacencyList.indegreeSequence_run :
    AlgoGen.AdjacencyList.indegreeSequence ⟨[[1, 2], [2], [0]]⟩ = .ok [1, 1, 2] := by decide +kernel
/-- a head outside the vertices: `*ptr.add(v) += 1` is out of bounds -/
theorem AdjacencyList.indegreeSequence_outside_ub :
    AlgoGen.AdjacencyList.indegreeSequence ⟨[[5], []]⟩ =
      .error (.fault (.ub "repr/adjacency_list/mod.rs:indegree_sequence:ptr.add(v)")) := by decide +kernel

example : AlgoGen.AdjacencyList.indegreeSequence ⟨[[1, 2], [2], [0]]⟩ = .ok [1, 1, 2] := AdjacencyList.indegreeSequence_run
example : AlgoGen.AdjacencyList.indegreeSequence ⟨[[5], []]⟩ =
    .error (.fault (.ub "repr/adjacency_list/mod.rs:indegree_sequence:ptr.add(v)")) := AdjacencyList.indegreeSequence_outside_ub
example : AlgoGen.AdjacencyMap.addArc ⟨[(0, [])]⟩ 0 3 = .ok ((), ⟨[(0, [3]), (3, [])]⟩) := by decide +kernel
example : AlgoGen.AdjacencyMap.addArc ⟨[(0, [])]⟩ 2 2 = .error (.fault .panic) := by decide +kernel
example : AlgoGen.EdgeList.addArc ⟨[(1, 0)], 2⟩ 0 1 = .ok ((), ⟨[(0, 1), (1, 0)], 2⟩) := by decide +kernel
example : AlgoGen.EdgeList.addArc ⟨[], 2⟩ 0 2 = .error (.fault .panic) := by decide +kernel
example : AlgoGen.AdjacencyListWeighted.addArcWeighted ⟨[[(1, 4)], []]⟩ 0 1 (-7) = .ok ((), ⟨[[(1, -7)], []]⟩) := by decide +kernel
example : AlgoGen.AdjacencyListWeighted.addArcWeighted ⟨[[], []]⟩ 2 1 3 = .error (.fault .panic) := by decide +kernel
example : AlgoGen.FloydWarshall.new ⟨2, fun _ => []⟩ 9 = .ok ⟨⟨[9, 9, 9, 9], 9, 2⟩⟩ := by decide +kernel
example : AlgoGen.FloydWarshall.new ⟨0, fun _ => []⟩ 9 = .error (.fault .panic) := by decide +kernel
example : AlgoGen.PredecessorTree.index ⟨[none, some 0]⟩ 1 = .ok (some 0) := by decide +kernel
example : AlgoGen.PredecessorTree.index ⟨[none, some 0]⟩ 2 = .error (.fault .panic) := by decide +kernel
example : AlgoGen.PredecessorTree.indexMut ⟨[none, some 0]⟩ 2 = .error (.fault .panic) := by decide +kernel
example : AlgoGen.PredecessorTree.intoIter ⟨[none, some 0]⟩ = .ok [none, some 0] := by decide +kernel
example : AlgoGen.ContiguousOrder.contiguousOrder ⟨4⟩ = .ok 4 := by decide +kernel

end GraafVerif.AlgoGenThm
