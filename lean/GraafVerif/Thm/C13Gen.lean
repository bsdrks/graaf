import GraafVerif.Proof.ChkGenBfs
import GraafVerif.Proof.ChkGenDijkstra
import GraafVerif.Proof.ChkGenBfmFw
import GraafVerif.Proof.ChkGenJohnson
import GraafVerif.Proof.ChkGen5
import GraafVerif.Thm.AlgoGen2
import GraafVerif.Thm.AlgoGen3
import GraafVerif.Thm.AlgoGen4
import GraafVerif.Thm.AlgoGen5
import GraafVerif.Thm.AlgoGen6
/-!
# C13 on the SOURCE-REGENERATED definitions (`Model/AlgoGen{,2,3,4,5,6}.lean`)

`tools/translate_algo.py` regenerates these definitions from `/repo/src` on every run; every
`*ptr.add(i)` / `get_unchecked(i)` / `ptr::read` / `ptr::write` / `unwrap_unchecked` of the source is in
them a CHECKED access with the distinct outcome `Fault.ub site`.  The theorems below say, for the same
input classes as the hand-model theorems of `Thm/C13.lean`, that the GENERATED function never yields `ub`.
A change of a covered function changes the generated definition, so these proofs are re-checked against
what the code says NOW.  Where a generated function is proved equal to a hand-written one under no more than the safety
statement assumes (the BFS and DFS iterators with `distances` / `predecessors`, `PredecessorTree`, sets 2–6), the statement
is transported through that equality: `Proof/AlgoGen*.lean`, `Thm/AlgoGen{2,3,4,5,6}.lean`.  The Dijkstra iterators,
`BellmanFordMoore`, `FloydWarshall`, `BfsPred::{shortest_path, cycles}` and the three private iterators of set 5 are proved
directly with the calculus of `Proof/ChkGenRt.lean`: their equalities need more ("path sums fit", `order + 2 ≤ fuel`,
a fresh iteration).

Every function of graaf that contains an unsafe site is regenerated (sets 1–6).  What the regenerated
reading cannot see: the DROP discipline of `AdjacencyMap::union` (the translator reads `ptr::read` as a copy),
more than one schedule of the workers, and — `DistanceMatrix::new` — a `set_len` that precedes the writes is
accepted as long as nothing uses the vector in between (docs/C13.md §11).
-/
namespace GraafVerif.C13Gen
open GraafVerif GraafVerif.AlgoGen GraafVerif.Repr

/-! ## Set 1 — the nine traversals (every digraph: `g.out` arbitrary, every source list) -/

theorem bfs_noUB (g : Graph) (S : List Nat) : IterSafe (AlgoGen.Bfs.new g S) (AlgoGen.Bfs.next g) :=
  iterSafe_of _ (bfsNew_safe AlgoGenThm.Bfs.toH_ofH (AlgoGenThm.Bfs.new_eq g S)) (bfsNext_safe AlgoGenThm.Bfs.toH_ofH (AlgoGenThm.Bfs.next_eq g))
theorem bfsDist_noUB (g : Graph) (S : List Nat) : IterSafe (AlgoGen.BfsDist.new g S) (AlgoGen.BfsDist.next g) :=
  iterSafe_of _ (bfsNew_safe AlgoGenThm.BfsDist.toH_ofH (AlgoGenThm.BfsDist.new_eq g S))
    (bfsNext_safe AlgoGenThm.BfsDist.toH_ofH (AlgoGenThm.BfsDist.next_eq g))
theorem bfsPred_noUB (g : Graph) (S : List Nat) : IterSafe (AlgoGen.BfsPred.new g S) (AlgoGen.BfsPred.next g) :=
  iterSafe_of _ (bfsNew_safe AlgoGenThm.BfsPred.toH_ofH (AlgoGenThm.BfsPred.new_eq g S))
    (bfsNext_safe AlgoGenThm.BfsPred.toH_ofH (AlgoGenThm.BfsPred.next_eq g))

theorem bfsDfsNext_noUB_any (g : Graph) :
    (∀ s, NoUB (AlgoGen.Bfs.next g s)) ∧ (∀ s, NoUB (AlgoGen.BfsDist.next g s)) ∧ (∀ s, NoUB (AlgoGen.BfsPred.next g s)) ∧
    (∀ s, NoUB (AlgoGen.Dfs.next g s)) ∧ (∀ s, NoUB (AlgoGen.DfsDist.next g s)) ∧ (∀ s, NoUB (AlgoGen.DfsPred.next g s)) :=
  ⟨bfsNext_noUB (AlgoGenThm.Bfs.next_eq g), bfsNext_noUB (AlgoGenThm.BfsDist.next_eq g), bfsNext_noUB (AlgoGenThm.BfsPred.next_eq g),
   dfsNext_noUB (AlgoGenThm.Dfs.next_eq g), dfsNext_noUB (AlgoGenThm.DfsDist.next_eq g), dfsNext_noUB (AlgoGenThm.DfsPred.next_eq g)⟩

theorem dfs_noUB (g : Graph) (S : List Nat) : IterSafe (AlgoGen.Dfs.new g S) (AlgoGen.Dfs.next g) :=
  ⟨AlgoGenThm.Dfs.new_eq g S ▸ noUB_ok _, fun st _ => dfsNext_noUB (AlgoGenThm.Dfs.next_eq g) st⟩
theorem dfsDist_noUB (g : Graph) (S : List Nat) : IterSafe (AlgoGen.DfsDist.new g S) (AlgoGen.DfsDist.next g) :=
  ⟨AlgoGenThm.DfsDist.new_eq g S ▸ noUB_ok _, fun st _ => dfsNext_noUB (AlgoGenThm.DfsDist.next_eq g) st⟩
theorem dfsPred_noUB (g : Graph) (S : List Nat) : IterSafe (AlgoGen.DfsPred.new g S) (AlgoGen.DfsPred.next g) :=
  ⟨AlgoGenThm.DfsPred.new_eq g S ▸ noUB_ok _, fun st _ => dfsNext_noUB (AlgoGenThm.DfsPred.next_eq g) st⟩

/-- Dijkstra: for every weighted digraph, sentinel and source list (no "path sums fit" hypothesis) -/
theorem dijkstra_noUB (g : WGraph) (inf : Int) (S : List Nat) :
    IterSafe (AlgoGen.Dijkstra.new g inf S) (AlgoGen.Dijkstra.next g) :=
  iterSafe_of (Dijkstra.Inv g.n) (Dijkstra.new_safe g inf S) (fun s h => Dijkstra.next_safe g s h)
theorem dijkstraDist_noUB (g : WGraph) (inf : Int) (S : List Nat) :
    IterSafe (AlgoGen.DijkstraDist.new g inf S) (AlgoGen.DijkstraDist.next g) :=
  iterSafe_of (DijkstraDist.Inv g.n) (DijkstraDist.new_safe g inf S) (fun s h => DijkstraDist.next_safe g s h)
theorem dijkstraPred_noUB (g : WGraph) (inf : Int) (S : List Nat) :
    IterSafe (AlgoGen.DijkstraPred.new g inf S) (AlgoGen.DijkstraPred.next g) :=
  iterSafe_of (DijkstraPred.Inv g.n) (DijkstraPred.new_safe g inf S) (fun s h => DijkstraPred.next_safe g s h)

/-! ### derived entry points: on every state `new` / `next` can produce, for every fuel -/

theorem bfsDist_distances_noUB (g : Graph) (S : List Nat) (inf fuel : Nat) (st : AlgoGen.BfsDist)
    (h : Reachable (AlgoGen.BfsDist.new g S) (AlgoGen.BfsDist.next g) st) : NoUB (AlgoGen.BfsDist.distances g inf fuel st) :=
  noUB_of_map Prod.fst <| AlgoGenThm.BfsDist.distances_eq g inf fuel st
    (reach_inv _ (bfsNew_safe AlgoGenThm.BfsDist.toH_ofH (AlgoGenThm.BfsDist.new_eq g S))
      (bfsNext_safe AlgoGenThm.BfsDist.toH_ofH (AlgoGenThm.BfsDist.next_eq g)) st h) ▸ noUB_iff.1 (AlgoGenThm.noUB_liftBR _ _)

theorem bfsPred_derived_noUB (g : Graph) (S : List Nat) (fuel : Nat) (isT : Nat → Bool) (st : AlgoGen.BfsPred)
    (h : Reachable (AlgoGen.BfsPred.new g S) (AlgoGen.BfsPred.next g) st) :
    NoUB (AlgoGen.BfsPred.predecessors g fuel st) ∧ NoUB (AlgoGen.BfsPred.shortestPath g fuel st isT) ∧
    NoUB (AlgoGen.BfsPred.cycles g fuel st) := by
  have hi : BfsPred.Inv g.n st := reach_inv _ (bfsNew_safe AlgoGenThm.BfsPred.toH_ofH (AlgoGenThm.BfsPred.new_eq g S))
    (fun s hs => BfsPred.next_safe g s hs) st h
  exact ⟨noUB_of_map (fun r => r.1.pred) (AlgoGenThm.BfsPred.predecessors_eq g fuel st hi ▸
      noUB_ite noUB_panic (noUB_iff.1 (AlgoGenThm.noUB_liftBR _ _))),
    (BfsPred.shortestPath_safe g fuel st isT hi).noUB, (BfsPred.cycles_safe g fuel st hi).noUB⟩

theorem dfsPred_predecessors_noUB (g : Graph) (S : List Nat) (fuel : Nat) (st : AlgoGen.DfsPred)
    (h : Reachable (AlgoGen.DfsPred.new g S) (AlgoGen.DfsPred.next g) st) : NoUB (AlgoGen.DfsPred.predecessors g fuel st) := by
  have hi : st.visited.length = g.n := reach_inv (fun s : AlgoGen.DfsPred => s.visited.length = g.n)
    (AlgoGenThm.DfsPred.new_eq g S ▸ List.length_replicate)
    (dfsNext_safe AlgoGenThm.DfsPred.toH_ofH (AlgoGenThm.DfsPred.next_eq g)) st h
  exact noUB_of_map (fun r => r.1.pred)
    (AlgoGenThm.DfsPred.predecessors_eq g fuel st hi ▸ noUB_ite noUB_panic (noUB_ite noUB_panic (noUB_ok _)))

theorem dijkstraDist_distances_noUB (g : WGraph) (inf : Int) (S : List Nat) (fuel : Nat) (st : AlgoGen.DijkstraDist)
    (h : Reachable (AlgoGen.DijkstraDist.new g inf S) (AlgoGen.DijkstraDist.next g) st) :
    NoUB (AlgoGen.DijkstraDist.distances g inf fuel st) :=
  (DijkstraDist.distances_safe g inf fuel st
    (reach_inv (DijkstraDist.Inv g.n) (DijkstraDist.new_safe g inf S) (fun s h => DijkstraDist.next_safe g s h) st h)).noUB

theorem dijkstraPred_derived_noUB (g : WGraph) (inf : Int) (S : List Nat) (fuel : Nat) (isT : Nat → Bool)
    (st : AlgoGen.DijkstraPred) (h : Reachable (AlgoGen.DijkstraPred.new g inf S) (AlgoGen.DijkstraPred.next g) st) :
    NoUB (AlgoGen.DijkstraPred.predecessors g fuel st) ∧ NoUB (AlgoGen.DijkstraPred.shortestPath g fuel st isT) := by
  have hi := reach_inv (DijkstraPred.Inv g.n) (DijkstraPred.new_safe g inf S)
    (fun s h => DijkstraPred.next_safe g s h) st h
  exact ⟨(DijkstraPred.predecessors_safe g fuel st hi).noUB, (DijkstraPred.shortestPath_safe g fuel st isT hi).noUB⟩

/-! ### `PredecessorTree::{search_by, search}`: every predecessor vector, start, predicate, fuel -/

theorem searchBy_noUB (fuel : Nat) (t : AlgoGen.PredecessorTree) (s : Nat) (isT : Nat → Option Nat → Bool) :
    NoUB (AlgoGen.PredecessorTree.searchBy fuel t s isT) := (PredecessorTree.searchBy_safe fuel t s isT).noUB
theorem search_noUB (fuel : Nat) (t : AlgoGen.PredecessorTree) (s x : Nat) :
    NoUB (AlgoGen.PredecessorTree.search fuel t s x) := (PredecessorTree.search_safe fuel t s x).noUB

/-! ### `BellmanFordMoore`, `FloydWarshall::distances`: every well-formed weighted digraph -/

/-- `new` for every source; `distances` on every object whose vector has `order` entries — the one
`new` returns, and again after every call (`distances` does not change the length). -/
theorem bellmanFordMoore_noUB (g : WGraph) (hwf : g.WF) (inf : Int) (s : Nat) :
    NoUB (AlgoGen.BellmanFordMoore.new g inf s) ∧
    NoUB (AlgoGen.BellmanFordMoore.new g inf s >>= fun b => AlgoGen.BellmanFordMoore.distances g inf b) ∧
    ∀ b : AlgoGen.BellmanFordMoore, b.dist.length = g.n → NoUB (AlgoGen.BellmanFordMoore.distances g inf b) :=
  ⟨(BellmanFordMoore.new_safe g inf s).noUB,
   ((BellmanFordMoore.new_safe g inf s).bind (fun b hb => BellmanFordMoore.distances_safe g hwf inf b hb)).noUB,
   fun b hb => (BellmanFordMoore.distances_safe g hwf inf b hb).noUB⟩

theorem floydWarshall_noUB (g : WGraph) (hwf : g.WF) (inf : Int) (self : AlgoGen.FloydWarshall)
    (h : self.dist.dist.length = g.n * g.n) : NoUB (AlgoGen.FloydWarshall.distances g inf self) :=
  (FloydWarshall.distances_safe g hwf inf self h).noUB

/-- The hypothesis `g.WF` is what `AdjacencyListWeighted`'s representation invariant gives (and that
invariant is what `From`, `empty`, `add_arc_weighted` establish: C01 / C16 on the regenerated `From` impls). -/
theorem weightedList_wf (d : AdjListW) (h : d.WF) : (d.toWGraph).WF := by
  intro u v w hvw
  simp only [AdjListW.toWGraph] at hvw
  cases hr : d.rows[u]? with
  | none => rw [hr] at hvw; cases hvw
  | some row =>
    rw [hr] at hvw
    exact ⟨(List.getElem?_eq_some_iff.mp hr).1, ((h.2 u row hr).2 (v, w) hvw).1⟩

/-! ## Set 2 — `Johnson75` -/

theorem johnson75_noUB (a : GraafVerif.Johnson.AM) (hclosed : ∀ u ∈ a.verts, ∀ v ∈ a.out u, v ∈ a.verts)
    (F : Nat) (hF : F ≤ a.order + 1) :
    NoUB (AlgoGen.Johnson75.new a >>= fun s => AlgoGen.Johnson75.circuits a F s) := by
  rw [AlgoGenThm.Johnson75.new_eq]
  exact johnsonCircuits_noUB a hclosed F hF _ (AlgoGenThm.Johnson75.new_inv a)

/-- also for every further call on the same object (`JInv` is kept) and for the two recursive helpers -/
theorem johnson75_state_noUB (a : GraafVerif.Johnson.AM) (hclosed : ∀ u ∈ a.verts, ∀ v ∈ a.out u, v ∈ a.verts)
    (F : Nat) (hF : F ≤ a.order + 1) (st : GraafVerif.Johnson.JState) (hinv : AlgoGenThm.Johnson75.JInv a.order st) :
    NoUB (AlgoGen.Johnson75.circuits a F (AlgoGenThm.Johnson75.ofH st)) ∧
    (∀ u F', NoUB (AlgoGen.Johnson75.unblock F' (AlgoGenThm.Johnson75.ofH st) u)) :=
  ⟨johnsonCircuits_noUB a hclosed F hF st hinv,
   fun u F' => noUB_of_agree (AlgoGenThm.Johnson75.unblock_eq a.order F' F' st u (Nat.le_refl _) hinv)⟩

theorem johnson75_circuit_noUB (n : Nat) (comp : GraafVerif.Johnson.AM) (hc : AlgoGenThm.Johnson75.CompOk n comp) (s F : Nat)
    (st : GraafVerif.Johnson.JState) (v : Nat) (hinv : AlgoGenThm.Johnson75.JInv n st) (hvm : v ∈ comp.verts) (hv : v < n) :
    NoUB (AlgoGen.Johnson75.circuit F (AlgoGenThm.Johnson75.ofH st) v s comp st.result) :=
  noUB_of_agree (AlgoGenThm.Johnson75.circuit_eq n comp hc s F F F st v (Nat.le_refl _) (Nat.le_refl _) hinv hvm hv)

/-! ## Set 3 — PRNG, sequential generators and operations with unsafe sites -/

/-- `Xoshiro256StarStar::next` on every state of four words (`state_ptr.add(1..3)` on `[u64; 4]`). -/
theorem xoshiro_noUB (x : Rand.Xo) : NoUB (AlgoGen.Xoshiro256StarStar.next (AlgoGenThm.Xoshiro256StarStar.ofX x)) := by
  rw [AlgoGenThm.Xoshiro256StarStar.next_eq]; exact noUB_ok _
/-- `AdjacencyList::converse` on every well-formed list (`conv_ptr.add(v)` for a head `v`). -/
theorem adjList_converse_noUB (d : AdjList) (h : d.WF) : NoUB (AlgoGen.AdjacencyList.converse d) := by
  rw [AlgoGenThm.AdjacencyList.converse_eq d (AlgoGenThm.al_heads_of_wf d h)]; exact noUB_optR _
/-- `AdjacencyList::random_tournament` for every order and seed (`arcs.get_unchecked_mut(u|v)`). -/
theorem adjList_randomTournament_noUB (n : Nat) (seed : UInt64) : NoUB (AlgoGen.AdjacencyList.randomTournament n seed) := by
  rw [AlgoGenThm.AdjacencyList.randomTournament_eq]; exact noUB_optR _
/-- the `unwrap_unchecked`s of `AdjacencyMap::random_recursive_tree` (tie-only on the hand side):
`rng.next().unwrap_unchecked()` never sees `None`, `usize::try_from(u64).unwrap_unchecked()` is total on a
64-bit target. -/
theorem adjMap_randomRecursiveTree_noUB (n : Nat) (seed : UInt64) : NoUB (AlgoGen.AdjacencyMap.randomRecursiveTree n seed) := by
  rw [AlgoGenThm.AdjacencyMap.randomRecursiveTree_eq]; exact noUB_optR _

/-! ## Set 4 — the parallel functions, every thread count `ap ≥ 1` -/

/-- `AdjacencyList::complement` for EVERY list and every thread count (`arcs_arc.get_unchecked(u)`,
`full_ptr.add(i)`, `out_ptr.add(j)`; a worker's value is its handle's value). -/
theorem adjList_complement_noUB (ap : Nat) (d : AdjList) : NoUB (AlgoGen.AdjacencyList.complement ap d) := by
  rw [AlgoGenThm.AdjacencyList.complement_eq]; exact noUB_optR _
theorem adjList_complete_noUB (ap n : Nat) (hap : 0 < ap) : NoUB (AlgoGen.AdjacencyList.complete ap n) := by
  rw [AlgoGenThm.AdjacencyList.complete_eq ap n hap]; exact noUB_optR _
theorem adjList_degreeSequence_noUB (ap : Nat) (d : AdjList) (h : d.WF) (hap : 0 < ap) :
    NoUB (AlgoGen.AdjacencyList.degreeSequence ap d) := by
  rw [AlgoGenThm.AdjacencyList.degreeSequence_eq ap d hap h.1 (AlgoGenThm.al_rows_of_wf d h)]; exact noUB_ok _
theorem adjList_isSemicomplete_noUB (ap : Nat) (d : AdjList) (hap : 0 < ap) (hn : 0 < d.order) :
    NoUB (AlgoGen.AdjacencyList.isSemicomplete ap d) := by
  rw [AlgoGenThm.AdjacencyList.isSemicomplete_eq ap d hap hn]; exact noUB_ok _
/-- `AdjacencyList::union` for EVERY two lists and every thread count (`self_ptr.add(u)`,
`other_ptr.add(u)`, `write(arcs_ptr.add(u), …)`). -/
theorem adjList_union_noUB (ap : Nat) (a b : AdjList) : NoUB (AlgoGen.AdjacencyList.union ap a b) := by
  rw [AlgoGenThm.AdjacencyList.union_eq]; exact noUB_optR _
theorem mergeTwoSorted_noUB (l r : List Nat) :
    NoUB (AlgoGen.AdjacencyList.mergeTwoSorted l r) ∧ NoUB (AlgoGen.AdjacencyMap.mergeTwoSorted l r) ∧
    NoUB (AlgoGen.AdjacencyMap.unionSets l r) := by
  rw [AlgoGenThm.AdjacencyList.mergeTwoSorted_eq, AlgoGenThm.AdjacencyMap.mergeTwoSorted_eq, AlgoGenThm.AdjacencyMap.unionSets_eq]
  exact ⟨noUB_ok _, noUB_ok _, noUB_ok _⟩
theorem adjMap_randomTournament_noUB (ap n : Nat) (seed : UInt64) (hap : 0 < ap) :
    NoUB (AlgoGen.AdjacencyMap.randomTournament ap n seed) := by
  rw [AlgoGenThm.AdjacencyMap.randomTournament_eq ap n seed hap]; exact noUB_optR _
theorem adjMap_erdosRenyi_noUB (ap fuel n : Nat) (p : Rand.F64) (seed : UInt64) (hap : 0 < ap) :
    NoUB (AlgoGen.AdjacencyMap.erdosRenyi ap (fuel + 2) n p seed) := by
  rw [AlgoGenThm.AdjacencyMap.erdosRenyi_eq ap fuel n p seed hap]; exact noUB_optR _
/-- `find_partition` for ALL arguments: no underflow, no out-of-bounds `get_unchecked`. -/
theorem findPartition_noUB (r : Nat) (lhs rhs : List (Nat × List Nat)) : NoUB (AlgoGen.AdjacencyMap.findPartition r lhs rhs) := by
  rw [AlgoGenThm.AdjacencyMap.findPartition_eq]; exact noUB_ok _
/-- spatial safety of `AdjacencyMap::union` on the regenerated code, every two maps, every thread count: no
`boundaries.get_unchecked(k)`, `lhs_ptr.add(i)`, `rhs_ptr.add(j)`, `ptr::read` out of bounds
(the drop discipline of its `ManuallyDrop` vectors — each entry moved out exactly once before `set_len(0)` —
is NOT visible here, the translator reads `ptr::read` as a copy: `C13.mapUnion_linear_sorted`) -/
theorem adjMap_union_noUB (ap : Nat) (a b : AdjMap) : NoUB (AlgoGen.AdjacencyMap.union ap a b) := by
  rw [AlgoGenThm.AdjacencyMap.union_eq]; exact noUB_optR _

/-! ## Set 5 — the remaining functions with unchecked accesses -/

/-- The three private iterators: `next` in EVERY state — in particular on every re-poll after `None`. -/
theorem iterators_next_noUB_any :
    (∀ s, NoUB (AlgoGen.MxArcsIterator.next s)) ∧ (∀ s, NoUB (AlgoGen.AlArcsIterator.next s)) ∧
    (∀ s, InNeighborsIterator.Inv s → NoUB (AlgoGen.InNeighborsIterator.next s)) :=
  ⟨fun s => (MxArcsIterator.next_safe_any s).noUB, fun s => (AlArcsIterator.next_safe_any s).noUB,
   fun s h => (InNeighborsIterator.next_safe s h).noUB⟩

theorem adjMatrix_arcs_noUB (d : AdjMatrix) : IterSafe (AlgoGen.AdjacencyMatrix.arcsIter d) AlgoGen.MxArcsIterator.next := by
  refine ⟨?_, fun st _ => (MxArcsIterator.next_safe_any st).noUB⟩
  rw [AlgoGenThm.AdjacencyMatrix.arcsIter_eq]; exact noUB_ok _
theorem adjList_arcs_noUB (d : AdjList) : IterSafe (AlgoGen.AdjacencyList.arcsIter d) AlgoGen.AlArcsIterator.next := by
  refine ⟨?_, fun st _ => (AlArcsIterator.next_safe_any st).noUB⟩
  rw [AlgoGenThm.AdjacencyList.arcsIter_eq]; exact noUB_ok _
/-- `in_neighbors(v)`: the raw pointer + `len` of the iterator stay consistent (`len ≤` the slice's length) -/
theorem adjList_inNeighbors_noUB (d : AdjList) (v : Nat) :
    IterSafe (AlgoGen.AdjacencyList.inNeighborsIter d v) AlgoGen.InNeighborsIterator.next :=
  iterSafe_of (P := fun _ => True) InNeighborsIterator.Inv (InNeighborsIterator.new_safe d v)
    (fun s h => (InNeighborsIterator.next_safe s h).mono (fun _ hr => ⟨hr, trivial⟩))

/-- `AdjacencyMatrix::{toggle, add_arc}` for ALL `u`, `v` under the block-count invariant … -/
theorem adjMatrix_toggle_addArc_noUB (d : AdjMatrix) (u v : Nat) (hlen : d.order * d.order ≤ 64 * d.blocks.length) :
    NoUB (AlgoGen.AdjacencyMatrix.toggle d u v) ∧ NoUB (AlgoGen.AdjacencyMatrix.addArc d u v) :=
  ⟨AlgoGenThm.AdjacencyMatrix.toggle_eq d u v hlen ▸ noUB_optU _, AlgoGenThm.AdjacencyMatrix.addArc_eq d u v hlen ▸ noUB_optU _⟩
/-- … which `empty` establishes (every matrix of the public API comes from `empty`; `toggle`, `add_arc`,
`remove_arc` keep `blocks.len()`) and which is part of `AdjMatrix.WF`. -/
theorem adjMatrix_blocks_invariant :
    (∀ n d, AdjMatrix.empty n = some d → d.order * d.order ≤ 64 * d.blocks.length) ∧
    (∀ d : AdjMatrix, d.WF → d.order * d.order ≤ 64 * d.blocks.length) :=
  ⟨fun _ _ h => (AdjMatrix.empty_WF h).shape.cells_cover, fun _ h => h.shape.cells_cover⟩

theorem adjList_addArc_noUB (d : AdjList) (u v : Nat) : NoUB (AlgoGen.AdjacencyList.addArc d u v) := by
  rw [AlgoGenThm.AdjacencyList.addArc_eq]; exact noUB_optU _
theorem adjList_outNeighbors_noUB (d : AdjList) (u : Nat) : NoUB (AlgoGen.AdjacencyList.outNeighbors d u) := by
  rw [AlgoGenThm.AdjacencyList.outNeighbors_eq]; exact noUB_optR _
theorem hasWalk_noUB (w : List Nat) :
    (∀ d : AdjList, NoUB (AlgoGen.AdjacencyList.hasWalk d w)) ∧ (∀ d : AdjMap, NoUB (AlgoGen.AdjacencyMap.hasWalk d w)) :=
  ⟨fun d => AlgoGenThm.AdjacencyList.hasWalk_eq d w ▸ noUB_ok _, fun d => AlgoGenThm.AdjacencyMap.hasWalk_eq d w ▸ noUB_ok _⟩
theorem adjList_isTournament_noUB (d : AdjList) (hn : 0 < d.order) : NoUB (AlgoGen.AdjacencyList.isTournament d) := by
  rw [AlgoGenThm.AdjacencyList.isTournament_eq d hn]; exact noUB_ok _
theorem adjMap_outNeighbors_noUB (d : AdjMap) (u : Nat) : NoUB (AlgoGen.AdjacencyMap.outNeighbors d u) := by
  rw [AlgoGenThm.AdjacencyMap.outNeighbors_eq]; exact noUB_optR _
/-- `DistanceMatrix::new` for EVERY order: no write leaves the capacity, `set_len` is within it, every slot
is written before the vector is used (raw-buffer reading of the translator; `set_len` BEFORE the writes is
accepted as long as nothing uses the vector in between — see docs/C13.md), and the two `IndexMut` impls
(checked indexing) -/
theorem distanceMatrix_noUB (order : Nat) (inf : Int) :
    NoUB (AlgoGen.DistanceMatrix.new order inf) ∧ ∀ m i, NoUB (AlgoGen.DistanceMatrix.indexMut m i) :=
  ⟨AlgoGenThm.DistanceMatrix.new_eq order inf ▸ noUB_ofRes _, fun m i => by
    rw [AlgoGenThm.DistanceMatrix.indexMut_eq]
    exact noUB_ite (noUB_ok _) noUB_panic⟩

/-- a matrix value with too few blocks (not constructible through the public API) -/
example : AlgoGen.AdjacencyMatrix.addArc ⟨[], 2⟩ 0 1 =
    .error (.fault (.ub "repr/adjacency_matrix/mod.rs:add_arc:self.blocks.get_unchecked_mut(i >> 6)")) :=
  AlgoGenThm.AdjacencyMatrix.addArc_short_ub

/-! ## Set 6 — `AdjacencyList::indegree_sequence` (`*ptr.add(v) += 1` for every head `v`) -/

theorem adjList_indegreeSequence_noUB (d : AdjList) (h : d.WF) : NoUB (AlgoGen.AdjacencyList.indegreeSequence d) := by
  rw [AlgoGenThm.c02_generated_indegree_sequence d h]; exact noUB_ok _

/-- outside `WF` (a head `≥ order`, rejected by every constructor) the generated code DOES answer `ub` -/
example : AlgoGen.AdjacencyList.indegreeSequence ⟨[[5], []]⟩ =
    .error (.fault (.ub "repr/adjacency_list/mod.rs:indegree_sequence:ptr.add(v)")) :=
  AlgoGenThm.AdjacencyList.indegreeSequence_outside_ub
example : AlgoGen.AdjacencyList.indegreeSequence ⟨[[1, 2], [2], [0]]⟩ = .ok [1, 1, 2] :=
  AlgoGenThm.AdjacencyList.indegreeSequence_run

/-- **The `join().unwrap_unchecked()` / `lock().unwrap_unchecked()` sites.**  They are UB exactly when a
worker panicked.  Under the translator's reading (a worker runs to completion at its spawn point; its panic
would be the panic of the call) the four functions that contain such a site RETURN on every input that
passes the asserts of the calling thread, for every thread count: so no worker panicked, every `join()` was
`Ok` and no `Mutex` was poisoned.  (That reading — one schedule — is trusted; the sanitizer runs of the
tie exercise the real schedules.) -/
theorem workers_do_not_panic :
    (∀ (d : AdjList) (ap : Nat), 0 < ap → 0 < d.order → ∃ r, AlgoGen.AdjacencyList.complement ap d = .ok r) ∧
    (∀ (n ap : Nat), 0 < ap → 0 < n → ∃ r, AlgoGen.AdjacencyList.complete ap n = .ok r) ∧
    (∀ (n ap : Nat) (seed : UInt64), 0 < n → 0 < ap → ∃ r, AlgoGen.AdjacencyMap.randomTournament ap n seed = .ok r) ∧
    (∀ (n ap fuel : Nat) (p : Rand.F64) (seed : UInt64), 0 < n → 0 < ap → p.inUnit = true →
      ∃ r, AlgoGen.AdjacencyMap.erdosRenyi ap (fuel + 2) n p seed = .ok r) := by
  obtain ⟨h1, _, _, h4, _, _, h7, h8⟩ := AlgoGenThm.c17_generated
  refine ⟨fun d ap hap hn => ⟨_, h1 d ap hap hn⟩, ?_, ?_, ?_⟩
  · intro n ap hap hn
    obtain ⟨d, hd, _⟩ := Gen.AL.completeSeq_spec (n := n) hn
    exact ⟨d, by rw [h4 n ap hap, hd]; rfl⟩
  · intro n ap seed hn hap
    obtain ⟨g, hg, _⟩ := h7 n ap seed hn hap
    exact ⟨g, hg⟩
  · intro n ap fuel p seed hn hap hp
    obtain ⟨g, hg, _⟩ := h8 n ap fuel p seed hn hap hp
    exact ⟨g, hg⟩

/-! ## The generated code DOES answer `ub` outside the invariants (the hypotheses are the exact boundary) -/

/-- a hand-crafted BFS state with a queued vertex `≥ order` (no public call builds it) -/
example : AlgoGen.BfsDist.distances ⟨8, fun _ => []⟩ 0 1 ⟨[(9, 0)], List.replicate 10 false⟩ =
    .error (.fault (.ub "bfs_dist.rs:distances:ptr.add(u)")) := by decide +kernel
/-- a Dijkstra state whose heap holds a vertex `≥ dist.len()` -/
example : AlgoGen.Dijkstra.next ⟨1, fun _ => []⟩ ⟨[0], [⟨0, none, 5⟩]⟩ =
    .error (.fault (.ub "dijkstra.rs:next:dist_ptr.add(u)")) := by decide +kernel
/-- `AdjacencyList::converse` with a head `≥ order` (rejected by every constructor) -/
example : AlgoGen.AdjacencyList.converse ⟨[[5], []]⟩ =
    .error (.fault (.ub "repr/adjacency_list/mod.rs:converse:conv_ptr.add(v)")) := by decide +kernel
/-- and the same calls inside the invariants return -/
example : AlgoGen.AdjacencyList.converse ⟨[[1], []]⟩ = .ok ⟨[[], [0]]⟩ := by decide +kernel
def wg2 : WGraph := ⟨2, fun u => if u = 0 then [(1, 3)] else []⟩
example : (AlgoGen.Dijkstra.new wg2 1000 [0] >>= AlgoGen.Dijkstra.next wg2).toOption.map (·.1) = some (some 0) := by decide +kernel
example : AlgoGen.Bfs.new ⟨3, fun _ => []⟩ [1000] = .error (.fault .panic) := by decide +kernel

end GraafVerif.C13Gen
