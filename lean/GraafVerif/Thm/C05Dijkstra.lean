import GraafVerif.Proof.DijkstraPred
/-!
# C05 (Dijkstra half) — `DijkstraPred::predecessors` and `shortest_path` are valid and optimal

`predecessors`, `shortestPath` are the models of `DijkstraPred::predecessors` / `shortest_path`
(Model/Dijkstra.lean), the latter through the C19 model of `PredecessorTree::search_by`.
Hypotheses `Hyp g S` as in C03.  `PathW g p wt` (Spec/Dijkstra.lean): the vertex list `p` is a
walk of total weight `wt`.
-/
namespace GraafVerif.C05Dijkstra
open GraafVerif GraafVerif.Dijkstra

def Statement : Prop :=
  ∀ (g : WGraph) (S : List Nat), Hyp g S →
    -- the tree: sources and unreachable vertices have no predecessor …
    (predecessors g S).length = g.n ∧
    (∀ v, v < g.n → (v ∈ S ∨ ¬ WReachFrom g S v) → (predecessors g S)[v]? = some none) ∧
    -- … every other reachable vertex has one, over a tight arc: dist(u) + w(u,v) = dist(v) …
    (∀ v, v < g.n → v ∉ S → WReachFrom g S v → ∃ u w du dv,
      (predecessors g S)[v]? = some (some u) ∧ g.A u v w ∧
      IsMinDist g S u du ∧ IsMinDist g S v dv ∧ du + w = dv) ∧
    -- … so following predecessors from v reaches a source along a shortest path.
    (∀ v, WReachFrom g S v → ∃ p d,
      PredTree.searchBy (predecessors g S) v (fun _ b => b.isNone) = .ret (some p) ∧
      p.head? = some v ∧ (∃ s ∈ S, p.getLast? = some s) ∧ PathW g p.reverse d ∧ IsMinDist g S v d) ∧
    -- shortest_path: None exactly when no reachable vertex is a target; otherwise a walk from a
    -- source to a target whose weight is the minimum over all targets.
    ∀ isT : Nat → Bool,
      (shortestPath g S isT = .ret none ↔ ¬ ∃ v, WReachFrom g S v ∧ isT v = true) ∧
      ((∃ v, WReachFrom g S v ∧ isT v = true) → ∃ p t d,
        shortestPath g S isT = .ret (some p) ∧
        (∃ s ∈ S, p.head? = some s) ∧ p.getLast? = some t ∧ isT t = true ∧
        PathW g p d ∧ IsMinDist g S t d ∧
        ∀ t' d', isT t' = true → IsMinDist g S t' d' → d ≤ d')

theorem dijkstraPred_tree (g : WGraph) (S : List Nat) (h : Hyp g S) :
    (predecessors g S).length = g.n ∧
    (∀ v, v < g.n → (v ∈ S ∨ ¬ WReachFrom g S v) → (predecessors g S)[v]? = some none) ∧
    (∀ v, v < g.n → v ∉ S → WReachFrom g S v → ∃ u w du dv,
      (predecessors g S)[v]? = some (some u) ∧ g.A u v w ∧
      IsMinDist g S u du ∧ IsMinDist g S v dv ∧ du + w = dv) := by
  obtain ⟨ok, hsome, hnone, hsrc⟩ := predEntries_facts h
  have hlt := entries_lt h tagOK_some
  have hmin := entries_min h tagOK_some
  rw [predecessors_eq_treeOf]
  refine ⟨Vec.written_length _ _ _, fun v hv hcase => ?_, fun v hv hns hr => ?_⟩
  · by_cases hm : v ∈ (entries g some S).map (·.v)
    · obtain ⟨e, he, rfl⟩ := List.mem_map.mp hm
      rcases hcase with hs | hnr
      · rw [Vec.written_mem ok.nodup he (hlt e he), hsrc e he hs]
      · exact absurd ((entries_mem_iff h tagOK_some _).mp hm) hnr
    · exact Vec.written_not_mem hv hm
  · obtain ⟨e, he, rfl⟩ := List.mem_map.mp ((entries_mem_iff h tagOK_some v).mpr hr)
    cases hp : e.p with
    | none => exact absurd (hnone e he hp).1 hns
    | some u =>
      obtain ⟨eu, heu, rfl, w, harc, hd⟩ := hsome e he u hp
      exact ⟨eu.v, w, eu.d, e.d, by rw [Vec.written_mem ok.nodup he (hlt e he), hp], harc, hmin eu heu, hmin e he,
        hd.symm⟩

/-- following predecessors reaches a source along a shortest path. -/
theorem dijkstraPred_chain (g : WGraph) (S : List Nat) (h : Hyp g S) :
    ∀ v, WReachFrom g S v → ∃ p d,
      PredTree.searchBy (predecessors g S) v (fun _ b => b.isNone) = .ret (some p) ∧
      p.head? = some v ∧ (∃ s ∈ S, p.getLast? = some s) ∧ PathW g p.reverse d ∧ IsMinDist g S v d := by
  intro v hr
  obtain ⟨e, he, rfl⟩ := List.mem_map.mp ((entries_mem_iff h tagOK_some v).mpr hr)
  obtain ⟨pre, post, hsplit⟩ := List.append_of_mem he
  obtain ⟨c, hsb, hpath, hlast⟩ := entry_chain h hsplit
    (fun b hb => hsplit ▸ (List.mem_append.mp hb).elim (List.mem_append_left _)
      (fun hb => List.mem_append_right _ (List.mem_singleton.mp hb ▸ List.mem_cons_self)))
    (fun _ hb => hb) (predEntries_facts h).1.nodup
  exact ⟨e.v :: c, e.d, predecessors_eq_treeOf g S ▸ hsb, rfl, hlast, hpath,
    entries_min h tagOK_some e he⟩

theorem dijkstra_shortest_path (g : WGraph) (S : List Nat) (h : Hyp g S) (isT : Nat → Bool) :
    (shortestPath g S isT = .ret none ↔ ¬ ∃ v, WReachFrom g S v ∧ isT v = true) ∧
    ((∃ v, WReachFrom g S v ∧ isT v = true) → ∃ p t d,
      shortestPath g S isT = .ret (some p) ∧
      (∃ s ∈ S, p.head? = some s) ∧ p.getLast? = some t ∧ isT t = true ∧
      PathW g p d ∧ IsMinDist g S t d ∧
      ∀ t' d', isT t' = true → IsMinDist g S t' d' → d ≤ d') := by
  have hok := (predEntries_facts h).1
  have hmin := entries_min h tagOK_some
  have hmemiff := entries_mem_iff (tag := some) h tagOK_some
  have hsome : (∃ v, WReachFrom g S v ∧ isT v = true) → ∃ p t d,
      shortestPath g S isT = .ret (some p) ∧
      (∃ s ∈ S, p.head? = some s) ∧ p.getLast? = some t ∧ isT t = true ∧
      PathW g p d ∧ IsMinDist g S t d ∧
      ∀ t' d', isT t' = true → IsMinDist g S t' d' → d ≤ d' := by
    rintro ⟨v, hr, hvT⟩
    obtain ⟨e0, he0, rfl⟩ := List.mem_map.mp ((hmemiff v).mpr hr)
    -- `e` is the first emitted target; the loop searches the tree of the prefix up to `e`
    obtain ⟨pre, e, post, hsplit, hpre, heT⟩ :=
      exists_first (fun e : Entry => isT e.v) (entries g some S) ⟨e0, he0, hvT⟩
    have he : e ∈ entries g some S := hsplit ▸ List.mem_append_right _ List.mem_cons_self
    have happ : entries g some S = (pre ++ [e]) ++ post := by rw [hsplit, List.append_assoc]; rfl
    obtain ⟨c, hsb, hpath, hlast⟩ := entry_chain h hsplit (fun _ hb => hb)
      (fun b hb => happ ▸ List.mem_append_left _ hb)
      (by have hnd := hok.nodup
          rw [happ, List.map_append] at hnd
          exact (List.nodup_append.mp hnd).1)
    refine ⟨(e.v :: c).reverse, e.v, e.d, ?_, ?_, List.getLast?_reverse.trans rfl, heT, hpath,
      hmin e he, fun t' d' ht' hmd' => ?_⟩
    · rw [shortestPath, dijkstraPred, hsplit, spLoop_hit isT pre _ e post hpre heT]
      exact congrArg (resMap List.reverse) hsb
    · obtain ⟨s, hs, hl⟩ := hlast
      exact ⟨s, hs, List.head?_reverse.trans hl⟩
    · -- a target `t'` is emitted, not before `e`, and the keys are sorted
      obtain ⟨s, hs, k, hk⟩ := hmd'.1
      obtain ⟨e', he', rfl⟩ := List.mem_map.mp ((hmemiff t').mpr ⟨s, hs, k, d', hk⟩)
      rw [← (hmin e' he').unique hmd']
      have hsorted := hok.sorted
      rw [hsplit] at hsorted he'
      rcases List.mem_append.mp he' with hm | hm
      · rw [hpre e' hm] at ht'; cases ht'
      · rcases List.mem_cons.mp hm with rfl | hm
        · exact Int.le_refl _
        · exact (List.pairwise_cons.mp (List.pairwise_append.mp hsorted).2.1).1 e' hm
  refine ⟨⟨fun hnone hex => ?_, fun hno => ?_⟩, hsome⟩
  · obtain ⟨p, _, _, hp, _⟩ := hsome hex
    rw [hp] at hnone
    cases hnone
  · refine spLoop_none isT _ _ fun e he => ?_
    cases hT : isT e.v with
    | false => rfl
    | true => exact absurd ⟨e.v, (hmemiff e.v).mp (List.mem_map_of_mem he), hT⟩ hno

theorem dijkstraPred_correct : Statement := by
  intro g S h
  obtain ⟨h1, h2, h3⟩ := dijkstraPred_tree g S h
  exact ⟨h1, h2, h3, dijkstraPred_chain g S h, dijkstra_shortest_path g S h⟩

/-! Non-vacuity (the digraph of C03's witness; `Hyp gStale [0]` is shown in `Thm/C03`). -/
example : predecessors gStale [0] = [none, some 2, some 0, some 0] := by decide +kernel
example : shortestPath gStale [0] (fun v => v == 1 || v == 3) = .ret (some [0, 2, 1]) := by decide +kernel
example : PathW gStale [0, 2, 1] 2 :=
  PathW.cons (w := 1) (by unfold WGraph.A; decide) (PathW.cons (w := 1) (by unfold WGraph.A; decide) (PathW.single 1))

end GraafVerif.C05Dijkstra
