import GraafVerif.Proof.ValueRoundTrip
import GraafVerif.Proof.VerdictGlue
/-!
# Correspondence glue: the value syntax of the line protocol (all 20 checks)

Every check compares the real code with the model through case lines written in one value syntax
(`Data/Value.lean`).  These theorems take the structural half of that parser out of the trusted base:
what is printed as tokens is parsed back as the same values, in every context and at every nesting
depth, and the typed accessors invert the encoders.  They are audited (`#print axioms`) by every
check, next to the property's own theorems.  Still trusted: the character-level tokeniser.
-/
namespace GraafVerif.Glue
open GraafVerif.V

/-- Tokens printed for a sequence of printable values parse back to that sequence. -/
theorem line_roundtrip (vs : List V) (h : PrintableL vs) : parseToks (toToksL vs) [] [] = some vs := by
  have := parseToks_toToksL vs h [] [] []
  simpa [parseToks] using this

/-- The same inside any context (enclosing open lists `stack`, values already read `cur`, tokens
still to come `rest`). -/
theorem value_roundtrip_in_context (v : V) (hv : Printable v) (rest : List String)
    (stack : List (List V)) (cur : List V) :
    parseToks (toToks v ++ rest) stack cur = parseToks rest stack (v :: cur) :=
  parseToks_toToks v hv rest stack cur

/-- Unbalanced input is rejected, never repaired. -/
theorem unbalanced_rejected (ts : List String) (up : List V) (stack : List (List V)) (cur : List V) :
    parseToks ("]" :: ts) [] cur = none ∧ parseToks [] (up :: stack) cur = none :=
  ⟨parseToks_unbalanced_close ts cur, parseToks_unclosed up stack cur⟩

theorem numeral_read_back (n : Int) :
    atomOrInt (toString n) = .i n ∧ toString n ≠ "[" ∧ toString n ≠ "]" :=
  ⟨atomOrInt_int n, toString_int_ne_lb n, toString_int_ne_rb n⟩

theorem accessors_invert_encoders :
    (∀ n : Nat, nat? (ofNat n) = some n) ∧
    (∀ xs : List Nat, listOf? nat? (ofNats xs) = some xs) ∧
    (∀ xs : List Int, listOf? int? (ofInts xs) = some xs) ∧
    (∀ xs : List (Nat × Nat), listOf? (pair? nat? nat?) (ofPairs xs) = some xs) ∧
    (∀ o : Option Nat, opt? nat? (ofOptNat o) = some o) ∧
    (∀ b : Bool, bool? (ofBool b) = some b) :=
  ⟨nat?_ofNat, listOf?_ofNats, listOf?_ofInts, pairs_roundtrip, opt?_ofOptNat, bool?_ofBool⟩

theorem arcs_roundtrip (arcs : List (Nat × Nat)) :
    (parseToks (toToks (ofPairs arcs)) [] []).bind (fun vs => vs.head?.bind (listOf? (pair? nat? nat?)))
      = some arcs :=
  V.arcs_roundtrip arcs

/-- A case is accepted (`OK`) exactly when the oracle on the implementation's output is silent AND
that output equals the model's; an oracle objection is always `PROPFAIL`; the rest is `MISMATCH`. -/
theorem verdict_sound (obs mdl : List V) (pf : Option String) (nt : Bool) (tags : List String) :
    ((Driver.classify obs mdl pf nt tags).status = "OK" ↔ pf = none ∧ (obs == mdl) = true) ∧
    ((Driver.classify obs mdl pf nt tags).status = "PROPFAIL" ↔ pf.isSome = true) ∧
    ((Driver.classify obs mdl pf nt tags).status = "MISMATCH" ↔ pf = none ∧ (obs == mdl) = false) := by
  unfold Driver.classify
  cases pf with
  | some w => simp
  | none => by_cases h : (obs == mdl) = true <;> simp [h]

end GraafVerif.Glue
