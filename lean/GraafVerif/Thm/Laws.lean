import GraafVerif.Proof.LawsInst
import GraafVerif.Proof.LawsDeg
/-!
# Laws — algebraic laws and generator / predicate composition theorems between the models

The statements with their proofs (references into `Proof/`, or written out here) and non-vacuity examples.  No harness op of its own: every
statement is about COMPOSITIONS of model functions that are each tied to the real code by their own
property (C11 operations, C12 predicates, C14 generators, C20 `==`), e.g.
`union(g, complement(g)) == complete(order)`.

How to read a statement.  `M : Rep R` (`Proof/LawsRep.lean`) bundles one representation:
`M.compl / M.conv / M.un` are its `complement / converse / union` models, `M.isComplete …
M.isSpanningSubdigraph` its predicate models, `M.fam.*` its generator models, `M.vertices / M.arcs /
M.size` its `vertices() / arcs() / size()` models, `M.WF` the representation invariant.  The four
bundles (`Proof/LawsInst.lean`: the models and theorems of C02, C11, C12, C14; `nonempty`, `real_ok` and the matrix's
`fits_of` are read off `WF` and `Realises` there):

| bundle | `compl d` | `conv d` | `un a b` | `fam.complete n` | `WF d` |
|---|---|---|---|---|---|
| `alRep ap _` | `complementAL d ap` | `converseAL d` | `unionAL a b ap` | `Gen.AL.complete n ap` | `d.WF` |
| `amRep ap _` | `some (complementAM d)` | `some (converseAM d)` | `unionAM a b ap` | `Gen.AM.complete n` | `d.WF ∧ 0 < d.order` |
| `mxRep` | `complementMX d` | `converseMX d` | `unionMX a b` | `Gen.MX.complete n` | `d.WF ∧ d.order² < 2^64` |
| `elRep` | `some (complementEL d)` | `some (converseEL d)` | `unionEL a b` | `Gen.EL.complete n` | `d.WF` |

(`ap ≥ 1` = `available_parallelism()`.)  `x = some r` = "the call returns `r`" (`none` = panic); `=` of model
values is `==` of the Rust structs (C20: the derived `PartialEq` is structural, the models are canonical).
-/
namespace GraafVerif.Laws
open GraafVerif.Repr GraafVerif.Ops GraafVerif.Query GraafVerif.Pred GraafVerif.GenSpec GraafVerif.Gen

structure LawsOf {R : Type} (M : Rep R) : Prop where
  -- 1. involutions
  complement_involutive : ∀ d, M.WF d → ∃ r, M.compl d = some r ∧ M.compl r = some d
  converse_involutive : ∀ d, M.WF d → ∃ r, M.conv d = some r ∧ M.conv r = some d
  -- 2. union
  union_comm : ∀ a b, M.WF a → M.WF b → ∃ r, M.un a b = some r ∧ M.un b a = some r
  union_idem : ∀ a, M.WF a → M.un a a = some a
  union_assoc : ∀ a b c, M.WF a → M.WF b → M.WF c →
    ∃ ab bc r, M.un a b = some ab ∧ M.un b c = some bc ∧ M.un ab c = some r ∧ M.un a bc = some r
  /-- `empty m` is neutral on both sides as soon as `0..m` are vertices of `g` (`m ≤ order` for the
  fixed-order representations — not only "matching order") -/
  union_empty : ∀ g, M.WF g → ∀ m, 1 ≤ m → M.fits m → (∀ v, v < m → v ∈ M.vertices g) →
    ∃ e, M.fam.empty m = some e ∧ M.un g e = some g ∧ M.un e g = some g
  /-- … and so is any arcless digraph whose vertices are vertices of `g` (sparse map ids) -/
  union_arcless : ∀ g e, M.WF g → M.WF e → M.arcs e = [] → (∀ v, v ∈ M.vertices e → v ∈ M.vertices g) →
    M.un g e = some g ∧ M.un e g = some g
  converse_union : ∀ g h, M.WF g → M.WF h → ∃ gh cg ch r, M.un g h = some gh ∧ M.conv g = some cg ∧
    M.conv h = some ch ∧ M.conv gh = some r ∧ M.un cg ch = some r
  converse_complement : ∀ g, M.WF g →
    ∃ c cv r, M.compl g = some c ∧ M.conv g = some cv ∧ M.conv c = some r ∧ M.compl cv = some r
  /-- `g ∪ complement g = complete n` when the vertex set is `0..n` -/
  union_complement_complete : ∀ g, M.WF g → ∀ n, (∀ v, v ∈ M.vertices g ↔ v < n) →
    ∃ c k, M.compl g = some c ∧ M.fam.complete n = some k ∧ M.un g c = some k ∧ M.un c g = some k
  complement_complete_empty : ∀ n, 1 ≤ n → M.fits n →
    ∃ k e, M.fam.complete n = some k ∧ M.fam.empty n = some e ∧ M.compl k = some e ∧ M.compl e = some k
  -- 3. predicates against operations
  symmetric_iff_converse : ∀ g, M.WF g → (M.isSymmetric g = true ↔ M.conv g = some g)
  complete_iff_complement_arcless : ∀ g, M.WF g →
    (M.isComplete g = some true ↔ ∃ c, M.compl g = some c ∧ M.arcs c = [])
  complete_iff_complement_empty : ∀ g, M.WF g → ∀ n, (∀ v, v ∈ M.vertices g ↔ v < n) →
    (M.isComplete g = some true ↔ ∃ e, M.fam.empty n = some e ∧ M.compl g = some e)
  complete_iff_eq_complete : ∀ g, M.WF g → ∀ n, (∀ v, v ∈ M.vertices g ↔ v < n) →
    (M.isComplete g = some true ↔ M.fam.complete n = some g)
  tournament_iff_semicomplete_oriented : ∀ g, M.WF g →
    (M.isTournament g = some true ↔ M.isSemicomplete g = some true ∧ M.isOriented g = true)
  /-- a tournament is exactly a digraph whose complement is its converse -/
  tournament_iff_complement_eq_converse : ∀ g, M.WF g → (M.isTournament g = some true ↔ M.compl g = M.conv g)
  converse_preserves : ∀ g, M.WF g → ∃ r, M.conv g = some r ∧ M.isComplete r = M.isComplete g ∧
    M.isSemicomplete r = M.isSemicomplete g ∧ M.isTournament r = M.isTournament g ∧
    M.isSymmetric r = M.isSymmetric g ∧ M.isOriented r = M.isOriented g
  /-- `converse` swaps in- and out-degrees: `is_regular`, `is_balanced` are invariant -/
  converse_preserves_degrees : ∀ g, M.WF g →
    ∃ r, M.conv g = some r ∧ M.isRegular r = M.isRegular g ∧ M.isBalanced r = M.isBalanced g
  regular_balanced : ∀ g, M.WF g → M.isRegular g = some true → M.isBalanced g = some true
  complement_duals : ∀ g, M.WF g → ∃ c, M.compl g = some c ∧
    (M.isSemicomplete g = some true ↔ M.isOriented c = true) ∧
    (M.isOriented g = true ↔ M.isSemicomplete c = some true) ∧
    M.isTournament c = M.isTournament g ∧ M.isSymmetric c = M.isSymmetric g
  sub_union : ∀ g h, M.WF g → M.WF h → ∃ r, M.un g h = some r ∧ M.isSubdigraph g r = true ∧
    M.isSubdigraph h r = true ∧ M.isSuperdigraph r g = true ∧ M.isSuperdigraph r h = true
  sub_refl : ∀ g, M.WF g → M.isSubdigraph g g = true
  sub_trans : ∀ a b c, M.WF a → M.WF b → M.WF c → M.isSubdigraph a b = true → M.isSubdigraph b c = true →
    M.isSubdigraph a c = true
  /-- `is_subdigraph` is antisymmetric w.r.t. `==` -/
  sub_antisymm : ∀ g h, M.WF g → M.WF h → ((M.isSubdigraph g h = true ∧ M.isSubdigraph h g = true) ↔ g = h)
  /-- absorption: `g ⊆ h ↔ g ∪ h == h` -/
  sub_iff_union : ∀ g h, M.WF g → M.WF h → (M.isSubdigraph g h = true ↔ M.un g h = some h)
  spanning_bounds : ∀ g, M.WF g → ∀ n, (∀ v, v ∈ M.vertices g ↔ v < n) →
    ∃ e k, M.fam.empty n = some e ∧ M.fam.complete n = some k ∧
      M.isSpanningSubdigraph e g = true ∧ M.isSpanningSubdigraph g k = true
  spanning_complement : ∀ g, M.WF g → ∃ c r, M.compl g = some c ∧ M.un g c = some r ∧
    M.isSpanningSubdigraph g r = true ∧ M.isSpanningSubdigraph c r = true ∧ ∀ a, a ∈ M.arcs g → a ∉ M.arcs c
  -- 4. generators against predicates, operations, `size`
  gen_complete : ∀ n, 1 ≤ n → M.fits n → ∃ k, M.fam.complete n = some k ∧ M.isComplete k = some true ∧
    M.isSemicomplete k = some true ∧ M.isSymmetric k = true ∧ M.conv k = some k ∧ M.isRegular k = some true ∧
    M.size k = n * (n - 1)
  gen_empty : ∀ n, 1 ≤ n → M.fits n → ∃ e, M.fam.empty n = some e ∧ M.arcs e = [] ∧ M.isSymmetric e = true ∧
    M.isOriented e = true ∧ M.conv e = some e ∧ M.isRegular e = some true ∧ M.size e = 0
  /-- `circuit n`: regular; oriented iff `n ≠ 2`; `n` arcs (`n ≥ 2`); converse = reversed arcs;
  `circuit n ∪ converse (circuit n) = cycle n` -/
  gen_circuit : ∀ n, 1 ≤ n → M.fits n → ∃ c cc k, M.fam.circuit n = some c ∧ M.conv c = some cc ∧
    M.fam.cycle n = some k ∧ M.isRegular c = some true ∧ (M.isOriented c = true ↔ n ≠ 2) ∧ (2 ≤ n → M.size c = n) ∧
    (∀ u v, (u, v) ∈ M.arcs cc ↔ CircuitDef n v u) ∧ M.un c cc = some k ∧ M.un cc c = some k
  gen_cycle : ∀ n, 1 ≤ n → M.fits n → ∃ k, M.fam.cycle n = some k ∧ M.isSymmetric k = true ∧ M.conv k = some k ∧
    (2 ≤ n → M.isOriented k = false)
  /-- `cycle n` is regular and balanced; `2n` arcs from `n = 3` on (`cycle 2` has 2) -/
  gen_cycle_degrees : ∀ n, 1 ≤ n → M.fits n → ∃ k, M.fam.cycle n = some k ∧ M.isRegular k = some true ∧
    M.isBalanced k = some true ∧ (2 ≤ n → M.size k = if n = 2 then 2 else 2 * n)
  gen_path : ∀ n, 1 ≤ n → M.fits n → ∃ p c y k, M.fam.path n = some p ∧ M.fam.circuit n = some c ∧
    M.fam.cycle n = some y ∧ M.fam.complete n = some k ∧ M.isOriented p = true ∧ M.size p = n - 1 ∧
    M.isSpanningSubdigraph p c = true ∧ M.isSpanningSubdigraph c y = true ∧ M.isSpanningSubdigraph y k = true ∧
    M.isSubdigraph p k = true
  gen_star : ∀ n, 1 ≤ n → M.fits n → ∃ s, M.fam.star n = some s ∧ M.isSymmetric s = true ∧ M.conv s = some s
  gen_star_wheel : ∀ n, 4 ≤ n → M.fits n → ∃ s w, M.fam.star n = some s ∧ M.fam.wheel n = some w ∧
    M.isSymmetric s = true ∧ M.conv s = some s ∧ M.isSymmetric w = true ∧ M.conv w = some w ∧
    M.isSpanningSubdigraph s w = true
  /-- incl. the repo's test `union_biclique_complement_is_complete`, at every `m, n ≥ 1` -/
  gen_biclique : ∀ m n, 1 ≤ m → 1 ≤ n → M.fits (m + n) → ∃ b c k, M.fam.biclique m n = some b ∧
    M.compl b = some c ∧ M.fam.complete (m + n) = some k ∧ M.isSymmetric b = true ∧ M.conv b = some b ∧
    M.size b = 2 * m * n ∧ M.un b c = some k

theorem laws {R : Type} (M : Rep R) : LawsOf M where
  complement_involutive := fun _ h => Rep.complement_involutive h
  converse_involutive := fun _ h => Rep.converse_involutive h
  union_comm := fun _ _ ha hb => Rep.union_comm ha hb
  union_idem := fun _ h => Rep.union_idem h
  union_assoc := fun _ _ _ ha hb hc => Rep.union_assoc ha hb hc
  union_empty := fun _ hg _ hm hf hV => Rep.union_empty hg hm hf hV
  union_arcless := fun _ _ hg he hA hV => Rep.union_arcless hg he hA hV
  converse_union := fun _ _ hg hh => Rep.converse_union hg hh
  converse_complement := fun _ hg => Rep.converse_complement hg
  union_complement_complete := fun _ hg _ hV => Rep.union_complement_complete hg hV
  complement_complete_empty := fun _ hn hf => Rep.complement_complete_empty hn hf
  symmetric_iff_converse := fun _ hg => Rep.symmetric_iff_converse hg
  complete_iff_complement_arcless := fun _ hg => Rep.complete_iff_complement_arcless hg
  complete_iff_complement_empty := fun _ hg _ hV => Rep.complete_iff_complement_empty hg hV
  complete_iff_eq_complete := fun _ hg _ hV => Rep.complete_iff_eq_complete hg hV
  tournament_iff_semicomplete_oriented := fun _ hg => Rep.tournament_iff_semicomplete_oriented hg
  tournament_iff_complement_eq_converse := fun _ hg => Rep.tournament_iff_complement_eq_converse hg
  converse_preserves := fun _ hg => Rep.converse_preserves hg
  converse_preserves_degrees := fun _ hg => Rep.converse_preserves_degrees hg
  regular_balanced := fun _ hg h => Rep.regular_balanced' hg h
  complement_duals := fun _ hg => Rep.complement_duals hg
  sub_union := fun _ _ hg hh => Rep.sub_union hg hh
  sub_refl := fun _ hg => Rep.sub_refl' hg
  sub_trans := fun _ _ _ ha hb hc h1 h2 => Rep.sub_trans' ha hb hc h1 h2
  sub_antisymm := fun _ _ hg hh => Rep.sub_antisymm hg hh
  sub_iff_union := fun _ _ hg hh => Rep.sub_iff_union hg hh
  spanning_bounds := fun _ hg _ hV => Rep.spanning_bounds hg hV
  spanning_complement := fun _ hg => Rep.spanning_complement hg
  gen_complete := fun _ hn hf => Rep.gen_complete hn hf
  gen_empty := fun _ hn hf => Rep.gen_empty hn hf
  gen_circuit := fun _ hn hf => Rep.gen_circuit hn hf
  gen_cycle := fun _ hn hf => Rep.gen_cycle hn hf
  gen_cycle_degrees := fun _ hn hf => Rep.gen_cycle_degrees hn hf
  gen_path := fun _ hn hf => Rep.gen_path hn hf
  gen_star := fun _ hn hf => Rep.gen_star hn hf
  gen_star_wheel := fun _ hn hf => Rep.gen_star_wheel hn hf
  gen_biclique := fun _ _ hm hn hf => Rep.gen_biclique hm hn hf

/-- **Full statement**: all laws, in all four unweighted representations, for every thread count. -/
def Statement : Prop :=
  (∀ ap (hap : 0 < ap), LawsOf (alRep ap hap)) ∧ (∀ ap (hap : 0 < ap), LawsOf (amRep ap hap)) ∧
  LawsOf mxRep ∧ LawsOf elRep

theorem statement : Statement := ⟨fun _ _ => laws _, fun _ _ => laws _, laws _, laws _⟩

/-! ## The headline laws in plain model terms

(`AdjacencyList`, `AdjacencyMatrix`, `EdgeList`: vertex set `0..order`, so the "vertex set `0..n`"
hypothesis is discharged with `n = order`; `AdjacencyMap`: arbitrary key sets where the law allows.)
Each is the law at one bundle; `dsimp only [alRep]` replaces the bundle's fields by the model functions
first, so that the comparison with the statement never has to unfold a model. -/

/-- `g.union(&g.complement()) == AdjacencyList::complete(g.order())`, every thread count. -/
theorem al_union_complement_complete (g : AdjList) (h : g.WF) (ap : Nat) (hap : 0 < ap) :
    ∃ c k, complementAL g ap = some c ∧ Gen.AL.complete g.order ap = some k ∧
      unionAL g c ap = some k ∧ unionAL c g ap = some k := by
  have := (laws (alRep ap hap)).union_complement_complete g h g.order (al_contig ap hap g)
  dsimp only [alRep] at this
  exact this

theorem mx_union_complement_complete (g : AdjMatrix) (h : g.WF) (hov : g.order * g.order < 2 ^ 64) :
    ∃ c k, complementMX g = some c ∧ Gen.MX.complete g.order = some k ∧ unionMX g c = some k ∧ unionMX c g = some k := by
  have := (laws mxRep).union_complement_complete g ⟨h, hov⟩ g.order (mx_contig g)
  dsimp only [mxRep] at this
  exact this

theorem el_union_complement_complete (g : EdgeList) (h : g.WF) :
    ∃ k, Gen.EL.complete g.order = some k ∧ unionEL g (complementEL g) = some k ∧ unionEL (complementEL g) g = some k := by
  have := (laws elRep).union_complement_complete g h g.order (el_contig g)
  dsimp only [elRep] at this
  obtain ⟨c, k, e1, e2, e3, e4⟩ := this
  cases e1; exact ⟨k, e2, e3, e4⟩

/-- `AdjacencyMap` with key set `0..n`. -/
theorem am_union_complement_complete (g : AdjMap) (h : g.WF) (n : Nat) (hV : g.vertices = List.range n) (hn : 0 < n)
    (ap : Nat) (hap : 0 < ap) :
    ∃ k, Gen.AM.complete n = some k ∧ unionAM g (complementAM g) ap = some k ∧ unionAM (complementAM g) g ap = some k := by
  have ho : 0 < g.order := by
    have : g.vertices.length = g.order := List.length_map ..
    rw [hV, List.length_range] at this
    exact this ▸ hn
  have := (laws (amRep ap hap)).union_complement_complete g ⟨h, ho⟩ n
    (fun v => by show v ∈ g.vertices ↔ _; rw [hV]; exact List.mem_range)
  dsimp only [amRep] at this
  obtain ⟨c, k, e1, e2, e3, e4⟩ := this
  cases e1; exact ⟨k, e2, e3, e4⟩

/-- `union` with `empty(m)`, `m ≤ order`: the identity, on both sides. -/
theorem al_union_empty (g : AdjList) (h : g.WF) (m : Nat) (hm : 1 ≤ m) (hle : m ≤ g.order) (ap : Nat) (hap : 0 < ap) :
    ∃ e, AdjList.empty m = some e ∧ unionAL g e ap = some g ∧ unionAL e g ap = some g := by
  have := (laws (alRep ap hap)).union_empty g h m hm trivial
    (fun v hv => (al_contig ap hap g v).mpr (Nat.lt_of_lt_of_le hv hle))
  dsimp only [alRep] at this
  exact this

/-- `converse` distributes over `union` (operands of ANY two orders). -/
theorem al_converse_union (g h : AdjList) (hg : g.WF) (hh : h.WF) (ap : Nat) (hap : 0 < ap) :
    ∃ gh cg ch r, unionAL g h ap = some gh ∧ converseAL g = some cg ∧ converseAL h = some ch ∧
      converseAL gh = some r ∧ unionAL cg ch ap = some r := by
  have := (laws (alRep ap hap)).converse_union g h hg hh
  dsimp only [alRep] at this
  exact this

/-- `is_symmetric() ⇔ converse() == self`. -/
theorem al_symmetric_iff_converse (g : AdjList) (h : g.WF) :
    Blanket.isSymmetric (Query.AL.core g) = true ↔ converseAL g = some g := by
  have := (laws (alRep 1 (by decide))).symmetric_iff_converse g h
  dsimp only [alRep, Rep.isSymmetric] at this
  exact this

/-- `is_complete() ⇔ complement() == empty(order)`. -/
theorem al_complete_iff_complement_empty (g : AdjList) (h : g.WF) (ap : Nat) (hap : 0 < ap) :
    Pred.AL.isComplete g = true ↔ ∃ e, AdjList.empty g.order = some e ∧ complementAL g ap = some e := by
  have := (laws (alRep ap hap)).complete_iff_complement_empty g h g.order (al_contig ap hap g)
  dsimp only [alRep] at this
  rw [Option.some.injEq] at this
  exact this

/-- `is_tournament() ⇔ is_semicomplete() ∧ is_oriented()`, every thread count. -/
theorem al_tournament_iff (g : AdjList) (h : g.WF) (ap : Nat) (hap : 0 < ap) :
    Pred.AL.isTournament g = true ↔
      Pred.AL.isSemicomplete g ap = true ∧ Blanket.isOriented (Query.AL.core g) = true := by
  have := (laws (alRep ap hap)).tournament_iff_semicomplete_oriented g h
  dsimp only [alRep, Rep.isOriented] at this
  rw [Option.some.injEq, Option.some.injEq] at this
  exact this

/-- `AdjacencyMap`, ARBITRARY key set: `is_tournament() ⇔ complement() == converse()`. -/
theorem am_tournament_iff_complement_eq_converse (g : AdjMap) (h : g.WF) (hn : 0 < g.order) :
    Pred.AM.isTournament g = true ↔ complementAM g = converseAM g := by
  have := (laws (amRep 1 (by decide))).tournament_iff_complement_eq_converse g ⟨h, hn⟩
  dsimp only [amRep] at this
  rw [Option.some.injEq, Option.some.injEq] at this
  exact this

/-- `AdjacencyMap`, arbitrary key sets: `g.is_subdigraph(&h) ⇔ g.union(&h) == h`. -/
theorem am_sub_iff_union (g h : AdjMap) (hg : g.WF) (hh : h.WF) (hgn : 0 < g.order) (hhn : 0 < h.order)
    (ap : Nat) (hap : 0 < ap) :
    Blanket.isSubdigraph (Query.AM.core g) (Query.AM.core h) = true ↔ unionAM g h ap = some h := by
  have := (laws (amRep ap hap)).sub_iff_union g h ⟨hg, hgn⟩ ⟨hh, hhn⟩
  dsimp only [amRep, Rep.isSubdigraph] at this
  exact this

/-- `circuit(n).union(&circuit(n).converse()) == cycle(n)` on the matrix, every `n` that fits. -/
theorem mx_circuit_union_converse_cycle (n : Nat) (hn : 1 ≤ n) (hf : n * n < 2 ^ 64) :
    ∃ c cc k, Gen.MX.circuit n = some c ∧ converseMX c = some cc ∧ Gen.MX.cycle n = some k ∧ unionMX c cc = some k := by
  have := (laws mxRep).gen_circuit n hn hf
  dsimp only [mxRep] at this
  obtain ⟨c, cc, k, e1, e2, e3, _, _, _, _, e4, _⟩ := this
  exact ⟨c, cc, k, e1, e2, e3, e4⟩

/-- `EdgeList::complete(n)`: `is_complete`, `is_regular`, `size == n(n-1)`, fixed by `converse`. -/
theorem el_complete_facts (n : Nat) (hn : 1 ≤ n) :
    ∃ k, Gen.EL.complete n = some k ∧ Pred.EL.isComplete k = some true ∧
      Blanket.isRegular (Query.EL.core k) = some true ∧ k.size = n * (n - 1) ∧ converseEL k = k := by
  have := (laws elRep).gen_complete n hn trivial
  dsimp only [elRep, Rep.isRegular, Rep.size] at this
  obtain ⟨k, e, h1, _, _, h4, h5, h6⟩ := this
  exact ⟨k, e, h1, h5, h6, Option.some.inj h4⟩

/-- `AdjacencyList::biclique(m, n)`: `2mn` arcs, symmetric, and (the repo's own test, generalised)
`biclique.union(&biclique.complement()) == complete(m + n)`. -/
theorem al_biclique_facts (m n : Nat) (hm : 1 ≤ m) (hn : 1 ≤ n) (ap : Nat) (hap : 0 < ap) :
    ∃ b c k, Gen.AL.biclique m n = some b ∧ complementAL b ap = some c ∧ Gen.AL.complete (m + n) ap = some k ∧
      Blanket.isSymmetric (Query.AL.core b) = true ∧ b.size = 2 * m * n ∧ unionAL b c ap = some k := by
  have := (laws (alRep ap hap)).gen_biclique m n hm hn trivial
  dsimp only [alRep, Rep.isSymmetric, Rep.size] at this
  obtain ⟨b, c, k, e1, e2, e3, h1, _, h3, h4⟩ := this
  exact ⟨b, c, k, e1, e2, e3, h1, h3, h4⟩

/-! ## Non-vacuity — the laws on concrete non-trivial digraphs (evaluated on the models), and the
witnesses that make the hypotheses necessary -/

-- a 4-vertex list digraph `0→1, 1→2, 2→0, 2→1, 3→0`
example : AdjList.WF ⟨[[1], [2], [0, 1], [0]]⟩ := AdjList.WF_of_zipIdx (by decide) (by decide)
-- involutions
example : (complementAL ⟨[[1], [2], [0, 1], [0]]⟩ 3).bind (complementAL · 2) = some ⟨[[1], [2], [0, 1], [0]]⟩ := by decide +kernel
example : (converseAL ⟨[[1], [2], [0, 1], [0]]⟩).bind converseAL = some ⟨[[1], [2], [0, 1], [0]]⟩ := by decide +kernel
-- union with complement = complete; with empty(m), m ≤ order, = identity; m > order is NOT
example : (complementAL ⟨[[1], [2], [0, 1], [0]]⟩ 3).bind (unionAL ⟨[[1], [2], [0, 1], [0]]⟩ · 3) = Gen.AL.complete 4 3 := by
  decide +kernel
example : unionAL ⟨[[1], [2], [0, 1], [0]]⟩ ⟨[[], []]⟩ 2 = some ⟨[[1], [2], [0, 1], [0]]⟩ := by decide +kernel
example : unionAL ⟨[[1], []]⟩ ⟨[[], [], []]⟩ 2 = some ⟨[[1], [], []]⟩ := by decide +kernel
-- converse distributes over union, operands of different order
example : (unionAL ⟨[[1], [2], [0, 1], [0]]⟩ ⟨[[1], []]⟩ 2).bind converseAL =
    (do let a ← converseAL ⟨[[1], [2], [0, 1], [0]]⟩; let b ← converseAL ⟨[[1], []]⟩; unionAL a b 2) := by decide +kernel
-- predicates: the 3-circuit is a tournament: semicomplete ∧ oriented, complement = converse
example : Pred.AL.isTournament ⟨[[1], [2], [0]]⟩ = true ∧ Pred.AL.isSemicomplete ⟨[[1], [2], [0]]⟩ 2 = true ∧
    Blanket.isOriented (Query.AL.core ⟨[[1], [2], [0]]⟩) = true ∧
    complementAL ⟨[[1], [2], [0]]⟩ 2 = converseAL ⟨[[1], [2], [0]]⟩ := by decide +kernel
example : Pred.AL.isTournament ⟨[[1], [2], [0, 1], [0]]⟩ = false ∧
    complementAL ⟨[[1], [2], [0, 1], [0]]⟩ 2 ≠ converseAL ⟨[[1], [2], [0, 1], [0]]⟩ := by decide +kernel
example : Blanket.isSymmetric (Query.AL.core ⟨[[1], [0, 2], [1]]⟩) = true ∧
    converseAL ⟨[[1], [0, 2], [1]]⟩ = some ⟨[[1], [0, 2], [1]]⟩ := by decide +kernel
example : Blanket.isSymmetric (Query.AL.core ⟨[[1], [2], [0]]⟩) = false ∧
    converseAL ⟨[[1], [2], [0]]⟩ ≠ some ⟨[[1], [2], [0]]⟩ := by decide +kernel
-- semicomplete ⇔ complement oriented
example : Pred.AL.isSemicomplete ⟨[[1, 2], [2], [0]]⟩ 2 = true ∧
    (complementAL ⟨[[1, 2], [2], [0]]⟩ 2).map (fun c => Blanket.isOriented (Query.AL.core c)) = some true := by decide +kernel
-- sub / union absorption
example : Blanket.isSubdigraph (Query.AL.core ⟨[[1], []]⟩) (Query.AL.core ⟨[[1], [2], [0, 1], [0]]⟩) = true ∧
    unionAL ⟨[[1], []]⟩ ⟨[[1], [2], [0, 1], [0]]⟩ 2 = some ⟨[[1], [2], [0, 1], [0]]⟩ := by decide +kernel
-- generators
example : (do let c ← Gen.AL.circuit 5; let cc ← converseAL c; unionAL c cc 3) = Gen.AL.cycle 5 := by decide +kernel
example : (Gen.AL.circuit 5).map (fun c => (Blanket.isRegular (Query.AL.core c), Blanket.isOriented (Query.AL.core c), c.size))
    = some (some true, true, 5) := by decide +kernel
/-- `n = 2` is the one order at which `circuit` is not oriented (`0→1→0`); `n ≥ 3` is needed -/
example : (Gen.AL.circuit 2).map (fun c => Blanket.isOriented (Query.AL.core c)) = some false := by decide +kernel
example : (Gen.AL.complete 5 3).map (fun c => (Pred.AL.isComplete c, Blanket.isRegular (Query.AL.core c), c.size))
    = some (true, some true, 20) := by decide +kernel
example : (Gen.AL.biclique 2 3).map (fun c => (Blanket.isSymmetric (Query.AL.core c), c.size)) = some (true, 12) := by decide +kernel
example : (Gen.AL.complete 4 2).bind (complementAL · 2) = Gen.AL.empty 4 := by decide +kernel
example : (do let p ← Gen.AL.path 4; let c ← Gen.AL.circuit 4;
              pure (Blanket.isSpanningSubdigraph (Query.AL.core p) (Query.AL.core c), Blanket.isOriented (Query.AL.core p), p.size))
    = some (true, true, 3) := by decide +kernel
example : (List.range 7).map (fun n => (Gen.AL.cycle n).map (fun c => (Blanket.isRegular (Query.AL.core c), c.size))) =
    [none, some (some true, 0), some (some true, 2), some (some true, 6), some (some true, 8), some (some true, 10),
     some (some true, 12)] := by decide +kernel
-- converse swaps the degrees: a balanced, non-regular digraph and its converse
example : (Blanket.isBalanced (Query.AL.core ⟨[[1, 2], [0], [0]]⟩), Blanket.isRegular (Query.AL.core ⟨[[1, 2], [0], [0]]⟩)) =
      (some true, some false) ∧
    (converseAL ⟨[[1, 2], [0], [0]]⟩).map (fun c => (Blanket.isBalanced (Query.AL.core c), Blanket.isRegular (Query.AL.core c))) =
      some (some true, some false) := by decide +kernel
example : Blanket.isBalanced (Query.AL.core ⟨[[1], [2], [0, 1], [0]]⟩) = some false ∧
    (converseAL ⟨[[1], [2], [0, 1], [0]]⟩).map (fun c => Blanket.isBalanced (Query.AL.core c)) = some (some false) := by decide +kernel
-- matrix and edge list
example : (do let b ← Gen.MX.biclique 2 2; let c ← complementMX b; unionMX b c) = Gen.MX.complete 4 := by decide +kernel
example : (do let b ← Gen.EL.biclique 2 3; unionEL b (complementEL b)) = Gen.EL.complete 5 := by decide +kernel
example : (do let c ← Gen.MX.circuit 4; let cc ← converseMX c; unionMX c cc) = Gen.MX.cycle 4 := by decide +kernel
example : (Gen.EL.complete 4).map (fun k => (Pred.EL.isComplete k, k.size, decide (converseEL k = k))) =
    some (some true, 12, true) := by decide +kernel
-- AdjacencyMap with sparse ids `{2, 7, 1000}`: a tournament, complement = converse
example : Pred.AM.isTournament ⟨[(2, [7]), (7, [1000]), (1000, [2])]⟩ = true ∧
    complementAM ⟨[(2, [7]), (7, [1000]), (1000, [2])]⟩ = converseAM ⟨[(2, [7]), (7, [1000]), (1000, [2])]⟩ := by decide +kernel
/-- why `union g (complement g) = complete n` and `is_complete ⇔ complement = empty n` need the key
set `0..n` on the map: on keys `{5, 7}` the union is the complete digraph ON `{5, 7}`, which no
`complete(n)` / `empty(n)` is (`unionSeqAM` = `union` at every thread count, `C11.unionAM_threads`) -/
example : unionSeqAM ⟨[(5, [7]), (7, [])]⟩ (complementAM ⟨[(5, [7]), (7, [])]⟩) = ⟨[(5, [7]), (7, [5])]⟩ ∧
    Gen.AM.complete 2 = some ⟨[(0, [1]), (1, [0])]⟩ := by decide +kernel
/-- why `union g (empty m) = g` needs `0..m ⊆ V(g)` on the map -/
example : unionSeqAM ⟨[(5, [7]), (7, [])]⟩ ⟨[(0, [])]⟩ = ⟨[(0, []), (5, [7]), (7, [])]⟩ := by decide +kernel
example : (Gen.AM.biclique 2 2).map (fun b => unionSeqAM b (complementAM b)) = Gen.AM.complete 4 := by decide +kernel

end GraafVerif.Laws
