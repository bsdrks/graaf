import GraafVerif.Proof.Conv
import GraafVerif.Proof.ConvFrom
import GraafVerif.Proof.ConvEq
/-!
# C16 — conversions between representations preserve the digraph

The statements, each with its proof (a reference into `Proof/`, or written out here).  Model: `Model/Conv.lean` (the macro-generated `From`
impls and the `From<rows>` / `From<arcs>` impls as coded, tied to the code by the
correspondence run).  `none` = the Rust code panics.
-/
namespace GraafVerif.C16
open GraafVerif.Repr GraafVerif.Conv GraafVerif.Gen

def Same (o₁ : Nat) (a₁ : List (Nat × Nat)) (o₂ : Nat) (a₂ : List (Nat × Nat)) : Prop :=
  o₂ = o₁ ∧ ∀ u v, (u, v) ∈ a₂ ↔ (u, v) ∈ a₁

/-- A valid digraph with vertex set `0..order`, per representation (for the map contiguity is a
hypothesis; the others have it by construction). -/
def OkAL (d : AdjList) : Prop := d.WF
/-- `order * order` fits a `usize` (else `AdjacencyMatrix::empty` panics; a real matrix always
satisfies it, so it is part of the matrix's validity) -/
def Fits (n : Nat) : Prop := n * n < 2 ^ 64
def OkAM (d : AdjMap) : Prop := d.WF ∧ Gen.AM.Contiguous d ∧ 1 ≤ d.order
def OkMX (d : AdjMatrix) : Prop := d.WF ∧ d.order * d.order < 2 ^ 64
def OkEL (d : EdgeList) : Prop := d.WF
def OkWL1 (d : AdjListW) : Prop := d.WF ∧ Gen.WL.AllOne d

/-- The conversion result `r` is a valid digraph with the order `o` and the arc set `a` of the source. -/
def GoodAL (o : Nat) (a : List (Nat × Nat)) (r : Option AdjList) : Prop :=
  ∃ t, r = some t ∧ OkAL t ∧ Same o a t.order t.arcs
def GoodAM (o : Nat) (a : List (Nat × Nat)) (r : Option AdjMap) : Prop :=
  ∃ t, r = some t ∧ OkAM t ∧ Same o a t.order t.arcs
def GoodMX (o : Nat) (a : List (Nat × Nat)) (r : Option AdjMatrix) : Prop :=
  ∃ t, r = some t ∧ OkMX t ∧ Same o a t.order t.arcs
def GoodEL (o : Nat) (a : List (Nat × Nat)) (r : Option EdgeList) : Prop :=
  ∃ t, r = some t ∧ OkEL t ∧ Same o a t.order t.arcs
def GoodWL (o : Nat) (a : List (Nat × Nat)) (r : Option AdjListW) : Prop :=
  ∃ t, r = some t ∧ OkWL1 t ∧ Same o a t.order t.arcs

def Statement : Prop :=
  -- (a) the 12 + 4(×2 weight types) `From<other representation>` impls preserve order and arcs
  (∀ d : AdjList, OkAL d → GoodAM d.order d.arcs (alToAM d) ∧ (Fits d.order → GoodMX d.order d.arcs (alToMX d)) ∧
    GoodEL d.order d.arcs (alToEL d) ∧ GoodWL d.order d.arcs (alToWL d)) ∧
  (∀ d : AdjMap, OkAM d → GoodAL d.order d.arcs (amToAL d) ∧ (Fits d.order → GoodMX d.order d.arcs (amToMX d)) ∧
    GoodEL d.order d.arcs (amToEL d) ∧ GoodWL d.order d.arcs (amToWL d)) ∧
  (∀ d : AdjMatrix, OkMX d → GoodAL d.order d.arcs (mxToAL d) ∧ GoodAM d.order d.arcs (mxToAM d) ∧
    GoodEL d.order d.arcs (mxToEL d) ∧ GoodWL d.order d.arcs (mxToWL d)) ∧
  (∀ d : EdgeList, OkEL d → GoodAL d.order d.arcs (elToAL d) ∧ GoodAM d.order d.arcs (elToAM d) ∧
    (Fits d.order → GoodMX d.order d.arcs (elToMX d)) ∧ GoodWL d.order d.arcs (elToWL d)) ∧
  -- (b) every round trip is the identity (on the structure, not only on the abstract digraph)
  (∀ d : AdjList, OkAL d →
    (∀ t, alToAM d = some t → amToAL t = some d) ∧ (∀ t, alToMX d = some t → mxToAL t = some d) ∧
    (∀ t, alToEL d = some t → elToAL t = some d)) ∧
  (∀ d : AdjMap, OkAM d →
    (∀ t, amToAL d = some t → alToAM t = some d) ∧ (∀ t, amToMX d = some t → mxToAM t = some d) ∧
    (∀ t, amToEL d = some t → elToAM t = some d)) ∧
  (∀ d : AdjMatrix, OkMX d →
    (∀ t, mxToAL d = some t → alToMX t = some d) ∧ (∀ t, mxToAM d = some t → amToMX t = some d) ∧
    (∀ t, mxToEL d = some t → elToMX t = some d)) ∧
  (∀ d : EdgeList, OkEL d →
    (∀ t, elToAL d = some t → alToEL t = some d) ∧ (∀ t, elToAM d = some t → amToEL t = some d) ∧
    (∀ t, elToMX d = some t → mxToEL t = some d)) ∧
  -- (c) rows of out-neighbour sets / weight maps: exactly those rows, or a panic
  (∀ rows, (RowsValid rows → Conv.AL.fromRows rows = some ⟨rows⟩ ∧ ((∀ r ∈ rows, SortedS r) → OkAL ⟨rows⟩)) ∧
           (¬ RowsValid rows → Conv.AL.fromRows rows = none)) ∧
  (∀ rows, (RowsValid rows → Conv.AM.fromRows rows = some ⟨enumRows rows⟩ ∧
              ((∀ r ∈ rows, SortedS r) → OkAM ⟨enumRows rows⟩)) ∧
           (¬ RowsValid rows → Conv.AM.fromRows rows = none)) ∧
  (∀ rows, (RowsValidW rows → Conv.WL.fromRows rows = some ⟨rows⟩ ∧ ((∀ r ∈ rows, SortedK r) → AdjListW.WF ⟨rows⟩)) ∧
           (¬ RowsValidW rows → Conv.WL.fromRows rows = none)) ∧
  -- (d) iterator of arcs: order = largest id + 1 and exactly those arcs; self-loop ⇒ panic;
  --     no arc ⇒ the matrix panics, the edge list has order 1
  (∀ arcs, (arcs ≠ [] → (∀ a ∈ arcs, a.1 ≠ a.2) → Fits (maxId arcs + 1) →
              ∃ d, Conv.MX.fromArcs arcs = some d ∧ OkMX d ∧ Same (maxId arcs + 1) arcs d.order d.arcs) ∧
           ((∀ a ∈ arcs, a.1 ≠ a.2) →
              ∃ d, Conv.EL.fromArcs arcs = some d ∧ OkEL d ∧ Same (maxId arcs + 1) arcs d.order d.arcs) ∧
           ((∃ a ∈ arcs, a.1 = a.2) → Conv.MX.fromArcs arcs = none ∧ Conv.EL.fromArcs arcs = none) ∧
           (arcs ≠ [] → ∃ a ∈ arcs, a.1 = maxId arcs ∨ a.2 = maxId arcs)) ∧
  Conv.MX.fromArcs [] = none

/-! ## (a) conversions -/

/-- All conversions out of a valid source `s` (generic in the source). -/
theorem converts_src (s : Src) :
    GoodAL s.order s.arcs (toAL s.order s.arcs) ∧ GoodAM s.order s.arcs (toAM s.order s.arcs) ∧
    (Fits s.order → GoodMX s.order s.arcs (toMX s.order s.arcs)) ∧
    GoodEL s.order s.arcs (toEL s.order s.arcs) ∧ GoodWL s.order s.arcs (toWL s.order s.arcs) :=
  ⟨AL.repr.yields_from s.pos trivial s.valid, AM.repr.yields_from s.pos trivial s.valid,
    fun hf => (MX.repr.yields_from s.pos hf s.valid).imp fun t h =>
      ⟨h.1, ⟨h.2.1, by rw [show t.order = s.order from h.2.2.1]; exact hf⟩, h.2.2⟩,
    EL.repr.yields_from s.pos trivial s.valid, WL.repr.yields_from s.pos trivial s.valid⟩

theorem converts_from_al (d : AdjList) (h : OkAL d) :
    GoodAM d.order d.arcs (alToAM d) ∧ (Fits d.order → GoodMX d.order d.arcs (alToMX d)) ∧
    GoodEL d.order d.arcs (alToEL d) ∧ GoodWL d.order d.arcs (alToWL d) :=
  (converts_src (AL.repr.src h)).2

theorem converts_from_am (d : AdjMap) (h : OkAM d) :
    GoodAL d.order d.arcs (amToAL d) ∧ (Fits d.order → GoodMX d.order d.arcs (amToMX d)) ∧
    GoodEL d.order d.arcs (amToEL d) ∧ GoodWL d.order d.arcs (amToWL d) :=
  have c := converts_src (AM.repr.src h)
  ⟨c.1, c.2.2⟩

theorem converts_from_mx (d : AdjMatrix) (h : OkMX d) :
    GoodAL d.order d.arcs (mxToAL d) ∧ GoodAM d.order d.arcs (mxToAM d) ∧
    GoodEL d.order d.arcs (mxToEL d) ∧ GoodWL d.order d.arcs (mxToWL d) :=
  have c := converts_src (MX.repr.src h.1)
  ⟨c.1, c.2.1, c.2.2.2⟩

theorem converts_from_el (d : EdgeList) (h : OkEL d) :
    GoodAL d.order d.arcs (elToAL d) ∧ GoodAM d.order d.arcs (elToAM d) ∧
    (Fits d.order → GoodMX d.order d.arcs (elToMX d)) ∧ GoodWL d.order d.arcs (elToWL d) :=
  have c := converts_src (EL.repr.src h)
  ⟨c.1, c.2.1, c.2.2.1, c.2.2.2.2⟩

/-- An invalid source (a self-loop or a head `≥ order` among its arcs, or order 0) makes every
`From<digraph>` impl panic — no invalid digraph is produced. -/
theorem conversion_panics_on_invalid {T : Type} (empty : Nat → Option T) (addArc : T → Nat → Nat → Option T)
    (o : Nat) (arcs : List (Nat × Nat)) (h : o = 0 ∨ ∃ a ∈ arcs, a.1 = a.2 ∨ ¬ a.2 < o) :
    fromDigraph empty addArc o arcs = none := by
  rcases h with rfl | h
  · exact fromDigraph_zero empty addArc arcs
  · exact fromDigraph_panics empty addArc o arcs h

/-! ## (b) round trips -/

theorem fits_of_toMX {o : Nat} {arcs : List (Nat × Nat)} {t : AdjMatrix}
    (ht : toMX o arcs = some t) : o * o < 2 ^ 64 := MX.repr.fits_of_from ht

/-! Each way back is a conversion of a valid source that shows the order and arcs of `d` into the
representation of `d` (`ArcRepr.roundtrip`). -/

theorem roundtrip_al (d : AdjList) (h : OkAL d) :
    (∀ t, alToAM d = some t → amToAL t = some d) ∧ (∀ t, alToMX d = some t → mxToAL t = some d) ∧
    (∀ t, alToEL d = some t → elToAL t = some d) :=
  ⟨fun _ => AL.repr.roundtrip AM.repr h trivial,
    fun _ => AL.repr.roundtrip MX.repr h trivial,
    fun _ => AL.repr.roundtrip EL.repr h trivial⟩

theorem roundtrip_am (d : AdjMap) (h : OkAM d) :
    (∀ t, amToAL d = some t → alToAM t = some d) ∧ (∀ t, amToMX d = some t → mxToAM t = some d) ∧
    (∀ t, amToEL d = some t → elToAM t = some d) :=
  ⟨fun _ => AM.repr.roundtrip AL.repr h trivial,
    fun _ => AM.repr.roundtrip MX.repr h trivial,
    fun _ => AM.repr.roundtrip EL.repr h trivial⟩

theorem roundtrip_mx (d : AdjMatrix) (h : OkMX d) :
    (∀ t, mxToAL d = some t → alToMX t = some d) ∧ (∀ t, mxToAM d = some t → amToMX t = some d) ∧
    (∀ t, mxToEL d = some t → elToMX t = some d) :=
  ⟨fun _ => MX.repr.roundtrip AL.repr h.1 h.2,
    fun _ => MX.repr.roundtrip AM.repr h.1 h.2,
    fun _ => MX.repr.roundtrip EL.repr h.1 h.2⟩

theorem roundtrip_el (d : EdgeList) (h : OkEL d) :
    (∀ t, elToAL d = some t → alToEL t = some d) ∧ (∀ t, elToAM d = some t → amToEL t = some d) ∧
    (∀ t, elToMX d = some t → mxToEL t = some d) :=
  ⟨fun _ => EL.repr.roundtrip AL.repr h trivial,
    fun _ => EL.repr.roundtrip AM.repr h trivial,
    fun _ => EL.repr.roundtrip MX.repr h trivial⟩

/-! ## (c), (d) rows and arcs -/

theorem from_rows_al (rows : List (List Nat)) :
    (RowsValid rows → Conv.AL.fromRows rows = some ⟨rows⟩ ∧ ((∀ r ∈ rows, SortedS r) → OkAL ⟨rows⟩)) ∧
    (¬ RowsValid rows → Conv.AL.fromRows rows = none) :=
  ⟨fun hv => ⟨(Conv.AL.fromRows_spec rows).1 hv, fun hs => Conv.AL.fromRows_wf hs hv⟩,
   (Conv.AL.fromRows_spec rows).2⟩

theorem from_rows_am (rows : List (List Nat)) :
    (RowsValid rows → Conv.AM.fromRows rows = some ⟨enumRows rows⟩ ∧
        ((∀ r ∈ rows, SortedS r) → OkAM ⟨enumRows rows⟩)) ∧
    (¬ RowsValid rows → Conv.AM.fromRows rows = none) := by
  refine ⟨fun hv => ⟨(Conv.AM.fromRows_spec rows).1 hv, fun hs => ?_⟩, (Conv.AM.fromRows_spec rows).2⟩
  have := Conv.AM.fromRows_wf hs hv
  refine ⟨this.1, this.2, ?_⟩
  show 1 ≤ (enumRows rows).length
  rw [length_enumRows]
  exact List.length_pos_iff.mpr hv.1

theorem from_rows_wl (rows : List (List (Nat × Int))) :
    (RowsValidW rows → Conv.WL.fromRows rows = some ⟨rows⟩ ∧ ((∀ r ∈ rows, SortedK r) → AdjListW.WF ⟨rows⟩)) ∧
    (¬ RowsValidW rows → Conv.WL.fromRows rows = none) :=
  ⟨fun hv => ⟨(Conv.WL.fromRows_spec rows).1 hv, fun hs => Conv.WL.fromRows_wf hs hv⟩,
   (Conv.WL.fromRows_spec rows).2⟩

theorem from_arcs (arcs : List (Nat × Nat)) :
    (arcs ≠ [] → (∀ a ∈ arcs, a.1 ≠ a.2) → Fits (maxId arcs + 1) →
        ∃ d, Conv.MX.fromArcs arcs = some d ∧ OkMX d ∧ Same (maxId arcs + 1) arcs d.order d.arcs) ∧
    ((∀ a ∈ arcs, a.1 ≠ a.2) →
        ∃ d, Conv.EL.fromArcs arcs = some d ∧ OkEL d ∧ Same (maxId arcs + 1) arcs d.order d.arcs) ∧
    ((∃ a ∈ arcs, a.1 = a.2) → Conv.MX.fromArcs arcs = none ∧ Conv.EL.fromArcs arcs = none) ∧
    (arcs ≠ [] → ∃ a ∈ arcs, a.1 = maxId arcs ∨ a.2 = maxId arcs) := by
  refine ⟨?_, ?_, ?_, fun hne => maxId_attained hne⟩
  · intro hne hnl hf
    obtain ⟨d, hd, hw, ho, ha⟩ := Conv.MX.fromArcs_spec hne hnl hf
    exact ⟨d, hd, ⟨hw, by rw [ho]; exact hf⟩, ho, ha⟩
  · intro hnl
    obtain ⟨d, hd, hw, ho, ha⟩ := Conv.EL.fromArcs_spec hnl
    exact ⟨d, hd, hw, ho, ha⟩
  · rintro ⟨a, ha, hl⟩
    have : arcs.any (fun a => a.1 == a.2) = true := List.any_eq_true.mpr ⟨a, ha, beq_iff_eq.mpr hl⟩
    exact ⟨if_pos this, if_pos this⟩

/-! ## chains of conversions (what the `conv_chain` op of the driver replays) -/

def OkAny : Any → Prop
  | .al d => OkAL d | .am d => OkAM d | .mx d => OkMX d | .el d => OkEL d | .wl d => OkWL1 d

/-- Whatever `tag` selects, `convert src tag` is no conversion or one of the five conversions of what
`src` shows through `order()` and `arcs()`. -/
theorem convert_cases {Q : Option (Option Any) → Prop} (src : Any) (tag : String) (hnone : Q none)
    (hal : Q (some ((toAL src.order src.arcs).map .al))) (ham : Q (some ((toAM src.order src.arcs).map .am)))
    (hmx : Q (some ((toMX src.order src.arcs).map .mx))) (hel : Q (some ((toEL src.order src.arcs).map .el)))
    (hwl : Q (some ((toWL src.order src.arcs).map .wl))) : Q (convert src tag) := by
  unfold convert
  split <;> assumption

/-- what a valid digraph of any representation shows to a conversion -/
theorem OkAny.src {x : Any} (h : OkAny x) : ∃ s : Src, s.order = x.order ∧ s.arcs = x.arcs := by
  cases x with
  | al d => exact ⟨AL.repr.src h, rfl, rfl⟩
  | am d => exact ⟨AM.repr.src h, rfl, rfl⟩
  | mx d => exact ⟨MX.repr.src h.1, rfl, rfl⟩
  | el d => exact ⟨EL.repr.src h, rfl, rfl⟩
  | wl d => exact ⟨WL.repr.src h, rfl, rfl⟩

theorem convert_preserves (src : Any) (tag : String) (h : OkAny src) (hf : Fits src.order)
    (r : Option Any) (hc : convert src tag = some r) :
    ∃ nxt, r = some nxt ∧ OkAny nxt ∧ Same src.order src.arcs nxt.order nxt.arcs := by
  obtain ⟨s, ho, ha⟩ := h.src
  obtain ⟨cal, cam, cmx, cel, cwl⟩ := converts_src s
  rw [ho, ha] at cal cam cmx cel cwl
  let G : Option (Option Any) → Prop := fun o =>
    ∀ r, o = some r → ∃ nxt, r = some nxt ∧ OkAny nxt ∧ Same src.order src.arcs nxt.order nxt.arcs
  -- a `Good*` result wrapped into `Any` by the constructor `c`
  have wrap : ∀ {T : Type} (c : T → Any) (x : Option T),
      (∃ t, x = some t ∧ OkAny (c t) ∧ Same src.order src.arcs (c t).order (c t).arcs) → G (some (x.map c)) := by
    rintro T c x ⟨t, rfl, hok, hs⟩ _ ⟨⟩
    exact ⟨c t, rfl, hok, hs⟩
  exact convert_cases (Q := G) src tag (fun _ e => nomatch e)
    (wrap .al _ cal) (wrap .am _ cam) (wrap .mx _ (cmx hf)) (wrap .el _ cel) (wrap .wl _ cwl) r hc

/-- **Every chain of conversions** starting from a valid contiguous digraph: no step panics and
every digraph along the chain is valid with the order and arc set of the first one. -/
theorem chain_preserves (tags : List String) : ∀ (src : Any), OkAny src → Fits src.order →
    ∀ rs, runChain src tags = some rs →
      ∀ r ∈ rs, ∃ d, r = some d ∧ OkAny d ∧ Same src.order src.arcs d.order d.arcs := by
  induction tags with
  | nil => intro src _ _ rs h r hr; cases h; cases hr
  | cons tag rest ih =>
    intro src hok hf rs h r hr
    rw [runChain] at h
    cases hc : convert src tag with
    | none => rw [hc] at h; cases h
    | some o =>
      obtain ⟨nxt, rfl, hok', hs⟩ := convert_preserves src tag hok hf o hc
      rw [hc] at h
      obtain ⟨rs', hrest, rfl⟩ := Option.map_eq_some_iff.1 h
      rcases List.mem_cons.mp hr with rfl | hr'
      · exact ⟨nxt, rfl, hok', hs⟩
      · obtain ⟨d, hd, hdok, hds⟩ := ih nxt hok' (hs.1.symm ▸ hf) rs' hrest r hr'
        exact ⟨d, hd, hdok, hds.1.trans hs.1, fun u v => (hds.2 u v).trans (hs.2 u v)⟩

/-! ## structural identity as the implementation's `==` sees it

The model representation is canonical (`ArcRepr.ext`): a valid digraph equals the one rebuilt by
`empty(order)` + `add_arc` over its own arcs, and equals its round trip through every other
representation.  `eqChecks` (Model/ConvEq.lean) is what the harness observes with `==`. -/

theorem rebuild_al (d : AdjList) (h : OkAL d) : Conv.AL.rebuild d = some d := AL.repr.build_self h trivial
theorem rebuild_am (d : AdjMap) (h : OkAM d) : Conv.AM.rebuild d = some d := AM.repr.build_self h trivial
theorem rebuild_mx (d : AdjMatrix) (h : OkMX d) : Conv.MX.rebuild d = some d := MX.repr.build_self h.1 h.2
theorem rebuild_el (d : EdgeList) (h : OkEL d) : Conv.EL.rebuild d = some d := EL.repr.build_self h trivial
/-- weighted list with arbitrary weights (`add_arc_weighted` over `arcs_weighted()`) -/
theorem rebuild_wl (d : AdjListW) (h : d.WF) : Conv.WL.rebuild d = some d := Conv.WL.rebuild_eq h

private theorem bind_rt {S T : Type} {f : Option S} {g : S → Option T} {d : T} {P : S → Prop}
    (hex : ∃ t, f = some t ∧ P t) (hrt : ∀ t, f = some t → g t = some d) : f.bind g = some d := by
  obtain ⟨t, ht, _⟩ := hex
  rw [ht]; exact hrt t ht

private theorem all_true {p q r s : Prop} [Decidable p] [Decidable q] [Decidable r] [Decidable s]
    (hp : p) (hq : q) (hr : r) (hs : s) : ∀ b ∈ [decide p, decide q, decide r, decide s], b = true := by
  simp only [hp, hq, hr, hs, decide_true, List.mem_cons, List.not_mem_nil, or_false, or_self, imp_self,
    implies_true]

/-- **Every `==` check the harness makes on a valid digraph is `true`.** -/
theorem eqChecks_true (x : Any) (h : OkAny x) (hf : Fits x.order) : ∀ b ∈ eqChecks x, b = true := by
  cases x with
  | al d =>
    have c := converts_from_al d h
    have r := roundtrip_al d h
    exact all_true (rebuild_al d h) (bind_rt c.1 r.1) (bind_rt (c.2.1 hf) r.2.1) (bind_rt c.2.2.1 r.2.2)
  | am d =>
    have c := converts_from_am d h
    have r := roundtrip_am d h
    exact all_true (rebuild_am d h) (bind_rt c.1 r.1) (bind_rt (c.2.1 hf) r.2.1) (bind_rt c.2.2.1 r.2.2)
  | mx d =>
    have c := converts_from_mx d h
    have r := roundtrip_mx d h
    exact all_true (rebuild_mx d h) (bind_rt c.1 r.1) (bind_rt c.2.1 r.2.1) (bind_rt c.2.2.1 r.2.2)
  | el d =>
    have c := converts_from_el d h
    have r := roundtrip_el d h
    exact all_true (rebuild_el d h) (bind_rt c.1 r.1) (bind_rt c.2.1 r.2.1) (bind_rt (c.2.2.1 hf) r.2.2)
  | wl d =>
    intro b hb
    rw [List.mem_singleton.mp hb]
    exact decide_eq_true (rebuild_wl d h.1)

/-- … in particular for everything `From<arcs>` returns. -/
theorem from_arcs_eqChecks (arcs : List (Nat × Nat)) (hne : arcs ≠ []) (hnl : ∀ a ∈ arcs, a.1 ≠ a.2)
    (hf : Fits (maxId arcs + 1)) :
    (∃ d, Conv.MX.fromArcs arcs = some d ∧ ∀ b ∈ eqChecks (.mx d), b = true) ∧
    (∃ d, Conv.EL.fromArcs arcs = some d ∧ ∀ b ∈ eqChecks (.el d), b = true) := by
  obtain ⟨d, hd, hok, hs⟩ := (from_arcs arcs).1 hne hnl hf
  obtain ⟨e, he, hoke, hse⟩ := (from_arcs arcs).2.1 hnl
  exact ⟨⟨d, hd, eqChecks_true (.mx d) hok (by show Fits d.order; rw [hs.1]; exact hf)⟩,
         ⟨e, he, eqChecks_true (.el e) hoke (by show Fits e.order; rw [hse.1]; exact hf)⟩⟩

theorem statement_holds : Statement :=
  ⟨converts_from_al, converts_from_am, converts_from_mx, converts_from_el,
   roundtrip_al, roundtrip_am, roundtrip_mx, roundtrip_el,
   from_rows_al, from_rows_am, from_rows_wl, from_arcs, rfl⟩

/-! ## Non-vacuity -/

/-- a concrete valid source: the directed triangle plus a chord, as an adjacency list -/
def exAL : AdjList := ⟨[[1, 2], [2], [0]]⟩
example : OkAL exAL :=
  Conv.AL.fromRows_wf (by unfold SortedS; decide) (Conv.AL.rowsValid_iff.mpr (by decide))
example : (alToMX exAL).map (·.arcs) = some [(0,1),(0,2),(1,2),(2,0)] := by decide +kernel
example : (alToWL exAL).map (·.arcsWeighted) = some [(0,1,1),(0,2,1),(1,2,1),(2,0,1)] := by decide +kernel
example : (alToEL exAL).bind elToAL = some exAL := by decide +kernel
example : ((runChain (.al exAL) ["am", "mx", "el", "al", "wu"]).map (·.map (·.map (·.arcs)))) =
    some (List.replicate 5 (some [(0,1),(0,2),(1,2),(2,0)])) := by decide +kernel
example : eqChecks (.al exAL) = [true, true, true, true] := by decide +kernel
example : (Conv.MX.fromArcs [(7, 0)]).map (fun d => eqChecks (.mx d)) = some [true, true, true, true] := by decide +kernel
example : Conv.AL.fromRows [[1], [1]] = none := by decide       -- self-loop
example : Conv.AM.fromRows [[1], [2]] = none := by decide       -- head out of range
example : (Conv.EL.fromArcs [(3,1),(1,3),(3,1)]).map (fun d => (d.order, d.arcs)) = some (4, [(1,3),(3,1)]) := by decide +kernel
example : RowsValid [[1, 2], [2], [0]] := Conv.AL.rowsValid_iff.mpr (by decide)

end GraafVerif.C16
