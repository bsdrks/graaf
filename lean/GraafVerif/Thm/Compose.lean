import GraafVerif.Proof.ComposeHist
import GraafVerif.Proof.ComposeGen
import GraafVerif.Proof.ComposeDriver
import GraafVerif.Proof.ComposeDriverAM
import GraafVerif.Proof.ComposeDriverSparse
import GraafVerif.Proof.ComposeOps
import GraafVerif.Proof.ComposeCtor
import GraafVerif.Thm.C15
/-!
# Compose — representation × (history | generator | conversion) × algorithm, end to end

The statements, each proved in a few lines from the lemmas of `Proof/Compose*.lean`
(+ non-vacuity examples).

The algorithm theorems C03 … C10 are about an abstract `Graph` / `WGraph` / `VGraph` (an order
or vertex list and an out-neighbour LIST function); the representation theorems C01, C02, C14,
C16 are about the five representation models.  This file composes them:

1. `…_view_spec`   — the `Graph` a traversal sees of a representation value (`order()` and the
   literal result of `out_neighbors()`, C02's query models) is well-formed and its arc relation
   is exactly `(u, v) ∈ arcs r` (= C01's abstract arc set); rows strictly ascending.
2. `…_traversals`, `…_tarjan`, `…_johnson`, `adjListW_weighted` — C04, C05, C06 (proved parts),
   C09, C10 resp. C03, C05-Dijkstra, C07, C08 for EVERY well-formed value of each representation,
   with the representation's arc relation `r.Arc u v := (u, v) ∈ r.arcs` (resp.
   `r.WArc u v w := (u, v, w) ∈ r.arcsWeighted`) on the specification side.
3. `…_after_any_history` — for every well-formed start (in particular `empty n`), EVERY finite
   list of mutating calls, the algorithms on the view of the final MODEL state are correct w.r.t.
   the final SPEC state of C01 (`SpecState`: a plain set of arcs, no containers).
4. generators / conversions — every traversal property w.r.t. the defining arc set of a
   generator; the `circuit(n)` sanity family; a conversion result has the same view as its source.
5. `driver_graph_is_view` — the `Graph` / `WGraph` the driver hands to the algorithm models in the
   correspondence run (`GDesc.graph` / `GDesc.wgraph`, built from the case DESCRIPTION) is EQUAL to
   the view of the representation model built from that description the way the harness builds
   the real structure; so the correspondence runs of C03 … C10 are runs on these views.
6. … 11. — the C11 operations (`complement`, `converse`, `union`, `filter_vertices`), the
   `From<rows>` / `From<arcs>` constructors, the random generators of C15, sparse `[am …]`
   descriptions, the preorder clause of C06 over the bare relation, and the repeated-call
   theorems, all under the views; see the section headers below.

Vocabulary: `Rel`, `RReachFrom`, `RIsHopDist`, `RIsMinDist` … (`Proof/ComposeRel.lean`) are the
declarative notions over a bare arc relation; `BfsHolds A n S g`, `TraversalsHold`, `TarjanHolds`,
`JohnsonHolds`, `WeightedHold` … (`Proof/ComposeAlgo.lean`) are the conclusions of the `Cxx`
statements word for word over such a relation — their `Graph` argument only names the outputs
of the algorithm model.
-/
namespace GraafVerif.Compose
open GraafVerif GraafVerif.Repr GraafVerif.ReprSpec GraafVerif.Query

/-! ## 1. The views -/

/-- `AdjacencyList`: the view is `order()` / the rows; well-formed, arcs = `arcs()`, rows
ascending and duplicate-free, `out_neighbors(u)` = the row for `u < order`, panic otherwise. -/
theorem adjList_view_spec (d : AdjList) (h : d.WF) : ViewSpec d.view d.order d.arcs d.outNeighbors :=
  d.view_spec h
/-- `AdjacencyMatrix`: rows are the column scans `vertices().filter(has_arc(u, ·))`. -/
theorem adjMatrix_view_spec (d : AdjMatrix) (h : d.WF) : ViewSpec d.view d.order d.arcs (MX.outNeighbors d) :=
  d.view_spec h
/-- `EdgeList`: rows are `arcs.filter_map(|(x, y)| (x == u).then_some(y))`. -/
theorem edgeList_view_spec (d : EdgeList) (h : d.WF) : ViewSpec d.view d.order d.arcs (EL.outNeighbors d) :=
  d.view_spec h
/-- `AdjacencyMap` with the vertex set `0..order`. -/
theorem adjMap_view_spec (d : AdjMap) (h : d.WF) (hc : Gen.AM.Contiguous d) :
    ViewSpec d.view d.order d.arcs (AM.outNeighbors d) := d.view_spec h hc
/-- `AdjacencyListWeighted` under the unweighted traversals: rows are the keys. -/
theorem adjListW_view_spec (d : AdjListW) (h : d.WF) : ViewSpec d.view d.order d.arcs (WL.outNeighbors d) :=
  d.view_spec h
/-- `AdjacencyListWeighted` under the weighted algorithms: `WF`, `Functional`,
`A u v w ↔ (u, v, w) ∈ arcs_weighted()`, rows ascending, = `out_neighbors_weighted`. -/
theorem adjListW_wview_spec (d : AdjListW) (h : d.WF) : WViewSpec d.wview d := d.wview_spec h

theorem view_spec :
    (∀ d : AdjList, d.WF → d.view.n = d.order ∧ d.view.WF ∧ ∀ u v, d.view.A u v ↔ (u, v) ∈ d.arcs) ∧
    (∀ d : AdjMap, d.WF → Gen.AM.Contiguous d →
      d.view.n = d.order ∧ d.view.WF ∧ ∀ u v, d.view.A u v ↔ (u, v) ∈ d.arcs) ∧
    (∀ d : AdjMatrix, d.WF → d.view.n = d.order ∧ d.view.WF ∧ ∀ u v, d.view.A u v ↔ (u, v) ∈ d.arcs) ∧
    (∀ d : EdgeList, d.WF → d.view.n = d.order ∧ d.view.WF ∧ ∀ u v, d.view.A u v ↔ (u, v) ∈ d.arcs) ∧
    (∀ d : AdjListW, d.WF → d.view.n = d.order ∧ d.view.WF ∧ ∀ u v, d.view.A u v ↔ (u, v) ∈ d.arcs) ∧
    (∀ d : AdjListW, d.WF → d.wview.n = d.order ∧ d.wview.WF ∧ d.wview.Functional ∧
      ∀ u v w, d.wview.A u v w ↔ (u, v, w) ∈ d.arcsWeighted) :=
  have short : ∀ {g : Graph} {n : Nat} {a : List (Nat × Nat)} {o : Nat → Option (List Nat)}, ViewSpec g n a o →
      g.n = n ∧ g.WF ∧ ∀ u v, g.A u v ↔ (u, v) ∈ a := fun vs => ⟨vs.order, vs.wf, vs.arc_iff⟩
  ⟨fun d h => short (d.view_spec h), fun d h hc => short (d.view_spec h hc), fun d h => short (d.view_spec h),
   fun d h => short (d.view_spec h), fun d h => short (d.view_spec h),
   fun d h => have ws := d.wview_spec h; ⟨ws.order, ws.wf, ws.functional, ws.arc_iff⟩⟩

/-- The vertex-id views (what `Tarjan` sees): closed, arcs = `arcs()`, vertex list = `vertices()`;
for the map WITHOUT any contiguity hypothesis. -/
theorem vview_spec :
    (∀ d : AdjList, d.WF → VViewSpec d.vview d.vertices d.arcs) ∧
    (∀ d : AdjMap, d.WF → VViewSpec d.vview d.vertices d.arcs) ∧
    (∀ d : AdjMatrix, d.WF → VViewSpec d.vview d.vertices d.arcs) ∧
    (∀ d : EdgeList, d.WF → VViewSpec d.vview d.vertices d.arcs) ∧
    (∀ d : AdjListW, d.WF → VViewSpec d.vview d.vertices d.arcs) :=
  ⟨AdjList.vview_spec, AdjMap.vview_spec, AdjMatrix.vview_spec, EdgeList.vview_spec, AdjListW.vview_spec⟩

/-- The arc relation of the views is C01's abstract arc set. -/
theorem arc_iff_abs :
    (∀ (d : AdjList) u v, d.Arc u v ↔ d.abs.A u v = true) ∧
    (∀ (d : AdjMap), d.WF → ∀ u v, d.Arc u v ↔ d.abs.A u v = true) ∧
    (∀ (d : AdjMatrix), d.WF → ∀ u v, d.Arc u v ↔ d.abs.A u v = true) ∧
    (∀ (d : EdgeList) u v, d.Arc u v ↔ d.abs.A u v = true) ∧
    (∀ (d : AdjListW), d.WF → ∀ u v, d.Arc u v ↔ d.abs.A u v = true) ∧
    (∀ (d : AdjListW), d.WF → ∀ u v w, d.WArc u v w ↔ d.abs.W u v = some w) :=
  ⟨AdjList.arc_iff_abs, AdjMap.arc_iff_abs, AdjMatrix.arc_iff_abs, EdgeList.arc_iff_abs,
   AdjListW.arc_iff_abs, AdjListW.warc_iff_abs⟩

/-! ## 2. The algorithm statements for every value of every representation

`TraversalsHold A n S g` = C04 (`bfs`) ∧ C05-BFS (`bfsPred`, needs `0 < n`) ∧ C06 for today's
code (`dfsToday` = `dfs_partial` + `dfs_valid_prefix`) ∧ C06 for the corrected variant
(`dfsFixed` = `statement_fixed`), all over the relation `A`. -/

/-- C04, C05 (BFS half), C06 on an `AdjacencyList`, w.r.t. `(u, v) ∈ arcs()`. -/
theorem adjList_traversals (d : AdjList) (h : d.WF) (S : List Nat) (hS : ∀ s ∈ S, s < d.order)
    (hnd : S.Nodup) : TraversalsHold d.Arc d.order S d.view :=
  (d.viewIs h).traversals S hS hnd

theorem adjMatrix_traversals (d : AdjMatrix) (h : d.WF) (S : List Nat) (hS : ∀ s ∈ S, s < d.order)
    (hnd : S.Nodup) : TraversalsHold d.Arc d.order S d.view :=
  (d.viewIs h).traversals S hS hnd

theorem edgeList_traversals (d : EdgeList) (h : d.WF) (S : List Nat) (hS : ∀ s ∈ S, s < d.order)
    (hnd : S.Nodup) : TraversalsHold d.Arc d.order S d.view :=
  (d.viewIs h).traversals S hS hnd

theorem adjMap_traversals (d : AdjMap) (h : d.WF) (hc : Gen.AM.Contiguous d) (S : List Nat)
    (hS : ∀ s ∈ S, s < d.order) (hnd : S.Nodup) : TraversalsHold d.Arc d.order S d.view :=
  (d.viewIs h hc).traversals S hS hnd

theorem adjListW_traversals (d : AdjListW) (h : d.WF) (S : List Nat) (hS : ∀ s ∈ S, s < d.order)
    (hnd : S.Nodup) : TraversalsHold d.Arc d.order S d.view :=
  (d.viewIs h).traversals S hS hnd

/-- C04 alone, spelled out for the `AdjacencyList` (the other four are the `.bfs` field of their
`…_traversals`): `Bfs` yields each vertex reachable in `arcs()` once and nothing else, nearest
first; `BfsDist` pairs them with their hop distances; `distances()` is the full vector. -/
theorem adjList_c04 (d : AdjList) (h : d.WF) (S : List Nat) (hS : ∀ s ∈ S, s < d.order) (hnd : S.Nodup) :
    BfsHolds d.Arc d.order S d.view := (adjList_traversals d h S hS hnd).bfs

/-- C09 on every representation, w.r.t. `vertices()` and `(u, v) ∈ arcs()`: `Tarjan` returns the
partition of the vertex set into strongly connected components, blocks ascending. -/
theorem adjList_tarjan (d : AdjList) (h : d.WF) : TarjanHolds d.vertices d.Arc d.vview :=
  ((d.vview_spec h).tarjan fun _ _ => Iff.rfl).1
theorem adjMatrix_tarjan (d : AdjMatrix) (h : d.WF) : TarjanHolds d.vertices d.Arc d.vview :=
  ((d.vview_spec h).tarjan fun _ _ => Iff.rfl).1
theorem edgeList_tarjan (d : EdgeList) (h : d.WF) : TarjanHolds d.vertices d.Arc d.vview :=
  ((d.vview_spec h).tarjan fun _ _ => Iff.rfl).1
theorem adjListW_tarjan (d : AdjListW) (h : d.WF) : TarjanHolds d.vertices d.Arc d.vview :=
  ((d.vview_spec h).tarjan fun _ _ => Iff.rfl).1
/-- … for the `AdjacencyMap` with an ARBITRARY finite key set (what C09 demands and
`Johnson75` relies on). -/
theorem adjMap_tarjan (d : AdjMap) (h : d.WF) : TarjanHolds d.vertices d.Arc d.vview :=
  ((d.vview_spec h).tarjan fun _ _ => Iff.rfl).1

/-- C10 on an `AdjacencyMap` with vertex set `0..order` (the only representation `Johnson75` is
implemented for): each elementary circuit of `arcs()` exactly once, in canonical form. -/
theorem adjMap_johnson (d : AdjMap) (h : d.WF) (hc : Gen.AM.Contiguous d) : JohnsonHolds d.Arc d.view :=
  (d.viewIs h hc).johnson.1
/-- The model of `Johnson75` is generic in the view, so the same holds of the other views. -/
theorem adjList_johnson (d : AdjList) (h : d.WF) : JohnsonHolds d.Arc d.view :=
  (d.viewIs h).johnson.1

/-- C03 + C05 (Dijkstra half) for non-negative weights, C07 for arbitrary `Int` weights, C08
without negative circuits — on every well-formed `AdjacencyListWeighted`, w.r.t.
`(u, v, w) ∈ arcs_weighted()`. -/
theorem adjListW_weighted (d : AdjListW) (h : d.WF) : WeightedHold d.WArc d.order d.wview :=
  d.weightedHold h rfl fun _ _ _ => Iff.rfl

theorem adjListW_c03 (d : AdjListW) (h : d.WF) (hnn : ∀ u v w, (u, v, w) ∈ d.arcsWeighted → 0 ≤ w)
    (S : List Nat) (hS : ∀ s ∈ S, s < d.order) (hnd : S.Nodup) : DijkstraHolds d.WArc d.order S d.wview :=
  ((adjListW_weighted d h).dijkstra hnn S hS hnd).1
theorem adjListW_c05 (d : AdjListW) (h : d.WF) (hnn : ∀ u v w, (u, v, w) ∈ d.arcsWeighted → 0 ≤ w)
    (S : List Nat) (hS : ∀ s ∈ S, s < d.order) (hnd : S.Nodup) : DijkstraPredHolds d.WArc d.order S d.wview :=
  ((adjListW_weighted d h).dijkstra hnn S hS hnd).2
theorem adjListW_c07 (d : AdjListW) (h : d.WF) (s : Nat) (hs : s < d.order) : BfmHolds d.WArc d.order s d.wview :=
  (adjListW_weighted d h).bfm s hs
theorem adjListW_c08 (d : AdjListW) (h : d.WF) (hnc : ∀ x, ¬ RNegCycleAt d.WArc x) (u v : Nat)
    (hu : u < d.order) (hv : v < d.order) : FwHolds d.WArc d.order u v d.wview :=
  (adjListW_weighted d h).fw hnc u v hu hv

/-! ## 3. End to end with histories

`alModel`, `amModel`, `mxModel`, `elModel`, `wlModel : ReprModel …` package each representation
(`Proof/ComposeHist.lean`).  `M.after r ops = (run M.step r ops).1` is the model state after the
calls `ops`, `M.specAfter r ops = (run M.sstep (M.abs r) ops).1` the SPEC digraph after the same
calls. -/

/-- **Generic**: for every representation model `M`, every well-formed start, every history:
BFS on the view of the final model state is correct w.r.t. the final spec digraph. -/
theorem bfs_after_any_history {σ ο ω : Type} (M : ReprModel σ ο ω) (r : σ) (hr : M.WF r) (ops : List ο)
    (hok : M.viewOK (M.after r ops)) (S : List Nat)
    (hS : ∀ s ∈ S, s < M.order (M.after r ops)) (hnd : S.Nodup) :
    BfsHolds (M.specAfter r ops).Arc (M.order (M.after r ops)) S (M.view (M.after r ops)) :=
  (M.traversals_after_any_history r hr ops hok rfl S hS hnd).bfs

/-- **Generic**: all source-based traversals (C04, C05-BFS, C06). -/
theorem traversals_after_any_history {σ ο ω : Type} (M : ReprModel σ ο ω) (r : σ) (hr : M.WF r)
    (ops : List ο) (hok : M.viewOK (M.after r ops)) (S : List Nat)
    (hS : ∀ s ∈ S, s < M.order (M.after r ops)) (hnd : S.Nodup) :
    TraversalsHold (M.specAfter r ops).Arc (M.order (M.after r ops)) S (M.view (M.after r ops)) :=
  M.traversals_after_any_history r hr ops hok rfl S hS hnd

/-- **Generic**: Tarjan (C09) — vertex set and arc set of the final SPEC state. -/
theorem tarjan_after_any_history {σ ο ω : Type} (M : ReprModel σ ο ω) (r : σ) (hr : M.WF r) (ops : List ο) :
    (∀ x, x ∈ (M.vview (M.after r ops)).verts ↔ (M.specAfter r ops).V x = true) ∧
    (M.vview (M.after r ops)).verts.Pairwise (· < ·) ∧
    TarjanHolds (M.vview (M.after r ops)).verts (M.specAfter r ops).Arc (M.vview (M.after r ops)) :=
  have t := M.tarjan_after_any_history r hr ops
  ⟨t.1, t.2.1, t.2.2.1⟩

/-- **Generic**: Johnson (C10). -/
theorem johnson_after_any_history {σ ο ω : Type} (M : ReprModel σ ο ω) (r : σ) (hr : M.WF r) (ops : List ο)
    (hok : M.viewOK (M.after r ops)) : JohnsonHolds (M.specAfter r ops).Arc (M.view (M.after r ops)) :=
  (M.johnson_after_any_history r hr ops hok).1

/-! ### … instantiated, in plain terms -/

/-- `AdjacencyList`: any well-formed start, any calls `add_arc` / `remove_arc` with any arguments. -/
theorem adjList_traversals_after_any_history (d : AdjList) (h : d.WF) (ops : List (Op Unit)) (S : List Nat)
    (hS : ∀ s ∈ S, s < d.order) (hnd : S.Nodup) :
    TraversalsHold (run (specStep .fixed) d.abs ops).1.Arc d.order S (run AdjList.step d ops).1.view :=
  alModel_fixed.traversals_after_any_history d h ops S hS hnd

theorem adjList_bfs_after_any_history (d : AdjList) (h : d.WF) (ops : List (Op Unit)) (S : List Nat)
    (hS : ∀ s ∈ S, s < d.order) (hnd : S.Nodup) :
    BfsHolds (run (specStep .fixed) d.abs ops).1.Arc d.order S (run AdjList.step d ops).1.view :=
  (adjList_traversals_after_any_history d h ops S hS hnd).bfs

/-- … in particular from `empty(n)`: the spec side is the empty digraph on `0..n` with the calls
applied — no representation in sight. -/
theorem adjList_bfs_from_empty (n : Nat) (d : AdjList) (he : AdjList.empty n = some d) (ops : List (Op Unit))
    (S : List Nat) (hS : ∀ s ∈ S, s < n) (hnd : S.Nodup) :
    BfsHolds (run (specStep .fixed) (emptySpec Unit n) ops).1.Arc n S (run AdjList.step d ops).1.view :=
  (alModel_fixed.traversals_from_empty (C01.adjList_empty he) ops S hS hnd).bfs

/-- `AdjacencyMatrix`: calls `add_arc` / `remove_arc` / `toggle`. -/
theorem adjMatrix_traversals_after_any_history (d : AdjMatrix) (h : d.WF) (ops : List MxOp) (S : List Nat)
    (hS : ∀ s ∈ S, s < d.order) (hnd : S.Nodup) :
    TraversalsHold (run specStepMx d.abs ops).1.Arc d.order S (run AdjMatrix.step d ops).1.view :=
  mxModel_fixed.traversals_after_any_history d h ops S hS hnd

theorem adjMatrix_bfs_after_any_history (d : AdjMatrix) (h : d.WF) (ops : List MxOp) (S : List Nat)
    (hS : ∀ s ∈ S, s < d.order) (hnd : S.Nodup) :
    BfsHolds (run specStepMx d.abs ops).1.Arc d.order S (run AdjMatrix.step d ops).1.view :=
  (adjMatrix_traversals_after_any_history d h ops S hS hnd).bfs

theorem adjMatrix_bfs_from_empty (n : Nat) (d : AdjMatrix) (he : AdjMatrix.empty n = some d) (ops : List MxOp)
    (S : List Nat) (hS : ∀ s ∈ S, s < n) (hnd : S.Nodup) :
    BfsHolds (run specStepMx (emptySpec Unit n) ops).1.Arc n S (run AdjMatrix.step d ops).1.view :=
  (mxModel_fixed.traversals_from_empty (C01.adjMatrix_empty he) ops S hS hnd).bfs

theorem edgeList_traversals_after_any_history (d : EdgeList) (h : d.WF) (ops : List (Op Unit)) (S : List Nat)
    (hS : ∀ s ∈ S, s < d.order) (hnd : S.Nodup) :
    TraversalsHold (run (specStep .fixed) d.abs ops).1.Arc d.order S (run EdgeList.step d ops).1.view :=
  elModel_fixed.traversals_after_any_history d h ops S hS hnd

theorem edgeList_bfs_after_any_history (d : EdgeList) (h : d.WF) (ops : List (Op Unit)) (S : List Nat)
    (hS : ∀ s ∈ S, s < d.order) (hnd : S.Nodup) :
    BfsHolds (run (specStep .fixed) d.abs ops).1.Arc d.order S (run EdgeList.step d ops).1.view :=
  (edgeList_traversals_after_any_history d h ops S hS hnd).bfs

theorem adjListW_traversals_after_any_history (d : AdjListW) (h : d.WF) (ops : List (Op Int)) (S : List Nat)
    (hS : ∀ s ∈ S, s < d.order) (hnd : S.Nodup) :
    TraversalsHold (run (specStep .fixed) d.abs ops).1.Arc d.order S (run AdjListW.step d ops).1.view :=
  wlModel_fixed.traversals_after_any_history d h ops S hS hnd

theorem adjListW_bfs_after_any_history (d : AdjListW) (h : d.WF) (ops : List (Op Int)) (S : List Nat)
    (hS : ∀ s ∈ S, s < d.order) (hnd : S.Nodup) :
    BfsHolds (run (specStep .fixed) d.abs ops).1.Arc d.order S (run AdjListW.step d ops).1.view :=
  (adjListW_traversals_after_any_history d h ops S hS hnd).bfs

/-- `AdjacencyMap` (the vertex set GROWS with `add_arc`): whenever the final SPEC vertex set is
an initial segment `0..k` — the precondition under which `Bfs::new` may index its `order`-sized
buffers by vertex id — the map has order `k` and BFS is correct w.r.t. the final spec arcs. -/
theorem adjMap_traversals_after_any_history (d : AdjMap) (h : d.WF) (ops : List (Op Unit)) (k : Nat)
    (hV : ∀ x, (run (specStep .growing) d.abs ops).1.V x = true ↔ x < k)
    (S : List Nat) (hS : ∀ s ∈ S, s < k) (hnd : S.Nodup) :
    (run AdjMap.step d ops).1.order = k ∧
    TraversalsHold (run (specStep .growing) d.abs ops).1.Arc k S (run AdjMap.step d ops).1.view := by
  obtain ⟨hc, ho⟩ := d.contiguous_after h ops k hV
  exact ⟨ho, amModel.traversals_after_any_history d h ops hc ho S hS hnd⟩

theorem adjMap_bfs_after_any_history (d : AdjMap) (h : d.WF) (ops : List (Op Unit)) (k : Nat)
    (hV : ∀ x, (run (specStep .growing) d.abs ops).1.V x = true ↔ x < k)
    (S : List Nat) (hS : ∀ s ∈ S, s < k) (hnd : S.Nodup) :
    BfsHolds (run (specStep .growing) d.abs ops).1.Arc k S (run AdjMap.step d ops).1.view :=
  (adjMap_traversals_after_any_history d h ops k hV S hS hnd).2.bfs

/-- … e.g. a contiguous start (`empty(n)`, any generator, any conversion result) and calls that
mention only ids `< order`: the hypothesis on the spec vertex set holds. -/
theorem adjMap_bfs_after_inrange_history (d : AdjMap) (h : d.WF) (hc : Gen.AM.Contiguous d)
    (ops : List (Op Unit)) (hops : ∀ op ∈ ops, ∀ x ∈ opIds op, x < d.order)
    (S : List Nat) (hS : ∀ s ∈ S, s < d.order) (hnd : S.Nodup) :
    BfsHolds (run (specStep .growing) d.abs ops).1.Arc d.order S (run AdjMap.step d ops).1.view := by
  obtain ⟨hc', ho⟩ := d.contiguous_after_inrange h hc ops hops
  exact (amModel.traversals_after_any_history d h ops hc' ho S hS hnd).bfs

/-- `Johnson75` on the map after any history that leaves the vertex set an initial segment. -/
theorem adjMap_johnson_after_any_history (d : AdjMap) (h : d.WF) (ops : List (Op Unit)) (k : Nat)
    (hV : ∀ x, (run (specStep .growing) d.abs ops).1.V x = true ↔ x < k) :
    JohnsonHolds (run (specStep .growing) d.abs ops).1.Arc (run AdjMap.step d ops).1.view :=
  (amModel.johnson_after_any_history d h ops (d.contiguous_after h ops k hV).1).1

/-- `Tarjan` on the map after ANY history (vertex ids may be arbitrary): the partition of the
final SPEC vertex set into the strongly connected components of the final SPEC arc set. -/
theorem adjMap_tarjan_after_any_history (d : AdjMap) (h : d.WF) (ops : List (Op Unit)) :
    (∀ x, x ∈ (run AdjMap.step d ops).1.vertices ↔ (run (specStep .growing) d.abs ops).1.V x = true) ∧
    TarjanHolds (run AdjMap.step d ops).1.vertices (run (specStep .growing) d.abs ops).1.Arc
      (run AdjMap.step d ops).1.vview :=
  have t := amModel.tarjan_after_any_history d h ops
  ⟨t.1, t.2.2.1⟩

theorem adjList_tarjan_after_any_history (d : AdjList) (h : d.WF) (ops : List (Op Unit)) :
    TarjanHolds (run AdjList.step d ops).1.vertices (run (specStep .fixed) d.abs ops).1.Arc
      (run AdjList.step d ops).1.vview := (alModel.tarjan_after_any_history d h ops).2.2.1

theorem adjMatrix_tarjan_after_any_history (d : AdjMatrix) (h : d.WF) (ops : List MxOp) :
    TarjanHolds (run AdjMatrix.step d ops).1.vertices (run specStepMx d.abs ops).1.Arc
      (run AdjMatrix.step d ops).1.vview := (mxModel.tarjan_after_any_history d h ops).2.2.1

theorem edgeList_tarjan_after_any_history (d : EdgeList) (h : d.WF) (ops : List (Op Unit)) :
    TarjanHolds (run EdgeList.step d ops).1.vertices (run (specStep .fixed) d.abs ops).1.Arc
      (run EdgeList.step d ops).1.vview := (elModel.tarjan_after_any_history d h ops).2.2.1

theorem adjListW_tarjan_after_any_history (d : AdjListW) (h : d.WF) (ops : List (Op Int)) :
    TarjanHolds (run AdjListW.step d ops).1.vertices (run (specStep .fixed) d.abs ops).1.Arc
      (run AdjListW.step d ops).1.vview := (wlModel.tarjan_after_any_history d h ops).2.2.1

/-- **`dijkstra_after_any_history`** and companions: the weighted algorithms on the weighted view
of the final model state, w.r.t. the weighted arc set `W u v = some w` of the final SPEC state
(`add_arc_weighted` on an existing arc replaced its weight; removed arcs are gone; rejected
calls changed nothing). -/
theorem adjListW_weighted_after_any_history (d : AdjListW) (h : d.WF) (ops : List (Op Int)) :
    WeightedHold (run (specStep .fixed) d.abs ops).1.WArc d.order (run AdjListW.step d ops).1.wview := by
  obtain ⟨hw, ha, _⟩ := wlModel.run_refines d h ops
  have ha' : (run AdjListW.step d ops).1.abs = (run (specStep .fixed) d.abs ops).1 := ha
  exact AdjListW.weightedHold _ hw (wlModel_fixed.order_after d h ops) (ha' ▸ AdjListW.warc_iff_abs _ hw)

theorem dijkstra_after_any_history (d : AdjListW) (h : d.WF) (ops : List (Op Int))
    (hnn : ∀ u v w, (run (specStep .fixed) d.abs ops).1.W u v = some w → 0 ≤ w)
    (S : List Nat) (hS : ∀ s ∈ S, s < d.order) (hnd : S.Nodup) :
    DijkstraHolds (run (specStep .fixed) d.abs ops).1.WArc d.order S (run AdjListW.step d ops).1.wview ∧
    DijkstraPredHolds (run (specStep .fixed) d.abs ops).1.WArc d.order S (run AdjListW.step d ops).1.wview :=
  (adjListW_weighted_after_any_history d h ops).dijkstra hnn S hS hnd

theorem bfm_after_any_history (d : AdjListW) (h : d.WF) (ops : List (Op Int)) (s : Nat) (hs : s < d.order) :
    BfmHolds (run (specStep .fixed) d.abs ops).1.WArc d.order s (run AdjListW.step d ops).1.wview :=
  (adjListW_weighted_after_any_history d h ops).bfm s hs

theorem fw_after_any_history (d : AdjListW) (h : d.WF) (ops : List (Op Int))
    (hnc : ∀ x, ¬ RNegCycleAt (run (specStep .fixed) d.abs ops).1.WArc x) (u v : Nat)
    (hu : u < d.order) (hv : v < d.order) :
    FwHolds (run (specStep .fixed) d.abs ops).1.WArc d.order u v (run AdjListW.step d ops).1.wview :=
  (adjListW_weighted_after_any_history d h ops).fw hnc u v hu hv

/-! ## 4. Generators and conversions -/

/-- Every traversal property on a generated digraph, w.r.t. the DEFINING arc set `P` (C14's
`Realises d n P`), in each representation. -/
theorem traversals_of_generated :
    (∀ (d : AdjList) n P, Gen.AL.Realises d n P → ∀ S : List Nat, (∀ s ∈ S, s < n) → S.Nodup →
      TraversalsHold P n S d.view) ∧
    (∀ (d : AdjMap) n P, Gen.AM.Realises d n P → ∀ S : List Nat, (∀ s ∈ S, s < n) → S.Nodup →
      TraversalsHold P n S d.view) ∧
    (∀ (d : AdjMatrix) n P, Gen.MX.Realises d n P → ∀ S : List Nat, (∀ s ∈ S, s < n) → S.Nodup →
      TraversalsHold P n S d.view) ∧
    (∀ (d : EdgeList) n P, Gen.EL.Realises d n P → ∀ S : List Nat, (∀ s ∈ S, s < n) → S.Nodup →
      TraversalsHold P n S d.view) :=
  ⟨fun _ _ _ h => (AL.viewIs_of_realises h).traversals, fun _ _ _ h => (AM.viewIs_of_realises h).traversals,
   fun _ _ _ h => (MX.viewIs_of_realises h).traversals, fun _ _ _ h => (EL.viewIs_of_realises h).traversals⟩

/-- Generated digraphs realising the same `(n, P)` are the same `Graph` to a traversal. -/
theorem generated_views_agree {n : Nat} {P : Nat → Nat → Prop} {d₁ : AdjList} {d₂ : AdjMap} {d₃ : AdjMatrix}
    {d₄ : EdgeList} (h₁ : Gen.AL.Realises d₁ n P) (h₂ : Gen.AM.Realises d₂ n P)
    (h₃ : Gen.MX.Realises d₃ n P) (h₄ : Gen.EL.Realises d₄ n P) :
    d₂.view = d₁.view ∧ d₃.view = d₁.view ∧ d₄.view = d₁.view :=
  have v₁ := AL.viewIs_of_realises h₁
  ⟨((AM.viewIs_of_realises h₂).unique v₁ fun _ _ => Iff.rfl).1, ((MX.viewIs_of_realises h₃).unique v₁ fun _ _ => Iff.rfl).1,
   ((EL.viewIs_of_realises h₄).unique v₁ fun _ _ => Iff.rfl).1⟩

/-- **Sanity family** (non-vacuity for every order): BFS from `[0]` on `circuit(n)` in every
representation, for every `n ≥ 1` and every thread count — `Bfs` yields `0, 1, …, n-1`,
`BfsDist` the pairs `(v, v)`, `distances()` is `[0, 1, …, n-1]`. -/
theorem bfs_circuit (n : Nat) (hn : 1 ≤ n) (inf : Nat) (hinf : n ≤ inf) :
    (∃ d, Gen.AL.circuit n = some d ∧ Bfs.bfs d.view [0] = .ok (List.range n) ∧
      Bfs.bfsDist d.view [0] = .ok ((List.range n).map (fun v => (v, v))) ∧
      Bfs.distances d.view [0] inf = .ok (List.range n)) ∧
    (∃ d, Gen.AM.circuit n = some d ∧ Bfs.bfs d.view [0] = .ok (List.range n) ∧
      Bfs.bfsDist d.view [0] = .ok ((List.range n).map (fun v => (v, v))) ∧
      Bfs.distances d.view [0] inf = .ok (List.range n)) ∧
    (n * n < 2 ^ 64 → ∃ d, Gen.MX.circuit n = some d ∧ Bfs.bfs d.view [0] = .ok (List.range n) ∧
      Bfs.bfsDist d.view [0] = .ok ((List.range n).map (fun v => (v, v))) ∧
      Bfs.distances d.view [0] inf = .ok (List.range n)) ∧
    (∃ d, Gen.EL.circuit n = some d ∧ Bfs.bfs d.view [0] = .ok (List.range n) ∧
      Bfs.bfsDist d.view [0] = .ok ((List.range n).map (fun v => (v, v))) ∧
      Bfs.distances d.view [0] inf = .ok (List.range n)) := by
  have hS : ∀ s ∈ [0], s < n := fun s hs => List.mem_singleton.1 hs ▸ hn
  have hnd : [0].Nodup := List.pairwise_singleton _ _
  refine ⟨?_, ?_, ?_, ?_⟩
  · obtain ⟨d, e, r⟩ := Gen.AL.circuit_spec hn
    exact ⟨d, e, bfs_on_circuit hn ((AL.viewIs_of_realises r).traversals [0] hS hnd).bfs inf hinf⟩
  · obtain ⟨d, e, r⟩ := Gen.AM.circuit_spec hn
    exact ⟨d, e, bfs_on_circuit hn ((AM.viewIs_of_realises r).traversals [0] hS hnd).bfs inf hinf⟩
  · intro hf
    obtain ⟨d, e, r⟩ := Gen.MX.circuit_spec hn hf
    exact ⟨d, e, bfs_on_circuit hn ((MX.viewIs_of_realises r).traversals [0] hS hnd).bfs inf hinf⟩
  · obtain ⟨d, e, r⟩ := Gen.EL.circuit_spec hn
    exact ⟨d, e, bfs_on_circuit hn ((EL.viewIs_of_realises r).traversals [0] hS hnd).bfs inf hinf⟩

/-- **Conversions preserve every algorithm's result**: the result `t` of any of the twenty
`From<other representation>` impls has the SAME positional view and the SAME vertex-id view as
its source `d` (equality of `Graph`s / `VGraph`s, not only of arc relations), so `bfs`, `dfs`,
`tarjan`, `johnson`, … — any function of `order()`, `vertices()`, `out_neighbors()` — return the
very same value on `t` as on `d`.  The weighted target additionally has weight 1 on every arc. -/
theorem conversions_preserve_views :
    (∀ d : AdjList, d.WF →
      (∀ t, Conv.alToAM d = some t → t.view = d.view ∧ t.vview = d.vview) ∧
      (∀ t, Conv.alToMX d = some t → t.view = d.view ∧ t.vview = d.vview) ∧
      (∀ t, Conv.alToEL d = some t → t.view = d.view ∧ t.vview = d.vview) ∧
      (∀ t, Conv.alToWL d = some t → t.view = d.view ∧ t.vview = d.vview ∧
        ∀ u v w, t.wview.A u v w ↔ (d.view.A u v ∧ w = 1))) ∧
    (∀ d : AdjMap, C16.OkAM d →
      (∀ t, Conv.amToAL d = some t → t.view = d.view ∧ t.vview = d.vview) ∧
      (∀ t, Conv.amToMX d = some t → t.view = d.view ∧ t.vview = d.vview) ∧
      (∀ t, Conv.amToEL d = some t → t.view = d.view ∧ t.vview = d.vview) ∧
      (∀ t, Conv.amToWL d = some t → t.view = d.view ∧ t.vview = d.vview ∧
        ∀ u v w, t.wview.A u v w ↔ (d.view.A u v ∧ w = 1))) ∧
    (∀ d : AdjMatrix, C16.OkMX d →
      (∀ t, Conv.mxToAL d = some t → t.view = d.view ∧ t.vview = d.vview) ∧
      (∀ t, Conv.mxToAM d = some t → t.view = d.view ∧ t.vview = d.vview) ∧
      (∀ t, Conv.mxToEL d = some t → t.view = d.view ∧ t.vview = d.vview) ∧
      (∀ t, Conv.mxToWL d = some t → t.view = d.view ∧ t.vview = d.vview ∧
        ∀ u v w, t.wview.A u v w ↔ (d.view.A u v ∧ w = 1))) ∧
    (∀ d : EdgeList, d.WF →
      (∀ t, Conv.elToAL d = some t → t.view = d.view ∧ t.vview = d.vview) ∧
      (∀ t, Conv.elToAM d = some t → t.view = d.view ∧ t.vview = d.vview) ∧
      (∀ t, Conv.elToMX d = some t → t.view = d.view ∧ t.vview = d.vview) ∧
      (∀ t, Conv.elToWL d = some t → t.view = d.view ∧ t.vview = d.vview ∧
        ∀ u v w, t.wview.A u v w ↔ (d.view.A u v ∧ w = 1))) := by
  refine ⟨fun d h => ?_, fun d h => ?_, fun d h => ?_, fun d h => ?_⟩
  · have s := viewIs_okAL d h
    obtain ⟨c1, c2, c3, c4⟩ := C16.converts_from_al d h
    exact ⟨s.of_good viewIs_okAM c1, fun t ht => s.of_good viewIs_okMX (c2 (C16.fits_of_toMX ht)) t ht,
      s.of_good viewIs_okEL c3, s.of_goodWL c4⟩
  · have s := viewIs_okAM d h
    obtain ⟨c1, c2, c3, c4⟩ := C16.converts_from_am d h
    exact ⟨s.of_good viewIs_okAL c1, fun t ht => s.of_good viewIs_okMX (c2 (C16.fits_of_toMX ht)) t ht,
      s.of_good viewIs_okEL c3, s.of_goodWL c4⟩
  · have s := viewIs_okMX d h
    obtain ⟨c1, c2, c3, c4⟩ := C16.converts_from_mx d h
    exact ⟨s.of_good viewIs_okAL c1, s.of_good viewIs_okAM c2, s.of_good viewIs_okEL c3, s.of_goodWL c4⟩
  · have s := viewIs_okEL d h
    obtain ⟨c1, c2, c3, c4⟩ := C16.converts_from_el d h
    exact ⟨s.of_good viewIs_okAL c1, s.of_good viewIs_okAM c2,
      fun t ht => s.of_good viewIs_okMX (c3 (C16.fits_of_toMX ht)) t ht, s.of_goodWL c4⟩

/-- Spelled out for one pair and one algorithm: `AdjacencyMatrix::from(&list)` gives the same
BFS items, the same SCCs and (today's) DFS output as the list itself. -/
theorem al_to_mx_same_results (d : AdjList) (h : d.WF) (t : AdjMatrix) (ht : Conv.alToMX d = some t)
    (S : List Nat) :
    Bfs.bfsDist t.view S = Bfs.bfsDist d.view S ∧ Dfs.dfs t.view S = Dfs.dfs d.view S ∧
    Tarjan.components t.vview = Tarjan.components d.vview := by
  obtain ⟨e1, e2⟩ := ((conversions_preserve_views.1 d h).2.1) t ht
  rw [e1, e2]; exact ⟨rfl, rfl, rfl⟩

/-! ## 5. The driver's graphs are the views of the representation models -/

/-- For every valid description (`order ≥ 1`, arcs joining distinct vertices `< order`; for the
matrix `order²` fitting a `usize`; for the map the contiguous key set), the representation model
built like the harness builds the real structure (`empty` + `add_arc` in description order)
exists, is well-formed, has exactly the described arcs, and its VIEW is the `Graph` the driver
runs the algorithm models on (`GDesc.graph`); likewise `GDesc.wgraph` is the weighted view of the
weighted model (a later triple replaces the weight of an earlier one). -/
theorem driver_graph_is_view (d : Driver.GDesc) (hn : 1 ≤ d.order) :
    (Gen.ArcsValid d.order d.arcs →
      (∃ r, Driver.buildAL d = some r ∧ r.WF ∧ r.order = d.order ∧
        (∀ u v, (u, v) ∈ r.arcs ↔ (u, v) ∈ d.arcs) ∧ r.view = d.graph) ∧
      (∃ r, Driver.buildEL d = some r ∧ r.WF ∧ r.order = d.order ∧
        (∀ u v, (u, v) ∈ r.arcs ↔ (u, v) ∈ d.arcs) ∧ r.view = d.graph) ∧
      (d.order * d.order < 2 ^ 64 → ∃ r, Driver.buildMX d = some r ∧ r.WF ∧ r.order = d.order ∧
        (∀ u v, (u, v) ∈ r.arcs ↔ (u, v) ∈ d.arcs) ∧ r.view = d.graph) ∧
      (d.verts = List.range d.order → ∃ r, Driver.buildAM d = some r ∧ r.WF ∧ Gen.AM.Contiguous r ∧
        r.order = d.order ∧ (∀ u v, (u, v) ∈ r.arcs ↔ (u, v) ∈ d.arcs) ∧ r.view = d.graph)) ∧
    ((∀ a ∈ d.warcs, a.1 ≠ a.2.1 ∧ a.1 < d.order ∧ a.2.1 < d.order) →
      ∃ r, Driver.buildW d = some r ∧ r.WF ∧ r.order = d.order ∧ r.wview = d.wgraph) := by
  refine ⟨fun hv => ⟨?_, ?_, fun hf => ?_, fun hvs => ?_⟩, fun hv => ?_⟩
  · exact (build_views Gen.AL.repr AdjList.viewIs hn trivial hv).imp fun _ h => ⟨h.1, h.2.1, h.2.2.1, h.2.2.2.1, h.2.2.2.2.1⟩
  · exact (build_views Gen.EL.repr EdgeList.viewIs hn trivial hv).imp fun _ h => ⟨h.1, h.2.1, h.2.2.1, h.2.2.2.1, h.2.2.2.2.1⟩
  · exact (build_views Gen.MX.repr AdjMatrix.viewIs hn hf hv).imp fun _ h => ⟨h.1, h.2.1, h.2.2.1, h.2.2.2.1, h.2.2.2.2.1⟩
  · obtain ⟨r, hr, hw, ho, ha, hview, _⟩ := build_views Gen.AM.repr viewIs_okAM hn trivial hv
    rw [Gen.build, AdjMap.empty, if_neg (Nat.ne_of_gt hn), ← hvs] at hr
    exact ⟨r, hr, hw.1, hw.2.1, ho, ha, hview⟩
  · have he : AdjListW.empty d.order = some ⟨List.replicate d.order []⟩ := if_neg (Nat.ne_of_gt hn)
    obtain ⟨r, hr, hwr, hrows, hord⟩ := foldW_rows d.order d.warcs (Array.replicate d.order [])
      ⟨List.replicate d.order []⟩ Array.toList_replicate.symm Array.size_replicate (C01.adjListW_empty he).1 hv
    exact ⟨r, (congrArg (Option.bind · _) he).trans hr, hwr, hord, wview_of_rows r _ hrows⟩

/-- The `VGraph` of the C09 handler on a fixed-order description is the vertex-id view of the
representation model (for `[am …]` descriptions, sparse or not: `driver_vgraph_is_vview_sparse_am`,
`driver_graphOfDesc_is_vview` in section 9). -/
theorem driver_vgraph_is_vview_fixed (d : Driver.GDesc) (hn : 1 ≤ d.order) (hrepr : (d.repr == "am") = false)
    (hverts : d.verts = List.range d.order) (hv : Gen.ArcsValid d.order d.arcs) :
    (∃ r, Driver.buildAL d = some r ∧ r.WF ∧ r.vview = Driver.H09.vgraphOf d) ∧
    (∃ r, Driver.buildEL d = some r ∧ r.WF ∧ r.vview = Driver.H09.vgraphOf d) ∧
    (d.order * d.order < 2 ^ 64 → ∃ r, Driver.buildMX d = some r ∧ r.WF ∧ r.vview = Driver.H09.vgraphOf d) := by
  have e := driver_vgraph_eq d hn hrepr hverts
  exact ⟨(build_views Gen.AL.repr AdjList.viewIs hn trivial hv).imp fun _ h => ⟨h.1, h.2.1, h.2.2.2.2.2.trans e.symm⟩,
    (build_views Gen.EL.repr EdgeList.viewIs hn trivial hv).imp fun _ h => ⟨h.1, h.2.1, h.2.2.2.2.2.trans e.symm⟩,
    fun hf => (build_views Gen.MX.repr AdjMatrix.viewIs hn hf hv).imp fun _ h => ⟨h.1, h.2.1, h.2.2.2.2.2.trans e.symm⟩⟩

/-! ## 6. The C11 operations under the algorithms

`ViewIs g vg n P` (`Proof/ComposeViewIs.lean`): the positional view `g` and the vertex-id view `vg`
ARE the digraph with vertex set `0..n` and arc relation `P` (rows ascending).  `complRel`,
`convRel`, `unionRel`, `filterRel` are the set definitions of the operations on bare relations.
`AlgorithmsHold g vg n P` = C04, C05-BFS, C06 (incl. the relational preorder clauses), C09 (every
call), C10 (every call) w.r.t. `P`. -/

theorem viewIs_algorithms {g : Graph} {vg : Tarjan.VGraph} {n : Nat} {P : Rel} (h : ViewIs g vg n P) :
    AlgorithmsHold g vg n P := h.algorithms

theorem viewIs_self :
    (∀ d : AdjList, d.WF → ViewIs d.view d.vview d.order d.Arc) ∧
    (∀ d : AdjMap, d.WF → Gen.AM.Contiguous d → ViewIs d.view d.vview d.order d.Arc) ∧
    (∀ d : AdjMatrix, d.WF → ViewIs d.view d.vview d.order d.Arc) ∧
    (∀ d : EdgeList, d.WF → ViewIs d.view d.vview d.order d.Arc) ∧
    (∀ d : AdjListW, d.WF → ViewIs d.view d.vview d.order d.Arc) :=
  ⟨AdjList.viewIs, AdjMap.viewIs, AdjMatrix.viewIs, EdgeList.viewIs, AdjListW.viewIs⟩

/-- `AdjacencyList` (every thread count `ap ≥ 1`): `complement`, `converse`, `union` return a
well-formed list whose view is the set definition applied to the operands' `arcs()`. -/
theorem adjList_ops_views :
    (∀ (d : AdjList) (ap : Nat), d.WF → 0 < ap → ∃ r, Ops.complementAL d ap = some r ∧ r.WF ∧ r.order = d.order ∧
      ViewIs r.view r.vview d.order (complRel d.order d.Arc)) ∧
    (∀ d : AdjList, d.WF → ∃ r, Ops.converseAL d = some r ∧ r.WF ∧ r.order = d.order ∧
      ViewIs r.view r.vview d.order (convRel d.Arc)) ∧
    (∀ (a b : AdjList) (ap : Nat), a.WF → b.WF → 0 < ap → ∃ r, Ops.unionAL a b ap = some r ∧ r.WF ∧
      r.order = max a.order b.order ∧ ViewIs r.view r.vview (max a.order b.order) (unionRel a.Arc b.Arc)) := by
  refine ⟨fun d ap h hap => ?_, fun d h => ?_, fun a b ap ha hb hap => ?_⟩
  · obtain ⟨r, e, hw, hs⟩ := C11.statementAL.2.1 d ap hap h
    exact ⟨r, e, hw, (r.viewIs hw).of_dgIs r.dgIs (hs ▸ d.dgIs.complement)⟩
  · obtain ⟨r, e, hw, hs⟩ := C11.statementAL.2.2.1 d h
    exact ⟨r, e, hw, (r.viewIs hw).of_dgIs r.dgIs (hs ▸ d.dgIs.converse)⟩
  · obtain ⟨r, e, hw, hs⟩ := C11.statementAL.2.2.2.1 a b ap hap ha hb
    exact ⟨r, e, hw, (r.viewIs hw).of_dgIs r.dgIs (hs ▸ a.dgIs.union b.dgIs)⟩

/-- `AdjacencyMatrix` (`order²` fits a `usize`). -/
theorem adjMatrix_ops_views :
    (∀ d : AdjMatrix, d.WF → d.order * d.order < 2 ^ 64 → ∃ r, Ops.complementMX d = some r ∧ r.WF ∧
      r.order = d.order ∧ ViewIs r.view r.vview d.order (complRel d.order d.Arc)) ∧
    (∀ d : AdjMatrix, d.WF → d.order * d.order < 2 ^ 64 → ∃ r, Ops.converseMX d = some r ∧ r.WF ∧
      r.order = d.order ∧ ViewIs r.view r.vview d.order (convRel d.Arc)) ∧
    (∀ a b : AdjMatrix, a.WF → b.WF → a.order * a.order < 2 ^ 64 → b.order * b.order < 2 ^ 64 →
      ∃ r, Ops.unionMX a b = some r ∧ r.WF ∧ r.order = max a.order b.order ∧
        ViewIs r.view r.vview (max a.order b.order) (unionRel a.Arc b.Arc)) := by
  refine ⟨fun d h hf => ?_, fun d h hf => ?_, fun a b ha hb hfa hfb => ?_⟩
  · obtain ⟨r, e, hw, hs⟩ := C11.statementMX.2.1 d ⟨h, hf⟩
    exact ⟨r, e, hw.1, (r.viewIs hw.1).of_dgIs r.dgIs (hs ▸ d.dgIs.complement)⟩
  · obtain ⟨r, e, hw, hs⟩ := C11.statementMX.2.2.1 d ⟨h, hf⟩
    exact ⟨r, e, hw.1, (r.viewIs hw.1).of_dgIs r.dgIs (hs ▸ d.dgIs.converse)⟩
  · obtain ⟨r, e, hw, hs⟩ := C11.statementMX.2.2.2.1 a b ⟨ha, hfa⟩ ⟨hb, hfb⟩
    exact ⟨r, e, hw.1, (r.viewIs hw.1).of_dgIs r.dgIs (hs ▸ a.dgIs.union b.dgIs)⟩

theorem edgeList_ops_views :
    (∀ d : EdgeList, d.WF → (Ops.complementEL d).WF ∧ (Ops.complementEL d).order = d.order ∧
      ViewIs (Ops.complementEL d).view (Ops.complementEL d).vview d.order (complRel d.order d.Arc)) ∧
    (∀ d : EdgeList, d.WF → (Ops.converseEL d).WF ∧ (Ops.converseEL d).order = d.order ∧
      ViewIs (Ops.converseEL d).view (Ops.converseEL d).vview d.order (convRel d.Arc)) ∧
    (∀ a b : EdgeList, a.WF → b.WF → ∃ r, Ops.unionEL a b = some r ∧ r.WF ∧ r.order = max a.order b.order ∧
      ViewIs r.view r.vview (max a.order b.order) (unionRel a.Arc b.Arc)) := by
  refine ⟨fun d h => ?_, fun d h => ?_, fun a b ha hb => ?_⟩
  · obtain ⟨_, ⟨⟩, hw, hs⟩ := C11.statementEL.2.1 d h
    exact ⟨hw, (EdgeList.viewIs _ hw).of_dgIs (EdgeList.dgIs _) (hs ▸ d.dgIs.complement)⟩
  · obtain ⟨_, ⟨⟩, hw, hs⟩ := C11.statementEL.2.2.1 d h
    exact ⟨hw, (EdgeList.viewIs _ hw).of_dgIs (EdgeList.dgIs _) (hs ▸ d.dgIs.converse)⟩
  · obtain ⟨r, e, hw, hs⟩ := C11.statementEL.2.2.2.1 a b ha hb
    exact ⟨r, e, hw, (r.viewIs hw).of_dgIs r.dgIs (hs ▸ a.dgIs.union b.dgIs)⟩

/-- `AdjacencyMap` with key sets `0..order` (positional view; `union` for every thread count);
the results are again contiguous. -/
theorem adjMap_ops_views :
    (∀ d : AdjMap, d.WF → Gen.AM.Contiguous d → 0 < d.order →
      (Ops.complementAM d).WF ∧ (Ops.complementAM d).order = d.order ∧ Gen.AM.Contiguous (Ops.complementAM d) ∧
      ViewIs (Ops.complementAM d).view (Ops.complementAM d).vview d.order (complRel d.order d.Arc)) ∧
    (∀ d : AdjMap, d.WF → Gen.AM.Contiguous d → 0 < d.order →
      (Ops.converseAM d).WF ∧ (Ops.converseAM d).order = d.order ∧ Gen.AM.Contiguous (Ops.converseAM d) ∧
      ViewIs (Ops.converseAM d).view (Ops.converseAM d).vview d.order (convRel d.Arc)) ∧
    (∀ (a b : AdjMap) (ap : Nat), a.WF → b.WF → Gen.AM.Contiguous a → Gen.AM.Contiguous b → 0 < a.order →
      0 < b.order → 0 < ap → ∃ r, Ops.unionAM a b ap = some r ∧ r.WF ∧ r.order = max a.order b.order ∧
        Gen.AM.Contiguous r ∧ ViewIs r.view r.vview (max a.order b.order) (unionRel a.Arc b.Arc)) := by
  refine ⟨fun d h hc hn => ?_, fun d h hc hn => ?_, fun a b ap ha hb hca hcb hna hnb hap => ?_⟩
  · obtain ⟨_, ⟨⟩, hw, hs⟩ := C11.statementAM.2.1 d ⟨h, hn⟩
    exact ⟨hw.1, AM.viewIs_of_dgIs hw.1 (hs ▸ (d.dgIs h hc).complement)⟩
  · obtain ⟨_, ⟨⟩, hw, hs⟩ := C11.statementAM.2.2.1 d ⟨h, hn⟩
    exact ⟨hw.1, AM.viewIs_of_dgIs hw.1 (hs ▸ (d.dgIs h hc).converse)⟩
  · obtain ⟨r, e, hw, hs⟩ := C11.statementAM.2.2.2.1 a b ap hap ⟨ha, hna⟩ ⟨hb, hnb⟩
    exact ⟨r, e, hw.1, AM.viewIs_of_dgIs hw.1 (hs ▸ (a.dgIs ha hca).union (b.dgIs hb hcb))⟩

/-- `AdjacencyMap` with ARBITRARY key sets, all four operations incl. `filter_vertices`: vertex
set and arc set of the result are the set definitions, and Tarjan on the result returns the
strongly connected components of that digraph. -/
theorem adjMap_ops_tarjan :
    (∀ d : AdjMap, d.WF → 0 < d.order →
      (Ops.complementAM d).WF ∧ (∀ x, x ∈ (Ops.complementAM d).vertices ↔ x ∈ d.vertices) ∧
      (∀ u v, (Ops.complementAM d).Arc u v ↔ (u ∈ d.vertices ∧ v ∈ d.vertices ∧ u ≠ v ∧ ¬ d.Arc u v)) ∧
      TarjanHolds (Ops.complementAM d).vertices
        (fun u v => u ∈ d.vertices ∧ v ∈ d.vertices ∧ u ≠ v ∧ ¬ d.Arc u v) (Ops.complementAM d).vview) ∧
    (∀ d : AdjMap, d.WF → 0 < d.order →
      (Ops.converseAM d).WF ∧ (∀ x, x ∈ (Ops.converseAM d).vertices ↔ x ∈ d.vertices) ∧
      (∀ u v, (Ops.converseAM d).Arc u v ↔ d.Arc v u) ∧
      TarjanHolds (Ops.converseAM d).vertices (convRel d.Arc) (Ops.converseAM d).vview) ∧
    (∀ (a b : AdjMap) (ap : Nat), a.WF → b.WF → 0 < a.order → 0 < b.order → 0 < ap →
      ∃ r, Ops.unionAM a b ap = some r ∧ r.WF ∧ (∀ x, x ∈ r.vertices ↔ x ∈ a.vertices ∨ x ∈ b.vertices) ∧
        (∀ u v, r.Arc u v ↔ a.Arc u v ∨ b.Arc u v) ∧ TarjanHolds r.vertices (unionRel a.Arc b.Arc) r.vview) ∧
    (∀ (d : AdjMap) (p : Nat → Bool), d.WF →
      (Ops.filterAM d p).WF ∧ (∀ x, x ∈ (Ops.filterAM d p).vertices ↔ x ∈ d.vertices ∧ p x = true) ∧
      (∀ u v, (Ops.filterAM d p).Arc u v ↔ filterRel p d.Arc u v) ∧
      TarjanHolds (Ops.filterAM d p).vertices (filterRel p d.Arc) (Ops.filterAM d p).vview) := by
  refine ⟨fun d h hn => ?_, fun d h hn => ?_, fun a b ap ha hb hna hnb hap => ?_, fun d p h => ?_⟩
  · obtain ⟨_, ⟨⟩, hw, hs⟩ := C11.statementAM.2.1 d ⟨h, hn⟩
    exact ⟨hw.1, AM.tarjan_of_abs hw.1 hs fun u v => and_congr Iff.rfl (and_congr Iff.rfl
      (and_congr Iff.rfl (not_congr (AdjMap.mem_arcs_iff h.1 u v).symm)))⟩
  · obtain ⟨_, ⟨⟩, hw, hs⟩ := C11.statementAM.2.2.1 d ⟨h, hn⟩
    exact ⟨hw.1, AM.tarjan_of_abs hw.1 hs fun u v => (AdjMap.mem_arcs_iff h.1 v u).symm⟩
  · obtain ⟨r, e, hw, hs⟩ := C11.statementAM.2.2.2.1 a b ap hap ⟨ha, hna⟩ ⟨hb, hnb⟩
    exact ⟨r, e, hw.1, AM.tarjan_of_abs hw.1 hs fun u v =>
      or_congr (AdjMap.mem_arcs_iff ha.1 u v).symm (AdjMap.mem_arcs_iff hb.1 u v).symm⟩
  · obtain ⟨_, ⟨⟩, hw, hs⟩ := C11.statementAM.2.2.2.2.1 d p h
    exact ⟨hw, AM.tarjan_of_abs hw hs fun u v => and_congr (AdjMap.mem_arcs_iff h.1 u v).symm Iff.rfl⟩

/-- `AdjacencyListWeighted::converse`: the weights are carried over, so every weighted algorithm
on the result is correct w.r.t. the reversed weighted arc set. -/
theorem adjListW_converse_weighted (d : AdjListW) (h : d.WF) :
    ∃ r, Ops.converseW d = some r ∧ r.WF ∧ r.order = d.order ∧ (∀ u v w, r.WArc u v w ↔ d.WArc v u w) ∧
      WeightedHold (fun u v w => d.WArc v u w) d.order r.wview := by
  obtain ⟨r, e, hw, hs⟩ := C11.statementW.2.1 d h
  have vs := r.wview_spec hw
  have vd := d.wview_spec h
  have ho : r.order = d.order := Repr.eq_of_lt_iff_lt fun v => by
    rw [← Ops.absW_V, ← Ops.absW_V, hs]; rfl
  have hA : ∀ u v w, r.WArc u v w ↔ d.WArc v u w := fun u v w =>
    (vs.arc_iff u v w).symm.trans <| (vs.weight_iff u v w).trans <|
      (show (Ops.absW r).A u v w ↔ (Ops.absW d).A v u w by rw [hs]; rfl).trans <|
      (vd.weight_iff v u w).symm.trans (vd.arc_iff v u w)
  exact ⟨r, e, hw, ho, hA, r.weightedHold hw ho hA⟩

/-- Whatever two views are related by `converse`: reachability is reversed, and Tarjan returns
the SAME blocks on both (strongly connected components are invariant under converse; only the
emission order may differ). -/
theorem converse_reach_and_sccs {g g' : Graph} {vg vg' : Tarjan.VGraph} {n : Nat} {A : Rel}
    (h : ViewIs g vg n A) (h' : ViewIs g' vg' n (convRel A)) :
    (∀ u v, Reach g' u v ↔ Reach g v u) ∧
    (∃ cs cs', Tarjan.components vg = .ret cs ∧ Tarjan.components vg' = .ret cs' ∧ ∀ c, c ∈ cs ↔ c ∈ cs') := by
  refine ⟨fun u v => ?_, tarjan_same_blocks h.toHas.tarjan (tarjanHolds_converse h'.toHas.tarjan)⟩
  rw [reach_eq, reach_eq, rel_ext h'.arc_iff, rel_ext h.arc_iff]
  exact rreach_converse A u v

theorem adjList_converse_reach_sccs (d : AdjList) (h : d.WF) :
    ∃ r, Ops.converseAL d = some r ∧ (∀ u v, Reach r.view u v ↔ Reach d.view v u) ∧
      ∃ cs cs', Tarjan.components d.vview = .ret cs ∧ Tarjan.components r.vview = .ret cs' ∧
        ∀ c, c ∈ cs ↔ c ∈ cs' := by
  obtain ⟨r, e, _, _, hv⟩ := adjList_ops_views.2.1 d h
  exact ⟨r, e, converse_reach_and_sccs (d.viewIs h) hv⟩

/-- BFS on the complement, spelled out: exactly the vertices reachable through NON-arcs. -/
theorem adjList_bfs_on_complement (d : AdjList) (h : d.WF) (ap : Nat) (hap : 0 < ap) (S : List Nat)
    (hS : ∀ s ∈ S, s < d.order) (hnd : S.Nodup) :
    ∃ r, Ops.complementAL d ap = some r ∧ BfsHolds (complRel d.order d.Arc) d.order S r.view := by
  obtain ⟨r, e, _, _, hv⟩ := adjList_ops_views.1 d ap h hap
  exact ⟨r, e, (hv.traversals S hS hnd).bfs⟩

/-- `complement(complement(d))` and `converse(converse(d))` have the views of `d` (whatever the
representation: stated for any views with those relations). -/
theorem double_op_views {g g'' : Graph} {vg vg'' : Tarjan.VGraph} {n : Nat} {A : Rel} (h : ViewIs g vg n A) :
    (ViewIs g'' vg'' n (complRel n (complRel n A)) → g'' = g ∧ vg'' = vg) ∧
    (ViewIs g'' vg'' n (convRel (convRel A)) → g'' = g ∧ vg'' = vg) :=
  ⟨viewIs_compl_compl h, viewIs_conv_conv h⟩

/-! ## 7. `From<rows>` / `From<arcs>` (C16 (c), (d)) -/

/-- `From<Vec<BTreeSet>>` / `From<Vec<BTreeMap>>`: for valid sorted rows the constructor returns a
well-formed value whose view has LITERALLY the given rows. -/
theorem from_rows_views :
    (∀ rows : List (List Nat), Conv.RowsValid rows → (∀ r ∈ rows, SortedS r) →
      Conv.AL.fromRows rows = some ⟨rows⟩ ∧ AdjList.WF ⟨rows⟩ ∧
      (∀ u, (⟨rows⟩ : AdjList).view.out u = rows[u]?.getD []) ∧
      ViewIs (⟨rows⟩ : AdjList).view (⟨rows⟩ : AdjList).vview rows.length (rowsRel rows)) ∧
    (∀ rows : List (List Nat), Conv.RowsValid rows → (∀ r ∈ rows, SortedS r) →
      Conv.AM.fromRows rows = some ⟨Conv.enumRows rows⟩ ∧ AdjMap.WF ⟨Conv.enumRows rows⟩ ∧
      Gen.AM.Contiguous ⟨Conv.enumRows rows⟩ ∧
      (∀ u, (⟨Conv.enumRows rows⟩ : AdjMap).view.out u = rows[u]?.getD []) ∧
      ViewIs (⟨Conv.enumRows rows⟩ : AdjMap).view (⟨Conv.enumRows rows⟩ : AdjMap).vview rows.length (rowsRel rows)) ∧
    (∀ rows : List (List (Nat × Int)), Conv.RowsValidW rows → (∀ r ∈ rows, SortedK r) →
      Conv.WL.fromRows rows = some ⟨rows⟩ ∧ AdjListW.WF ⟨rows⟩ ∧
      (∀ u, (⟨rows⟩ : AdjListW).wview.out u = rows[u]?.getD []) ∧
      WeightedHold (wrowsRel rows) rows.length (⟨rows⟩ : AdjListW).wview ∧
      ViewIs (⟨rows⟩ : AdjListW).view (⟨rows⟩ : AdjListW).vview rows.length (⟨rows⟩ : AdjListW).Arc) := by
  refine ⟨fun rows hv hs => ?_, fun rows hv hs => ?_, fun rows hv hs => ?_⟩
  · have hwf : AdjList.WF ⟨rows⟩ := ((C16.from_rows_al rows).1 hv).2 hs
    have vs := (⟨rows⟩ : AdjList).view_spec hwf
    exact ⟨((C16.from_rows_al rows).1 hv).1, hwf, fun _ => rfl,
      (AdjList.viewIs _ hwf).congr fun u v => (vs.arc_iff u v).symm⟩
  · obtain ⟨e, hw⟩ := (C16.from_rows_am rows).1 hv
    obtain ⟨hwf, hc, _⟩ := hw hs
    have hout : ∀ u, (⟨Conv.enumRows rows⟩ : AdjMap).view.out u = rows[u]?.getD [] := fun u => by
      rw [AdjMap.view_out, Conv.mget_enumRows]
    have vs := (⟨Conv.enumRows rows⟩ : AdjMap).view_spec hwf hc
    have ho : (⟨Conv.enumRows rows⟩ : AdjMap).order = rows.length := Conv.length_enumRows rows
    refine ⟨e, hwf, hc, hout, ho ▸ (AdjMap.viewIs _ hwf hc).congr (Q := rowsRel rows) fun u v => ?_⟩
    refine (vs.arc_iff u v).symm.trans ?_
    show v ∈ (⟨Conv.enumRows rows⟩ : AdjMap).view.out u ↔ _
    rw [hout u]; rfl
  · have hwf : AdjListW.WF ⟨rows⟩ := ((C16.from_rows_wl rows).1 hv).2 hs
    exact ⟨((C16.from_rows_wl rows).1 hv).1, hwf, fun _ => rfl,
      AdjListW.weightedHold _ hwf rfl fun u v w => (AdjListW.wview_arc_iff _ u v w).symm, AdjListW.viewIs _ hwf⟩

/-- `From<IntoIterator<Item = (usize, usize)>>`: order `max id + 1`, arcs = the given pairs. -/
theorem from_arcs_views :
    (∀ arcs : List (Nat × Nat), arcs ≠ [] → (∀ a ∈ arcs, a.1 ≠ a.2) → C16.Fits (Conv.maxId arcs + 1) →
      ∃ d, Conv.MX.fromArcs arcs = some d ∧ d.WF ∧ d.order = Conv.maxId arcs + 1 ∧
        ViewIs d.view d.vview (Conv.maxId arcs + 1) (listRel arcs)) ∧
    (∀ arcs : List (Nat × Nat), (∀ a ∈ arcs, a.1 ≠ a.2) →
      ∃ d, Conv.EL.fromArcs arcs = some d ∧ d.WF ∧ d.order = Conv.maxId arcs + 1 ∧
        ViewIs d.view d.vview (Conv.maxId arcs + 1) (listRel arcs)) := by
  refine ⟨fun arcs hne hnl hf => ?_, fun arcs hnl => ?_⟩
  · obtain ⟨d, e, hok, ho, ha⟩ := (C16.from_arcs arcs).1 hne hnl hf
    exact ⟨d, e, hok.1, ho, ho ▸ (d.viewIs hok.1).congr (Q := listRel arcs) ha⟩
  · obtain ⟨d, e, hok, ho, ha⟩ := (C16.from_arcs arcs).2.1 hnl
    exact ⟨d, e, hok, ho, ho ▸ (d.viewIs hok).congr (Q := listRel arcs) ha⟩

/-! ## 8. Random generators (C15)

C15 proves validity on the observable `View` and not the representation invariant; the traversal
theorems only need the view to be a well-formed `Graph` with arc relation `has_arc`, which follows
from `IsSimpleOn` (`…viewHas_of_simpleOn`).  `RandomOK g vg n has` = for all distinct in-range
sources `TraversalsHold (has · · = true) n S g`, and `TarjanHolds (0..n) (has · · = true) vg`. -/

/-- For EVERY stream (seed, PRNG), every order, every thread count: the generated digraph is valid
(C15) and all traversal theorems and Tarjan apply to its view, w.r.t. its `has_arc` relation —
which is a tournament / recursive tree / simple digraph by the first conjunct. -/
theorem random_generators_algorithms :
    (∀ (s : Rand.Stream) (n : Nat), 1 ≤ n →
      (∃ g, Rand.tournamentAL s n = some g ∧ Rand.IsTournament n (Rand.viewAL g) ∧ RandomOK g.view g.vview n g.hasArc) ∧
      (Rand.FitsMatrix n → ∃ g, Rand.tournamentMX s n = some g ∧ Rand.IsTournament n (Rand.viewMX g) ∧
        RandomOK g.view g.vview n g.hasArc) ∧
      (∃ g, Rand.tournamentEL s n = some g ∧ Rand.IsTournament n (Rand.viewEL g) ∧ RandomOK g.view g.vview n g.hasArc)) ∧
    (∀ (streams : Nat → Rand.Stream) (n t : Nat), 1 ≤ n → 1 ≤ t →
      ∃ g, Rand.tournamentAM streams n t = some g ∧ Rand.IsTournament n (Rand.viewAM g) ∧
        RandomOK g.view g.vview n g.hasArc) ∧
    (∀ (s : Rand.Stream) (n : Nat), 1 ≤ n →
      (∃ g, Rand.rrtAL s n = some g ∧ Rand.IsRecursiveTree n (Rand.viewAL g) ∧ RandomOK g.view g.vview n g.hasArc) ∧
      (∃ g, Rand.rrtAM s n = some g ∧ Rand.IsRecursiveTree n (Rand.viewAM g) ∧ RandomOK g.view g.vview n g.hasArc) ∧
      (Rand.FitsMatrix n → ∃ g, Rand.rrtMX s n = some g ∧ Rand.IsRecursiveTree n (Rand.viewMX g) ∧
        RandomOK g.view g.vview n g.hasArc) ∧
      (∃ g, Rand.rrtEL s n = some g ∧ Rand.IsRecursiveTree n (Rand.viewEL g) ∧ RandomOK g.view g.vview n g.hasArc)) ∧
    (∀ (s : Rand.Stream) (n : Nat) (p : Rand.F64), 1 ≤ n → p.inUnit = true →
      (∃ g, Rand.erAL s n p = some g ∧ Rand.ErValid n p (Rand.viewAL g) ∧ RandomOK g.view g.vview n g.hasArc) ∧
      (Rand.FitsMatrix n → ∃ g, Rand.erMX s n p = some g ∧ Rand.ErValid n p (Rand.viewMX g) ∧
        RandomOK g.view g.vview n g.hasArc) ∧
      (∃ g, Rand.erEL s n p = some g ∧ Rand.ErValid n p (Rand.viewEL g) ∧ RandomOK g.view g.vview n g.hasArc)) ∧
    (∀ (streams : Nat → Rand.Stream) (n t : Nat) (p : Rand.F64), 1 ≤ n → 1 ≤ t → p.inUnit = true →
      ∃ g, Rand.erAM streams n t p = some g ∧ Rand.ErValid n p (Rand.viewAM g) ∧
        RandomOK g.view g.vview n g.hasArc) :=
  ⟨fun s n hn => ⟨randomOK_of (AL.viewHas_of_simpleOn · _) (C15.tournament_valid_al s n hn) fun _ v => v.1,
      fun hf => randomOK_of (MX.viewHas_of_simpleOn · _) (C15.tournament_valid_mx s n hn hf) fun _ v => v.1,
      randomOK_of (EL.viewHas_of_simpleOn · _) (C15.tournament_valid_el s n hn) fun _ v => v.1⟩,
    fun st n t hn ht => randomOK_of (AM.viewHas_of_simpleOn · _) (C15.tournament_valid_am st n t hn ht) fun _ v => v.1,
    fun s n hn => ⟨randomOK_of (AL.viewHas_of_simpleOn · _) (C15.rrt_valid_al s n hn) fun _ v => v.1,
      randomOK_of (AM.viewHas_of_simpleOn · _) (C15.rrt_valid_am s n hn) fun _ v => v.1,
      fun hf => randomOK_of (MX.viewHas_of_simpleOn · _) (C15.rrt_valid_mx s n hn hf) fun _ v => v.1,
      randomOK_of (EL.viewHas_of_simpleOn · _) (C15.rrt_valid_el s n hn) fun _ v => v.1⟩,
    fun s n p hn hp => ⟨randomOK_of (AL.viewHas_of_simpleOn · _) (C15.er_valid_al s n p hn hp) fun _ v => v.1,
      fun hf => randomOK_of (MX.viewHas_of_simpleOn · _) (C15.er_valid_mx s n p hn hf hp) fun _ v => v.1,
      randomOK_of (EL.viewHas_of_simpleOn · _) (C15.er_valid_el s n p hn hp) fun _ v => v.1⟩,
    fun st n t p hn ht hp => randomOK_of (AM.viewHas_of_simpleOn · _) (C15.er_valid_am st n t p hn ht hp) fun _ v => v.1⟩

/-- A consequence read off for tournaments: in a tournament every two distinct vertices are
joined, so BFS from any vertex `s` on `random_tournament` reaches every vertex that has an arc
from `s` at hop distance 1 — and the relation the theorem speaks about is the tournament's. -/
theorem random_tournament_bfs (s : Rand.Stream) (n : Nat) (hn : 1 ≤ n) (src : Nat) (hsrc : src < n) :
    ∃ g, Rand.tournamentAL s n = some g ∧
      (∀ u v, u < n → v < n → u ≠ v → (g.hasArc u v = true ↔ g.hasArc v u = false)) ∧
      BfsHolds (hasRel g.hasArc) n [src] g.view := by
  obtain ⟨g, e, v, ok⟩ := (random_generators_algorithms.1 s n hn).1
  exact ⟨g, e, v.2, (ok.1 [src] (fun x hx => List.mem_singleton.1 hx ▸ hsrc) (List.pairwise_singleton _ _)).bfs⟩

/-! ## 9. Sparse `[am verts arcs]` descriptions -/

/-- The `VGraph` the C09 handler runs the Tarjan model on (`H09.vgraphOf d`: vertices = described
vertices + arc endpoints, rows for ids `0..max id`) is the vertex-id view of the map built like
the harness builds the real one — for ANY ascending vertex list and loop-free arcs (ids need not be
contiguous). -/
theorem driver_vgraph_is_vview_sparse_am (d : Driver.GDesc) (hrepr : (d.repr == "am") = true)
    (hverts : d.verts.Pairwise (· < ·)) (hnl : ∀ a ∈ d.arcs, a.1 ≠ a.2) :
    ∃ r, Driver.buildAM d = some r ∧ r.WF ∧ r.vertices = Driver.H09.vertsOf d ∧
      (∀ u v, (u, v) ∈ r.arcs ↔ (u, v) ∈ d.arcs) ∧ r.vview = Driver.H09.vgraphOf d :=
  driver_vgraph_is_vview_am d hrepr hverts hnl

/-- `H09.vgraphSparse` (rows keyed by id in an array sorted by id, found by binary search; used
when an id is ≥ 4096) builds the SAME `VGraph` as `H09.vgraphOf` (rows indexed by id) — same
vertex list and, for EVERY id `u` (vertex or not), the same row.  (Binary search is proved to
find exactly the position of the key: `rankOf_spec`.) -/
theorem driver_vgraphSparse_eq_vgraphOf (d : Driver.GDesc) (hrepr : (d.repr == "am") = true)
    (hnl : ∀ a ∈ d.arcs, a.1 ≠ a.2) : Driver.H09.vgraphSparse d = Driver.H09.vgraphOf d :=
  vgraph_eq_of_asc rfl (fun u => (vgraphSparse_row d hrepr u).1) (fun u => (vgraphOf_row d hrepr hnl u).1)
    fun u v => ((vgraphSparse_row d hrepr u).2 v).trans ((vgraphOf_row d hrepr hnl u).2 v).symm

/-- Hence `H09.graphOfDesc d`, whichever construction it picks, is the vertex-id view of the map
the harness builds. -/
theorem driver_graphOfDesc_is_vview (d : Driver.GDesc) (hrepr : (d.repr == "am") = true)
    (hverts : d.verts.Pairwise (· < ·)) (hnl : ∀ a ∈ d.arcs, a.1 ≠ a.2) :
    ∃ r, Driver.buildAM d = some r ∧ r.WF ∧ r.vview = Driver.H09.graphOfDesc d := by
  obtain ⟨r, e, hw, _, _, hv⟩ := driver_vgraph_is_vview_am d hrepr hverts hnl
  refine ⟨r, e, hw, ?_⟩
  unfold Driver.H09.graphOfDesc
  split
  · rw [driver_vgraphSparse_eq_vgraphOf d hrepr hnl]; exact hv
  · exact hv

/-! ## 10. The preorder clause of C06 over the bare arc relation

`RIsDfsPreorder A S xs anns` (`Proof/ComposeDfs.lean`) is "`xs` is a depth-first preorder (prefix)
of the digraph `A` from the sources `S`, annotated with the prescribed parents and depths",
defined inductively over the RELATION `A` (no rows, no Booleans).  It is the reading of
`Spec/Dfs.lean`: -/

theorem dfs_preorder_relational (g : Graph) (S xs : List Nat) :
    (∀ anns, Dfs.annotate g S xs = some anns ↔ RIsDfsPreorder g.A S xs anns) ∧
    (Dfs.ValidDfsPreorder g S xs ↔ ∃ anns, RIsDfsPreorder g.A S xs anns) :=
  ⟨annotate_iff g S xs, validDfsPreorder_iff g S xs⟩

/-- C06 for every `AdjacencyList`, with NOTHING on the specification side but `(u, v) ∈ arcs()`:
today's `Dfs` yields a depth-first preorder prefix with the prescribed depths / parents / forest;
the corrected variant yields exactly the reachable vertices in a depth-first preorder.  (The same
two fields `dfsTodayR`, `dfsFixedR` are part of every `TraversalsHold` above — all
representations, after any history, generators, conversions, operations.) -/
theorem adjList_dfs_relational (d : AdjList) (h : d.WF) (S : List Nat) (hS : ∀ s ∈ S, s < d.order)
    (hnd : S.Nodup) : DfsPreorderTodayR d.Arc d.order S d.view ∧ DfsFixedHoldsR d.Arc d.order S d.view :=
  ⟨(adjList_traversals d h S hS hnd).dfsTodayR, (adjList_traversals d h S hS hnd).dfsFixedR⟩

/-! ## 11. Repeated calls on the same algorithm object -/

/-- `tarjan_every_call` on every representation: each call of `components()` on one `Tarjan`
object returns what the first call returns, the SCC partition w.r.t. `arcs()`. -/
theorem tarjan_every_call_views :
    (∀ d : AdjList, d.WF → TarjanEveryCallHolds d.vertices d.Arc d.vview) ∧
    (∀ d : AdjMap, d.WF → TarjanEveryCallHolds d.vertices d.Arc d.vview) ∧
    (∀ d : AdjMatrix, d.WF → TarjanEveryCallHolds d.vertices d.Arc d.vview) ∧
    (∀ d : EdgeList, d.WF → TarjanEveryCallHolds d.vertices d.Arc d.vview) ∧
    (∀ d : AdjListW, d.WF → TarjanEveryCallHolds d.vertices d.Arc d.vview) :=
  ⟨fun d h => ((d.vview_spec h).tarjan fun _ _ => Iff.rfl).2, fun d h => ((d.vview_spec h).tarjan fun _ _ => Iff.rfl).2,
   fun d h => ((d.vview_spec h).tarjan fun _ _ => Iff.rfl).2, fun d h => ((d.vview_spec h).tarjan fun _ _ => Iff.rfl).2,
   fun d h => ((d.vview_spec h).tarjan fun _ _ => Iff.rfl).2⟩

/-- `johnson_repeat_statement` on the contiguous map. -/
theorem adjMap_johnson_repeat (d : AdjMap) (h : d.WF) (hc : Gen.AM.Contiguous d) : JohnsonRepeatHolds d.Arc d.view :=
  (d.viewIs h hc).johnson.2

theorem tarjan_every_call_after_any_history {σ ο ω : Type} (M : ReprModel σ ο ω) (r : σ) (hr : M.WF r)
    (ops : List ο) :
    TarjanEveryCallHolds (M.vview (M.after r ops)).verts (M.specAfter r ops).Arc (M.vview (M.after r ops)) :=
  (M.tarjan_after_any_history r hr ops).2.2.2

theorem johnson_repeat_after_any_history {σ ο ω : Type} (M : ReprModel σ ο ω) (r : σ) (hr : M.WF r)
    (ops : List ο) (hok : M.viewOK (M.after r ops)) :
    JohnsonRepeatHolds (M.specAfter r ops).Arc (M.view (M.after r ops)) :=
  (M.johnson_after_any_history r hr ops hok).2

/-- `bfm_repeat_const` and `fw_twice` on the weighted list after any history (they are the fields
`bfmRepeat`, `fwTwice` of `WeightedHold`, hence also part of `adjListW_weighted`,
`adjListW_converse_weighted`, `from_rows_views`). -/
theorem weighted_repeat_after_any_history (d : AdjListW) (h : d.WF) (ops : List (Op Int)) :
    (∀ s, s < d.order → BfmRepeatHolds s (run AdjListW.step d ops).1.wview) ∧
    ((∀ x, ¬ RNegCycleAt (run (specStep .fixed) d.abs ops).1.WArc x) →
      Fw.distances2 (run AdjListW.step d ops).1.wview = Fw.distances (run AdjListW.step d ops).1.wview) :=
  ⟨(adjListW_weighted_after_any_history d h ops).bfmRepeat, (adjListW_weighted_after_any_history d h ops).fwTwice⟩

/-! ## Non-vacuity

A 6-call history on an `AdjacencyMatrix` of order 9 (`order² = 81` bits: two 64-bit blocks;
cells 8, 71, 79 live in different blocks), including a rejected call, a `toggle` that switches an
arc off and a `remove_arc`; then the BFS model on the view of the result.  The hypotheses of
`adjMatrix_bfs_from_empty` are met, the model output is the concrete list below, and the SPEC
digraph (computed without any matrix) has exactly the arcs the theorem speaks about. -/

def exOps : List MxOp := [.add 0 8, .add 8 7, .tog 0 1, .add 9 0, .tog 0 1, .add 7 8]

/-- the calls return what the spec says (one panic) -/
example :
    (do let d ← AdjMatrix.empty 9
        pure (run AdjMatrix.step d exOps).2) =
      some [.unit, .unit, .unit, .panic, .unit, .unit] := by decide +kernel

/-- two blocks -/
example : (AdjMatrix.empty 9).map (fun d => (run AdjMatrix.step d exOps).1.blocks.length) = some 2 := by decide +kernel

/-- the view of the final matrix, row by row -/
example :
    (AdjMatrix.empty 9).map (fun d => (List.range 9).map (run AdjMatrix.step d exOps).1.view.out) =
      some [[8], [], [], [], [], [], [], [8], [7]] := by decide +kernel

/-- the BFS model on it -/
example :
    (AdjMatrix.empty 9).map (fun d => Bfs.bfsDist (run AdjMatrix.step d exOps).1.view [0]) =
      some (.ok [(0, 0), (8, 1), (7, 2)]) := by decide +kernel

example :
    (AdjMatrix.empty 9).map (fun d => Bfs.distances (run AdjMatrix.step d exOps).1.view [0, 7] 99) =
      some (.ok [0, 99, 99, 99, 99, 99, 99, 0, 1]) := by decide +kernel

/-- the SPEC digraph after the same calls: exactly the arcs `0→8, 7→8, 8→7` -/
example :
    (List.range 10).flatMap (fun u => ((List.range 10).filter
      (fun v => (run specStepMx (emptySpec Unit 9) exOps).1.A u v)).map (fun v => (u, v))) =
      [(0, 8), (7, 8), (8, 7)] := by decide +kernel

/-- … and the theorem applies (hypotheses met): -/
example : ∃ d, AdjMatrix.empty 9 = some d ∧
    BfsHolds (run specStepMx (emptySpec Unit 9) exOps).1.Arc 9 [0] (run AdjMatrix.step d exOps).1.view :=
  ⟨_, rfl, adjMatrix_bfs_from_empty 9 _ rfl exOps [0] (by decide) (by decide)⟩

/-- what it says about this instance, read off: vertex 7 is reachable at hop distance 2 in the
SPEC digraph — independently checkable from the arc list above. -/
example : RIsHopDist (run specStepMx (emptySpec Unit 9) exOps).1.Arc [0] 7 2 := by
  obtain ⟨_, ⟨out, ho, _, hex⟩, _⟩ := adjMatrix_bfs_from_empty 9 _ rfl exOps [0] (by decide) (by decide)
  have e : Bfs.bfsDist (run AdjMatrix.step ⟨List.replicate ((9 * 9 + 63) / 64) 0#64, 9⟩ exOps).1.view [0]
      = .ok [(0, 0), (8, 1), (7, 2)] := by decide +kernel
  cases e.symm.trans ho
  exact hex (7, 2) (by simp)

/-- A weighted history with a weight replacement and a negative arc; Dijkstra's hypothesis fails
(negative weight), Bellman-Ford-Moore applies. -/
def exWOps : List (Op Int) := [.add 0 1 4, .add 1 2 (-3), .add 0 1 2, .add 0 2 5, .rem 0 2, .add 3 3 1]

example :
    (AdjListW.empty 4).map (fun d => (run AdjListW.step d exWOps).1.arcsWeighted) =
      some [(0, 1, 2), (1, 2, -3)] := by decide +kernel
example :
    (AdjListW.empty 4).map (fun d => Bfm.distances (run AdjListW.step d exWOps).1.wview 0) =
      some (.ret (some [some 0, some 2, some (-1), none])) := by decide +kernel
example : ∃ d, AdjListW.empty 4 = some d ∧
    BfmHolds (run (specStep .fixed) d.abs exWOps).1.WArc d.order 0 (run AdjListW.step d exWOps).1.wview :=
  ⟨_, rfl, bfm_after_any_history _ (C01.adjListW_empty (n := 4) rfl).1 exWOps 0 (by decide)⟩

/-- A map that grows beyond its initial keys and stays an initial segment: `empty(2)`, then
`add_arc(1, 2)`, `add_arc(2, 0)`; Tarjan on a sparse map (`add_arc(0, 7)`). -/
example :
    (AdjMap.empty 2).map (fun d =>
      Bfs.bfsDist (run AdjMap.step d [.add 0 1 (), .add 1 2 (), .add 2 0 (), .add 2 2 ()]).1.view [1]) =
      some (.ok [(1, 0), (2, 1), (0, 2)]) := by decide +kernel
example :
    (AdjMap.empty 2).map (fun d =>
      Tarjan.components (run AdjMap.step d [.add 0 7 (), .add 7 0 (), .add 1 0 ()]).1.vview) =
      some (.ret [[0, 7], [1]]) := by decide +kernel

/-- the circuit family at a concrete order, computed -/
example : (Gen.MX.circuit 5).map (fun d => Bfs.bfsDist d.view [0]) =
    some (.ok [(0, 0), (1, 1), (2, 2), (3, 3), (4, 4)]) := by decide +kernel

/-- the driver's graph of a concrete description is the view of the model built from it -/
example :
    (Driver.buildMX ⟨"mx", List.range 4, 4, [(2, 1), (0, 3), (2, 0), (0, 3)], []⟩).map
        (fun r => (List.range 4).map r.view.out) =
      some ((List.range 4).map (Driver.GDesc.graph ⟨"mx", List.range 4, 4, [(2, 1), (0, 3), (2, 0), (0, 3)], []⟩).out) := by
  decide +kernel

/-- operations: `converse` of the path `0→1→2` plus `2→0`… reverses reachability, same SCC blocks -/
example : (Ops.converseAL ⟨[[1], [2], [0, 3], []]⟩).map (fun r => (List.range 4).map r.view.out) =
    some [[2], [0], [1], [2]] := by decide +kernel
example : Tarjan.components (⟨[[1], [2], [0, 3], []]⟩ : AdjList).vview = .ret [[3], [0, 1, 2]] := by decide +kernel
example : (Ops.converseAL ⟨[[1], [2], [0, 3], []]⟩).map (fun r => Tarjan.components r.vview) =
    some (.ret [[0, 1, 2], [3]]) := by decide +kernel
/-- BFS on the complement of the circuit `0→1→2→3→0` -/
example : (Ops.complementAL ⟨[[1], [2], [3], [0]]⟩ 3).map (fun r => Bfs.bfsDist r.view [0]) =
    some (.ok [(0, 0), (2, 1), (3, 1), (1, 2)]) := by decide +kernel
/-- `From<rows>`: the view has the given rows -/
example : (Conv.AM.fromRows [[2], [0, 2], []]).map (fun r => (List.range 3).map r.view.out) =
    some [[2], [0, 2], []] := by decide +kernel
/-- a random tournament on 4 vertices from the constant stream `1` (every `next_bool` true), BFS
and Tarjan on its view -/
example : (Rand.tournamentAL (fun _ => 1) 4).map (fun g => Bfs.bfsDist g.view [2]) =
    some (.ok [(2, 0), (3, 1)]) := by decide +kernel
example : (Rand.tournamentAL (fun i => UInt64.ofNat i) 4).map (fun g => Tarjan.components g.vview) =
    some (.ret [[0, 1, 2, 3]]) := by decide +kernel
/-- the relational preorder predicate on the C06 witness `0→1, 0→2, 0→3, 3→2` -/
example : RIsDfsPreorder C06.witness.A [0] [0, 3, 2, 1] [(0, none, 0), (3, some 0, 1), (2, some 3, 2), (1, some 0, 1)] :=
  (annotate_iff C06.witness [0] _ _).1 (by decide)
example : ¬ ∃ anns, RIsDfsPreorder C06.witness.A [0] [0, 3, 1] anns :=
  fun h => absurd ((validDfsPreorder_iff C06.witness [0] _).2 h) (by decide)
/-- the third call of `components()` on the same object, on a view after a history -/
example : (AdjList.empty 3).map (fun d =>
    Tarjan.componentsAt (run AdjList.step d [.add 0 1 (), .add 1 0 (), .add 1 2 ()]).1.vview 3) =
    some (.ret [[2], [0, 1]]) := by decide +kernel

/-- a sparse map description with a huge id: both driver constructions, and the model's view -/
example : (Driver.H09.vgraphSparse ⟨"am", [3, 5000], 2, [(3, 5000), (5000, 3), (3, 7)], []⟩).out 3 = [7, 5000] := by
  decide +kernel
example : (Driver.buildAM ⟨"am", [3, 5000], 2, [(3, 5000), (5000, 3), (3, 7)], []⟩).map
    (fun r => (r.vview.verts, r.vview.out 3, r.vview.out 5000)) = some ([3, 7, 5000], [7, 5000], [3]) := by decide +kernel

end GraafVerif.Compose
