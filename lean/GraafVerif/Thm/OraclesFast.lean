import GraafVerif.Thm.Oracles
import GraafVerif.Proof.OracleFastArcs
import GraafVerif.Proof.OracleFastHop
import GraafVerif.Proof.OracleFastDrivers
import GraafVerif.Proof.OracleFastJudgeTop
/-!
# OraclesFast — the drivers' FAST oracles return what the proved naive oracles return

For the stress inputs (orders 130–1100, weights up to 2^62) the drivers judge the implementation's
output with `Array`-based early-exit oracles instead of the naive list oracles of
`Spec/Graph.lean`.  `Spec/OracleFast.lean` holds canonical versions (`wdistFast`,
`wdistFastFlag`, `wdistFastPair`, `wdistArcsFast`, `hopDistFastA`, `reachFast`); here each is proved

1. EQUAL to the naive oracle proved exact in `Thm/Oracles.lean`, for every well-formed digraph
   (`g.WF`) and in-range sources — so every theorem about `wdistB` / `hopDistB` / `reachSetB`
   transfers — and, as corollaries, exact against `IsMinDist` / `IsHopDist` / `ReachFrom`;
2. the SAME FUNCTION as the definition the driver runs (`H03.fastDist`, `H04.hopDistFast`,
   `H08.bfA`), so the theorems are about what the drivers run.

The statements with their proofs by reference and non-vacuity examples; the proofs are in
`Proof/OracleFast*.lean`.
-/
namespace GraafVerif.OraclesFast
open GraafVerif GraafVerif.Driver

/-! ## Full statements -/

/-- The fast weighted oracle: same flag as `wdistB`; flag down ⇒ same labels. -/
def WDistFastStatement : Prop :=
  ∀ (g : WGraph) (S : List Nat), g.WF → (∀ s ∈ S, s < g.n) →
    wdistFastFlag g S = (wdistB g S).2 ∧
    ((wdistB g S).2 = false → wdistFast g S = (wdistB g S).1 ∧ wdistFastPair g S = wdistB g S)

/-- The arc-list oracle: same flag as `wdistB g [s]`; flag down ⇒ same pair. -/
def WDistArcsStatement : Prop :=
  ∀ (g : WGraph) (arcs : List (Nat × Nat × Int)) (s : Nat), g.WF → (∀ u v w, (u, v, w) ∈ arcs ↔ g.A u v w) →
    s < g.n →
    (wdistArcsFast g arcs s).2 = (wdistB g [s]).2 ∧
    ((wdistB g [s]).2 = false → wdistArcsFast g arcs s = wdistB g [s])

def HopFastStatement : Prop :=
  ∀ (g : Graph) (S : List Nat), g.WF → (∀ s ∈ S, s < g.n) → hopDistFastA g S = hopDistB g S

def ReachFastStatement : Prop :=
  ∀ (g : Graph) (S : List Nat), g.WF → (∀ s ∈ S, s < g.n) → reachFast g S = reachSetB g S

/-! ## 1. `wdistFast` (`H03.fastDist`) -/

theorem wdistFastFlag_eq {g : WGraph} (hwf : g.WF) (S : List Nat) : wdistFastFlag g S = (wdistB g S).2 :=
  OracleFastProof.wdistFastFlag_eq hwf S

theorem wdistFast_eq {g : WGraph} (hwf : g.WF) (S : List Nat) (hf : (wdistB g S).2 = false) :
    wdistFast g S = (wdistB g S).1 :=
  OracleFastProof.wdistFast_eq hwf S hf

theorem wdistFastPair_fst (g : WGraph) (S : List Nat) : (wdistFastPair g S).1 = wdistFast g S :=
  OracleFastProof.wdistFastPair_fst g S

theorem wdistFastPair_eq {g : WGraph} (hwf : g.WF) (S : List Nat) (hf : (wdistB g S).2 = false) :
    wdistFastPair g S = wdistB g S :=
  Prod.ext ((wdistFastPair_fst g S).trans (wdistFast_eq hwf S hf)) (wdistFastFlag_eq hwf S)

theorem wdistFast_statement_holds : WDistFastStatement :=
  fun _ S hwf _ => ⟨wdistFastFlag_eq hwf S, fun hf => ⟨wdistFast_eq hwf S hf, wdistFastPair_eq hwf S hf⟩⟩

theorem wdistFastFlag_iff {g : WGraph} (hwf : g.WF) {S : List Nat} (hS : ∀ s ∈ S, s < g.n) :
    wdistFastFlag g S = true ↔ ∃ x, WReachFrom g S x ∧ NegCycleAt g x := by
  rw [wdistFastFlag_eq hwf S]; exact Oracles.wdistB_flag hwf hS

theorem wdistFast_spec {g : WGraph} (hwf : g.WF) {S : List Nat} (hS : ∀ s ∈ S, s < g.n)
    (hf : wdistFastFlag g S = false) :
    (wdistFast g S).length = g.n ∧
    (∀ v d, (wdistFast g S)[v]?.getD none = some d ↔ IsMinDist g S v d) ∧
    (∀ v, (wdistFast g S)[v]?.getD none = none ↔ ¬ WReachFrom g S v) := by
  rw [wdistFastFlag_eq hwf S] at hf
  rw [wdistFast_eq hwf S hf]
  exact Oracles.wdistB_spec hwf hS hf

/-- Non-negative weights (Dijkstra's precondition, the only use in H03): equal and exact
unconditionally. -/
theorem wdistFast_nonneg {g : WGraph} (hwf : g.WF) (hnn : g.NonNeg) {S : List Nat} (hS : ∀ s ∈ S, s < g.n) :
    wdistFast g S = (wdistB g S).1 ∧
    (wdistFast g S).length = g.n ∧
    (∀ v d, (wdistFast g S)[v]?.getD none = some d ↔ IsMinDist g S v d) ∧
    (∀ v, (wdistFast g S)[v]?.getD none = none ↔ ¬ WReachFrom g S v) := by
  have hf := OracleProof.wdistB_nonneg_flag hwf hnn hS
  exact ⟨wdistFast_eq hwf S hf, wdistFast_spec hwf hS ((wdistFastFlag_eq hwf S).trans hf)⟩

theorem h03_fastDist_eq : H03.fastDist = wdistFast := OracleFastProof.h03_fastDist_eq

/-- **H03 as it runs**: the distances `H03.oracleDist` hands to every Dijkstra check (`wdistB` up to
order 60, `fastDist` above) are `wdistB`'s for every order, hence exact (`Oracles.wdistB_nonneg`). -/
theorem h03_oracleDist_eq {g : WGraph} (hwf : g.WF) (hnn : g.NonNeg) {S : List Nat} (hS : ∀ s ∈ S, s < g.n) :
    H03.oracleDist g S = (wdistB g S).1 :=
  ite_eq_left_iff.mpr fun _ => h03_fastDist_eq ▸ (wdistFast_nonneg hwf hnn hS).1

/-! ## 2. `wdistArcsFast` (`H08.bfA`) -/

theorem wdistArcsFast_flag {g : WGraph} (hwf : g.WF) {arcs : List (Nat × Nat × Int)}
    (harcs : ∀ u v w, (u, v, w) ∈ arcs ↔ g.A u v w) {s : Nat} (hs : s < g.n) :
    (wdistArcsFast g arcs s).2 = (wdistB g [s]).2 :=
  OracleFastProof.wdistArcsFast_flag hwf harcs hs

theorem wdistArcsFast_eq {g : WGraph} (hwf : g.WF) {arcs : List (Nat × Nat × Int)}
    (harcs : ∀ u v w, (u, v, w) ∈ arcs ↔ g.A u v w) {s : Nat} (hs : s < g.n)
    (hf : (wdistB g [s]).2 = false) : wdistArcsFast g arcs s = wdistB g [s] :=
  OracleFastProof.wdistArcsFast_eq hwf harcs hs hf

theorem wdistArcs_statement_holds : WDistArcsStatement :=
  fun _ _ _ hwf harcs hs => ⟨wdistArcsFast_flag hwf harcs hs, wdistArcsFast_eq hwf harcs hs⟩

/-- The flat arc list of a well-formed digraph (`wgraphArcs g`, the same list as
`Fw.arcsWeighted g`) lists exactly its arcs. -/
theorem wgraphArcs_mem {g : WGraph} (hwf : g.WF) (u v : Nat) (w : Int) :
    (u, v, w) ∈ wgraphArcs g ↔ g.A u v w :=
  OracleFastProof.wgraphArcs_mem hwf u v w

theorem h08_bfA_eq : H08.bfA = wdistArcsFast := OracleFastProof.h08_bfA_eq

/-- **H08 as it runs**: the single-source oracle `H08.ssOracle` (`wdistB` up to order 40, `bfA` on
`Fw.arcsWeighted g` above) has the flag of `wdistB g [s]` for every order … -/
theorem h08_ssOracle_flag {g : WGraph} (hwf : g.WF) {s : Nat} (hs : s < g.n) :
    (H08.ssOracle g s).2 = (wdistB g [s]).2 := by
  unfold H08.ssOracle
  split
  · rfl
  · show (H08.bfA g (Fw.arcsWeighted g) s).2 = _
    rw [h08_bfA_eq, OracleFastProof.fw_arcsWeighted_eq]
    exact wdistArcsFast_flag hwf (wgraphArcs_mem hwf) hs

/-- … and, flag down, returns the pair `wdistB g [s]` returns (exact by `Oracles.wdistB_spec`). -/
theorem h08_ssOracle_eq {g : WGraph} (hwf : g.WF) {s : Nat} (hs : s < g.n) (hf : (wdistB g [s]).2 = false) :
    H08.ssOracle g s = wdistB g [s] := by
  unfold H08.ssOracle
  split
  · rfl
  · show H08.bfA g (Fw.arcsWeighted g) s = _
    rw [h08_bfA_eq, OracleFastProof.fw_arcsWeighted_eq]
    exact wdistArcsFast_eq hwf (wgraphArcs_mem hwf) hs hf

/-- H08's skip test on the results it computed (`res.any (·.2)`) is `Oracles.anyFlag_iff`'s test:
`true` ⇔ the digraph has a negative circuit. -/
theorem h08_skip_iff {g : WGraph} (hwf : g.WF) :
    ((List.range g.n).map (H08.ssOracle g)).any (·.2) = true ↔ ∃ x, NegCycleAt g x := by
  rw [← Oracles.anyFlag_iff hwf, List.any_map, List.any_eq_true, List.any_eq_true]
  constructor
  · rintro ⟨s, hs, h⟩
    exact ⟨s, hs, by rw [← h08_ssOracle_flag hwf (List.mem_range.mp hs)]; exact h⟩
  · rintro ⟨s, hs, h⟩
    exact ⟨s, hs, by rw [Function.comp_apply, h08_ssOracle_flag hwf (List.mem_range.mp hs)]; exact h⟩

/-- When H08 does not skip, the rows it compares with are `wdistB`'s rows. -/
theorem h08_wants_eq {g : WGraph} (hwf : g.WF)
    (hno : ((List.range g.n).map (H08.ssOracle g)).any (·.2) = false) :
    (List.range g.n).map (H08.ssOracle g) = (List.range g.n).map (fun s => wdistB g [s]) := by
  apply List.map_congr_left
  intro s hs
  have hlt := List.mem_range.mp hs
  apply h08_ssOracle_eq hwf hlt
  rw [← h08_ssOracle_flag hwf hlt]
  cases h : (H08.ssOracle g s).2 with
  | false => rfl
  | true =>
    have : ((List.range g.n).map (H08.ssOracle g)).any (·.2) = true :=
      List.any_eq_true.mpr ⟨_, List.mem_map.mpr ⟨s, hs, rfl⟩, h⟩
    rw [this] at hno; cases hno

/-! ## 3. `hopDistFastA` (`H04.hopDistFast`) -/

theorem hopDistFastA_eq {g : Graph} (hwf : g.WF) {S : List Nat} (hS : ∀ s ∈ S, s < g.n) :
    hopDistFastA g S = hopDistB g S :=
  OracleFastProof.hopDistFastA_eq hwf hS

theorem hopFast_statement_holds : HopFastStatement := fun _ _ hwf hS => hopDistFastA_eq hwf hS

/-- Exactness, proved directly from the frontier invariant (not through `hopDistB`). -/
theorem hopDistFastA_spec {g : Graph} (hwf : g.WF) {S : List Nat} (hS : ∀ s ∈ S, s < g.n) (v d : Nat) :
    (hopDistFastA g S)[v]?.getD none = some d ↔ IsHopDist g S v d :=
  ⟨(OracleFastProof.hopDistFastA_done hwf hS).sound v d, (OracleFastProof.hopDistFastA_done hwf hS).compl v d⟩

theorem hopDistFastA_none {g : Graph} (hwf : g.WF) {S : List Nat} (hS : ∀ s ∈ S, s < g.n) (v : Nat) :
    (hopDistFastA g S)[v]?.getD none = none ↔ ¬ ReachFrom g S v := by
  rw [hopDistFastA_eq hwf hS]; exact Oracles.hopDistB_none hwf hS v

theorem hopDistFastA_length {g : Graph} (hwf : g.WF) {S : List Nat} (hS : ∀ s ∈ S, s < g.n) :
    (hopDistFastA g S).length = g.n :=
  (OracleFastProof.hopDistFastA_done hwf hS).len

theorem h04_hopDistFast_eq : H04.hopDistFast = hopDistFastA := OracleFastProof.h04_hopDistFast_eq

/-- **H04 / H05 as they run**: the hop distances `mkCtx` computes (`hopDistB` up to order 130,
`hopDistFast` above) are `hopDistB`'s for every order. -/
theorem h04_hd_eq {g : Graph} (hwf : g.WF) {S : List Nat} (hS : ∀ s ∈ S, s < g.n) (order : Nat) :
    (if order ≤ 130 then hopDistB g S else H04.hopDistFast g S) = hopDistB g S :=
  ite_eq_left_iff.mpr fun _ => h04_hopDistFast_eq ▸ hopDistFastA_eq hwf hS

/-! ## 4. `reachFast` -/

theorem reachFast_eq {g : Graph} (hwf : g.WF) {S : List Nat} (hS : ∀ s ∈ S, s < g.n) :
    reachFast g S = reachSetB g S :=
  OracleFastProof.reachFast_eq hwf hS

theorem reachFast_statement_holds : ReachFastStatement := fun _ _ hwf hS => reachFast_eq hwf hS

theorem reachFast_spec {g : Graph} (hwf : g.WF) {S : List Nat} (hS : ∀ s ∈ S, s < g.n) (v : Nat) :
    (reachFast g S)[v]?.getD false = true ↔ ReachFrom g S v := by
  rw [reachFast_eq hwf hS]; exact Oracles.reachSetB_spec hwf hS v

theorem reachFast_eq_hop (g : Graph) (S : List Nat) : reachFast g S = (hopDistFastA g S).map Option.isSome :=
  OracleFastProof.reachFast_eq_hop g S

/-! ## 5. Out-forest judge (`forestParentsRec`, `forestJudgeRec`: what H06's light path runs)

Written by structural recursion so that they can be proved against `Spec/Dfs.lean`. -/

/-- The out-forest shape: duplicate-free rows, `v ∈ g.out u ↔ par[v] = some u` for `u < n`, sources
distinct, in range and without parent. -/
abbrev IsForest := @OracleFastProof.IsForest

/-- "if reported, equal to" -/
abbrev OptEq {β : Type} := @OracleFastProof.OptEq β

/-- The out-forest judge, full statement: on a certified out-forest it accepts exactly the
sequences `Spec/Dfs.lean` annotates, with the reported depths / predecessors / forest, that yield
exactly the reachable set once each. -/
def ForestJudgeStatement : Prop :=
  ∀ (g : Graph) (S : List Nat) (par : Array (Option Nat)), g.WF → forestParentsRec g S = some par →
    ∀ (xs : List Nat) (depths : Option (List Nat)) (preds tree : Option (List (Option Nat))),
      forestJudgeRec g S par xs depths preds tree = none ↔
      ∃ ann, Dfs.annotate g S xs = some ann ∧ OptEq depths (ann.map (·.2.2)) ∧ OptEq preds (ann.map (·.2.1)) ∧
        OptEq tree (Dfs.forestOf g.n ann) ∧ Dfs.Exact g S xs

theorem forestParentsRec_sound {g : Graph} {S : List Nat} {par : Array (Option Nat)}
    (h : forestParentsRec g S = some par) : IsForest g S par :=
  OracleFastProof.forestParentsRec_sound h

/-- The digraphs the drivers build (`Graph.ofRows …`) are well formed once certified: no separate
`WF` hypothesis is needed on the light path. -/
theorem forest_wf_ofRows {rows : Array (List Nat)} {S : List Nat} {par : Array (Option Nat)}
    (h : forestParentsRec (Graph.ofRows rows) S = some par) : (Graph.ofRows rows).WF :=
  (forestParentsRec_sound h).wf (OracleFastProof.ofRows_out_ge rows)

theorem forestJudgeRec_iff {g : Graph} (hwf : g.WF) {S : List Nat} {par : Array (Option Nat)}
    (hF : IsForest g S par) (xs : List Nat) (depths : Option (List Nat)) (preds tree : Option (List (Option Nat))) :
    forestJudgeRec g S par xs depths preds tree = none ↔
    ∃ ann, Dfs.annotate g S xs = some ann ∧ OptEq depths (ann.map (·.2.2)) ∧ OptEq preds (ann.map (·.2.1)) ∧
      OptEq tree (Dfs.forestOf g.n ann) ∧ Dfs.Exact g S xs :=
  OracleFastProof.forestJudgeRec_iff hwf hF xs depths preds tree

theorem forestJudge_statement_holds : ForestJudgeStatement :=
  fun _ _ _ hwf hp xs depths preds tree => forestJudgeRec_iff hwf (forestParentsRec_sound hp) xs depths preds tree

/-- In the shapes H06 calls the judge (`parseObs`): `Dfs` items … -/
theorem forestJudgeRec_dfs {g : Graph} (hwf : g.WF) {S : List Nat} {par : Array (Option Nat)}
    (hp : forestParentsRec g S = some par) (xs : List Nat) :
    forestJudgeRec g S par xs none none none = none ↔ Dfs.DfsOK g S xs :=
  OracleFastProof.forestJudgeRec_dfs hwf (forestParentsRec_sound hp) xs

/-- … `DfsDist` items `(v, depth)` … -/
theorem forestJudgeRec_dist {g : Graph} (hwf : g.WF) {S : List Nat} {par : Array (Option Nat)}
    (hp : forestParentsRec g S = some par) (items : List (Nat × Nat)) :
    forestJudgeRec g S par (items.map (·.1)) (some (items.map (·.2))) none none = none ↔ Dfs.DfsDistOK g S items :=
  OracleFastProof.forestJudgeRec_dist hwf (forestParentsRec_sound hp) items

/-- … `DfsPred` items `(v, pred)` and `predecessors()`. -/
theorem forestJudgeRec_pred {g : Graph} (hwf : g.WF) {S : List Nat} {par : Array (Option Nat)}
    (hp : forestParentsRec g S = some par) (items : List (Nat × Option Nat)) (tree : List (Option Nat)) :
    forestJudgeRec g S par (items.map (·.1)) none (some (items.map (·.2))) (some tree) = none ↔
      Dfs.DfsPredOK g S items tree :=
  OracleFastProof.forestJudgeRec_pred hwf (forestParentsRec_sound hp) items tree

/-- Non-vacuity: the broom `0 → 2`, `2 → 1, 3, 4` (order 5), built like the driver builds it. -/
def broom : Graph := Graph.ofRows (rowsOfArcs 5 [(0,2),(2,1),(2,3),(2,4)])
theorem broom_wf : broom.WF := (Oracles.driverGraph_hyps 5 _ (by decide)).2
def broomPar : Array (Option Nat) := #[none, some 2, some 0, some 2, some 2]
theorem broom_par : forestParentsRec broom [0] = some broomPar := by decide +kernel

example : forestJudgeRec broom [0] broomPar [0, 2, 3, 1, 4] none none none = none := by decide +kernel
example : Dfs.DfsOK broom [0] [0, 2, 3, 1, 4] := (forestJudgeRec_dfs broom_wf broom_par _).mp (by decide +kernel)
example : Dfs.DfsDistOK broom [0] [(0,0), (2,1), (4,2), (1,2), (3,2)] :=
  (forestJudgeRec_dist broom_wf broom_par _).mp (by decide +kernel)
example : Dfs.DfsPredOK broom [0] [(0,none), (2,some 0), (1,some 2), (3,some 2), (4,some 2)]
    [none, some 2, some 0, some 2, some 2] := (forestJudgeRec_pred broom_wf broom_par _ _).mp (by decide +kernel)
/-- Rejections: a child before its parent, a missing vertex, a wrong depth, a wrong predecessor,
a wrong forest, a vertex twice. -/
example : (forestJudgeRec broom [0] broomPar [0, 1, 2, 3, 4] none none none).isSome = true := by decide +kernel
example : (forestJudgeRec broom [0] broomPar [0, 2, 3, 1] none none none).isSome = true := by decide +kernel
example : (forestJudgeRec broom [0] broomPar [0, 2, 3, 1, 4] (some [0, 1, 2, 2, 1]) none none).isSome = true := by decide +kernel
example : (forestJudgeRec broom [0] broomPar [0, 2, 3, 1, 4] none (some [none, some 0, some 2, some 0, some 2]) none).isSome
    = true := by decide +kernel
example : (forestJudgeRec broom [0] broomPar [0, 2, 3, 1, 4] none none (some [none, some 2, some 0, some 2, none])).isSome
    = true := by decide +kernel
example : (forestJudgeRec broom [0] broomPar [0, 2, 3, 3, 4] none none none).isSome = true := by decide +kernel
example : ¬ Dfs.DfsOK broom [0] [0, 2, 3, 1] :=
  fun h => absurd ((forestJudgeRec_dfs broom_wf broom_par _).mpr h) (by decide +kernel)
/-- Not an out-forest (vertex `1` has two in-arcs; a source with an in-arc): no certificate. -/
example : forestParentsRec (Graph.ofRows (rowsOfArcs 3 [(0,1),(2,1)])) [0] = none := by decide +kernel
example : forestParentsRec broom [2] = none := by decide +kernel

/-! ## Non-vacuity: the digraphs of `Thm/Oracles.lean`, built the way the drivers build them -/

theorem wEx_fast : wdistFastPair Oracles.wEx [0] = ([some 0, some (-1), some 1, some 0, none], false) := by
  decide +kernel

theorem wEx_fastFlag : wdistFastFlag Oracles.wEx [0] = false := congrArg Prod.snd wEx_fast

theorem wEx_fastDist : wdistFast Oracles.wEx [0] = [some 0, some (-1), some 1, some 0, none] :=
  (wdistFastPair_fst _ _).symm.trans (congrArg Prod.fst wEx_fast)

example : wdistFast Oracles.wEx [0] = [some 0, some (-1), some 1, some 0, none] := wEx_fastDist
example : wdistFastPair Oracles.wEx [0] = ([some 0, some (-1), some 1, some 0, none], false) := wEx_fast
example : wdistFastFlag Oracles.wEx [0] = false := wEx_fastFlag
example : H03.fastDist Oracles.wEx [0] = (wdistB Oracles.wEx [0]).1 := by
  rw [Oracles.wEx_run]
  decide +kernel
/-- … so the theorems certify, e.g., the minimum walk weight `-1` of `0 → 2 → 1`. -/
example : IsMinDist Oracles.wEx [0] 1 (-1) :=
  ((wdistFast_spec Oracles.wEx_wf Oracles.wEx_src wEx_fastFlag).2.1 1 (-1)).mp (by rw [wEx_fastDist]; decide)
example : ¬ WReachFrom Oracles.wEx [0] 4 :=
  ((wdistFast_spec Oracles.wEx_wf Oracles.wEx_src wEx_fastFlag).2.2 4).mp (by rw [wEx_fastDist]; decide)

/-- A reachable negative circuit: the flag goes up (and the labels are then NOT `wdistB`'s: the
early-exit loop ran one more round — the equality needs the flag down). -/
example : wdistFastFlag Oracles.wNeg [0] = true := by decide +kernel
example : wdistFast Oracles.wNeg [0] ≠ (wdistB Oracles.wNeg [0]).1 := by decide +kernel
example : ∃ x, WReachFrom Oracles.wNeg [0] x ∧ NegCycleAt Oracles.wNeg x :=
  (wdistFastFlag_iff Oracles.wNeg_wf (S := [0]) (by decide +kernel)).mp (by decide +kernel)
example : wdistFastFlag Oracles.wNegUnreach [0] = false := by decide +kernel

/-- Early exit happens: one round suffices on a path scanned in arc order (fuel is `n + 1 = 5`). -/
example : OracleFast.wfGoF (WGraph.ofRows (wrowsOfArcs 4 [(0,1,1),(1,2,1),(2,3,1)])) 2
    (OracleFast.wfInit 4 [0]) = (#[some 0, some 1, some 2, some 3], false) := by decide +kernel

example : wdistArcsFast Oracles.wEx (wgraphArcs Oracles.wEx) 0 = wdistB Oracles.wEx [0] := by
  rw [Oracles.wEx_run]
  decide +kernel
example : H08.bfA Oracles.wEx (Fw.arcsWeighted Oracles.wEx) 0 = ([some 0, some (-1), some 1, some 0, none], false) := by decide +kernel
example : (wdistArcsFast Oracles.wNeg (wgraphArcs Oracles.wNeg) 0).2 = true := by decide +kernel
example : (wdistArcsFast Oracles.wNegUnreach (wgraphArcs Oracles.wNegUnreach) 0).2 = false := by decide +kernel
example : (wdistArcsFast Oracles.wNegUnreach (wgraphArcs Oracles.wNegUnreach) 1).2 = true := by decide +kernel
/-- Negative self-loop-free example where the relaxation ORDER matters inside a round, not for the result. -/
example : wdistArcsFast Oracles.wEx [(4,0,1),(1,3,1),(2,1,-2),(0,2,1),(0,1,4)] 0 = wdistB Oracles.wEx [0] := by
  rw [Oracles.wEx_run]
  decide +kernel

theorem gEx_hopFast : hopDistFastA Oracles.gEx [0] = [some 0, some 1, some 2, none, none] := by decide +kernel

example : hopDistFastA Oracles.gEx [0] = [some 0, some 1, some 2, none, none] := gEx_hopFast
example : H04.hopDistFast Oracles.gEx [0] = hopDistB Oracles.gEx [0] := by
  rw [Oracles.gEx_hop]
  decide +kernel
example : hopDistFastA Oracles.gEx [3, 0] = [some 0, some 1, some 2, some 0, none] := by decide +kernel
example : IsHopDist Oracles.gEx [0] 2 2 :=
  (hopDistFastA_spec Oracles.gEx_wf Oracles.gEx_src 2 2).mp (by rw [gEx_hopFast]; decide)
example : ¬ ReachFrom Oracles.gEx [0] 3 :=
  (hopDistFastA_none Oracles.gEx_wf Oracles.gEx_src 3).mp (by rw [gEx_hopFast]; decide)

theorem gEx_reachFast : reachFast Oracles.gEx [0] = [true, true, true, false, false] := by decide +kernel

example : reachFast Oracles.gEx [0] = [true, true, true, false, false] := gEx_reachFast
example : ReachFrom Oracles.gEx [0] 2 :=
  (reachFast_spec Oracles.gEx_wf Oracles.gEx_src 2).mp (by rw [gEx_reachFast]; decide)
example : ¬ ReachFrom Oracles.gEx [0] 3 := fun h =>
  absurd ((reachFast_spec Oracles.gEx_wf Oracles.gEx_src 3).mpr h) (by rw [gEx_reachFast]; decide)

end GraafVerif.OraclesFast
