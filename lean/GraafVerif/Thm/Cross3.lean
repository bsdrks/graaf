import GraafVerif.Proof.Cross3Models
import GraafVerif.Thm.C03
import GraafVerif.Thm.C04
import GraafVerif.Thm.C06
import GraafVerif.Thm.C07
import GraafVerif.Thm.Cross2
/-!
# Cross3 — a third family of cross-algorithm theorems, between the MODELS

* `Bfs.predecessors g S`, `Dijkstra.predecessors g S` — models of `BfsPred::predecessors()` /
  `DijkstraPred::predecessors()` (C05);
* `PredTree.search pred v s`, `PredTree.searchBy pred v isT` — models of
  `PredecessorTree::search` / `search_by` (C19); `isRoot = |_, b| b.is_none()`;
* `Bfs.distances`, `Dijkstra.distances` — models of `BfsDist::distances()` /
  `DijkstraDist::distances()` (C04 / C03);
* `Dfs.dfs`, `Dfs.dfsFixed` — model of today's `Dfs` and of the corrected variant (C06);
  `Bfs.bfs` — model of `Bfs` (C04);
* `Bfm.distances g s` — model of `BellmanFordMoore::distances()` (C07); `Johnson.circuits`,
  `Tarjan.components (vgOf ·)` — C10, C09.

The property theorems of C03–C07, C19 and `Cross2` are used as black boxes; what the proofs share
is in `Proof/PredTreeRoot.lean` (rooted predecessor vectors, from C19) and `Proof/Cross3Models.lean`
(`IsTree`, which C05's two vectors are).
-/
namespace GraafVerif.Cross3
open GraafVerif GraafVerif.PredTree

/-! ## 0. Rooted predecessor vectors (generic, from C19) -/

theorem root_of_none (pred : Pred) (v : Nat) (h : pred[v]? = some none) :
    searchBy pred v isRoot = .ret (some [v]) := rootPath_of_none h

/-- If `search_by(v, is_none)` returns `p` on an in-range vector then the chain of predecessor
links from `v` is `p`: it ends after `k` steps in a root `r`, stops there, and repeats no vertex. -/
theorem root_path_shape (pred : Pred) (hr : InRange pred) (v : Nat) (hv : v < pred.length)
    (p : List Nat) (h : searchBy pred v isRoot = .ret (some p)) :
    ∃ k r, p = (List.range (k+1)).map (fun j => (chain pred v j).getD 0) ∧
      chain pred v k = some r ∧ pred[r]? = some none ∧ chain pred v (k + 1) = none ∧
      (∀ i j, i < j → j ≤ k → chain pred v i ≠ chain pred v j) ∧
      p.head? = some v ∧ p.getLast? = some r ∧ p.Nodup := by
  obtain ⟨k, r, hs⟩ := rootShape hr hv h
  exact ⟨k, r, hs.path, hs.last, hs.root, hs.stop, hs.distinct, hs.head, hs.getLast, hs.nodup⟩

theorem search_to_root (pred : Pred) (hr : InRange pred) (v : Nat) (hv : v < pred.length)
    (p : List Nat) (k r : Nat) (hs : RootShape pred v p k r) : search pred v r = .ret (some p) :=
  search_root_eq hr hv hs

/-- For EVERY predicate, the search from a vertex with a root path returns `None` iff no vertex of
that path is a target: a `None` is never caused by the "already visited" `break`. -/
theorem search_none_iff_no_target (pred : Pred) (hr : InRange pred) (v : Nat) (hv : v < pred.length)
    (p : List Nat) (k r : Nat) (hs : RootShape pred v p k r) (isT : Nat → Option Nat → Bool) :
    searchBy pred v isT = .ret none ↔ ∀ x ∈ p, target pred isT x = false :=
  searchBy_none_iff hr hv hs isT

theorem search_some_prefix (pred : Pred) (hr : InRange pred) (v : Nat) (hv : v < pred.length)
    (p : List Nat) (k r : Nat) (hs : RootShape pred v p k r) (isT : Nat → Option Nat → Bool)
    (q : List Nat) (hq : searchBy pred v isT = .ret (some q)) : q <+: p :=
  searchBy_some_prefix hr hv hs isT hq

/-! ## 1. C05 ↔ C19 -/

/-- **Target 1 (BFS).**  `BfsPred::predecessors()` fed into `PredecessorTree::search(v, s)`: for
every vertex `v` at hop distance `d` there is a source `s` such that the search returns `d + 1`
distinct vertices from `v` to `s` whose reversal is a walk of `g` — a shortest path; it is the
path `search_by(v, is_none)` returns. -/
theorem bfs_tree_search_shortest (g : Graph) (hg : g.WF) (hn : 0 < g.n) (S : List Nat)
    (hS : ∀ s ∈ S, s < g.n) (hnd : S.Nodup) :
    ∃ pred, Bfs.predecessors g S = .ok pred ∧ pred.length = g.n ∧
      ∀ v d, IsHopDist g S v d → ∃ s ∈ S, ∃ p,
        search pred v s = .ret (some p) ∧ searchBy pred v isRoot = .ret (some p) ∧
        p.head? = some v ∧ p.getLast? = some s ∧ p.length = d + 1 ∧ IsWalk g p.reverse ∧ p.Nodup := by
  obtain ⟨pred, hp, hsp⟩ := C05.bfsPred_tree g hg hn S hS hnd
  refine ⟨pred, hp, hsp.len, fun v d hd => ?_⟩
  obtain ⟨cs, hcs, hlen, hwalk, ⟨s, hs, hlast⟩, hhead⟩ := hsp.chain v d hd
  obtain ⟨hsearch, hnd'⟩ := search_of_last (bfs_isTree hg hsp).inRange hcs hlast
  exact ⟨s, hs, cs, hsearch, hcs, hhead, hlast, hlen, hwalk, hnd'⟩

/-- **Target 1 (BFS), acyclicity.**  From EVERY vertex the predecessor chain reaches an entry
`None`, stops, and repeats no vertex; for every predicate `search_by` returns `None` only when no
vertex of that finite root path is a target, and otherwise a prefix of it. -/
theorem bfs_tree_is_acyclic (g : Graph) (hg : g.WF) (hn : 0 < g.n) (S : List Nat)
    (hS : ∀ s ∈ S, s < g.n) (hnd : S.Nodup) :
    ∃ pred, Bfs.predecessors g S = .ok pred ∧ ∀ v, v < g.n → ∃ p k r,
      searchBy pred v isRoot = .ret (some p) ∧ RootShape pred v p k r ∧
      (∀ isT, searchBy pred v isT = .ret none ↔ ∀ x ∈ p, target pred isT x = false) ∧
      (∀ isT q, searchBy pred v isT = .ret (some q) → q <+: p) := by
  obtain ⟨pred, hp, hsp⟩ := C05.bfsPred_tree g hg hn S hS hnd
  exact ⟨pred, hp, fun v hv => (bfs_isTree hg hsp).acyclic (bfs_rootPath hsp) hv⟩

/-- **Target 1 + 2 (Dijkstra).**  `DijkstraPred::predecessors()` fed into `search(v, s)`: for every
reachable `v` the search returns distinct vertices from `v` to a source whose reversal is a
minimum-weight path, and its weight is `DijkstraDist::distances()[v]`. -/
theorem dijkstra_tree_search_shortest (g : WGraph) (S : List Nat) (h : Dijkstra.Hyp g S) :
    ∀ v, WReachFrom g S v → ∃ s ∈ S, ∃ p d,
      search (Dijkstra.predecessors g S) v s = .ret (some p) ∧
      searchBy (Dijkstra.predecessors g S) v isRoot = .ret (some p) ∧
      p.head? = some v ∧ p.getLast? = some s ∧ PathW g p.reverse d ∧ IsMinDist g S v d ∧ p.Nodup ∧
      (Dijkstra.distances g S)[v]? = some (some d) := by
  intro v hr
  obtain ⟨p, d, hp, hhead, ⟨s, hs, hlast⟩, hpath, hmin⟩ := C05Dijkstra.dijkstraPred_chain g S h v hr
  obtain ⟨hsearch, hnd⟩ := search_of_last (dijkstra_isTree h).inRange hp hlast
  have hv : v < g.n := (dijkstra_isTree h).len ▸ lt_of_searchBy_ret hp
  exact ⟨s, hs, p, d, hsearch, hp, hhead, hlast, hpath, hmin, hnd,
    ((C03.distances_spec g S h).2.1 v hv d).mpr hmin⟩

/-- **Target 1 (Dijkstra), acyclicity.** -/
theorem dijkstra_tree_is_acyclic (g : WGraph) (S : List Nat) (h : Dijkstra.Hyp g S) :
    ∀ v, v < g.n → ∃ p k r,
      searchBy (Dijkstra.predecessors g S) v isRoot = .ret (some p) ∧
      RootShape (Dijkstra.predecessors g S) v p k r ∧
      (∀ isT, searchBy (Dijkstra.predecessors g S) v isT = .ret none ↔
        ∀ x ∈ p, target (Dijkstra.predecessors g S) isT x = false) ∧
      (∀ isT q, searchBy (Dijkstra.predecessors g S) v isT = .ret (some q) → q <+: p) :=
  fun _ hv => (dijkstra_isTree h).acyclic (dijkstra_rootPath h) hv

/-- Both predecessor vectors are in range (C19's hypothesis holds for them). -/
theorem pred_vectors_inRange :
    (∀ (g : Graph) (S : List Nat), g.WF → 0 < g.n → (∀ s ∈ S, s < g.n) → S.Nodup →
      ∃ pred, Bfs.predecessors g S = .ok pred ∧ InRange pred) ∧
    (∀ (g : WGraph) (S : List Nat), Dijkstra.Hyp g S → InRange (Dijkstra.predecessors g S)) := by
  refine ⟨fun g S hg hn hS hnd => ?_, fun g S h => (dijkstra_isTree h).inRange⟩
  obtain ⟨pred, hp, hsp⟩ := C05.bfsPred_tree g hg hn S hS hnd
  exact ⟨pred, hp, (bfs_isTree hg hsp).inRange⟩

/-! ## 2. C05 ↔ C04 / C03 -/

/-- **Target 2 (BFS).**  For every reachable `v` the number of arcs of the tree path is
`BfsDist::distances()[v]` (and `< order`); `predecessors()[v] = None` exactly at the sources and
where `distances()` has its sentinel `inf` (= the unreachable vertices). -/
theorem bfs_tree_depth_is_distance (g : Graph) (hg : g.WF) (hn : 0 < g.n) (S : List Nat)
    (hS : ∀ s ∈ S, s < g.n) (hnd : S.Nodup) (inf : Nat) (hinf : g.n ≤ inf) :
    ∃ pred dvec, Bfs.predecessors g S = .ok pred ∧ Bfs.distances g S inf = .ok dvec ∧
      (∀ v, ReachFrom g S v → ∃ p, searchBy pred v isRoot = .ret (some p) ∧
        dvec[v]? = some (p.length - 1) ∧ p.length - 1 < g.n) ∧
      (∀ v, v < g.n → (pred[v]? = some none ↔ (v ∈ S ∨ dvec[v]? = some inf))) := by
  obtain ⟨pred, hp, hsp⟩ := C05.bfsPred_tree g hg hn S hS hnd
  obtain ⟨dvec, hd, hds⟩ := C04.distances_correct g hg S hS hnd inf hinf
  refine ⟨pred, dvec, hp, hd, fun v hr => ?_, fun v hv => ?_⟩
  · obtain ⟨d, hdv⟩ := OracleProof.reach_hop hr
    obtain ⟨cs, hcs, hlen, _⟩ := hsp.chain v d hdv
    exact ⟨cs, hcs, hlen ▸ hds.dist v d hdv, hlen ▸ OracleProof.hop_bound hg hS hdv⟩
  · rw [hds.inf_iff v hv]
    exact (bfs_isTree hg hsp).none_iff hv

/-- **Target 2 (Dijkstra).**  `predecessors()[v] = None` exactly at the sources and where
`DijkstraDist::distances()` has its sentinel (the weight clause is in
`dijkstra_tree_search_shortest`). -/
theorem dijkstra_pred_none_iff_source_or_unreachable (g : WGraph) (S : List Nat) (h : Dijkstra.Hyp g S)
    (v : Nat) (hv : v < g.n) :
    (Dijkstra.predecessors g S)[v]? = some none ↔ (v ∈ S ∨ (Dijkstra.distances g S)[v]? = some none) := by
  rw [(C03.distances_spec g S h).2.2 v hv]
  exact (dijkstra_isTree h).none_iff hv

/-! ## 3. C06 ↔ C04 -/

/-- **Target 3.**  Unconditionally, everything today's DFS model yields is yielded by the BFS model
from the same sources (DFS ⊆ BFS).  If today's run pops no stale entry (`ending = .done`, the
hypothesis of `C06.dfs_statement_of_no_stale`) the DFS output is a permutation of the BFS output;
the corrected variant's output always is. -/
theorem dfs_subset_bfs (g : Graph) (S : List Nat) (h : C06.Inputs g S) :
    ∃ out, Bfs.bfs g S = .ok out ∧
      (∀ v ∈ (Dfs.dfs g S).verts, v ∈ out) ∧
      ((Dfs.dfs g S).ending = .done → (Dfs.dfs g S).verts.Perm out) ∧
      (Dfs.dfsFixed g S).verts.Perm out := by
  obtain ⟨out, ho, hsp⟩ := C04.bfs_correct g h.wf S h.inRange h.nodup
  obtain ⟨_, _, _, _, _, hnd, hsound, hcomplete⟩ := C06.dfs_partial g S h
  obtain ⟨⟨_, hfnd, hfmem⟩, _⟩ := C06.dfsFixed_reachable g S h
  have hsub : ∀ v ∈ (Dfs.dfs g S).verts, v ∈ out := fun v hv => (hsp.mem_iff v).mpr (hsound v hv)
  refine ⟨out, ho, hsub, fun hd => ?_, ?_⟩
  · exact (List.perm_ext_iff_of_nodup hnd hsp.nodup).mpr fun v =>
      ⟨hsub v, fun hv => hcomplete hd v ((hsp.mem_iff v).mp hv)⟩
  · exact (List.perm_ext_iff_of_nodup hfnd hsp.nodup).mpr fun v => (hfmem v).trans (hsp.mem_iff v).symm

/-- The same for `DfsDist` / `DfsPred` (same vertex sequence as `Dfs`) and their corrected variants. -/
theorem dfs_variants_subset_bfs (g : Graph) (S : List Nat) (h : C06.Inputs g S) :
    ∃ out, Bfs.bfs g S = .ok out ∧
      (∀ v ∈ (Dfs.dfsDist g S).verts, v ∈ out) ∧ (∀ v ∈ (Dfs.dfsPred g S).verts, v ∈ out) ∧
      (Dfs.dfsDistFixed g S).verts.Perm out ∧ (Dfs.dfsPredFixed g S).verts.Perm out := by
  obtain ⟨out, ho, hsub, _, _⟩ := dfs_subset_bfs g S h
  have hsp := Cross.bfs_spec h.wf h.inRange h.nodup ho
  obtain ⟨_, hd, hp, _⟩ := C06.dfs_partial g S h
  obtain ⟨_, ⟨_, hdnd, hdmem⟩, ⟨_, hpnd, hpmem⟩⟩ := C06.dfsFixed_reachable g S h
  refine ⟨out, ho, hd ▸ hsub, hp ▸ hsub, ?_, ?_⟩
  · exact (List.perm_ext_iff_of_nodup hdnd hsp.nodup).mpr fun v => (hdmem v).trans (hsp.mem_iff v).symm
  · exact (List.perm_ext_iff_of_nodup hpnd hsp.nodup).mpr fun v => (hpmem v).trans (hsp.mem_iff v).symm

/-! ## 4. C07 ↔ C09 / C10 -/

/-- **Target 4.**  `BellmanFordMoore::distances() = None` ⇒ some vertex `x` reachable from `s`
(yielded by the BFS model from `[s]` on the underlying digraph) lies on a circuit the Johnson model
returns and in a Tarjan component with at least two members. -/
theorem bfm_none_implies_circuit (g : WGraph) (hwf : g.WF) (s : Nat) (hs : s < g.n)
    (hloops : Johnson.NoLoops g.toGraph) (hrows : Johnson.RowsNodup g.toGraph)
    (hnone : Bfm.distances g s = .ret none) :
    ∃ x, x < g.n ∧ Reach g.toGraph s x ∧
      (∃ out, Bfs.bfs g.toGraph [s] = .ok out ∧ x ∈ out) ∧
      (∃ c ∈ Johnson.circuits g.toGraph, x ∈ c) ∧
      (∀ cs, Tarjan.components (Cross2.vgOf g.toGraph) = .ret cs →
        ∃ comp ∈ cs, x ∈ comp ∧ 2 ≤ comp.length) := by
  obtain ⟨x, hrx, k, wt, hk, hw, _⟩ := (C07.bfm_none_iff g hwf s hs).mp hnone
  have hg := Cross.toGraph_wf hwf
  have hsx : Reach g.toGraph s x := Cross.wreachFrom_single_iff.mp hrx
  have hx : x < g.n := OracleProof.reach_lt hg hsx hs
  -- the last arc `y → x` of the negative closed walk: `y ≠ x` as there are no loops
  obtain ⟨y, w, k', wt', hw', ha⟩ : ∃ y w k' wt', WWalk g x y k' wt' ∧ g.A y x w := by
    cases hw with
    | nil => exact absurd hk (Nat.lt_irrefl 0)
    | snoc hw' ha => exact ⟨_, _, _, _, hw', ha⟩
  have hyx : g.toGraph.A y x := Cross.toGraph_A.mpr ⟨w, ha⟩
  have hcirc : ∃ c ∈ Johnson.circuits g.toGraph, x ∈ c :=
    (Cross2.johnson_vertex_iff hg hloops hrows).mpr
      (Cross2.circuit_through hloops (by rintro rfl; exact hloops x hyx) (Cross.wwalk_reach hw')
        (OracleProof.reach_of_arc hyx))
  obtain ⟨out, ho⟩ := Cross2.bfs_single_ok hg hs
  exact ⟨x, hx, hsx, ⟨out, ho, (Cross2.bfs_single_mem hg hs ho).mpr hsx⟩, hcirc, fun cs hcs =>
    (Cross2.johnson_vertices_iff_nonsingleton_component g.toGraph hg hloops hrows cs hcs x hx).mp hcirc⟩

/-- Contrapositive: the Johnson model finds no circuit ⇒ the BFM model returns `Some` from every
source. -/
theorem johnson_empty_implies_bfm_some (g : WGraph) (hwf : g.WF) (s : Nat) (hs : s < g.n)
    (hloops : Johnson.NoLoops g.toGraph) (hrows : Johnson.RowsNodup g.toGraph)
    (hnil : Johnson.circuits g.toGraph = []) : ∃ d, Bfm.distances g s = .ret (some d) := by
  apply C07.bfm_no_negcycle_some g hwf s hs
  intro hneg
  obtain ⟨x, _, _, _, ⟨c, hc, _⟩, _⟩ :=
    bfm_none_implies_circuit g hwf s hs hloops hrows ((C07.bfm_none_iff g hwf s hs).mpr hneg)
  rw [hnil] at hc
  cases hc

/-! ## The clauses together -/

def Statement : Prop :=
  -- 1./2. BFS tree under search, depth = distance, None-set
  (∀ (g : Graph) (S : List Nat) (inf : Nat), g.WF → 0 < g.n → (∀ s ∈ S, s < g.n) → S.Nodup → g.n ≤ inf →
    ∃ pred dvec, Bfs.predecessors g S = .ok pred ∧ Bfs.distances g S inf = .ok dvec ∧
      (∀ v d, IsHopDist g S v d → ∃ s ∈ S, ∃ p,
        search pred v s = .ret (some p) ∧ searchBy pred v isRoot = .ret (some p) ∧
        p.head? = some v ∧ p.getLast? = some s ∧ p.length = d + 1 ∧ IsWalk g p.reverse ∧ p.Nodup ∧
        dvec[v]? = some (p.length - 1)) ∧
      (∀ v, v < g.n → ∃ p, searchBy pred v isRoot = .ret (some p) ∧
        ∀ isT, searchBy pred v isT = .ret none ↔ ∀ x ∈ p, target pred isT x = false) ∧
      (∀ v, v < g.n → (pred[v]? = some none ↔ (v ∈ S ∨ dvec[v]? = some inf)))) ∧
  -- 1./2. Dijkstra tree under search, weight = distance, None-set
  (∀ (g : WGraph) (S : List Nat), Dijkstra.Hyp g S →
    (∀ v, WReachFrom g S v → ∃ s ∈ S, ∃ p d,
      search (Dijkstra.predecessors g S) v s = .ret (some p) ∧
      p.head? = some v ∧ p.getLast? = some s ∧ PathW g p.reverse d ∧ IsMinDist g S v d ∧ p.Nodup ∧
      (Dijkstra.distances g S)[v]? = some (some d)) ∧
    (∀ v, v < g.n → ∃ p, searchBy (Dijkstra.predecessors g S) v isRoot = .ret (some p) ∧
      ∀ isT, searchBy (Dijkstra.predecessors g S) v isT = .ret none ↔
        ∀ x ∈ p, target (Dijkstra.predecessors g S) isT x = false) ∧
    (∀ v, v < g.n → ((Dijkstra.predecessors g S)[v]? = some none ↔
      (v ∈ S ∨ (Dijkstra.distances g S)[v]? = some none)))) ∧
  -- 3. DFS vs BFS
  (∀ (g : Graph) (S : List Nat), C06.Inputs g S → ∃ out, Bfs.bfs g S = .ok out ∧
    (∀ v ∈ (Dfs.dfs g S).verts, v ∈ out) ∧
    ((Dfs.dfs g S).ending = .done → (Dfs.dfs g S).verts.Perm out) ∧
    (Dfs.dfsFixed g S).verts.Perm out) ∧
  -- 4. BFM None ⇒ circuit
  (∀ (g : WGraph) (s : Nat), g.WF → s < g.n → Johnson.NoLoops g.toGraph → Johnson.RowsNodup g.toGraph →
    Bfm.distances g s = .ret none →
    ∃ x, x < g.n ∧ Reach g.toGraph s x ∧ (∃ c ∈ Johnson.circuits g.toGraph, x ∈ c) ∧
      (∀ cs, Tarjan.components (Cross2.vgOf g.toGraph) = .ret cs →
        ∃ comp ∈ cs, x ∈ comp ∧ 2 ≤ comp.length))

theorem statement : Statement := by
  refine ⟨?_, ?_, dfs_subset_bfs, ?_⟩
  · intro g S inf hg hn hS hnd hinf
    obtain ⟨pred, hp, hsp⟩ := C05.bfsPred_tree g hg hn S hS hnd
    obtain ⟨dvec, hd, hds⟩ := C04.distances_correct g hg S hS hnd inf hinf
    have ht := bfs_isTree hg hsp
    refine ⟨pred, dvec, hp, hd, fun v d hvd => ?_, fun v hv => ?_, fun v hv => ?_⟩
    · obtain ⟨cs, hcs, hlen, hwalk, ⟨s, hs, hlast⟩, hhead⟩ := hsp.chain v d hvd
      obtain ⟨hsearch, hnd'⟩ := search_of_last ht.inRange hcs hlast
      exact ⟨s, hs, cs, hsearch, hcs, hhead, hlast, hlen, hwalk, hnd', hlen ▸ hds.dist v d hvd⟩
    · obtain ⟨p, _, _, h1, _, h3, _⟩ := ht.acyclic (bfs_rootPath hsp) hv
      exact ⟨p, h1, h3⟩
    · rw [hds.inf_iff v hv]
      exact ht.none_iff hv
  · intro g S h
    refine ⟨fun v hr => ?_, fun v hv => ?_, dijkstra_pred_none_iff_source_or_unreachable g S h⟩
    · obtain ⟨s, hs, p, d, h1, _, h3, h4, h5, h6, h7, h8⟩ := dijkstra_tree_search_shortest g S h v hr
      exact ⟨s, hs, p, d, h1, h3, h4, h5, h6, h7, h8⟩
    · obtain ⟨p, _, _, h1, _, h3, _⟩ := dijkstra_tree_is_acyclic g S h v hv
      exact ⟨p, h1, h3⟩
  · intro g s hwf hs hl hr hnone
    obtain ⟨x, h1, h2, _, h4, h5⟩ := bfm_none_implies_circuit g hwf s hs hl hr hnone
    exact ⟨x, h1, h2, h4, h5⟩

/-! ## Non-vacuity -/

/-! ### BFS tree of C04/C05's doc digraph `Bfs.g0`, sources `[3, 7]` -/

example : Bfs.predecessors Bfs.g0 [3, 7] = .ok [some 3, some 0, some 1, none, some 1, some 6, some 7, none] := by
  decide +kernel
example : search [some 3, some 0, some 1, none, some 1, some 6, some 7, none] 2 3 = .ret (some [2, 1, 0, 3]) := by
  decide +kernel
example : searchBy [some 3, some 0, some 1, none, some 1, some 6, some 7, none] 2 isRoot
    = .ret (some [2, 1, 0, 3]) := by decide +kernel
/-- a target that is not on the root path of 2: `None` (and by the theorem: not because of a revisit) -/
example : search [some 3, some 0, some 1, none, some 1, some 6, some 7, none] 2 7 = .ret none := by decide +kernel
example : Bfs.distances Bfs.g0 [3, 7] 18446744073709551615 = .ok [1, 2, 3, 0, 3, 2, 1, 0] := by decide +kernel
/-- the theorem applied, hypotheses discharged -/
example : ∃ pred, Bfs.predecessors Bfs.g0 [3, 7] = .ok pred ∧ pred.length = Bfs.g0.n ∧
    ∀ v d, IsHopDist Bfs.g0 [3, 7] v d → ∃ s ∈ [3, 7], ∃ p, search pred v s = .ret (some p) ∧ p.length = d + 1 := by
  obtain ⟨pred, h1, h2, h3⟩ :=
    bfs_tree_search_shortest Bfs.g0 C05.g0_wf (by decide) [3, 7] (by decide) (by decide)
  refine ⟨pred, h1, h2, fun v d hvd => ?_⟩
  obtain ⟨s, hs, p, hp, _, _, _, hl, _⟩ := h3 v d hvd
  exact ⟨s, hs, p, hp, hl⟩
/-- sources `[6]`: vertices 0–4 are unreachable — `None` entries and the `usize::MAX` sentinel coincide -/
example : Bfs.predecessors Bfs.g0 [6] = .ok [none, none, none, none, none, some 6, none, some 6] := by decide +kernel

/-! ### Dijkstra tree of C03's witness `gStale`, source `[0]` -/

theorem gStale_hyp : Dijkstra.Hyp Dijkstra.gStale [0] :=
  ⟨Cross.wf_of_table (fun _ => rfl) (by decide +kernel), Cross.nonneg_of_table (fun _ => rfl) (by decide +kernel),
    by decide, by decide⟩

example : Dijkstra.predecessors Dijkstra.gStale [0] = [none, some 2, some 0, some 0] := by decide +kernel
example : search (Dijkstra.predecessors Dijkstra.gStale [0]) 1 0 = .ret (some [1, 2, 0]) := by decide +kernel
example : Dijkstra.distances Dijkstra.gStale [0] = [some 0, some 2, some 1, some 20] := by decide +kernel
/-- the theorem applied at vertex 1 (reachable through the arc `0 → 1 : 10`, tree path `0 → 2 → 1`) -/
example : ∃ s ∈ [0], ∃ p d, search (Dijkstra.predecessors Dijkstra.gStale [0]) 1 s = .ret (some p) ∧
    PathW Dijkstra.gStale p.reverse d ∧ (Dijkstra.distances Dijkstra.gStale [0])[1]? = some (some d) := by
  have hr : WReachFrom Dijkstra.gStale [0] 1 :=
    ⟨0, by simp, _, _, WWalk.snoc (w := 10) (WWalk.nil 0) (by unfold WGraph.A; decide)⟩
  obtain ⟨s, hs, p, d, h1, _, _, _, h5, _, _, h8⟩ :=
    dijkstra_tree_search_shortest Dijkstra.gStale [0] gStale_hyp 1 hr
  exact ⟨s, hs, p, d, h1, h5, h8⟩
example : (Dijkstra.predecessors Dijkstra.gStale [0])[0]? = some none ↔
    (0 ∈ [0] ∨ (Dijkstra.distances Dijkstra.gStale [0])[0]? = some none) :=
  dijkstra_pred_none_iff_source_or_unreachable _ _ gStale_hyp 0 (by decide)

/-! ### DFS vs BFS: the known-finding witness (stale pop) and the doc digraph (no stale pop) -/

example : (Dfs.dfs C06.witness [0]).verts = [0, 3, 2] ∧ (Dfs.dfs C06.witness [0]).ending = .stale ∧
    Bfs.bfs C06.witness [0] = .ok [0, 1, 2, 3] ∧ (Dfs.dfsFixed C06.witness [0]).verts = [0, 3, 2, 1] := by
  decide +kernel
example : ∃ out, Bfs.bfs C06.witness [0] = .ok out ∧ (∀ v ∈ (Dfs.dfs C06.witness [0]).verts, v ∈ out) ∧
    (Dfs.dfsFixed C06.witness [0]).verts.Perm out := by
  obtain ⟨out, h1, h2, _, h4⟩ := dfs_subset_bfs C06.witness [0] C06.witness_inputs
  exact ⟨out, h1, h2, h4⟩
example : (Dfs.dfs C06.doc [3, 7]).verts = [7, 6, 5, 3, 0, 1, 4] ∧ (Dfs.dfs C06.doc [3, 7]).ending = .done ∧
    Bfs.bfs C06.doc [3, 7] = .ok [3, 7, 0, 6, 1, 5, 4] := by decide +kernel

/-! ### BFM `None`: a negative triangle with a tail -/

def gneg : WGraph := ⟨4, fun u => match u with
  | 0 => [(1, -2)] | 1 => [(2, -1)] | 2 => [(0, -1), (3, 5)] | _ => []⟩

theorem gneg_tail (k : Nat) : gneg.out (k + gneg.n) = [] := rfl

theorem gneg_wf : gneg.WF := Cross.wf_of_table gneg_tail (by decide +kernel)

theorem gneg_noloops : Johnson.NoLoops gneg.toGraph :=
  Cross2.noLoops_of_table (Cross.toGraph_tail gneg_tail) (by decide +kernel)

theorem gneg_rows : Johnson.RowsNodup gneg.toGraph :=
  Cross2.rowsNodup_of_table (Cross.toGraph_tail gneg_tail) (by decide +kernel)

example : Bfm.distances gneg 0 = .ret none := by decide +kernel
example : Johnson.circuits gneg.toGraph = [[0, 1, 2]] := by decide +kernel
example : Tarjan.components (Cross2.vgOf gneg.toGraph) = .ret [[3], [0, 1, 2]] := by decide +kernel
example : ∃ x, x < gneg.n ∧ Reach gneg.toGraph 0 x ∧ ∃ c ∈ Johnson.circuits gneg.toGraph, x ∈ c := by
  obtain ⟨x, h1, h2, _, h4, _⟩ :=
    bfm_none_implies_circuit gneg gneg_wf 0 (by decide) gneg_noloops gneg_rows (by decide +kernel)
  exact ⟨x, h1, h2, h4⟩
/-- the contrapositive on an acyclic digraph with a negative arc -/
example : Bfm.distances ⟨3, fun u => if u = 0 then [(1, -2)] else if u = 2 then [(0, 1)] else []⟩ 0
    = .ret (some [some 0, some (-2), none]) := by decide +kernel

end GraafVerif.Cross3
