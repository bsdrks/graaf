import GraafVerif.Model.ReprGen
import GraafVerif.Proof.ReprMXIter
/-!
# The GENERATED per-representation definitions EQUAL the hand-written models (tag ReprGen)

`Model/ReprGen.lean` is regenerated from `/repo/src/repr/*/mod.rs` (and the two blanket impls
`src/op/degree.rs`, `src/op/semidegree_sequence.rs`, instantiated per representation) by
`tools/translate_repr.py` on every run of the C01 / C02 / C12 checks, and this file is
re-checked against it.  Every theorem says: the definition the translator produced from the
source text *is* (for all arguments) the hand-written model function that the C01 / C02 / C12
theorems speak about (`Model/Repr.lean`, `Model/Query.lean`, `Model/Pred.lean`).  These
equalities transport the proved specifications onto the generated code; a changed comparison, a
swapped argument, a dropped guard in the Rust source makes the corresponding equality false and
its PROOF fails.

Hypotheses.  All equalities are unconditional, except for `AdjacencyMatrix`: the code indexes
`self.blocks[i >> 6]` (a panic when out of range, `none` in the generated definition) where the
hand model reads `blocks[i / 64]?.getD 0`.  Both agree exactly when the block vector is long
enough for the order, `MX.Sized d` (a consequence of `AdjMatrix.WF`, `MX.sized_of_wf`); the
`AdjacencyMatrix` equalities that go through `has_arc` carry this hypothesis and state
`generated = some (hand model)`.  `MX.hasArc_cases` is the unconditional form.
-/
namespace GraafVerif.ReprGenThm
open GraafVerif GraafVerif.Repr

/-! ## The helper combinators the translator emits -/

theorem mapO_eq {α β : Type} (f : α → Option β) (l : List α) : ReprGen.mapO f l = Query.mapO f l := by
  induction l with
  | nil => rfl
  | cons a as ih =>
    simp only [ReprGen.mapO, Query.mapO, ih]
    cases f a with
    | none => rfl
    | some b => cases Query.mapO f as <;> rfl

theorem filterO_eq {α : Type} (f : α → Option Bool) (l : List α) : ReprGen.filterO f l = Query.filterO f l := by
  induction l with
  | nil => rfl
  | cons a as ih =>
    simp only [ReprGen.filterO, Query.filterO, ih]
    cases f a with
    | none => rfl
    | some b => cases Query.filterO f as <;> rfl

theorem allO_eq {α : Type} (f : α → Option Bool) (l : List α) : ReprGen.allO f l = Pred.allO f l := by
  induction l with
  | nil => rfl
  | cons a as ih =>
    simp only [ReprGen.allO, Pred.allO, ih]
    cases f a with
    | none => rfl
    | some b => cases b <;> rfl

theorem popcount_eq (x : BitVec 64) : ReprGen.popcount x = AdjMatrix.popcount x := rfl

/-- A closure that never panics: `mapO` is `map`. -/
theorem mapO_some {α β : Type} (f : α → β) (l : List α) : ReprGen.mapO (fun a => some (f a)) l = some (l.map f) := by
  induction l with
  | nil => rfl
  | cons a as ih => simp [ReprGen.mapO, ih]

theorem filterO_some {α : Type} (f : α → Bool) (l : List α) :
    ReprGen.filterO (fun a => some (f a)) l = some (l.filter f) := by
  induction l with
  | nil => rfl
  | cons a as ih => cases h : f a <;> simp [ReprGen.filterO, ih, h]

theorem allO_some {α : Type} (f : α → Bool) (l : List α) : ReprGen.allO (fun a => some (f a)) l = some (l.all f) := by
  induction l with
  | nil => rfl
  | cons a as ih => cases h : f a <;> simp [ReprGen.allO, ih, h]

/-- `enumerate` is `zipIdx` with the components swapped (Rust yields `(index, item)`). -/
theorem all_enumerate {α : Type} (l : List α) (p : Nat × α → Bool) :
    (ReprGen.enumerate l).all p = l.zipIdx.all (fun q => p (q.2, q.1)) := by
  simp [ReprGen.enumerate, List.all_map, Function.comp_def]

theorem filterMap_enumerate {α β : Type} (l : List α) (f : Nat × α → Option β) :
    (ReprGen.enumerate l).filterMap f = l.zipIdx.filterMap (fun q => f (q.2, q.1)) := by
  simp [ReprGen.enumerate, List.filterMap_map, Function.comp_def]

theorem flatMap_enumerate {α β : Type} (l : List α) (f : Nat × α → List β) :
    (ReprGen.enumerate l).flatMap f = l.zipIdx.flatMap (fun q => f (q.2, q.1)) := by
  simp [ReprGen.enumerate, List.flatMap_map]

/-- Writing through `get_mut` at a present key is `mupsert` with any default. -/
theorem mset_eq_mupsert {X : Type} (k : Nat) (dflt : X) (f : X → X) :
    ∀ (l : List (Nat × X)) (x : X), mget k l = some x → ReprGen.mset k (f x) l = mupsert k dflt f l := by
  intro l
  induction l with
  | nil => intro x h; simp [mget] at h
  | cons a as ih =>
    intro x h
    obtain ⟨k', y⟩ := a
    simp only [mget] at h
    by_cases h1 : k = k'
    · subst h1
      simp only [if_true] at h
      cases h
      simp [ReprGen.mset, mupsert]
    · simp only [h1, if_false] at h
      by_cases h2 : k < k'
      · simp [h2] at h
      · simp only [h2, if_false] at h
        simp [ReprGen.mset, mupsert, h1, h2, ih x h]

/-- `if c then true else false` (what `for … { return false } true` becomes) is `c`. -/
theorem ite_true_false (c : Bool) : (if c then true else false) = c := by cases c <;> rfl
theorem not_bne_nat (a b : Nat) : (!(a != b)) = (a == b) := by simp [bne]

/-- The body of `is_regular` (identical in the five impls) against `Pred.Blanket.isRegular`: any `g`
that panics on the empty sequence and otherwise compares all pairs with the first is that body. -/
theorem isRegular_of {g : List (Nat × Nat) → Option Bool} (hnil : g [] = none)
    (hcons : ∀ p rest, g (p :: rest) = some (p.1 == p.2 && rest.all fun q => q.1 == p.1 && q.2 == p.2))
    (q : Query.Core) : q.semidegreeSequence.bind g = Pred.Blanket.isRegular q := by
  unfold Pred.Blanket.isRegular
  cases q.semidegreeSequence with
  | none => rfl
  | some l =>
    cases l with
    | nil => exact hnil
    | cons a as => exact hcons a as

/-- The instantiated blanket `degree` / `semidegree_sequence` closures against `Query.Core`. -/
theorem degree_body (i o : Option Nat) :
    (i.bind (fun r_1 => o.bind (fun r_2 => some (r_1 + r_2))))
      = (match i with | none => none | some a => match o with | none => none | some b => some (a + b)) := by
  cases i <;> cases o <;> rfl

theorem semidegree_body (i o : Option Nat) :
    (i.bind (fun r_1 => o.bind (fun r_2 => some (r_1, r_2))))
      = (match i with | none => none | some a => match o with | none => none | some b => some (a, b)) := by
  cases i <;> cases o <;> rfl

/-- The blanket closures instantiated for generated `indegree` / `outdegree` that agree with those of `q`. -/
theorem degree_of (q : Query.Core) {gi go : Nat → Option Nat} (hi : ∀ v, gi v = q.indegree v)
    (ho : ∀ v, go v = q.outdegree v) (u : Nat) :
    ((gi u).bind fun r_1 => (go u).bind fun r_2 => some (r_1 + r_2)) = q.degree u := by
  rw [degree_body, hi, ho]; rfl

theorem mapO_congr {α β : Type} {f g : α → Option β} (h : ∀ a, f a = g a) (l : List α) :
    ReprGen.mapO f l = Query.mapO g l := by
  rw [mapO_eq, funext h]

theorem semidegreeSequence_of (q : Query.Core) {gi go : Nat → Option Nat} (hi : ∀ v, gi v = q.indegree v)
    (ho : ∀ v, go v = q.outdegree v) :
    ReprGen.mapO (fun u => (gi u).bind fun r_1 => (go u).bind fun r_2 => some (r_1, r_2)) q.vertices =
      q.semidegreeSequence :=
  mapO_congr (fun u => by rw [semidegree_body, hi, ho]; rfl) _

/-! ## AdjacencyList -/
namespace AL
open ReprGen

theorem order_eq (d : AdjList) : AL.order d = d.order := rfl
theorem contiguousOrder_eq (d : AdjList) : AL.contiguousOrder d = d.order := rfl
theorem vertices_eq (d : AdjList) : AL.vertices d = d.vertices := rfl
theorem hasArc_eq (d : AdjList) (u v : Nat) : AL.hasArc d u v = d.hasArc u v := rfl
theorem hasEdge_eq (d : AdjList) (u v : Nat) : AL.hasEdge d u v = Query.AL.hasEdge d u v := rfl
theorem size_eq (d : AdjList) : AL.size d = d.size := rfl
theorem indegree_eq (d : AdjList) (v : Nat) : AL.indegree d v = Query.AL.indegree d v := rfl
theorem isSource_eq (d : AdjList) (v : Nat) : AL.isSource d v = Query.AL.isSource d v := rfl
theorem outdegree_eq (d : AdjList) (u : Nat) : AL.outdegree d u = Query.AL.outdegree d u := by
  unfold AL.outdegree Query.AL.outdegree; cases d.rows[u]? <;> rfl
theorem isSink_eq (d : AdjList) (u : Nat) : AL.isSink d u = Query.AL.isSink d u := by
  unfold AL.isSink Query.AL.isSink; cases d.rows[u]? <;> rfl
theorem degree_eq (d : AdjList) (u : Nat) : AL.degree d u = (Query.AL.core d).degree u :=
  degree_of (Query.AL.core d) (indegree_eq d) (outdegree_eq d) u
theorem semidegreeSequence_eq (d : AdjList) : AL.semidegreeSequence d = (Query.AL.core d).semidegreeSequence :=
  semidegreeSequence_of (Query.AL.core d) (indegree_eq d) (outdegree_eq d)
theorem isComplete_eq (d : AdjList) : AL.isComplete d = Pred.AL.isComplete d := by
  simp only [AL.isComplete, Pred.AL.isComplete, AL.order, AdjList.order, ite_true_false, not_bne_nat]
theorem isRegular_eq (d : AdjList) : AL.isRegular d = Pred.Blanket.isRegular (Query.AL.core d) := by
  unfold AL.isRegular; rw [semidegreeSequence_eq]
  exact isRegular_of rfl (fun _ _ => rfl) _
theorem isSimple_eq (d : AdjList) : AL.isSimple d = Pred.AL.isSimple d := by
  unfold AL.isSimple Pred.AL.isSimple; rw [all_enumerate]
theorem removeArc_eq (d : AdjList) (u v : Nat) : AL.removeArc d u v = d.removeArc u v := by
  unfold AL.removeArc AdjList.removeArc; cases d.rows[u]? <;> rfl
example : AL.isRegular ⟨[[1], [2], [0]]⟩ = some true := by decide +kernel
example : AL.removeArc ⟨[[1, 2], []  , []]⟩ 0 2 = (⟨[[1], [], []]⟩, true) := by decide +kernel
end AL

/-! ## AdjacencyMap -/
namespace AM
open ReprGen

theorem order_eq (d : AdjMap) : AM.order d = d.order := rfl
theorem vertices_eq (d : AdjMap) : AM.vertices d = d.vertices := rfl
theorem hasArc_eq (d : AdjMap) (u v : Nat) : AM.hasArc d u v = d.hasArc u v := rfl
theorem hasEdge_eq (d : AdjMap) (u v : Nat) : AM.hasEdge d u v = Query.AM.hasEdge d u v := rfl
theorem size_eq (d : AdjMap) : AM.size d = d.size := by
  simp [AM.size, AdjMap.size, List.map_map, Function.comp_def]
theorem arcs_eq (d : AdjMap) : AM.arcs d = d.arcs := rfl
theorem indegree_eq (d : AdjMap) (v : Nat) : AM.indegree d v = Query.AM.indegree d v := by
  simp [AM.indegree, Query.AM.indegree, List.filter_map, Function.comp_def]
theorem isSource_eq (d : AdjMap) (v : Nat) : AM.isSource d v = Query.AM.isSource d v := by
  simp [AM.isSource, Query.AM.isSource, List.all_map, Function.comp_def]
theorem outdegree_eq (d : AdjMap) (u : Nat) : AM.outdegree d u = Query.AM.outdegree d u := by
  unfold AM.outdegree Query.AM.outdegree; cases mget u d.rows <;> rfl
theorem isSink_eq (d : AdjMap) (u : Nat) : AM.isSink d u = Query.AM.isSink d u := by
  unfold AM.isSink Query.AM.isSink; cases mget u d.rows <;> rfl
theorem inNeighbors_eq (d : AdjMap) (v : Nat) : AM.inNeighbors d v = Query.AM.inNeighbors d v := rfl
theorem degree_eq (d : AdjMap) (u : Nat) : AM.degree d u = (Query.AM.core d).degree u :=
  degree_of (Query.AM.core d) (indegree_eq d) (outdegree_eq d) u
theorem semidegreeSequence_eq (d : AdjMap) : AM.semidegreeSequence d = (Query.AM.core d).semidegreeSequence :=
  semidegreeSequence_of (Query.AM.core d) (indegree_eq d) (outdegree_eq d)
theorem degreeSequence_eq (d : AdjMap) (t : Nat) : AM.degreeSequence d = (Query.AM.core d).degreeSequence t :=
  mapO_congr (degree_eq d) _
theorem indegreeSequence_eq (d : AdjMap) : AM.indegreeSequence d = (Query.AM.core d).indegreeSequence :=
  mapO_congr (indegree_eq d) _
theorem isComplete_eq (d : AdjMap) : AM.isComplete d = Pred.AM.isComplete d := by
  simp only [AM.isComplete, Pred.AM.isComplete, AM.order, AdjMap.order, ite_true_false, not_bne_nat, List.all_map,
    Function.comp_def]
theorem isRegular_eq (d : AdjMap) : AM.isRegular d = Pred.Blanket.isRegular (Query.AM.core d) := by
  unfold AM.isRegular; rw [semidegreeSequence_eq]
  exact isRegular_of rfl (fun _ _ => rfl) _
theorem isSimple_eq (d : AdjMap) : AM.isSimple d = Pred.AM.isSimple d := rfl
theorem isSemicomplete_eq (d : AdjMap) : AM.isSemicomplete d = Pred.AM.isSemicomplete d := by
  unfold AM.isSemicomplete Pred.AM.isSemicomplete
  rw [size_eq, ite_true_false]; rfl
theorem isTournament_eq (d : AdjMap) : AM.isTournament d = Pred.AM.isTournament d := by
  unfold AM.isTournament Pred.AM.isTournament
  rw [size_eq, ite_true_false]; rfl
theorem removeArc_eq (d : AdjMap) (u v : Nat) : AM.removeArc d u v = d.removeArc u v := by
  unfold AM.removeArc AdjMap.removeArc
  cases h : mget u d.rows with
  | none => rfl
  | some row =>
    simp only [setRemove]
    rw [mset_eq_mupsert u [] (serase v) d.rows row h]
example : AM.isTournament ⟨[(0, [1]), (1, [2]), (2, [0])]⟩ = true := by decide +kernel
example : AM.removeArc ⟨[(3, [7]), (7, [])]⟩ 3 7 = (⟨[(3, []), (7, [])]⟩, true) := by decide +kernel
example : AM.degreeSequence ⟨[(3, [7]), (7, [])]⟩ = some [1, 1] := by decide +kernel
end AM

/-! ## AdjacencyMatrix -/
namespace MX
open ReprGen

/-- The block vector has room for `order²` cells (second conjunct of `AdjMatrix.WF`, weakened). -/
def Sized (d : AdjMatrix) : Prop := d.order * d.order ≤ 64 * d.blocks.length

theorem sized_of_wf {d : AdjMatrix} (h : d.WF) : Sized d := ((AdjMatrix.WF_iff d).mp h).1.cells_cover

theorem shift_eq (i : Nat) : i >>> 6 = i / 64 := by simp [Nat.shiftRight_eq_div_pow]
theorem and63_eq (i : Nat) : i &&& 63 = i % 64 := by simpa using Nat.and_two_pow_sub_one_eq_mod i 6

theorem mask_eq (i : Nat) : MX.mask i = AdjMatrix.mask i := by
  unfold MX.mask AdjMatrix.mask; rw [and63_eq]
theorem index_eq (d : AdjMatrix) (u v : Nat) : MX.index d u v = d.index u v := rfl
theorem order_eq (d : AdjMatrix) : MX.order d = d.order := rfl
theorem contiguousOrder_eq (d : AdjMatrix) : MX.contiguousOrder d = d.order := rfl
theorem vertices_eq (d : AdjMatrix) : MX.vertices d = d.vertices := rfl

theorem index_lt {d : AdjMatrix} (hs : Sized d) {u v : Nat} (hu : u < d.order) (hv : v < d.order) :
    d.index u v / 64 < d.blocks.length :=
  AdjMatrix.block_lt hs hu hv

theorem ite_some (c : Prop) [Decidable c] {α : Type} (a b : α) :
    (if c then some a else some b) = some (if c then a else b) := by split <;> rfl
theorem ite_some_or (a b : Bool) : (if a then some true else some b) = some (a || b) := by cases a <;> rfl
theorem ite_some_and (a b : Bool) : (if a then some b else some false) = some (a && b) := by cases a <;> rfl
theorem xor_eq_bne (a b : Bool) : (a ^^ b) = (a != b) := by cases a <;> cases b <;> rfl

/-- Unconditionally: `has_arc` either panics (block index out of range) or answers as the hand model. -/
theorem hasArc_cases (d : AdjMatrix) (u v : Nat) :
    MX.hasArc d u v = none ∨ MX.hasArc d u v = some (d.hasArc u v) := by
  unfold MX.hasArc AdjMatrix.hasArc
  split
  · right; rfl
  · simp only [index_eq, shift_eq, mask_eq]
    cases d.blocks[d.index u v / 64]? with
    | none => left; rfl
    | some b => right; rfl

theorem hasArc_eq {d : AdjMatrix} (hs : Sized d) (u v : Nat) : MX.hasArc d u v = some (d.hasArc u v) := by
  unfold MX.hasArc AdjMatrix.hasArc
  split
  · rfl
  · rename_i h
    obtain ⟨hu, hv⟩ := AdjMatrix.lt_of_not_oob h
    simp only [index_eq, shift_eq, mask_eq, List.getElem?_eq_getElem (index_lt hs hu hv)]
    rfl

theorem hasEdge_eq {d : AdjMatrix} (hs : Sized d) (u v : Nat) : MX.hasEdge d u v = some (Query.MX.hasEdge d u v) := by
  unfold MX.hasEdge Query.MX.hasEdge
  simp only [hasArc_eq hs, Option.bind_some, ite_some_and]
theorem hasWalk_eq {d : AdjMatrix} (hs : Sized d) (w : List Nat) : MX.hasWalk d w = some (Query.MX.hasWalk d w) := by
  unfold MX.hasWalk Query.MX.hasWalk Query.hasWalkZip
  simp only [hasArc_eq hs, allO_some, ite_some_and]
theorem size_eq (d : AdjMatrix) : MX.size d = d.size := AdjMatrix.sizePop_eq d
theorem indegree_eq {d : AdjMatrix} (hs : Sized d) (v : Nat) : MX.indegree d v = Query.MX.indegree d v := by
  unfold MX.indegree Query.MX.indegree
  simp only [hasArc_eq hs, filterO_some, Option.bind_some, vertices_eq]
theorem isSource_eq {d : AdjMatrix} (hs : Sized d) (v : Nat) : MX.isSource d v = some (Query.MX.isSource d v) := by
  unfold MX.isSource Query.MX.isSource
  simp only [hasArc_eq hs, allO_some, Option.bind_some, vertices_eq]
theorem outdegree_eq {d : AdjMatrix} (hs : Sized d) (u : Nat) : MX.outdegree d u = Query.MX.outdegree d u := by
  unfold MX.outdegree Query.MX.outdegree
  simp only [hasArc_eq hs, filterO_some, Option.bind_some, vertices_eq]
theorem isSink_eq {d : AdjMatrix} (hs : Sized d) (u : Nat) : MX.isSink d u = Query.MX.isSink d u := by
  unfold MX.isSink Query.MX.isSink
  simp only [hasArc_eq hs, allO_some, Option.bind_some, vertices_eq]
theorem outNeighbors_eq {d : AdjMatrix} (hs : Sized d) (u : Nat) : MX.outNeighbors d u = Query.MX.outNeighbors d u := by
  unfold MX.outNeighbors Query.MX.outNeighbors
  simp only [hasArc_eq hs, filterO_some, vertices_eq]
theorem inNeighbors_eq (d : AdjMatrix) (v : Nat) : MX.inNeighbors d v = Query.MX.inNeighbors d v := rfl
theorem degree_eq {d : AdjMatrix} (hs : Sized d) (u : Nat) : MX.degree d u = (Query.MX.core d).degree u :=
  degree_of (Query.MX.core d) (indegree_eq hs) (outdegree_eq hs) u
theorem semidegreeSequence_eq {d : AdjMatrix} (hs : Sized d) :
    MX.semidegreeSequence d = (Query.MX.core d).semidegreeSequence :=
  semidegreeSequence_of (Query.MX.core d) (indegree_eq hs) (outdegree_eq hs)
theorem degreeSequence_eq {d : AdjMatrix} (hs : Sized d) (t : Nat) :
    MX.degreeSequence d = (Query.MX.core d).degreeSequence t :=
  mapO_congr (degree_eq hs) _
theorem indegreeSequence_eq {d : AdjMatrix} (hs : Sized d) :
    MX.indegreeSequence d = (Query.MX.core d).indegreeSequence :=
  mapO_congr (indegree_eq hs) _
theorem isComplete_eq (d : AdjMatrix) : MX.isComplete d = Pred.MX.isComplete d := by
  unfold MX.isComplete Pred.MX.isComplete; rw [order_eq]; cases Pred.MX.complete d.order <;> rfl
theorem isRegular_eq {d : AdjMatrix} (hs : Sized d) : MX.isRegular d = Pred.Blanket.isRegular (Query.MX.core d) := by
  unfold MX.isRegular; rw [semidegreeSequence_eq hs]
  exact isRegular_of rfl (fun _ _ => rfl) _
theorem isSimple_eq {d : AdjMatrix} (hs : Sized d) : MX.isSimple d = some (Pred.MX.isSimple d) := by
  unfold MX.isSimple Pred.MX.isSimple
  simp only [hasArc_eq hs, allO_some, Option.bind_some, vertices_eq]
theorem isSemicomplete_eq {d : AdjMatrix} (hs : Sized d) : MX.isSemicomplete d = some (Pred.MX.isSemicomplete d) := by
  unfold MX.isSemicomplete Pred.MX.isSemicomplete Pred.above
  simp only [hasArc_eq hs, Option.bind_some, ite_some_or, allO_some, ite_some_and, size_eq, order_eq]
theorem isTournament_eq {d : AdjMatrix} (hs : Sized d) : MX.isTournament d = some (Pred.MX.isTournament d) := by
  unfold MX.isTournament Pred.MX.isTournament Pred.above
  simp only [hasArc_eq hs, Option.bind_some, allO_some, size_eq, order_eq, xor_eq_bne, ite_some]
theorem removeArc_eq {d : AdjMatrix} (hs : Sized d) (u v : Nat) : MX.removeArc d u v = some (d.removeArc u v) := by
  unfold MX.removeArc AdjMatrix.removeArc
  split
  · rfl
  · rename_i h
    obtain ⟨hu, hv⟩ := AdjMatrix.lt_of_not_oob h
    simp only [hasArc_eq hs, Option.bind_some, index_eq, shift_eq, mask_eq,
      List.getElem?_eq_getElem (index_lt hs hu hv), AdjMatrix.setBlock, Option.getD_some]
/-! ### Non-vacuity / the one place where generated code and hand model differ (outside `WF`) -/

/-- `Sized` is satisfiable (a 2-vertex matrix in one block) and the generated code runs on it. -/
example : Sized ⟨[2#64], 2⟩ := by unfold Sized; decide
example : MX.hasArc ⟨[2#64], 2⟩ 0 1 = some true := by decide +kernel
example : MX.removeArc ⟨[2#64], 2⟩ 0 1 = some (⟨[0#64], 2⟩, true) := by decide +kernel
example : MX.isTournament ⟨[2#64], 2⟩ = some true := by decide +kernel
/-- Without `Sized` (a block vector that is too short — never produced by the public API) the
code panics on the index, while the hand model `AdjMatrix.hasArc` reads a zero block. -/
example : MX.hasArc ⟨[], 2⟩ 0 1 = none ∧ AdjMatrix.hasArc ⟨[], 2⟩ 0 1 = false := by decide +kernel
end MX

/-! ## EdgeList -/
namespace EL
open ReprGen

theorem order_eq (d : EdgeList) : EL.order d = d.order := rfl
theorem contiguousOrder_eq (d : EdgeList) : EL.contiguousOrder d = d.order := rfl
theorem vertices_eq (d : EdgeList) : EL.vertices d = d.vertices := rfl
theorem arcs_eq (d : EdgeList) : EL.arcs d = d.arcs := rfl
theorem hasArc_eq (d : EdgeList) (u v : Nat) : EL.hasArc d u v = d.hasArc u v := rfl
theorem hasEdge_eq (d : EdgeList) (u v : Nat) : EL.hasEdge d u v = Query.EL.hasEdge d u v := rfl
theorem hasWalk_eq (d : EdgeList) (w : List Nat) : EL.hasWalk d w = Query.EL.hasWalk d w := rfl
theorem size_eq (d : EdgeList) : EL.size d = d.size := rfl
theorem indegree_eq (d : EdgeList) (v : Nat) : EL.indegree d v = Query.EL.indegree d v := rfl
theorem isSource_eq (d : EdgeList) (v : Nat) : EL.isSource d v = Query.EL.isSource d v := rfl
theorem outdegree_eq (d : EdgeList) (u : Nat) : EL.outdegree d u = Query.EL.outdegree d u := rfl
theorem isSink_eq (d : EdgeList) (u : Nat) : EL.isSink d u = Query.EL.isSink d u := rfl
theorem inNeighbors_eq (d : EdgeList) (v : Nat) : EL.inNeighbors d v = Query.EL.inNeighbors d v := rfl
theorem outNeighbors_eq (d : EdgeList) (u : Nat) : EL.outNeighbors d u = Query.EL.outNeighbors d u := rfl
theorem degree_eq (d : EdgeList) (u : Nat) : EL.degree d u = (Query.EL.core d).degree u :=
  degree_of (Query.EL.core d) (indegree_eq d) (outdegree_eq d) u
theorem semidegreeSequence_eq (d : EdgeList) : EL.semidegreeSequence d = (Query.EL.core d).semidegreeSequence :=
  semidegreeSequence_of (Query.EL.core d) (indegree_eq d) (outdegree_eq d)
theorem degreeSequence_eq (d : EdgeList) (t : Nat) : EL.degreeSequence d = (Query.EL.core d).degreeSequence t :=
  mapO_congr (degree_eq d) _
theorem indegreeSequence_eq (d : EdgeList) : EL.indegreeSequence d = (Query.EL.core d).indegreeSequence :=
  mapO_congr (indegree_eq d) _
theorem isComplete_eq (d : EdgeList) : EL.isComplete d = Pred.EL.isComplete d := by
  unfold EL.isComplete Pred.EL.isComplete; rw [order_eq]; cases Pred.EL.complete d.order <;> rfl
theorem isRegular_eq (d : EdgeList) : EL.isRegular d = Pred.Blanket.isRegular (Query.EL.core d) := by
  unfold EL.isRegular; rw [semidegreeSequence_eq]
  exact isRegular_of rfl (fun _ _ => rfl) _
theorem isSimple_eq (d : EdgeList) : EL.isSimple d = Pred.EL.isSimple d := rfl
theorem isSemicomplete_eq (d : EdgeList) : EL.isSemicomplete d = Pred.EL.isSemicomplete d := rfl
theorem isTournament_eq (d : EdgeList) : EL.isTournament d = Pred.EL.isTournament d := by
  unfold EL.isTournament Pred.EL.isTournament Pred.above
  simp only [MX.xor_eq_bne, hasArc_eq, size_eq, order_eq]
theorem removeArc_eq (d : EdgeList) (u v : Nat) : EL.removeArc d u v = d.removeArc u v := rfl
/-- The `Query.Core` record assembled from the GENERATED definitions only (`EdgeList` is fully covered). -/
def genCore (d : EdgeList) : Query.Core where
  order := EL.order d
  vertices := EL.vertices d
  arcs := EL.arcs d
  size := EL.size d
  hasArc := EL.hasArc d
  hasEdge := EL.hasEdge d
  hasWalk := EL.hasWalk d
  outNeighbors := EL.outNeighbors d
  inNeighbors := EL.inNeighbors d
  indegree := EL.indegree d
  isSource := EL.isSource d
  outdegree := EL.outdegree d
  isSink := EL.isSink d
  indegreeSequence := EL.indegreeSequence d
  degreeSequence := fun _ => EL.degreeSequence d

/-- … is the hand-written record all C02 / C12 `EdgeList` theorems are about. -/
theorem genCore_eq (d : EdgeList) : genCore d = Query.EL.core d := by
  unfold genCore Query.EL.core
  congr 1
  · exact indegreeSequence_eq d
  · funext t; exact degreeSequence_eq d t
end EL

/-! ## AdjacencyListWeighted -/
namespace WL
open ReprGen

theorem order_eq (d : AdjListW) : WL.order d = d.order := rfl
theorem contiguousOrder_eq (d : AdjListW) : WL.contiguousOrder d = d.order := rfl
theorem vertices_eq (d : AdjListW) : WL.vertices d = d.vertices := rfl
theorem hasArc_eq (d : AdjListW) (u v : Nat) : WL.hasArc d u v = d.hasArc u v := rfl
theorem hasEdge_eq (d : AdjListW) (u v : Nat) : WL.hasEdge d u v = Query.WL.hasEdge d u v := rfl
theorem hasWalk_eq (d : AdjListW) (w : List Nat) : WL.hasWalk d w = Query.WL.hasWalk d w := rfl
theorem size_eq (d : AdjListW) : WL.size d = d.size := rfl
theorem arcWeight_eq (d : AdjListW) (u v : Nat) : WL.arcWeight d u v = d.arcWeight u v := rfl
theorem arcsWeighted_eq (d : AdjListW) : WL.arcsWeighted d = d.arcsWeighted := by
  unfold WL.arcsWeighted AdjListW.arcsWeighted; rw [flatMap_enumerate]
theorem arcs_eq (d : AdjListW) : WL.arcs d = d.arcs := by
  unfold WL.arcs AdjListW.arcs AdjListW.arcsWeighted
  rw [flatMap_enumerate, List.map_flatMap]
  simp only [List.map_map, Function.comp_def]
theorem indegree_eq (d : AdjListW) (v : Nat) : WL.indegree d v = Query.WL.indegree d v := rfl
theorem isSource_eq (d : AdjListW) (v : Nat) : WL.isSource d v = Query.WL.isSource d v := rfl
theorem outdegree_eq (d : AdjListW) (u : Nat) : WL.outdegree d u = Query.WL.outdegree d u := by
  unfold WL.outdegree Query.WL.outdegree; cases d.rows[u]? <;> rfl
theorem isSink_eq (d : AdjListW) (u : Nat) : WL.isSink d u = Query.WL.isSink d u := by
  unfold WL.isSink Query.WL.isSink; cases d.rows[u]? <;> rfl
theorem inNeighbors_eq (d : AdjListW) (v : Nat) : WL.inNeighbors d v = Query.WL.inNeighbors d v := by
  unfold WL.inNeighbors Query.WL.inNeighbors; rw [filterMap_enumerate]
theorem outNeighbors_eq (d : AdjListW) (u : Nat) : WL.outNeighbors d u = Query.WL.outNeighbors d u := by
  unfold WL.outNeighbors Query.WL.outNeighbors; cases d.rows[u]? <;> rfl
theorem outNeighborsWeighted_eq (d : AdjListW) (u : Nat) :
    WL.outNeighborsWeighted d u = Query.WL.outNeighborsWeighted d u := by
  unfold WL.outNeighborsWeighted Query.WL.outNeighborsWeighted
  cases d.rows[u]? with
  | none => rfl
  | some r => exact congrArg some (List.map_id r)
theorem degree_eq (d : AdjListW) (u : Nat) : WL.degree d u = (Query.WL.core d).degree u :=
  degree_of (Query.WL.core d) (indegree_eq d) (outdegree_eq d) u
theorem semidegreeSequence_eq (d : AdjListW) : WL.semidegreeSequence d = (Query.WL.core d).semidegreeSequence :=
  semidegreeSequence_of (Query.WL.core d) (indegree_eq d) (outdegree_eq d)
theorem degreeSequence_eq (d : AdjListW) (t : Nat) : WL.degreeSequence d = (Query.WL.core d).degreeSequence t :=
  mapO_congr (degree_eq d) _
theorem indegreeSequence_eq (d : AdjListW) : WL.indegreeSequence d = (Query.WL.core d).indegreeSequence :=
  mapO_congr (indegree_eq d) _
theorem isComplete_eq (d : AdjListW) : WL.isComplete d = Pred.WL.isComplete d := rfl
theorem isRegular_eq (d : AdjListW) : WL.isRegular d = Pred.Blanket.isRegular (Query.WL.core d) := by
  unfold WL.isRegular; rw [semidegreeSequence_eq]
  exact isRegular_of rfl (fun _ _ => rfl) _
theorem isSimple_eq (d : AdjListW) : WL.isSimple d = Pred.WL.isSimple d := by
  unfold WL.isSimple Pred.WL.isSimple; rw [all_enumerate]
theorem isSemicomplete_eq (d : AdjListW) : WL.isSemicomplete d = Pred.WL.isSemicomplete d := rfl
theorem isTournament_eq (d : AdjListW) : WL.isTournament d = Pred.WL.isTournament d := by
  unfold WL.isTournament Pred.WL.isTournament Pred.above
  simp only [MX.xor_eq_bne, hasArc_eq, size_eq, order_eq]
theorem removeArc_eq (d : AdjListW) (u v : Nat) : WL.removeArc d u v = d.removeArc u v := by
  unfold WL.removeArc AdjListW.removeArc; cases d.rows[u]? <;> rfl
/-- The `Query.Core` record assembled from the GENERATED definitions only (`AdjacencyListWeighted` is fully covered). -/
def genCore (d : AdjListW) : Query.Core where
  order := WL.order d
  vertices := WL.vertices d
  arcs := WL.arcs d
  size := WL.size d
  hasArc := WL.hasArc d
  hasEdge := WL.hasEdge d
  hasWalk := WL.hasWalk d
  outNeighbors := WL.outNeighbors d
  inNeighbors := WL.inNeighbors d
  indegree := WL.indegree d
  isSource := WL.isSource d
  outdegree := WL.outdegree d
  isSink := WL.isSink d
  indegreeSequence := WL.indegreeSequence d
  degreeSequence := fun _ => WL.degreeSequence d

theorem genCore_eq (d : AdjListW) : genCore d = Query.WL.core d := by
  unfold genCore Query.WL.core
  congr 1
  · exact arcs_eq d
  · funext u; exact outNeighbors_eq d u
  · funext v; exact inNeighbors_eq d v
  · funext u; exact outdegree_eq d u
  · funext u; exact isSink_eq d u
  · exact indegreeSequence_eq d
  · funext t; exact degreeSequence_eq d t
end WL

end GraafVerif.ReprGenThm
