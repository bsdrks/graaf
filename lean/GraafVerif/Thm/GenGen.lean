import GraafVerif.Model.GenGen
import GraafVerif.Spec.DistMatrix
import GraafVerif.Proof.FoldLemmas
/-!
# The GENERATED generators / DistanceMatrix queries EQUAL the hand-written models (tag GenGen)

`Model/GenGen.lean` is regenerated by `tools/translate_gen.py` on every run of the C14 / C18 checks
from (A) the `impl Empty/Biclique/Circuit/Complete/Cycle/Path/Star/Wheel for <Repr>` blocks of
`/repo/src/repr/*/mod.rs` (+ the default methods `trivial`, `claw`, `utility` of `src/gen`), and
(B) `/repo/src/algo/distance_matrix.rs`; this file is re-checked against it.  Every theorem says:
the definition produced from the source text *is*, for all arguments, the hand-written model the
C14 theorems (`Model/Gen.lean`: `Gen.AL.circuit`, …) resp. the C18 theorems
(`Model/DistMatrix.lean`: `DistMatrix.ecc`, …) speak about.  A changed bound, modulus, assert or
arc order in the Rust source makes the equality false and its PROOF fails.

Hypotheses: the generator equalities are unconditional (`none` = the admissibility `assert!`s /
`empty(0)` / the `order²` overflow check).  The `DistanceMatrix` queries go through
`dist.chunks(order)`, which panics for `order = 0`; the hand model is total there, so these
equalities carry `0 < m.order` (guaranteed by `new`) and state `generated = some (hand model)`;
`DM.eccentricities_zero` is the other half.
-/
namespace GraafVerif.GenGenThm
open GraafVerif GraafVerif.Repr

theorem range'_zero (m : Nat) : List.range' 0 (m - 0) = List.range m := List.range_eq_range'.symm

/-- `assert!(order > 0)` against the model's `if n = 0 then none` -/
theorem pos_guard_eq {α : Type} {n : Nat} {x x' : Option α} (h : 0 < n → x = x') :
    (if n > 0 then x else none) = (if n = 0 then none else x') := by
  cases n with
  | zero => rfl
  | succ k => rw [if_pos (Nat.succ_pos k), if_neg (Nat.succ_ne_zero k)]; exact h (Nat.succ_pos k)

/-- `if order == 1 { return Self::trivial() }` -/
theorem one_guard_eq {α : Type} {n : Nat} {t t' x x' : Option α} (ht : t = t') (hx : x = x') :
    (if (n == 1) then t else x) = (if n = 1 then t' else x') := by
  subst ht hx
  by_cases h : n = 1
  · rw [if_pos h, if_pos (beq_iff_eq.mpr h)]
  · rw [if_neg h, if_neg (mt beq_iff_eq.mp h)]

theorem guard_eq {α : Type} {n : Nat} {t t' x x' : Option α} (ht : t = t') (hx : x = x') :
    (if n > 0 then (if (n == 1) then t else x) else none) =
      (if n = 0 then none else if n = 1 then t' else x') :=
  pos_guard_eq fun _ => one_guard_eq ht hx

/-- `assert!(order >= 4)` -/
theorem four_guard_eq {α : Type} {n : Nat} {x x' : Option α} (h : x = x') :
    (if n >= 4 then x else none) = (if ¬ n ≥ 4 then none else x') := h ▸ (ite_not ..).symm

theorem al_arcs_nil : ∀ (l : List (List Nat)) (k : Nat), (∀ r ∈ l, r = []) →
    (l.zipIdx k).flatMap (fun (row, u) => row.map (fun v => (u, v))) = [] := by
  intro l
  induction l with
  | nil => intro k _; rfl
  | cons a as ih =>
    intro k h
    rw [List.zipIdx_cons, List.flatMap_cons, h a (List.mem_cons_self ..)]
    exact ih (k + 1) (fun r hr => h r (List.mem_cons_of_mem _ hr))

theorem fromRowsAL_replicate (n : Nat) (h : 0 < n) :
    Conv.AL.fromRows (List.replicate n []) = some ⟨List.replicate n []⟩ := by
  have harcs : (⟨List.replicate n []⟩ : AdjList).arcs = [] :=
    al_arcs_nil _ 0 (fun r hr => (List.mem_replicate.mp hr).2)
  rw [Conv.AL.fromRows, harcs, if_neg (by rw [AdjList.order, List.length_replicate]; exact Nat.ne_of_gt h)]
  rfl

theorem zipIdx_replicate_swap (n : Nat) :
    (List.replicate n ([] : List Nat)).zipIdx.map (fun p => (p.2, p.1)) = (List.range n).map (fun u => (u, [])) := by
  apply List.ext_getElem
  · simp
  · intro i h1 h2; simp

theorem am_arcs_nil (l : List (Nat × List Nat)) (h : ∀ r ∈ l, r.2 = []) :
    l.flatMap (fun (u, row) => row.map (fun v => (u, v))) = [] := by
  induction l with
  | nil => rfl
  | cons a as ih =>
    obtain ⟨u, row⟩ := a
    rw [List.flatMap_cons, show row = [] from h (u, row) (List.mem_cons_self ..)]
    exact ih (fun r hr => h r (List.mem_cons_of_mem _ hr))

theorem fromRowsAM_replicate (n : Nat) (h : 0 < n) :
    Conv.AM.fromRows (List.replicate n []) = some ⟨(List.range n).map (fun u => (u, []))⟩ := by
  have harcs : (⟨(List.range n).map (fun u => (u, ([] : List Nat)))⟩ : AdjMap).arcs = [] :=
    am_arcs_nil _ (List.forall_mem_map.mpr fun _ _ => rfl)
  rw [Conv.AM.fromRows, zipIdx_replicate_swap, harcs,
    if_neg (by rw [AdjMap.order, List.length_map, List.length_range]; exact Nat.ne_of_gt h)]
  rfl

namespace AL
open GenGen

theorem empty_eq (n : Nat) : AL.empty n = Gen.AL.empty n := pos_guard_eq (fromRowsAL_replicate n)
theorem trivial_eq : AL.trivial = Gen.AL.trivial := empty_eq 1
theorem biclique_eq (m n : Nat) : AL.biclique m n = Gen.AL.biclique m n :=
  pos_guard_eq fun _ => pos_guard_eq fun _ => by rw [← range'_zero]; rfl
theorem claw_eq : AL.claw = Gen.AL.claw := biclique_eq 1 3
theorem utility_eq : AL.utility = Gen.AL.utility := biclique_eq 3 3
theorem circuit_eq (n : Nat) : AL.circuit n = Gen.AL.circuit n := guard_eq trivial_eq rfl
theorem cycle_eq (n : Nat) : AL.cycle n = Gen.AL.cycle n :=
  guard_eq trivial_eq (by rw [← range'_zero]; rfl)
theorem path_eq (n : Nat) : AL.path n = Gen.AL.path n :=
  guard_eq trivial_eq (by rw [← range'_zero]; rfl)
theorem star_eq (n : Nat) : AL.star n = Gen.AL.star n := guard_eq trivial_eq rfl
theorem wheel_eq (n : Nat) : AL.wheel n = Gen.AL.wheel n :=
  four_guard_eq (by simp only [beq_iff_eq]; rfl)

example : AL.wheel 4 = some ⟨[[1, 2, 3], [0, 2, 3], [0, 1, 3], [0, 1, 2]]⟩ := by decide +kernel
example : AL.wheel 3 = none ∧ AL.circuit 0 = none ∧ AL.biclique 0 2 = none := by decide +kernel
example : AL.cycle 3 = some ⟨[[1, 2], [0, 2], [0, 1]]⟩ := by decide +kernel
end AL

namespace AM
open GenGen

theorem empty_eq (n : Nat) : AM.empty n = Gen.AM.empty n := pos_guard_eq (fromRowsAM_replicate n)
theorem trivial_eq : AM.trivial = Gen.AM.trivial := empty_eq 1
theorem biclique_eq (m n : Nat) : AM.biclique m n = Gen.AM.biclique m n :=
  pos_guard_eq fun _ => pos_guard_eq fun _ => by rw [← range'_zero]; rfl
theorem claw_eq : AM.claw = Gen.AM.claw := biclique_eq 1 3
theorem utility_eq : AM.utility = Gen.AM.utility := biclique_eq 3 3
theorem circuit_eq (n : Nat) : AM.circuit n = Gen.AM.circuit n :=
  guard_eq trivial_eq (by rw [← range'_zero]; rfl)
theorem complete_eq (n : Nat) : AM.complete n = Gen.AM.complete n :=
  guard_eq trivial_eq (by rw [← range'_zero]; rfl)
theorem cycle_eq (n : Nat) : AM.cycle n = Gen.AM.cycle n :=
  guard_eq trivial_eq (by rw [← range'_zero]; rfl)
theorem path_eq (n : Nat) : AM.path n = Gen.AM.path n :=
  guard_eq trivial_eq (by simp only [← range'_zero]; rfl)
theorem star_eq (n : Nat) : AM.star n = Gen.AM.star n := guard_eq trivial_eq rfl
theorem wheel_eq (n : Nat) : AM.wheel n = Gen.AM.wheel n := four_guard_eq rfl

example : AM.complete 3 = some ⟨[(0, [1, 2]), (1, [0, 2]), (2, [0, 1])]⟩ := by decide +kernel
example : AM.claw = some ⟨[(0, [1, 2, 3]), (1, [0]), (2, [0]), (3, [0])]⟩ := by decide +kernel
end AM

namespace EL
open GenGen

theorem empty_eq (n : Nat) : EL.empty n = Gen.EL.empty n := pos_guard_eq fun _ => rfl
theorem trivial_eq : EL.trivial = Gen.EL.trivial := empty_eq 1
theorem biclique_eq (m n : Nat) : EL.biclique m n = Gen.EL.biclique m n :=
  pos_guard_eq fun _ => pos_guard_eq fun _ => by rw [← range'_zero]; rfl
theorem claw_eq : EL.claw = Gen.EL.claw := biclique_eq 1 3
theorem utility_eq : EL.utility = Gen.EL.utility := biclique_eq 3 3
theorem circuit_eq (n : Nat) : EL.circuit n = Gen.EL.circuit n :=
  guard_eq trivial_eq (by rw [← range'_zero]; rfl)
theorem complete_eq (n : Nat) : EL.complete n = Gen.EL.complete n :=
  guard_eq trivial_eq (by simp only [← range'_zero]; rfl)
theorem cycle_eq (n : Nat) : EL.cycle n = Gen.EL.cycle n :=
  guard_eq trivial_eq (by rw [← range'_zero]; rfl)
theorem path_eq (n : Nat) : EL.path n = Gen.EL.path n :=
  guard_eq trivial_eq (by rw [← range'_zero]; rfl)
theorem star_eq (n : Nat) : EL.star n = Gen.EL.star n := guard_eq trivial_eq rfl
theorem wheel_eq (n : Nat) : EL.wheel n = Gen.EL.wheel n :=
  four_guard_eq (by simp only [beq_iff_eq]; rfl)

example : EL.star 3 = some ⟨[(0, 1), (0, 2), (1, 0), (2, 0)], 3⟩ := by decide +kernel
end EL

namespace WL
open GenGen
theorem empty_eq (n : Nat) : WL.empty n = Gen.WL.empty n := pos_guard_eq fun _ => rfl
theorem trivial_eq : WL.trivial = Gen.WL.trivial := empty_eq 1
end WL

namespace MX
open GenGen

theorem foldlM_flatMap {α β σ : Type} (f : α → List β) (g : σ → β → Option σ) (l : List α) (s : σ) :
    (l.flatMap f).foldlM g s = l.foldlM (fun s a => (f a).foldlM g s) s :=
  Fold.foldlM_flatMap f g l s

theorem foldlM_map' {α β σ : Type} (f : α → β) (g : σ → β → Option σ) (l : List α) (s : σ) :
    (l.map f).foldlM g s = l.foldlM (fun s a => g s (f a)) s :=
  List.foldlM_map

theorem foldlM_single {β σ : Type} (g : σ → β → Option σ) (x : β) (s : σ) : [x].foldlM g s = g s x := by
  rw [List.foldlM_cons]; exact bind_pure _

/-- `d.add_arc(x); d.add_arc(y)` -/
theorem foldlM_pair {β σ : Type} (g : σ → β → Option σ) (x y : β) (s : σ) :
    [x, y].foldlM g s = (g s x).bind (fun s => g s y) := by
  rw [List.foldlM_cons]
  cases g s x with
  | none => rfl
  | some s' => exact foldlM_single g y s'

theorem empty_eq (n : Nat) : MX.empty n = Gen.MX.empty n :=
  pos_guard_eq fun _ => by
    by_cases h : n * n < 2 ^ 64
    · rw [if_pos h, if_neg (Nat.not_le.mpr h)]; rfl
    · rw [if_neg h, if_pos (Nat.not_lt.mp h)]; rfl
theorem trivial_eq : MX.trivial = Gen.MX.trivial := empty_eq 1

/-- `let mut digraph = Self::empty(order); <loops>; digraph` against `build`: the loops are the
fold of `add_arc` over the model's arc list -/
theorem build_eq {n : Nat} {arcs : List (Nat × Nat)} {body : AdjMatrix → Option AdjMatrix}
    (h : ∀ e, body e = arcs.foldlM (fun g a => g.addArc a.1 a.2) e) :
    (MX.empty n).bind body = Gen.MX.build n arcs := by
  rw [empty_eq, Gen.MX.empty, Gen.MX.build]
  cases AdjMatrix.empty n with
  | none => rfl
  | some e => exact h e

theorem biclique_eq (m n : Nat) : MX.biclique m n = Gen.MX.biclique m n :=
  pos_guard_eq fun _ => pos_guard_eq fun _ => build_eq fun e => by
    simp only [Gen.MX.bicliqueArcs, Gen.rangeFT, ← range'_zero, foldlM_flatMap, foldlM_pair]
theorem claw_eq : MX.claw = Gen.MX.claw := biclique_eq 1 3
theorem utility_eq : MX.utility = Gen.MX.utility := biclique_eq 3 3
theorem circuit_eq (n : Nat) : MX.circuit n = Gen.MX.circuit n :=
  one_guard_eq trivial_eq <| build_eq fun e => by
    simp only [Gen.MX.circuitArcs, Gen.rangeFT, ← range'_zero, List.foldlM_append, foldlM_map', foldlM_single]
    rfl
theorem complete_eq (n : Nat) : MX.complete n = Gen.MX.complete n :=
  one_guard_eq trivial_eq <| build_eq fun e => by
    simp only [Gen.MX.completeArcs, Gen.rangeFT, ← range'_zero, foldlM_flatMap, foldlM_pair]
theorem cycle_eq (n : Nat) : MX.cycle n = Gen.MX.cycle n :=
  one_guard_eq trivial_eq <| build_eq fun e => by
    simp only [Gen.MX.cycleArcs, Gen.rangeFT, ← range'_zero, List.foldlM_append, foldlM_flatMap, foldlM_pair]
    rfl
theorem path_eq (n : Nat) : MX.path n = Gen.MX.path n := by
  rw [MX.path, empty_eq, Gen.MX.empty, Gen.MX.path]
  cases AdjMatrix.empty n with
  | none => rfl
  | some e =>
    exact one_guard_eq rfl (by simp only [Gen.MX.pathArcs, Gen.rangeFT, ← range'_zero, foldlM_map'])
theorem star_eq (n : Nat) : MX.star n = Gen.MX.star n :=
  one_guard_eq trivial_eq <| build_eq fun e => by
    simp only [Gen.MX.starArcs, Gen.rangeFT, foldlM_flatMap, foldlM_pair]
theorem wheel_eq (n : Nat) : MX.wheel n = Gen.MX.wheel n :=
  four_guard_eq <| build_eq fun e => by
    simp only [Gen.MX.wheelArcs, Gen.rangeFT, List.foldlM_append, foldlM_flatMap, foldlM_pair,
      Option.bind_eq_bind, Option.bind_assoc]

example : MX.circuit 3 = some ⟨[98#64], 3⟩ := by decide  -- cells 1, 5, 6 = arcs (0,1) (1,2) (2,0)
example : MX.circuit 0 = none ∧ MX.wheel 3 = none := by decide +kernel
end MX

namespace DM
open GenGen DistMatrix

/-- `none` (panic) ↦ `Res.panic`. -/
def toRes {α : Type} : Option α → Res α
  | none => .panic
  | some a => .ok a

theorem index_eq (m : DistMatrix.DM) (u v : Nat) : toRes (DM.index m (u, v)) = DistMatrix.get m u v := by
  unfold DM.index DistMatrix.get toRes
  cases m.dist[u * m.order + v]? <;> rfl
/-- `Index<usize>` has no hand-written counterpart: it is the flat read (`none` = out of bounds). -/
theorem indexFlat_eq (m : DistMatrix.DM) (i : Nat) : DM.indexFlat m i = m.dist[i]? := rfl
theorem index_flat (m : DistMatrix.DM) (u v : Nat) : DM.index m (u, v) = DM.indexFlat m (u * m.order + v) := rfl

/-- `slice::chunks(0)` panics: with `order = 0` (impossible after `new`) every query below panics. -/
theorem eccentricities_zero (m : DistMatrix.DM) (h : m.order = 0) : DM.eccentricities m = none := by
  simp [DM.eccentricities, h]
theorem eccentricities_eq (m : DistMatrix.DM) (h : 0 < m.order) : DM.eccentricities m = some (DistMatrix.ecc m) := by
  simp [DM.eccentricities, DistMatrix.ecc, Nat.ne_of_gt h]
theorem diameter_eq (m : DistMatrix.DM) (h : 0 < m.order) : DM.diameter m = some (DistMatrix.diameter m) := by
  simp [DM.diameter, eccentricities_eq m h, DistMatrix.diameter]
theorem isConnected_eq (m : DistMatrix.DM) (h : 0 < m.order) : DM.isConnected m = some (DistMatrix.isConnected m) := by
  simp [DM.isConnected, eccentricities_eq m h, DistMatrix.isConnected]

theorem idxEq_enumerate (d : Int) : ∀ (l : List Int) (k : Nat),
    ((l.zipIdx k).map (fun p => (p.2, p.1))).filterMap (fun p => if (p.2 == d) then some p.1 else none)
      = idxEq d l k := by
  intro l
  induction l with
  | nil => intro k; rfl
  | cons e es ih =>
    intro k
    rw [List.zipIdx_cons, List.map_cons, List.filterMap_cons, idxEq]
    by_cases h : (e == d) = true
    · rw [if_pos h, if_pos h, ih]
    · rw [if_neg h, if_neg h, ih]
theorem periphery_eq (m : DistMatrix.DM) (h : 0 < m.order) : DM.periphery m = some (DistMatrix.periphery m) := by
  simp only [DM.periphery, eccentricities_eq m h, diameter_eq m h, Option.bind_some, DistMatrix.periphery,
    GenGen.enumerate]
  rw [idxEq_enumerate]

theorem centerLoop_fold : ∀ (l : List Int) (k : Nat) (c : List Nat) (mn : Int),
    (List.foldl (fun p_3 p_2 => (let center := p_3.1; (let min := p_3.2; (match compare p_2.2 min with | .lt => (let center := []; (let center := (center ++ [p_2.1]); (let min := p_2.2; (center, min)))) | .eq => (let center := (center ++ [p_2.1]); (center, min)) | .gt => (center, min)))))
      (c, mn) ((l.zipIdx k).map (fun p => (p.2, p.1)))).1 = centerLoop l k c mn := by
  intro l
  induction l with
  | nil => intro k c mn; rfl
  | cons e es ih =>
    intro k c mn
    simp only [List.zipIdx_cons, List.map_cons, List.foldl_cons, centerLoop]
    cases compare e mn with
    | lt => exact ih (k + 1) [k] e
    | eq => exact ih (k + 1) (c ++ [k]) mn
    | gt => exact ih (k + 1) c mn
theorem center_eq (m : DistMatrix.DM) (h : 0 < m.order) : DM.center m = some (DistMatrix.center m) := by
  simp only [DM.center, eccentricities_eq m h, Option.bind_some, DistMatrix.center, GenGen.enumerate]
  exact congrArg some (centerLoop_fold (ecc m) 0 [] m.infinity)

/-- Under the well-formedness the C18 theorems assume (`Spec/DistMatrix.lean`), no query panics and
each returns the hand model's value — the form in which `C18.ecc_spec`, `center_spec`, … apply. -/
theorem queries_of_wf (m : DistMatrix.DM) (hw : DistMatrix.WF m) :
    DM.eccentricities m = some (ecc m) ∧ DM.diameter m = some (DistMatrix.diameter m) ∧
    DM.center m = some (DistMatrix.center m) ∧ DM.isConnected m = some (DistMatrix.isConnected m) ∧
    DM.periphery m = some (DistMatrix.periphery m) :=
  ⟨eccentricities_eq m hw.order_pos, diameter_eq m hw.order_pos, center_eq m hw.order_pos,
   isConnected_eq m hw.order_pos, periphery_eq m hw.order_pos⟩

example : DM.center ⟨[0, 5, 2, 3, 0, 1, 9, 9, 0], 9, 3⟩ = some [1] := by decide +kernel
example : DM.periphery ⟨[0, 5, 2, 3, 0, 1, 9, 9, 0], 9, 3⟩ = some [2] := by decide +kernel
example : DM.index ⟨[0, 5, 2, 3, 0, 1, 9, 9, 0], 9, 3⟩ (1, 2) = some 1 := by decide +kernel
/-- The one place where code and hand model differ: `order = 0` (unreachable through `new`, which
asserts `order > 0`): `chunks(0)` panics, the hand model `ecc` is total. -/
example : DM.eccentricities ⟨[], 0, 0⟩ = none ∧ DistMatrix.ecc ⟨[], 0, 0⟩ = [] := by decide +kernel
end DM

end GraafVerif.GenGenThm
