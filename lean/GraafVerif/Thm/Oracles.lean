import GraafVerif.Proof.OracleRange
import GraafVerif.Proof.OracleUses
import GraafVerif.Proof.RowsDesc
/-!
# Oracles — the driver's naive PROPFAIL oracles are exact

`reachSetB`, `hopDistB`, `wdistB` (`Spec/Graph.lean`) are the executable oracles the drivers of
C03–C08 compare the implementation's output with.  The theorems below prove them correct against
the declarative notions of the same file (`ReachFrom`, `IsHopDist`, `IsMinDist`, `WReachFrom`,
`NegCycleAt`), for every well-formed digraph and every in-range source list, so an `OK` verdict
resting on them is a statement about the declarative notion and not about a trusted program.

The statements with their proofs (a line or two from the lemmas named) and non-vacuity examples
live here; the proofs are in `Proof/Oracle*.lean`.
-/
namespace GraafVerif.Oracles
open GraafVerif

/-! ## Full statements -/

/-- `reachSetB` marks exactly the vertices reachable from `S`. -/
def ReachStatement : Prop :=
  ∀ (g : Graph) (S : List Nat), g.WF → (∀ s ∈ S, s < g.n) →
    (reachSetB g S).length = g.n ∧
    ∀ v, (reachSetB g S)[v]?.getD false = true ↔ ReachFrom g S v

/-- `hopDistB` gives exactly the hop distances, `none` exactly at the unreachable vertices. -/
def HopStatement : Prop :=
  ∀ (g : Graph) (S : List Nat), g.WF → (∀ s ∈ S, s < g.n) →
    (hopDistB g S).length = g.n ∧
    (∀ v d, (hopDistB g S)[v]?.getD none = some d ↔ IsHopDist g S v d) ∧
    (∀ v, (hopDistB g S)[v]?.getD none = none ↔ ¬ ReachFrom g S v)

/-- `wdistB`: the flag says exactly whether a negative circuit is reachable from `S`; when it is
`false` the entries are exactly the minimum walk weights, `none` exactly at the unreachable
vertices. -/
def WDistStatement : Prop :=
  ∀ (g : WGraph) (S : List Nat), g.WF → (∀ s ∈ S, s < g.n) →
    ((wdistB g S).2 = true ↔ ∃ x, WReachFrom g S x ∧ NegCycleAt g x) ∧
    ((wdistB g S).2 = false →
      (wdistB g S).1.length = g.n ∧
      (∀ v d, (wdistB g S).1[v]?.getD none = some d ↔ IsMinDist g S v d) ∧
      (∀ v, (wdistB g S).1[v]?.getD none = none ↔ ¬ WReachFrom g S v))

/-! ## 1. `reachSetB` -/

theorem reachSetB_spec {g : Graph} (hwf : g.WF) {S : List Nat} (hS : ∀ s ∈ S, s < g.n) (v : Nat) :
    (reachSetB g S)[v]?.getD false = true ↔ ReachFrom g S v :=
  OracleProof.reachSetB_spec hwf hS v

theorem reachSetB_length {g : Graph} (hwf : g.WF) (S : List Nat) : (reachSetB g S).length = g.n :=
  OracleProof.reachSetB_length hwf S

theorem reach_statement_holds : ReachStatement :=
  fun _ S hwf hS => ⟨reachSetB_length hwf S, reachSetB_spec hwf hS⟩

/-! ## 2. `hopDistB` -/

theorem hopDistB_spec {g : Graph} (hwf : g.WF) {S : List Nat} (hS : ∀ s ∈ S, s < g.n) (v d : Nat) :
    (hopDistB g S)[v]?.getD none = some d ↔ IsHopDist g S v d :=
  OracleProof.hopDistB_spec hwf hS v d

theorem hopDistB_none {g : Graph} (hwf : g.WF) {S : List Nat} (hS : ∀ s ∈ S, s < g.n) (v : Nat) :
    (hopDistB g S)[v]?.getD none = none ↔ ¬ ReachFrom g S v :=
  OracleProof.hopDistB_none hwf hS v

theorem hopDistB_length {g : Graph} (hwf : g.WF) {S : List Nat} (hS : ∀ s ∈ S, s < g.n) :
    (hopDistB g S).length = g.n :=
  OracleProof.hopDistB_length g S

theorem hop_statement_holds : HopStatement :=
  fun _ _ hwf hS => ⟨hopDistB_length hwf hS, hopDistB_spec hwf hS, hopDistB_none hwf hS⟩

/-- H04 for orders above 40 reads reachability off `hopDistB`: same set. -/
theorem hop_isSome_spec {g : Graph} (hwf : g.WF) {S : List Nat} (hS : ∀ s ∈ S, s < g.n) (v : Nat) :
    ((hopDistB g S).map Option.isSome)[v]?.getD false = true ↔ ReachFrom g S v :=
  OracleProof.hop_isSome_spec hwf hS v

/-- The two reachability oracles of H04 are the same list. -/
theorem reach_eq_hop_isSome {g : Graph} (hwf : g.WF) {S : List Nat} (hS : ∀ s ∈ S, s < g.n) :
    reachSetB g S = (hopDistB g S).map Option.isSome :=
  OracleProof.reach_eq_hop_isSome hwf hS

/-! ## 3. `wdistB` -/

theorem wdistB_flag {g : WGraph} (hwf : g.WF) {S : List Nat} (hS : ∀ s ∈ S, s < g.n) :
    (wdistB g S).2 = true ↔ ∃ x, WReachFrom g S x ∧ NegCycleAt g x :=
  OracleProof.wdistB_flag hwf hS

theorem wdistB_spec {g : WGraph} (hwf : g.WF) {S : List Nat} (hS : ∀ s ∈ S, s < g.n)
    (hf : (wdistB g S).2 = false) :
    (wdistB g S).1.length = g.n ∧
    (∀ v d, (wdistB g S).1[v]?.getD none = some d ↔ IsMinDist g S v d) ∧
    (∀ v, (wdistB g S).1[v]?.getD none = none ↔ ¬ WReachFrom g S v) :=
  OracleProof.wdistB_spec hwf hS hf

theorem wdist_statement_holds : WDistStatement :=
  fun _ _ hwf hS => ⟨wdistB_flag hwf hS, wdistB_spec hwf hS⟩

/-- H03 (Dijkstra, non-negative weights): the flag is `false`, so the entries are exact. -/
theorem wdistB_nonneg {g : WGraph} (hwf : g.WF) (hnn : g.NonNeg) {S : List Nat} (hS : ∀ s ∈ S, s < g.n) :
    (wdistB g S).1.length = g.n ∧
    (∀ v d, (wdistB g S).1[v]?.getD none = some d ↔ IsMinDist g S v d) ∧
    (∀ v, (wdistB g S).1[v]?.getD none = none ↔ ¬ WReachFrom g S v) :=
  wdistB_spec hwf hS (OracleProof.wdistB_nonneg_flag hwf hnn hS)

/-- H07 in the vocabulary of C07: the flag decides `Bfm.NegReachable`, and without it the vector
is `Bfm.Exact` (the notion `Thm/C07` proves of the model; `Bfm.exact_unique` makes it unique). -/
theorem wdistB_single {g : WGraph} (hwf : g.WF) {s : Nat} (hs : s < g.n) :
    ((wdistB g [s]).2 = true ↔ Bfm.NegReachable g s) ∧
    ((wdistB g [s]).2 = false → Bfm.Exact g s (wdistB g [s]).1) :=
  OracleProof.wdistB_single hwf hs

/-- H08's skip test: some single-source flag is raised ⇔ the digraph has a negative circuit. -/
theorem anyFlag_iff {g : WGraph} (hwf : g.WF) :
    (List.range g.n).any (fun s => (wdistB g [s]).2) = true ↔ ∃ x, NegCycleAt g x :=
  OracleProof.anyFlag_iff hwf

/-- H07's `anyNeg` tag. -/
theorem allSrcFlag_iff {g : WGraph} (hwf : g.WF) :
    (wdistB g (List.range g.n)).2 = true ↔ ∃ x, NegCycleAt g x :=
  OracleProof.allSrcFlag_iff hwf

/-! ## 4. Without "sources in range"

Out-of-range sources are ignored by the oracles and, in a well-formed digraph, reach nothing but
themselves; so at every vertex `v < g.n` the specifications hold for EVERY source list (only `g.WF`).
(At `v ≥ g.n` the oracles say `false`/`none` while an out-of-range source `v ∈ S` reaches itself:
the restriction to `v < g.n` cannot be dropped.) -/

theorem reachSetB_spec_wf {g : Graph} (hwf : g.WF) (S : List Nat) {v : Nat} (hv : v < g.n) :
    (reachSetB g S)[v]?.getD false = true ↔ ReachFrom g S v := by
  rw [OracleProof.reachSetB_filter, OracleProof.reachFrom_filter hwf S hv]
  exact reachSetB_spec hwf OracleProof.inR_lt v

theorem hopDistB_spec_wf {g : Graph} (hwf : g.WF) (S : List Nat) {v : Nat} (hv : v < g.n) (d : Nat) :
    (hopDistB g S)[v]?.getD none = some d ↔ IsHopDist g S v d := by
  rw [OracleProof.hopDistB_filter, OracleProof.isHopDist_filter hwf S hv]
  exact hopDistB_spec hwf OracleProof.inR_lt v d

theorem hopDistB_none_wf {g : Graph} (hwf : g.WF) (S : List Nat) {v : Nat} (hv : v < g.n) :
    (hopDistB g S)[v]?.getD none = none ↔ ¬ ReachFrom g S v := by
  rw [OracleProof.hopDistB_filter, OracleProof.reachFrom_filter hwf S hv]
  exact hopDistB_none hwf OracleProof.inR_lt v

theorem wdistB_flag_wf {g : WGraph} (hwf : g.WF) (S : List Nat) :
    (wdistB g S).2 = true ↔ ∃ x, WReachFrom g S x ∧ NegCycleAt g x := by
  rw [OracleProof.wdistB_filter]
  exact (wdistB_flag hwf OracleProof.inR_lt).trans (OracleProof.negReachableFrom_filter hwf S).symm

theorem wdistB_spec_wf {g : WGraph} (hwf : g.WF) (S : List Nat) (hf : (wdistB g S).2 = false) :
    (wdistB g S).1.length = g.n ∧
    (∀ v, v < g.n → ∀ d, (wdistB g S).1[v]?.getD none = some d ↔ IsMinDist g S v d) ∧
    (∀ v, v < g.n → ((wdistB g S).1[v]?.getD none = none ↔ ¬ WReachFrom g S v)) := by
  rw [OracleProof.wdistB_filter] at hf ⊢
  obtain ⟨hlen, hfin, hinf⟩ := wdistB_spec hwf OracleProof.inR_lt hf
  exact ⟨hlen, fun v hv d => (hfin v d).trans (OracleProof.isMinDist_filter hwf S hv d).symm,
    fun v hv => (hinf v).trans (not_congr (OracleProof.wReachFrom_filter hwf S hv).symm)⟩

/-- Non-vacuity: the out-of-range source `7` changes nothing at the in-range vertices. -/
example : reachSetB (Graph.ofRows (rowsOfArcs 3 [(0,1)])) [7, 0] = [true, true, false] := by decide +kernel

/-! ## The hypotheses hold for the digraphs the drivers build -/

/-- `GDesc.graph` = `Graph.ofRows (rowsOfArcs order arcs)`. -/
theorem driverGraph_hyps (n : Nat) (arcs : List (Nat × Nat)) (h : ∀ a ∈ arcs, a.1 < n ∧ a.2 < n) :
    (Graph.ofRows (rowsOfArcs n arcs)).n = n ∧ (Graph.ofRows (rowsOfArcs n arcs)).WF :=
  ⟨(ofArcRows_spec n arcs h).1, (ofArcRows_spec n arcs h).2.2⟩

/-- `GDesc.wgraph` = `WGraph.ofRows (wrowsOfArcs order warcs)`. -/
theorem driverWGraph_hyps (n : Nat) (arcs : List (Nat × Nat × Int)) (h : ∀ a ∈ arcs, a.2.1 < n) :
    (WGraph.ofRows (wrowsOfArcs n arcs)).n = n ∧ (WGraph.ofRows (wrowsOfArcs n arcs)).WF :=
  ⟨(Fw.ofRows_hyps n arcs h).1, (Fw.ofRows_hyps n arcs h).2.1⟩

/-! ## Non-vacuity: concrete digraphs built the way the drivers build them -/

/-- `0 → 1 → 2 → 0`, `3 → 1`, vertex `4` isolated. -/
def gEx : Graph := Graph.ofRows (rowsOfArcs 5 [(0,1),(1,2),(2,0),(3,1)])

theorem gEx_wf : gEx.WF := (driverGraph_hyps 5 _ (by decide)).2
theorem gEx_src : ∀ s ∈ [0], s < gEx.n := by decide

theorem gEx_reach : reachSetB gEx [0] = [true, true, true, false, false] := by decide +kernel
theorem gEx_hop : hopDistB gEx [0] = [some 0, some 1, some 2, none, none] := by decide +kernel

example : reachSetB gEx [0] = [true, true, true, false, false] := gEx_reach
example : hopDistB gEx [0] = [some 0, some 1, some 2, none, none] := gEx_hop
/-- … so the theorems certify, e.g., that `2` is at hop distance exactly `2` and `3` is unreachable. -/
example : IsHopDist gEx [0] 2 2 := (hopDistB_spec gEx_wf gEx_src 2 2).mp (by rw [gEx_hop]; decide)
example : ReachFrom gEx [0] 2 := (reachSetB_spec gEx_wf gEx_src 2).mp (by rw [gEx_reach]; decide)
example : ¬ ReachFrom gEx [0] 3 := fun h =>
  absurd ((reachSetB_spec gEx_wf gEx_src 3).mpr h) (by rw [gEx_reach]; decide)
example : ¬ ReachFrom gEx [0] 3 := (hopDistB_none gEx_wf gEx_src 3).mp (by rw [gEx_hop]; decide)

/-- A negative arc that makes the two-arc walk `0 → 2 → 1` cheaper than the arc `0 → 1`;
vertex `4` reaches `0` but is not reached. -/
def wEx : WGraph := WGraph.ofRows (wrowsOfArcs 5 [(0,1,4),(0,2,1),(2,1,-2),(1,3,1),(4,0,1)])

theorem wEx_wf : wEx.WF := (driverWGraph_hyps 5 _ (by decide)).2
theorem wEx_src : ∀ s ∈ [0], s < wEx.n := by decide

theorem wEx_run : wdistB wEx [0] = ([some 0, some (-1), some 1, some 0, none], false) := by decide +kernel

example : wdistB wEx [0] = ([some 0, some (-1), some 1, some 0, none], false) := wEx_run
example : IsMinDist wEx [0] 1 (-1) :=
  ((wdistB_spec wEx_wf wEx_src (by rw [wEx_run])).2.1 1 (-1)).mp (by rw [wEx_run]; decide)
example : ¬ WReachFrom wEx [0] 4 :=
  ((wdistB_spec wEx_wf wEx_src (by rw [wEx_run])).2.2 4).mp (by rw [wEx_run]; decide)

/-- A reachable negative circuit `1 → 2 → 1` (weight `-1`): the flag is raised. -/
def wNeg : WGraph := WGraph.ofRows (wrowsOfArcs 3 [(0,1,1),(1,2,1),(2,1,-2)])

theorem wNeg_wf : wNeg.WF := (driverWGraph_hyps 3 _ (by decide)).2

example : (wdistB wNeg [0]).2 = true := by decide +kernel
example : ∃ x, WReachFrom wNeg [0] x ∧ NegCycleAt wNeg x :=
  (wdistB_flag wNeg_wf (S := [0]) (by decide +kernel)).mp (by decide +kernel)
/-- … and from the source `0` of a digraph whose only negative circuit is NOT reachable the flag stays down. -/
def wNegUnreach : WGraph := WGraph.ofRows (wrowsOfArcs 3 [(1,2,1),(2,1,-2),(1,0,1)])
example : (wdistB wNegUnreach [0]).2 = false := by decide +kernel
example : (List.range wNegUnreach.n).any (fun s => (wdistB wNegUnreach [s]).2) = true := by decide +kernel

end GraafVerif.Oracles
