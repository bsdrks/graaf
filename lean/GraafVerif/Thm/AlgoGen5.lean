import GraafVerif.Proof.AlgoGen5Repr
import GraafVerif.Proof.AlgoGen5Walk
import GraafVerif.Proof.AlgoGen5Iter
import GraafVerif.Thm.C01
import GraafVerif.Thm.C12
/-!
# AlgoGen5 — the remaining functions with unchecked accesses regenerated from the source

`Model/AlgoGen5.lean` is GENERATED by `tools/translate_algo.py --set 5` (`docs/AlgoGen.md`, "Set 5"); for every
generated definition `X.f` there is a theorem `GraafVerif.AlgoGenThm.X.f_eq` (in `Proof/AlgoGen5*.lean`).  This
file: the statements about whole calls (`arcs().collect()`, `in_neighbors(v).collect()` through the generated
`next`), transports, and non-vacuity examples.
-/
namespace GraafVerif.AlgoGenThm
open GraafVerif GraafVerif.AlgoGen GraafVerif.Repr

/-- **C01 on the regenerated iterators**: `arcs().collect()` through the generated `ArcsIterator::new` / `next`
(`trailing_zeros`, `bits &= bits - 1`, `get_unchecked`) yields — without UB and within the fuel of every `next` — exactly the
arcs of the matrix -/
theorem c01_generated_mx_arcs (d : AdjMatrix) (N : Nat) (hN : d.arcs.length < N) :
    ∃ s', (AlgoGen.AdjacencyMatrix.arcsIter d >>= fun s => collect AlgoGen.MxArcsIterator.next N s) = .ok (d.arcs, s') := by
  obtain ⟨s', h⟩ := MxArcsIterator.collect_eq d N hN
  exact ⟨s', by rw [h, C01.adjMatrix_arcs_iterator]⟩

/-- the same for `AdjacencyList`'s `ArcsIterator` -/
theorem c01_generated_al_arcs (d : AdjList) (N : Nat) (hN : d.arcs.length < N) :
    ∃ s', (AlgoGen.AdjacencyList.arcsIter d >>= fun s => collect AlgoGen.AlArcsIterator.next N s) = .ok (d.arcs, s') := by
  obtain ⟨s', h⟩ := AlArcsIterator.collect_eq d N hN
  exact ⟨s', by rw [h, C01.adjList_arcs_iterator]⟩

/-- **C12 on the regenerated `is_tournament`**: for a well-formed list the pointer reads are in bounds and the answer is
the definition -/
theorem c12_generated_is_tournament (d : AdjList) (h : d.WF) :
    ∃ b, AlgoGen.AdjacencyList.isTournament d = .ok b ∧ (b = true ↔ Pred.Def.IsTournament (Query.AL.abs d)) :=
  ⟨_, AdjacencyList.isTournament_eq d h.1, Pred.AL.isTournament_correct h⟩

example : AlgoGen.AdjacencyMatrix.mask 70 = .ok 64#64 := by decide +kernel
example : AlgoGen.AdjacencyMatrix.toggle ⟨[0#64], 2⟩ 0 1 = .ok ((), ⟨[2#64], 2⟩) := by decide +kernel
/-- blocks too short for the order: `get_unchecked_mut(i >> 6)` is out of bounds -/
theorem AdjacencyMatrix.addArc_short_ub :
    AlgoGen.AdjacencyMatrix.addArc ⟨[], 2⟩ 0 1 =
      .error (.fault (.ub "repr/adjacency_matrix/mod.rs:add_arc:self.blocks.get_unchecked_mut(i >> 6)")) := by decide +kernel
example : AlgoGen.AdjacencyMatrix.addArc ⟨[], 2⟩ 0 1 =
    .error (.fault (.ub "repr/adjacency_matrix/mod.rs:add_arc:self.blocks.get_unchecked_mut(i >> 6)")) := AdjacencyMatrix.addArc_short_ub
example : AlgoGen.AdjacencyList.addArc ⟨[[], []]⟩ 0 1 = .ok ((), ⟨[[1], []]⟩) := by decide +kernel
example : AlgoGen.AdjacencyList.outNeighbors ⟨[[1], []]⟩ 5 = .error (.fault .panic) := by decide +kernel
example : (AlgoGen.AdjacencyList.arcsIter ⟨[[1, 2], [], [0]]⟩ >>= fun s => collect AlgoGen.AlArcsIterator.next 9 s).map (·.1) =
    .ok [(0, 1), (0, 2), (2, 0)] := by decide +kernel
example : (AlgoGen.AdjacencyList.inNeighborsIter ⟨[[1, 2], [2], [0]]⟩ 2 >>= fun s => collect AlgoGen.InNeighborsIterator.next 9 s).map (·.1) =
    .ok [0, 1] := by decide +kernel
/-- a hand-made iterator whose `len` exceeds the rows: `*self.ptr.add(idx)` is out of bounds -/
example : AlgoGen.InNeighborsIterator.next ⟨[[]], 2, 1, 0, ()⟩ =
    .error (.fault (.ub "repr/adjacency_list/mod.rs:next:self.ptr.add(idx)")) := by decide +kernel
example : AlgoGen.AdjacencyList.hasWalk ⟨[[1], [2], []]⟩ [0, 1, 2] = .ok true := by decide +kernel
example : AlgoGen.AdjacencyMap.hasWalk ⟨[(0, [3]), (3, [])]⟩ [0, 3, 0] = .ok false := by decide +kernel
example : AlgoGen.AdjacencyList.isTournament ⟨[[1], [2], [0]]⟩ = .ok true := by decide +kernel
example : AlgoGen.AdjacencyMap.outNeighbors ⟨[(0, [3]), (3, [])]⟩ 1 = .error (.fault .panic) := by decide +kernel
example : AlgoGen.DistanceMatrix.new 2 7 = .ok ⟨[7, 7, 7, 7], 7, 2⟩ := by decide +kernel
example : AlgoGen.DistanceMatrix.new 0 7 = .error (.fault .panic) := by decide +kernel
example : (AlgoGen.DistanceMatrix.indexMut2 ⟨[1, 2, 3, 4], 9, 2⟩ (1, 0)).map (·.1) = .ok 2 := by decide +kernel

end GraafVerif.AlgoGenThm
