import GraafVerif.Proof.AlgoGen3Gen3
import GraafVerif.Proof.AlgoGen3Ops
import GraafVerif.Thm.C11
import GraafVerif.Thm.C15
/-!
# AlgoGen3 — the PRNGs, the sequential seeded generators and the sequential operations regenerated
from the source

`Model/AlgoGen3.lean` is GENERATED by `tools/translate_algo.py --set 3` (`docs/AlgoGen.md`, "Set 3")
from `src/gen/prng/*.rs` and `src/repr/*/mod.rs`; for every generated definition `X.f` there is a
theorem `GraafVerif.AlgoGenThm.X.f_eq` (in `Proof/AlgoGen3*.lean`) that states it equal to the
hand-written model function of `Model/Rand.lean` (C15) resp. `Model/Ops.lean` (C11).  The stream `s`,
arbitrary in `Thm/C15`, is here `xoStream seed`, the outputs of `Xoshiro256StarStar::new(seed)`.
This file: the property statements transported onto the generated definitions, and non-vacuity
examples.
-/
namespace GraafVerif.AlgoGenThm
open GraafVerif GraafVerif.AlgoGen GraafVerif.Repr GraafVerif.Rand GraafVerif.Ops

/-- **C15 (1) on the regenerated definitions**: for every order `≥ 1` and every seed the three sequential
`random_tournament` implementations as generated from the source return — no panic, no UB — a tournament. -/
theorem c15_generated_tournament (n : Nat) (seed : UInt64) (hn : 1 ≤ n) :
    (∃ g, AlgoGen.AdjacencyList.randomTournament n seed = .ok g ∧ IsTournament n (viewAL g)) ∧
    (FitsMatrix n → ∃ g, AlgoGen.AdjacencyMatrix.randomTournament n seed = .ok g ∧ IsTournament n (viewMX g)) ∧
    (∃ g, AlgoGen.EdgeList.randomTournament n seed = .ok g ∧ IsTournament n (viewEL g)) :=
  ⟨ok_of_optR (AdjacencyList.randomTournament_eq n seed) (C15.tournament_valid_al (xoStream seed) n hn),
    fun hb => ok_of_optR (AdjacencyMatrix.randomTournament_eq n seed) (C15.tournament_valid_mx (xoStream seed) n hn hb),
    ok_of_optR (EdgeList.randomTournament_eq n seed) (C15.tournament_valid_el (xoStream seed) n hn)⟩

/-- **C15 (3) on the regenerated definitions**: `random_recursive_tree` of the four representations
(none of them threaded). -/
theorem c15_generated_rrt (n : Nat) (seed : UInt64) (hn : 1 ≤ n) :
    (∃ g, AlgoGen.AdjacencyList.randomRecursiveTree n seed = .ok g ∧ IsRecursiveTree n (viewAL g)) ∧
    (∃ g, AlgoGen.AdjacencyMap.randomRecursiveTree n seed = .ok g ∧ IsRecursiveTree n (viewAM g)) ∧
    (FitsMatrix n → ∃ g, AlgoGen.AdjacencyMatrix.randomRecursiveTree n seed = .ok g ∧ IsRecursiveTree n (viewMX g)) ∧
    (∃ g, AlgoGen.EdgeList.randomRecursiveTree n seed = .ok g ∧ IsRecursiveTree n (viewEL g)) :=
  ⟨ok_of_optR (AdjacencyList.randomRecursiveTree_eq n seed) (C15.rrt_valid_al (xoStream seed) n hn),
    ok_of_optR (AdjacencyMap.randomRecursiveTree_eq n seed) (C15.rrt_valid_am (xoStream seed) n hn),
    fun hb => ok_of_optR (AdjacencyMatrix.randomRecursiveTree_eq n seed) (C15.rrt_valid_mx (xoStream seed) n hn hb),
    ok_of_optR (EdgeList.randomRecursiveTree_eq n seed) (C15.rrt_valid_el (xoStream seed) n hn)⟩

/-- **C15 (4) on the regenerated definitions**: `erdos_renyi` for `p ∈ [0, 1]`. -/
theorem c15_generated_er (n : Nat) (p : F64) (seed : UInt64) (hn : 1 ≤ n) (hp : p.inUnit = true) :
    (∃ g, AlgoGen.AdjacencyList.erdosRenyi n p seed = .ok g ∧ ErValid n p (viewAL g)) ∧
    (FitsMatrix n → ∃ g, AlgoGen.AdjacencyMatrix.erdosRenyi n p seed = .ok g ∧ ErValid n p (viewMX g)) ∧
    (∃ g, AlgoGen.EdgeList.erdosRenyi n p seed = .ok g ∧ ErValid n p (viewEL g)) :=
  ⟨ok_of_optR (AdjacencyList.erdosRenyi_eq n p seed) (C15.er_valid_al (xoStream seed) n p hn hp),
    fun hb => ok_of_optR (AdjacencyMatrix.erdosRenyi_eq n p seed) (C15.er_valid_mx (xoStream seed) n p hn hb hp),
    ok_of_optR (EdgeList.erdosRenyi_eq n p seed) (C15.er_valid_el (xoStream seed) n p hn hp)⟩

/-- **C15 (5) on the regenerated definitions**: `p ∉ [0, 1]` (NaN, infinities included) panics. -/
theorem c15_generated_er_panics (n : Nat) (p : F64) (seed : UInt64) (hp : p.inUnit = false) :
    AlgoGen.AdjacencyList.erdosRenyi n p seed = .error (.fault .panic) ∧
    AlgoGen.AdjacencyMatrix.erdosRenyi n p seed = .error (.fault .panic) ∧
    AlgoGen.EdgeList.erdosRenyi n p seed = .error (.fault .panic) := by
  obtain ⟨h1, h2, h3, _⟩ := C15.er_panics (xoStream seed) (fun _ => xoStream seed) n 1 p hp
  exact ⟨by rw [AdjacencyList.erdosRenyi_eq, optR_none h1], by rw [AdjacencyMatrix.erdosRenyi_eq, optR_none h2],
    by rw [EdgeList.erdosRenyi_eq, optR_none h3]⟩

/-- the three generated `random_tournament` are the hand-written ones on ONE stream, `xoStream seed`; that the
three representations then show the same digraph is `C15.tournament_representations_agree` of those values. -/
theorem c15_generated_deterministic (n : Nat) (seed : UInt64) :
    AlgoGen.AdjacencyMatrix.randomTournament n seed = optR (tournamentMX (xoStream seed) n) ∧
    AlgoGen.AdjacencyList.randomTournament n seed = optR (tournamentAL (xoStream seed) n) ∧
    AlgoGen.EdgeList.randomTournament n seed = optR (tournamentEL (xoStream seed) n) :=
  ⟨AdjacencyMatrix.randomTournament_eq n seed, AdjacencyList.randomTournament_eq n seed, EdgeList.randomTournament_eq n seed⟩

theorem ok_of_Ok {R : Type} {WF : R → Prop} {abs : R → DG} {o : Option R} {spec : DG} (h : C11.Ok WF abs o spec) :
    ∃ r, optR o = .ok r ∧ WF r ∧ abs r = spec :=
  ok_of_optR rfl h

/-- **C11 for `AdjacencyMatrix` on the regenerated definitions**: `complement`, `converse`, `union` as generated
from the source return a well-formed matrix of the set definition. -/
theorem c11_generated_mx :
    let WF := fun d : AdjMatrix => d.WF ∧ d.order * d.order < 2 ^ 64
    (∀ d, WF d → ∃ r, AlgoGen.AdjacencyMatrix.complement d = .ok r ∧ WF r ∧ absMX r = specComplement (absMX d)) ∧
    (∀ d, WF d → ∃ r, AlgoGen.AdjacencyMatrix.converse d = .ok r ∧ WF r ∧ absMX r = specConverse (absMX d)) ∧
    (∀ a b, WF a → WF b → ∃ r, AlgoGen.AdjacencyMatrix.union a b = .ok r ∧ WF r ∧ absMX r = specUnion (absMX a) (absMX b)) := by
  obtain ⟨_, hc, hv, hu, _⟩ := C11.statementMX
  exact ⟨fun d h => ok_of_optR (AdjacencyMatrix.complement_eq d) (hc d h),
    fun d h => ok_of_optR (AdjacencyMatrix.converse_eq d) (hv d h),
    fun a b ha hb => ok_of_optR (AdjacencyMatrix.union_eq a b) (hu a b ha hb)⟩

/-- **C11 for `EdgeList` on the regenerated definitions**. -/
theorem c11_generated_el :
    (∀ d, EdgeList.WF d → ∃ r, AlgoGen.EdgeList.complement d = .ok r ∧ r.WF ∧ absEL r = specComplement (absEL d)) ∧
    (∀ d, EdgeList.WF d → ∃ r, AlgoGen.EdgeList.converse d = .ok r ∧ r.WF ∧ absEL r = specConverse (absEL d)) ∧
    (∀ a b, EdgeList.WF a → EdgeList.WF b →
      ∃ r, AlgoGen.EdgeList.union a b = .ok r ∧ r.WF ∧ absEL r = specUnion (absEL a) (absEL b)) := by
  obtain ⟨_, hc, hv, hu, _⟩ := C11.statementEL
  exact ⟨fun d h => ok_of_optR (o := some _) (EdgeList.complement_eq d) (hc d h),
    fun d h => ok_of_optR (o := some _) (EdgeList.converse_eq d) (hv d h),
    fun a b ha hb => ok_of_optR (EdgeList.union_eq a b) (hu a b ha hb)⟩

theorem al_heads_of_wf (d : AdjList) (h : d.WF) : ∀ a ∈ d.arcs, a.2 < d.order := fun a ha =>
  AdjList.mem_vertices.mp (h.simple a.1 a.2 ((AdjList.mem_arcs_iff d a.1 a.2).mp ha)).2.1

/-- **C11 for `AdjacencyList::converse` on the regenerated definition**: for a well-formed list no
`*conv_ptr.add(v)` is UB and the result is the well-formed converse. -/
theorem c11_generated_al_converse (d : AdjList) (h : d.WF) :
    ∃ r, AlgoGen.AdjacencyList.converse d = .ok r ∧ r.WF ∧ absAL r = specConverse (absAL d) := by
  obtain ⟨_, _, hv, _⟩ := C11.statementAL
  exact ok_of_optR (AdjacencyList.converse_eq d (al_heads_of_wf d h)) (hv d h)

/-- **C11 for `AdjacencyListWeighted::converse` on the regenerated definition** (the weights are carried over). -/
theorem c11_generated_w_converse (d : AdjListW) (h : d.WF) :
    ∃ r, AlgoGen.AdjacencyListWeighted.converse d = .ok r ∧ r.WF ∧ absW r = specConverseW (absW d) := by
  obtain ⟨_, hv, _⟩ := C11.statementW
  exact ok_of_optR (AdjacencyListWeighted.converse_eq d) (hv d h)

/-- **C11 for `AdjacencyMap` on the regenerated definitions**: `complement`, `converse`, `filter_vertices`. -/
theorem c11_generated_am :
    let WF := fun d : AdjMap => d.WF ∧ 0 < d.order
    (∀ d, WF d → ∃ r, AlgoGen.AdjacencyMap.complement d = .ok r ∧ WF r ∧ absAM r = specComplement (absAM d)) ∧
    (∀ d, WF d → ∃ r, AlgoGen.AdjacencyMap.converse d = .ok r ∧ WF r ∧ absAM r = specConverse (absAM d)) ∧
    (∀ d p, AdjMap.WF d → ∃ r, AlgoGen.AdjacencyMap.filterVertices d p = .ok r ∧ r.WF ∧ absAM r = specFilter p (absAM d)) := by
  obtain ⟨_, hc, hv, _, hf, _⟩ := C11.statementAM
  exact ⟨fun d h => ok_of_optR (o := some _) (AdjacencyMap.complement_eq d) (hc d h),
    fun d h => ok_of_optR (o := some _) (AdjacencyMap.converse_eq d) (hv d h),
    fun d p h => ok_of_optR (o := some _) (AdjacencyMap.filterVertices_eq d p h.1) (hf d p h)⟩

/-- the first two outputs of `SplitMix64::new(0)` (the reference values of the algorithm) -/
example : AlgoGen.SplitMix64.next ⟨0⟩ = .ok (some 0xE220A8397B1DCDAF, ⟨0x9E3779B97F4A7C15⟩) := by decide +kernel
example : (AlgoGen.SplitMix64.next ⟨0x9E3779B97F4A7C15⟩).map (·.1) = .ok (some 0x6E789E6AA1B965F4) := by decide +kernel
/-- order 0: `random_tournament` panics for the matrix (`empty(0)`), the `assert!` for the list -/
example : AlgoGen.AdjacencyMatrix.randomTournament 0 7 = .error (.fault .panic) := by decide +kernel
example : AlgoGen.AdjacencyList.randomTournament 0 7 = .error (.fault .panic) := by decide +kernel
example : AlgoGen.EdgeList.converse ⟨[(0, 1), (0, 2), (2, 1)], 3⟩ = .ok ⟨[(1, 0), (1, 2), (2, 0)], 3⟩ := by decide +kernel
example : AlgoGen.EdgeList.complement ⟨[(0, 1)], 2⟩ = .ok ⟨[(1, 0)], 2⟩ := by decide +kernel
example : AlgoGen.AdjacencyList.converse ⟨[[1, 2], [], [1]]⟩ = .ok ⟨[[], [0, 2], [0]]⟩ := by decide +kernel
/-- a head that is not a vertex: `*conv_ptr.add(5)` is out of bounds — the generated definition reports UB -/
example : AlgoGen.AdjacencyList.converse ⟨[[5]]⟩ =
    .error (.fault (.ub "repr/adjacency_list/mod.rs:converse:conv_ptr.add(v)")) := by decide +kernel
/-- the weighted list indexes checked: a panic instead -/
example : AlgoGen.AdjacencyListWeighted.converse ⟨[[(5, 1)]]⟩ = .error (.fault .panic) := by decide +kernel
example : AlgoGen.AdjacencyMap.converse ⟨[(0, [3]), (3, [])]⟩ = .ok ⟨[(0, []), (3, [0])]⟩ := by decide +kernel
example : AlgoGen.AdjacencyMap.complement ⟨[(0, [3]), (3, []), (7, [0])]⟩ = .ok ⟨[(0, [7]), (3, [0, 7]), (7, [3])]⟩ := by decide +kernel
example : AlgoGen.AdjacencyMap.filterVertices ⟨[(0, [3]), (3, [7]), (7, [0])]⟩ (fun v => v != 3) =
    .ok ⟨[(0, []), (7, [0])]⟩ := by decide +kernel

end GraafVerif.AlgoGenThm
