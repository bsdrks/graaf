import GraafVerif.Proof.AlgoGen2Tarjan
import GraafVerif.Proof.AlgoGen2Johnson
import GraafVerif.Thm.C09
import GraafVerif.Proof.Tarjan
import GraafVerif.Thm.C10
import GraafVerif.Proof.AlgoGen2Conv
import GraafVerif.Proof.AlgoGen2ConvIter
import GraafVerif.Thm.C16
/-!
# AlgoGen2 — `tarjan.rs`, `johnson_75.rs` and the `From` conversions regenerated from the source

`Model/AlgoGen2.lean` is GENERATED by `tools/translate_algo.py --set 2` (`docs/AlgoGen.md`,
"Set 2"); for every generated definition `X.f` there is a theorem `GraafVerif.AlgoGenThm.X.f_eq`
(in `Proof/AlgoGen2*.lean`) that states it equal to the hand-written model function of C09 / C10 /
C16.  This file: the property statements transported onto the
whole-call programs built from generated definitions only, and non-vacuity examples.
-/
namespace GraafVerif.AlgoGenThm
open GraafVerif GraafVerif.AlgoGen

/-- `Tarjan::new(&g).components()` built from generated definitions only. -/
def genTarjan (g : AlgoGen.VGraph) (fuel : Nat) : Res (List (List Nat)) :=
  AlgoGen.Tarjan.new >>= fun s => Except.map Prod.fst (AlgoGen.Tarjan.componentsCall g fuel s)

theorem unindexed_le (g : AlgoGen.VGraph) (s : GraafVerif.Tarjan.St) : GraafVerif.Tarjan.unindexed g s ≤ g.verts.length :=
  GraafVerif.Tarjan.unindexed_le_length g s

theorem genTarjan_eq (g : AlgoGen.VGraph) (h : g.Closed) (fuel : Nat) (hf : g.verts.length ≤ fuel) :
    genTarjan g fuel = Tarjan.liftT (fun st => st.comps) (GraafVerif.Tarjan.run g) := by
  unfold genTarjan
  rw [Tarjan.new_componentsCall_eq,
    C09.tarjan_fuel_adequate g h (fun _ => fuel) (fun s => Nat.le_trans (unindexed_le g s) hf)]

/-- **C09 on the regenerated definitions**: for every closed digraph (vertex ids arbitrary) and
every fuel ≥ the number of vertices, `Tarjan::new(&g).components()` as generated from the source
returns — no panic, no fuel exhaustion — the partition into strongly connected components. -/
theorem c09_generated (g : AlgoGen.VGraph) (h : g.Closed) (fuel : Nat) (hf : g.verts.length ≤ fuel) :
    ∃ cs, genTarjan g fuel = .ok cs ∧ GraafVerif.Tarjan.IsSCCPartition g cs := by
  obtain ⟨inv, hall⟩ := GraafVerif.Tarjan.run_inv h
  exact ⟨_, by rw [genTarjan_eq g h fuel hf, Tarjan.liftT_ok _ inv.nofault], GraafVerif.Tarjan.partition_of_inv inv hall⟩

theorem foldl_topWith_idle (g : AlgoGen.VGraph) (fuelOf : GraafVerif.Tarjan.St → Nat) : ∀ (l : List Nat) (s : GraafVerif.Tarjan.St),
    (∀ v ∈ l, s.indexed v) → l.foldl (GraafVerif.Tarjan.topWith g fuelOf) s = s :=
  GraafVerif.Tarjan.foldl_topWith_idle g fuelOf

/-- **C09 for EVERY call on the same `Tarjan` value**: a further `components()` call (any fuel, also 0)
on the value the first call left behind returns the same partition and leaves the value unchanged
(`C09.tarjan_every_call` on the regenerated definitions). -/
theorem c09_generated_every_call (g : AlgoGen.VGraph) (h : g.Closed) (fuel : Nat) :
    ∃ cs, AlgoGen.Tarjan.componentsCall g fuel (Tarjan.ofH (GraafVerif.Tarjan.run g)) =
        .ok (cs, Tarjan.ofH (GraafVerif.Tarjan.run g)) ∧
      GraafVerif.Tarjan.components g = .ret cs ∧ GraafVerif.Tarjan.IsSCCPartition g cs := by
  obtain ⟨inv, hall⟩ := GraafVerif.Tarjan.run_inv h
  refine ⟨_, ?_, GraafVerif.Tarjan.components_eq inv.nofault, GraafVerif.Tarjan.partition_of_inv inv hall⟩
  rw [Tarjan.componentsCall_eq g fuel _ inv.nofault, foldl_topWith_idle g _ g.verts _ hall, Tarjan.liftT_ok _ inv.nofault]

/-- `Johnson75::new(&g).circuits()` built from generated definitions only (`g` with vertex set `0..n`). -/
def genJohnson (g : Graph) (fuel : Nat) : Res (List (List Nat)) :=
  AlgoGen.Johnson75.new (GraafVerif.Johnson.AM.ofGraph g) >>= fun s =>
    Except.map Prod.fst (AlgoGen.Johnson75.circuits (GraafVerif.Johnson.AM.ofGraph g) fuel s)

theorem aok_ofGraph (g : Graph) (hwf : g.WF) : Johnson75.AOk (GraafVerif.Johnson.AM.ofGraph g) :=
  ⟨fun _ hu => (Johnson.ofGraph_order g).symm ▸ Johnson.mem_ofGraph_verts.1 hu,
    fun u _ v hv => Johnson.mem_ofGraph_verts.2 (hwf u v hv).2⟩

theorem genJohnson_agree (g : Graph) (hwf : g.WF) (fuel : Nat) (hf : fuel ≤ g.n + 1) :
    genJohnson g fuel = .error .div ∨ genJohnson g fuel = .ok (GraafVerif.Johnson.circuits g) := by
  unfold genJohnson
  rw [Johnson75.new_eq]
  exact (Johnson75.circuits_eq _ (aok_ofGraph g hwf) fuel ((Johnson.ofGraph_order g).symm ▸ hf) _
    (Johnson75.new_inv _)).map Prod.fst

/-- **C10 on the regenerated definitions** (partial correctness): for a digraph satisfying the
hypotheses of C10 and every fuel `≤ order + 1`, whenever `Johnson75::new(&g).circuits()` as
generated from the source returns a vector, it lists every elementary circuit exactly once, each
written from its smallest vertex, and nothing else.  (That the recursion stays within the fuel
`order + 1` is proved for the hand-written model only — `C10.circuit_fuel_adequate` — where
running out of fuel is not a distinct outcome; see `docs/AlgoGen.md`.) -/
theorem c10_generated (g : Graph) (hwf : g.WF) (hloops : GraafVerif.Johnson.NoLoops g) (hrows : GraafVerif.Johnson.RowsNodup g)
    (fuel : Nat) (hf : fuel ≤ g.n + 1) (r : List (List Nat)) (hr : genJohnson g fuel = .ok r) :
    r.Nodup ∧ ∀ c, c ∈ r ↔ GraafVerif.Johnson.IsCanonicalElemCircuit g c := by
  rcases genJohnson_agree g hwf fuel hf with hd | hok
  · rw [hd] at hr; cases hr
  · rw [hok] at hr
    cases hr
    exact C10.statement g hwf hloops hrows

open GraafVerif.Repr GraafVerif.C16 in
/-- a generated conversion returns a valid value with the order `o` and the arc set `a` of the source -/
def GoodG {T : Type} (ok : T → Prop) (order : T → Nat) (arcs : T → List (Nat × Nat)) (o : Nat) (a : List (Nat × Nat))
    (r : Res T) : Prop := ∃ t, r = .ok t ∧ ok t ∧ C16.Same o a (order t) (arcs t)

open GraafVerif.Repr GraafVerif.C16 in
/-- **C16 (a) on the regenerated definitions**: each of the sixteen macro-generated `From` impls, as
generated from the source, returns (no panic) a valid digraph with the order and the arc set of
its valid source. -/
theorem c16_generated :
    (∀ d : AdjList, OkAL d →
      GoodG OkAM AdjMap.order AdjMap.arcs d.order d.arcs (AlgoGen.AdjacencyMap.fromAdjacencyList d) ∧
      (Fits d.order → GoodG OkMX (·.order) AdjMatrix.arcs d.order d.arcs (AlgoGen.AdjacencyMatrix.fromAdjacencyList d)) ∧
      GoodG OkEL (·.order) (·.arcs) d.order d.arcs (AlgoGen.EdgeList.fromAdjacencyList d) ∧
      GoodG OkWL1 AdjListW.order AdjListW.arcs d.order d.arcs (AlgoGen.AdjacencyListWeighted.fromAdjacencyList d)) ∧
    (∀ d : AdjMap, OkAM d →
      GoodG OkAL AdjList.order AdjList.arcs d.order d.arcs (AlgoGen.AdjacencyList.fromAdjacencyMap d) ∧
      (Fits d.order → GoodG OkMX (·.order) AdjMatrix.arcs d.order d.arcs (AlgoGen.AdjacencyMatrix.fromAdjacencyMap d)) ∧
      GoodG OkEL (·.order) (·.arcs) d.order d.arcs (AlgoGen.EdgeList.fromAdjacencyMap d) ∧
      GoodG OkWL1 AdjListW.order AdjListW.arcs d.order d.arcs (AlgoGen.AdjacencyListWeighted.fromAdjacencyMap d)) ∧
    (∀ d : AdjMatrix, OkMX d →
      GoodG OkAL AdjList.order AdjList.arcs d.order d.arcs (AlgoGen.AdjacencyList.fromAdjacencyMatrix d) ∧
      GoodG OkAM AdjMap.order AdjMap.arcs d.order d.arcs (AlgoGen.AdjacencyMap.fromAdjacencyMatrix d) ∧
      GoodG OkEL (·.order) (·.arcs) d.order d.arcs (AlgoGen.EdgeList.fromAdjacencyMatrix d) ∧
      GoodG OkWL1 AdjListW.order AdjListW.arcs d.order d.arcs (AlgoGen.AdjacencyListWeighted.fromAdjacencyMatrix d)) ∧
    (∀ d : EdgeList, OkEL d →
      GoodG OkAL AdjList.order AdjList.arcs d.order d.arcs (AlgoGen.AdjacencyList.fromEdgeList d) ∧
      GoodG OkAM AdjMap.order AdjMap.arcs d.order d.arcs (AlgoGen.AdjacencyMap.fromEdgeList d) ∧
      (Fits d.order → GoodG OkMX (·.order) AdjMatrix.arcs d.order d.arcs (AlgoGen.AdjacencyMatrix.fromEdgeList d)) ∧
      GoodG OkWL1 AdjListW.order AdjListW.arcs d.order d.arcs (AlgoGen.AdjacencyListWeighted.fromEdgeList d)) := by
  refine ⟨fun d h => ?_, fun d h => ?_, fun d h => ?_, fun d h => ?_⟩
  · obtain ⟨h1, h2, h3, h4⟩ := converts_from_al d h
    exact ⟨ok_of_optR (AdjacencyMap.fromAdjacencyList_eq d) h1,
      fun hf => ok_of_optR (AdjacencyMatrix.fromAdjacencyList_eq d) (h2 hf),
      ok_of_optR (EdgeList.fromAdjacencyList_eq d) h3,
      ok_of_optR (AdjacencyListWeighted.fromAdjacencyList_eq d) h4⟩
  · obtain ⟨h1, h2, h3, h4⟩ := converts_from_am d h
    exact ⟨ok_of_optR (AdjacencyList.fromAdjacencyMap_eq d) h1,
      fun hf => ok_of_optR (AdjacencyMatrix.fromAdjacencyMap_eq d) (h2 hf),
      ok_of_optR (EdgeList.fromAdjacencyMap_eq d) h3,
      ok_of_optR (AdjacencyListWeighted.fromAdjacencyMap_eq d) h4⟩
  · obtain ⟨h1, h2, h3, h4⟩ := converts_from_mx d h
    exact ⟨ok_of_optR (AdjacencyList.fromAdjacencyMatrix_eq d) h1,
      ok_of_optR (AdjacencyMap.fromAdjacencyMatrix_eq d) h2,
      ok_of_optR (EdgeList.fromAdjacencyMatrix_eq d) h3,
      ok_of_optR (AdjacencyListWeighted.fromAdjacencyMatrix_eq d) h4⟩
  · obtain ⟨h1, h2, h3, h4⟩ := converts_from_el d h
    exact ⟨ok_of_optR (AdjacencyList.fromEdgeList_eq d) h1,
      ok_of_optR (AdjacencyMap.fromEdgeList_eq d) h2,
      fun hf => ok_of_optR (AdjacencyMatrix.fromEdgeList_eq d) (h3 hf),
      ok_of_optR (AdjacencyListWeighted.fromEdgeList_eq d) h4⟩

example : genTarjan GraafVerif.Tarjan.exampleGraph 8 = .ok [[5, 6], [2, 3, 7], [0, 1, 4]] := by decide +kernel
/-- too little fuel for the recursion depth: the distinct `div` outcome -/
example : genTarjan GraafVerif.Tarjan.exampleGraph 2 = .error .div := by decide +kernel
/-- an out-neighbour that is not a vertex: `out_neighbors` panics -/
example : genTarjan ⟨[0], fun _ => [5]⟩ 3 = .error (.fault .panic) := by decide +kernel

/-- the doc example of johnson_75.rs / `C10.gEx`: the generated program returns within the fuel -/
example : genJohnson C10.gEx 4 = .ok [[0, 1], [0, 1, 2], [0, 2]] := by decide +kernel
example : genJohnson C10.gEx 1 = .error .div := by decide +kernel

example : AlgoGen.EdgeList.fromArcs [(0, 1), (2, 0), (0, 1)] = .ok ⟨[(0, 1), (2, 0)], 3⟩ := by decide +kernel
example : AlgoGen.AdjacencyList.fromRows [[1], [1]] = .error (.fault .panic) := by decide +kernel
example : AlgoGen.AdjacencyList.fromEdgeList ⟨[(0, 1), (1, 2)], 3⟩ = .ok ⟨[[1], [2], []]⟩ := by decide +kernel

end GraafVerif.AlgoGenThm
