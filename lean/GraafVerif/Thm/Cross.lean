import GraafVerif.Proof.CrossModels
import GraafVerif.Proof.CrossTable
/-!
# Cross — the cross-algorithm clauses of C07 and C08, between the MODELS

C07 ends with "on non-negative weights it agrees with Dijkstra"; C08 ends with "Row `s`
therefore equals BellmanFordMoore from `s`, and on non-negative weights equals Dijkstra from
`s`".  C03 / C07 / C08 each prove their own model exact against `IsMinDist` (C07 and C08 state
the cross clause only against "any exact vector").  Here the clauses are stated between the
models themselves:

* `Dijkstra.distances g [s]`          — model of `DijkstraDist::new(g, [s]).distances()` (C03)
* `Bfm.distances g s`                 — model of `BellmanFordMoore::new(g, s).distances()` (C07)
* `Fw.row g.n (Fw.distances g) s`     — row `s` of the model of `FloydWarshall::distances()` (C08)
* `Bfs.distances g S inf`             — model of `BfsDist::new(g, S).distances()` (C04)

All three weighted models return a `List (Option Int)` in which `none` is the `MAX` sentinel
(`isize::MAX` for BFM / FW, `usize::MAX` for Dijkstra), so "equal modulo the representation of
the sentinel" is plain equality of lists (`…_entry` gives the entrywise reading).  BFS returns
`List Nat` with the sentinel `inf = usize::MAX` inside; `hopToOpt inf` maps it to `none`.
-/
namespace GraafVerif.Cross
open GraafVerif

/-! ## Uniqueness at spec level -/

theorem minDist_unique (g : WGraph) (S : List Nat) (v : Nat) (d d' : Int)
    (h : IsMinDist g S v d) (h' : IsMinDist g S v d') : d = d' :=
  Bfm.isMinDist_unique h h'

theorem hopDist_unique (g : Graph) (S : List Nat) (v d d' : Nat)
    (h : IsHopDist g S v d) (h' : IsHopDist g S v d') : d = d' :=
  OracleProof.hop_unique h h'

/-- At most one list is the distance vector from `S` (one entry per vertex; finite entry iff
minimum walk weight; sentinel iff unreachable). -/
theorem distVec_unique (g : WGraph) (S : List Nat) (d d' : List (Option Int))
    (h : IsDistVec g S d) (h' : IsDistVec g S d') : d = d' :=
  isDistVec_unique h h'

/-- C07's `Exact` is `IsDistVec` for one source (so C07/C08's "any exact vector" clauses and the
theorems below speak about the same thing). -/
theorem distVec_iff_exact (g : WGraph) (s : Nat) (d : List (Option Int)) :
    IsDistVec g [s] d ↔ Bfm.Exact g s d :=
  ⟨exact_of_isDistVec, isDistVec_of_exact⟩

/-! ## Each model computes the distance vector -/

theorem dijkstra_distVec (g : WGraph) (S : List Nat) (h : Dijkstra.Hyp g S) :
    IsDistVec g S (Dijkstra.distances g S) :=
  C03.distances_spec g S h

theorem bfm_distVec (g : WGraph) (hwf : g.WF) (s : Nat) (d : Bfm.Dist)
    (h : Bfm.distances g s = .ret (some d)) : IsDistVec g [s] d :=
  bfm_isDistVec hwf h

theorem fw_row_distVec (g : WGraph) (hwf : g.WF) (hfun : g.Functional) (hnc : g.NoNegCycle)
    (s : Nat) (hs : s < g.n) : IsDistVec g [s] (Fw.row g.n (Fw.distances g) s) :=
  C08.fw_row_isDistVec g hwf hfun hnc hs

/-! ## 1. BFM = Dijkstra on non-negative weights (last clause of C07) -/

/-- For every well-formed digraph with non-negative weights and every in-range source, the BFM
model returns `Some(d)` and `d` IS the vector the `DijkstraDist` model's `distances` returns for
the sources `[s]`.  (`Functional` is not needed.) -/
theorem bfm_eq_dijkstra (g : WGraph) (hwf : g.WF) (hnn : g.NonNeg) (s : Nat) (hs : s < g.n) :
    Bfm.distances g s = .ret (some (Dijkstra.distances g [s])) :=
  C07.bfm_nonneg_agrees g hwf s hs hnn _
    (exact_of_isDistVec (C03.distances_spec g [s] (hyp_single hwf hnn hs)))

/-- Entrywise reading: both vectors have one entry per vertex and agree at every vertex
(`some x` = the number `x` in both, `none` = `isize::MAX` in BFM, `usize::MAX` in Dijkstra). -/
theorem bfm_eq_dijkstra_entry (g : WGraph) (hwf : g.WF) (hnn : g.NonNeg) (s : Nat) (hs : s < g.n) :
    ∃ d, Bfm.distances g s = .ret (some d) ∧ d.length = g.n ∧
      (Dijkstra.distances g [s]).length = g.n ∧
      ∀ v, v < g.n → ∃ o, d[v]? = some o ∧ (Dijkstra.distances g [s])[v]? = some o := by
  have hdj := C03.distances_spec g [s] (hyp_single hwf hnn hs)
  refine ⟨_, bfm_eq_dijkstra g hwf hnn s hs, hdj.1, hdj.1, fun v hv => ?_⟩
  obtain ⟨o, ho⟩ := exists_getElem? (Dijkstra.distances g [s]) v (by rw [hdj.1]; exact hv)
  exact ⟨o, ho, ho⟩

/-! ## 2. Row `s` of Floyd-Warshall = BFM from `s` (C08, first half of the last clause) -/

/-- No negative circuit ⇒ for every `s < n` the BFM model returns `Some`, namely row `s` of the
Floyd-Warshall matrix. -/
theorem fw_row_eq_bfm (g : WGraph) (hwf : g.WF) (hfun : g.Functional) (hnc : g.NoNegCycle)
    (s : Nat) (hs : s < g.n) :
    Bfm.distances g s = .ret (some (Fw.row g.n (Fw.distances g) s)) :=
  fw_row_bfm_agree g hwf hfun hnc s hs

/-! ## 3. Row `s` of Floyd-Warshall = Dijkstra from `[s]` (C08, second half) -/

theorem fw_row_eq_dijkstra (g : WGraph) (hwf : g.WF) (hfun : g.Functional) (hnn : g.NonNeg)
    (s : Nat) (hs : s < g.n) :
    Fw.row g.n (Fw.distances g) s = Dijkstra.distances g [s] :=
  isDistVec_unique (C08.fw_row_isDistVec g hwf hfun hnn.noNegCycle hs)
    (C03.distances_spec g [s] (hyp_single hwf hnn hs))

/-- Cell form: `dist[(s, v)]` of Floyd-Warshall is entry `v` of Dijkstra from `[s]`. -/
theorem fw_get_eq_dijkstra (g : WGraph) (hwf : g.WF) (hfun : g.Functional) (hnn : g.NonNeg)
    (s v : Nat) (hs : s < g.n) (hv : v < g.n) :
    (Dijkstra.distances g [s])[v]? = some (Fw.get g.n (Fw.distances g) s v) := by
  rw [← fw_row_eq_dijkstra g hwf hfun hnn s hs]
  exact Fw.row_getElem? _ _ _ hv

/-! ## 4. The unweighted bridge: BFS = Dijkstra / BFM / Floyd-Warshall over unit weights -/

/-- Hop distance = minimum walk weight when every arc weighs 1. -/
theorem hopDist_iff_minDist (g : Graph) (S : List Nat) (v d : Nat) :
    IsHopDist g S v d ↔ IsMinDist (unitWeights g) S v (d : Int) :=
  isHopDist_iff_isMinDist

theorem reach_iff_wreach (g : Graph) (S : List Nat) (v : Nat) :
    ReachFrom g S v ↔ WReachFrom (unitWeights g) S v :=
  reachFrom_iff_wreachFrom

/-- `unitWeights g` is a legitimate input of all three weighted algorithms, and forgetting the
weights gives `g` back. -/
theorem unitWeights_hyps (g : Graph) (hg : g.WF) :
    (unitWeights g).WF ∧ (unitWeights g).Functional ∧ (unitWeights g).NonNeg ∧
    (unitWeights g).NoNegCycle ∧ (unitWeights g).toGraph = g :=
  ⟨unitWeights_wf hg, unitWeights_functional g, unitWeights_nonneg g,
    (unitWeights_nonneg g).noNegCycle, unitWeights_toGraph g⟩

/-- `BfsDist::distances()` (sentinel `inf = usize::MAX` ↦ `none`) is Dijkstra's `distances()` on
the unit-weight view, for every list of distinct in-range sources. -/
theorem bfs_eq_dijkstra (g : Graph) (hg : g.WF) (S : List Nat) (hS : ∀ s ∈ S, s < g.n) (hnd : S.Nodup)
    (inf : Nat) (hinf : g.n ≤ inf) :
    ∃ d, Bfs.distances g S inf = .ok d ∧
      Dijkstra.distances (unitWeights g) S = d.map (hopToOpt inf) := by
  obtain ⟨d, hd, hv⟩ := bfs_isDistVec g hg S hS hnd inf hinf
  exact ⟨d, hd, isDistVec_unique
    (C03.distances_spec _ S ⟨unitWeights_wf hg, unitWeights_nonneg g, hS, hnd⟩) hv⟩

/-- … and, for one source, BFM's result and row `s` of Floyd-Warshall. -/
theorem bfs_eq_bfm_fw (g : Graph) (hg : g.WF) (s : Nat) (hs : s < g.n) (inf : Nat) (hinf : g.n ≤ inf) :
    ∃ d, Bfs.distances g [s] inf = .ok d ∧
      Bfm.distances (unitWeights g) s = .ret (some (d.map (hopToOpt inf))) ∧
      Fw.row g.n (Fw.distances (unitWeights g)) s = d.map (hopToOpt inf) :=
  bfs_bfm_fw_agree g hg s hs inf hinf

/-! ## The clauses together -/

/-- The cross-algorithm clauses of C07 and C08 (and the unweighted bridge) for the models. -/
def Statement : Prop :=
  (∀ (g : WGraph) (s : Nat), g.WF → s < g.n →
    -- C07: "on non-negative weights it agrees with Dijkstra"
    (g.NonNeg → Bfm.distances g s = .ret (some (Dijkstra.distances g [s]))) ∧
    -- C08: "Row s therefore equals BellmanFordMoore from s, …
    (g.Functional → g.NoNegCycle →
      Bfm.distances g s = .ret (some (Fw.row g.n (Fw.distances g) s))) ∧
    -- … and on non-negative weights equals Dijkstra from s"
    (g.Functional → g.NonNeg → Fw.row g.n (Fw.distances g) s = Dijkstra.distances g [s])) ∧
  (∀ (g : Graph) (S : List Nat) (inf : Nat), g.WF → (∀ s ∈ S, s < g.n) → S.Nodup → g.n ≤ inf →
    ∃ d, Bfs.distances g S inf = .ok d ∧ Dijkstra.distances (unitWeights g) S = d.map (hopToOpt inf))

theorem statement : Statement :=
  ⟨fun g s hwf hs =>
    ⟨fun hnn => bfm_eq_dijkstra g hwf hnn s hs,
     fun hfun hnc => fw_row_bfm_agree g hwf hfun hnc s hs,
     fun hfun hnn => fw_row_eq_dijkstra g hwf hfun hnn s hs⟩,
   fun g S inf hg hS hnd hinf => bfs_eq_dijkstra g hg S hS hnd inf hinf⟩

/-! ## Non-vacuity

`gx`: 5 vertices, non-negative weights with a zero-weight arc, the "late shortcut" diamond
`0 → 1 : 10`, `0 → 2 : 1`, `2 → 1 : 1`, and vertex 4 which reaches everything but is reached by
nothing.  It meets `WF`, `Functional`, `NonNeg`; the three models are evaluated by the kernel. -/

def gx : WGraph := ⟨5, fun u => match u with
  | 0 => [(1, 10), (2, 1), (3, 20)] | 1 => [(3, 0)] | 2 => [(1, 1)] | 4 => [(0, 2)] | _ => []⟩

theorem gx_tail (k : Nat) : gx.out (k + gx.n) = [] := rfl

theorem gx_wf : gx.WF := wf_of_table gx_tail (by decide +kernel)

theorem gx_functional : gx.Functional := functional_of_table gx_tail (by decide +kernel)

theorem gx_nonneg : gx.NonNeg := nonneg_of_table gx_tail (by decide +kernel)

/-- The Floyd-Warshall run on `gx`, evaluated once for the examples here and in `Thm/Cross2`. -/
theorem gx_fw : Fw.distances gx =
    [some 0, some 2, some 1, some 2, none,
     none, some 0, none, some 0, none,
     none, some 1, some 0, some 1, none,
     none, none, none, some 0, none,
     some 2, some 4, some 3, some 4, some 0] := by decide +kernel

example : Dijkstra.distances gx [0] = [some 0, some 2, some 1, some 2, none] := by decide +kernel
example : Bfm.distances gx 0 = .ret (some [some 0, some 2, some 1, some 2, none]) := by decide +kernel
example : Fw.row 5 (Fw.distances gx) 0 = [some 0, some 2, some 1, some 2, none] := by
  rw [gx_fw]
  decide +kernel
example : Dijkstra.distances gx [4] = [some 2, some 4, some 3, some 4, some 0] := by decide +kernel
example : Bfm.distances gx 4 = .ret (some [some 2, some 4, some 3, some 4, some 0]) := by decide +kernel
example : Fw.row 5 (Fw.distances gx) 4 = [some 2, some 4, some 3, some 4, some 0] := by
  rw [gx_fw]
  decide +kernel

/-- The theorems apply to `gx` (hypotheses discharged, not assumed). -/
example : Bfm.distances gx 0 = .ret (some (Dijkstra.distances gx [0])) :=
  bfm_eq_dijkstra gx gx_wf gx_nonneg 0 (by decide)
example : Fw.row gx.n (Fw.distances gx) 4 = Dijkstra.distances gx [4] :=
  fw_row_eq_dijkstra gx gx_wf gx_functional gx_nonneg 4 (by decide)

export GraafVerif.C08 (ex_tail ex_wf ex_functional ex_noNegCycle)

/-- `fw_row_eq_bfm` with NEGATIVE arcs: C08's doctest digraph `C08.ex` (no negative circuit, so
Dijkstra is out of scope but BFM and Floyd-Warshall agree). -/
example : Bfm.distances C08.ex 1 = .ret (some [some 4, some 0, some 2, some 4]) := by decide +kernel
example : Fw.row 4 (Fw.distances C08.ex) 1 = [some 4, some 0, some 2, some 4] := by
  rw [C08.ex_fw]
  decide +kernel
example : Bfm.distances C08.ex 1 = .ret (some (Fw.row C08.ex.n (Fw.distances C08.ex) 1)) :=
  fw_row_eq_bfm C08.ex ex_wf ex_functional ex_noNegCycle 1 (by decide)

/-- The unweighted bridge on C04's doc digraph `Bfs.g0` (8 vertices), sources `[1]` and `[6]`
(from 6 only 5, 6, 7 are reachable: `usize::MAX` ↦ `none`). -/
example : Bfs.distances Bfs.g0 [1] 18446744073709551615 = .ok [3, 0, 1, 2, 1, 2, 2, 3] := by decide +kernel
example : Dijkstra.distances (unitWeights Bfs.g0) [1]
    = [3, 0, 1, 2, 1, 2, 2, 3].map (hopToOpt 18446744073709551615) := by decide +kernel
example : Dijkstra.distances (unitWeights Bfs.g0) [6]
    = [none, none, none, none, none, some 1, some 0, some 1] := by decide +kernel
example : Bfm.distances (unitWeights Bfs.g0) 6
    = .ret (some [none, none, none, none, none, some 1, some 0, some 1]) := by decide +kernel
example : ∃ d, Bfs.distances Bfs.g0 [3, 7] 18446744073709551615 = .ok d ∧
    Dijkstra.distances (unitWeights Bfs.g0) [3, 7] = d.map (hopToOpt 18446744073709551615) :=
  bfs_eq_dijkstra Bfs.g0 C04.g0_wf [3, 7] (by decide) (by decide) _ (by decide)

end GraafVerif.Cross
