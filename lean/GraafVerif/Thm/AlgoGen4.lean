import GraafVerif.Proof.AlgoGen4AL
import GraafVerif.Proof.AlgoGen4AM
import GraafVerif.Proof.AlgoGen4Deg
import GraafVerif.Proof.AlgoGen4Semi
import GraafVerif.Proof.AlgoGen4Union
import GraafVerif.Proof.AlgoGen4UnionAM
import GraafVerif.Thm.C17
/-!
# AlgoGen4 — the parallel functions regenerated from the source

`Model/AlgoGen4.lean` is GENERATED by `tools/translate_algo.py --set 4` (`docs/AlgoGen.md`, "Set 4") from
`src/repr/adjacency_list/mod.rs` and `src/repr/adjacency_map/mod.rs` under the
reading of the concurrency constructs of DESIGN.md §4.2 (`available_parallelism()` = the parameter `ap`; a spawned
closure runs to completion at its spawn point, in spawn order; `scope` / `join` are no-op barriers; `Arc` is sharing,
`Mutex::lock` direct access, a `Relaxed` `AtomicBool` a plain Boolean cell).  For every generated definition `X.f`
there is a theorem `GraafVerif.AlgoGenThm.X.f_eq` (in `Proof/AlgoGen4*.lean`) that states it equal to the hand-written
model function that carries the thread count.  This file: C17's clauses on the generated definitions
(`c17_generated`) and non-vacuity examples.
-/
namespace GraafVerif.AlgoGenThm
open GraafVerif GraafVerif.AlgoGen GraafVerif.Repr

theorem al_rows_of_wf (d : AdjList) (h : d.WF) : ∀ row ∈ d.rows, ∀ v ∈ row, v < d.order :=
  h.row_lt

/-- **C17 on the regenerated definitions**, clause by clause (`ap` = `available_parallelism()`): every covered parallel
function, as generated from the source under the reading of DESIGN.md §4.2, returns — without panic and without an
out-of-bounds unchecked access — its single-threaded definition for EVERY thread count `ap ≥ 1`; the seeded map
generators return a valid tournament / simple digraph for every thread count.  (The clauses of `C17.Statement` about
ALL SCHEDULES of the two functions with shared mutable state — `isSemicompleteSched`, `TournamentAMOutcome` — stay
on the hand-written transition systems: the generated definitions are the run-to-completion schedule.) -/
theorem c17_generated :
    -- AdjacencyList::complement
    (∀ (d : AdjList) (ap : Nat), 0 < ap → 0 < d.order →
      AlgoGen.AdjacencyList.complement ap d = .ok (Ops.complementSeqAL d)) ∧
    -- AdjacencyList::union
    (∀ (a b : AdjList) (ap : Nat), 0 < ap → 0 < max a.order b.order →
      AlgoGen.AdjacencyList.union ap a b = .ok (Ops.unionSeqAL a b)) ∧
    -- AdjacencyMap::union
    (∀ (a b : AdjMap) (ap : Nat), 0 < ap → a.WF → b.WF → 0 < a.rows.length + b.rows.length →
      AlgoGen.AdjacencyMap.union ap a b = .ok (Ops.unionSeqAM a b)) ∧
    -- AdjacencyList::complete
    (∀ (n ap : Nat), 1 ≤ ap → AlgoGen.AdjacencyList.complete ap n = optR (Gen.AL.completeSeq n)) ∧
    -- AdjacencyList::degree_sequence
    (∀ (d : AdjList) (ap : Nat), d.WF → 0 < ap →
      AlgoGen.AdjacencyList.degreeSequence ap d = .ok (Query.Spec.degreeSequence (Query.AL.abs d))) ∧
    -- AdjacencyList::is_semicomplete (the workers one after the other)
    (∀ (d : AdjList) (ap : Nat), d.WF → 0 < ap →
      ∃ b, AlgoGen.AdjacencyList.isSemicomplete ap d = .ok b ∧ (b = true ↔ Pred.Def.IsSemicomplete (Query.AL.abs d))) ∧
    -- AdjacencyMap::random_tournament, worker `k` seeded with `seed + k`
    (∀ (n ap : Nat) (seed : UInt64), 1 ≤ n → 1 ≤ ap →
      ∃ g, AlgoGen.AdjacencyMap.randomTournament ap n seed = .ok g ∧ Rand.IsTournament n (Rand.viewAM g)) ∧
    -- AdjacencyMap::erdos_renyi (recursion fuel ≥ 2)
    (∀ (n ap fuel : Nat) (p : Rand.F64) (seed : UInt64), 1 ≤ n → 1 ≤ ap → p.inUnit = true →
      ∃ g, AlgoGen.AdjacencyMap.erdosRenyi ap (fuel + 2) n p seed = .ok g ∧ Rand.ErValid n p (Rand.viewAM g)) := by
  obtain ⟨h1, h2, h3, h4, h5, _, h7, _, h9⟩ := C17.statement
  refine ⟨?_, ?_, ?_, ?_, ?_, ?_, ?_, ?_⟩
  · intro d ap hap hn
    rw [AdjacencyList.complement_eq, h1 d ap hap hn]; rfl
  · intro a b ap hap hn
    rw [AdjacencyList.union_eq, h2 a b ap hap hn]; rfl
  · intro a b ap hap ha hb hn
    rw [AdjacencyMap.union_eq, h3 a b ap hap ha hb hn]; rfl
  · intro n ap hap
    rw [AdjacencyList.complete_eq ap n hap, h4 n ap hap]
  · intro d ap h hap
    rw [AdjacencyList.degreeSequence_eq ap d hap h.1 h.row_lt, h5 d ap h hap]
  · intro d ap h hap
    exact ⟨_, AdjacencyList.isSemicomplete_eq ap d hap h.1, Pred.AL.isSemicomplete_correct h ap hap⟩
  · intro n ap seed hn hap
    obtain ⟨g, hg, hv⟩ := h7 (Rand.xoStreams seed) n ap hn hap
    exact ⟨g, by rw [AdjacencyMap.randomTournament_eq ap n seed hap, hg]; rfl, hv⟩
  · intro n ap fuel p seed hn hap hp
    obtain ⟨g, hg, hv⟩ := h9 (Rand.xoStreams seed) n ap p hn hap hp
    exact ⟨g, by rw [AdjacencyMap.erdosRenyi_eq ap fuel n p seed hap, hg]; rfl, hv⟩

/-- the generated `is_semicomplete` is the value every schedule of the hand-written transition system ends in -/
theorem c17_generated_semicomplete_sched (d : AdjList) (ap : Nat) (sched : List Nat) (b : Bool) (h : d.WF) (hap : 0 < ap)
    (hb : Pred.AL.isSemicompleteSched d ap sched = some b) : AlgoGen.AdjacencyList.isSemicomplete ap d = .ok b := by
  rw [AdjacencyList.isSemicomplete_eq ap d hap h.1, C12.semicomplete_sched_eq_functional d h ap hap sched b hb]

/-- the generated `random_tournament` is the outcome of every interleaving of the workers' locked inserts -/
theorem c17_generated_tournament_sched (n ap : Nat) (seed : UInt64) (g : AdjMap) (hn : 2 ≤ n) (hap : 0 < ap)
    (h : C15.TournamentAMOutcome (Rand.xoStreams seed) n ap g) : AlgoGen.AdjacencyMap.randomTournament ap n seed = .ok g := by
  rw [AdjacencyMap.randomTournament_eq ap n seed hap, C15.tournament_am_outcome_unique (Rand.xoStreams seed) n ap hn g h]
  rfl

/-- (`sort_unstable_by_key` is a well-founded merge sort: evaluated through the equality theorem) -/
example : AlgoGen.AdjacencyList.complete 2 3 = .ok ⟨[[1, 2], [0, 2], [0, 1]]⟩ := by
  rw [AdjacencyList.complete_eq 2 3 (by decide)]; decide
example : AlgoGen.AdjacencyList.complete 7 3 = AlgoGen.AdjacencyList.complete 1 3 := by
  rw [AdjacencyList.complete_eq 7 3 (by decide), AdjacencyList.complete_eq 1 3 (by decide)]; decide
/-- `available_parallelism()` cannot be 0 (`NonZero`); the generated definition divides by it -/
example : AlgoGen.AdjacencyList.complete 0 3 = .error (.fault .panic) := by decide +kernel
example : AlgoGen.AdjacencyList.complement 2 ⟨[[1], [2], []]⟩ = .ok ⟨[[2], [0], [0, 1]]⟩ := by decide +kernel
example : AlgoGen.AdjacencyList.degreeSequence 2 ⟨[[1, 2], [2], []]⟩ = .ok [2, 2, 2] := by decide +kernel
/-- a head that is not a vertex: `*local_indegrees.get_unchecked_mut(7) += 1` is out of bounds -/
example : AlgoGen.AdjacencyList.degreeSequence 2 ⟨[[7], []]⟩ =
    .error (.fault (.ub "repr/adjacency_list/mod.rs:degree_sequence:local_indegrees.get_unchecked_mut(v)")) := by decide +kernel
example : AlgoGen.AdjacencyList.isSemicomplete 2 ⟨[[1], [2], [0]]⟩ = .ok true := by decide +kernel
example : AlgoGen.AdjacencyList.isSemicomplete 3 ⟨[[1], [0, 2], []]⟩ = .ok false := by decide +kernel
example : AlgoGen.AdjacencyList.union 3 ⟨[[1], []]⟩ ⟨[[2], [0], []]⟩ = .ok ⟨[[1, 2], [0], []]⟩ := by decide +kernel
example : AlgoGen.AdjacencyMap.unionSets [1, 4] [2, 4] = .ok [1, 2, 4] := by decide +kernel
example : AlgoGen.AdjacencyMap.union 0 ⟨[(0, [])]⟩ ⟨[]⟩ = .error (.fault .panic) := by decide +kernel
/-- not the merge path (the code compares `lhs[mid]` with `rhs[r - mid]`); the final sort + duplicate fold make the result
independent of where the boundaries fall -/
example : AlgoGen.AdjacencyMap.findPartition 2 [(0, []), (4, [])] [(1, []), (5, [])] = .ok (2, 0) := by decide +kernel

end GraafVerif.AlgoGenThm
