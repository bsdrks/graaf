import GraafVerif.Proof.Laws2Filter
import GraafVerif.Proof.Laws2Deg
import GraafVerif.Proof.Laws2W
/-!
# Laws2 — `filter_vertices` laws, exact degree / size facts of the generators, history laws

Second helping of `Thm/Laws.lean` (same reading: `=` of model values is `==` of the Rust structs, `x = some r` =
"the call returns `r`").  The statements with their proofs (references into `Proof/`, or written out here) and non-vacuity examples.

1. `filter_vertices` (C11's fourth operation; implemented for `AdjacencyMap` only — ARBITRARY key sets, the
   result may have no vertex at all).
2. `star / wheel / path / biclique`: `size`, `is_balanced`, and `is_regular` as an `⇔` in the parameters — for
   all four bundles of `Proof/LawsInst.lean`.
3. Laws over mutation histories (C01/C20): `add_arc_weighted` overwrite, commuting adds, idempotent `add_arc`
   / `remove_arc`.
-/
namespace GraafVerif.Laws2
open GraafVerif.Repr GraafVerif.Ops GraafVerif.Query GraafVerif.Pred GraafVerif.GenSpec GraafVerif.Gen GraafVerif.ReprSpec
open GraafVerif.Laws (alRep amRep mxRep elRep)

/-! ## 1. `AdjacencyMap::filter_vertices` -/

/-- The `filter_vertices` laws (every well-formed map, every predicate, every thread count of `union`). -/
def StatementFilter : Prop :=
  -- composition, commutation, idempotence
  (∀ (g : AdjMap) (p q : Nat → Bool), g.WF → filterAM (filterAM g q) p = filterAM g (fun v => p v && q v)) ∧
  (∀ (g : AdjMap) (p q : Nat → Bool), g.WF → filterAM (filterAM g q) p = filterAM (filterAM g p) q) ∧
  (∀ (g : AdjMap) (p : Nat → Bool), g.WF → filterAM (filterAM g p) p = filterAM g p) ∧
  -- identity: exactly when every vertex is kept
  (∀ (g : AdjMap), g.WF → filterAM g (fun _ => true) = g) ∧
  (∀ (g : AdjMap) (p : Nat → Bool), g.WF → (filterAM g p = g ↔ ∀ v ∈ g.vertices, p v = true)) ∧
  -- `vertices()`, `arcs()`, `has_arc()` of the result
  (∀ (g : AdjMap) (p : Nat → Bool), g.WF →
    (∀ v, v ∈ (filterAM g p).vertices ↔ v ∈ g.vertices ∧ p v = true) ∧
    (∀ u v, (u, v) ∈ (filterAM g p).arcs ↔ (u, v) ∈ g.arcs ∧ p u = true ∧ p v = true) ∧
    (∀ u v, (filterAM g p).hasArc u v = (g.hasArc u v && p u && p v))) ∧
  -- commutes with `converse` and with `complement`, distributes over `union`
  (∀ (g : AdjMap) (p : Nat → Bool), g.WF → converseAM (filterAM g p) = filterAM (converseAM g) p) ∧
  (∀ (g : AdjMap) (p : Nat → Bool), g.WF → complementAM (filterAM g p) = filterAM (complementAM g) p) ∧
  (∀ (g k : AdjMap) (p : Nat → Bool) (ap : Nat), 0 < ap → g.WF → k.WF →
    0 < (filterAM g p).order + (filterAM k p).order →
    ∃ r, unionAM g k ap = some r ∧ unionAM (filterAM g p) (filterAM k p) ap = some (filterAM r p)) ∧
  -- sub- / superdigraph; spanning exactly when nothing is removed
  (∀ (g : AdjMap) (p : Nat → Bool), g.WF →
    Blanket.isSubdigraph (Query.AM.core (filterAM g p)) (Query.AM.core g) = true ∧
    Blanket.isSuperdigraph (Query.AM.core g) (Query.AM.core (filterAM g p)) = true ∧
    (Blanket.isSpanningSubdigraph (Query.AM.core (filterAM g p)) (Query.AM.core g) = true ↔ filterAM g p = g)) ∧
  -- hereditary predicates
  (∀ (g : AdjMap) (p : Nat → Bool), g.WF →
    (Pred.AM.isComplete g = true → Pred.AM.isComplete (filterAM g p) = true) ∧
    (Pred.AM.isSemicomplete g = true → Pred.AM.isSemicomplete (filterAM g p) = true) ∧
    (Pred.AM.isTournament g = true → Pred.AM.isTournament (filterAM g p) = true) ∧
    (Blanket.isSymmetric (Query.AM.core g) = true → Blanket.isSymmetric (Query.AM.core (filterAM g p)) = true) ∧
    (Blanket.isOriented (Query.AM.core g) = true → Blanket.isOriented (Query.AM.core (filterAM g p)) = true))

theorem statementFilter : StatementFilter :=
  ⟨fun g p q h => filter_filter g p q h, fun g p q h => filter_comm g p q h, fun g p h => filter_idem g p h,
   fun g h => filter_true g h, fun g p h => filter_eq_iff g p h, fun g p h => filter_vertices_arcs g p h,
   fun g p h => filter_converse g p h, fun g p h => filter_complement g p h,
   fun g k p ap hap hg hk hne => filter_union g k p ap hap hg hk hne, fun g p h => filter_sub g p h,
   fun g p h => filter_hereditary g p h⟩

/-! ## 2. degrees and sizes of `star`, `wheel`, `path`, `biclique` -/

structure DegLawsOf {R : Type} (M : Laws.Rep R) : Prop where
  symmetric_balanced : ∀ g, M.WF g → M.isSymmetric g = true → M.isBalanced g = some true
  /-- `star n`: `2(n-1)` arcs, balanced, regular ⇔ `n ≤ 2` -/
  gen_star_degrees : ∀ n, 1 ≤ n → M.fits n → ∃ s, M.fam.star n = some s ∧ M.size s = 2 * (n - 1) ∧
    M.isBalanced s = some true ∧ (M.isRegular s = some true ↔ n ≤ 2)
  /-- `wheel n` (`n ≥ 4`): `4(n-1)` arcs, balanced, regular ⇔ `n = 4` ⇔ `wheel n == complete n` -/
  gen_wheel_degrees : ∀ n, 4 ≤ n → M.fits n → ∃ w k, M.fam.wheel n = some w ∧ M.fam.complete n = some k ∧
    M.size w = 4 * (n - 1) ∧ M.isBalanced w = some true ∧ (M.isRegular w = some true ↔ n = 4) ∧ (w = k ↔ n = 4)
  /-- `path n`: regular ⇔ balanced ⇔ `n = 1` (`size = n - 1` is `Laws.gen_path`) -/
  gen_path_degrees : ∀ n, 1 ≤ n → M.fits n → ∃ p, M.fam.path n = some p ∧
    (M.isRegular p = some true ↔ n = 1) ∧ (M.isBalanced p = some true ↔ n = 1)
  /-- `biclique m n`: balanced, regular ⇔ `m = n` (`size = 2mn` is `Laws.gen_biclique`) -/
  gen_biclique_degrees : ∀ m n, 1 ≤ m → 1 ≤ n → M.fits (m + n) → ∃ b, M.fam.biclique m n = some b ∧
    M.isBalanced b = some true ∧ (M.isRegular b = some true ↔ m = n)

theorem degLaws {R : Type} (M : Laws.Rep R) : DegLawsOf M where
  symmetric_balanced := fun _ hg h => Rep.symmetric_balanced' hg h
  gen_star_degrees := fun _ hn hf => Rep.gen_star_degrees hn hf
  gen_wheel_degrees := fun _ hn hf => Rep.gen_wheel_degrees hn hf
  gen_path_degrees := fun _ hn hf => Rep.gen_path_degrees hn hf
  gen_biclique_degrees := fun _ _ hm hn hf => Rep.gen_biclique_degrees hm hn hf

def StatementDeg : Prop :=
  (∀ ap (hap : 0 < ap), DegLawsOf (alRep ap hap)) ∧ (∀ ap (hap : 0 < ap), DegLawsOf (amRep ap hap)) ∧
  DegLawsOf mxRep ∧ DegLawsOf elRep

theorem statementDeg : StatementDeg := ⟨fun _ _ => degLaws _, fun _ _ => degLaws _, degLaws _, degLaws _⟩

/-- plain model terms: `AdjacencyList::star(n)` -/
theorem al_star_facts (n : Nat) (hn : 1 ≤ n) :
    ∃ s, Gen.AL.star n = some s ∧ s.size = 2 * (n - 1) ∧ Blanket.isBalanced (Query.AL.core s) = some true ∧
      (Blanket.isRegular (Query.AL.core s) = some true ↔ n ≤ 2) :=
  (degLaws (alRep 1 (by decide))).gen_star_degrees n hn trivial

/-- plain model terms: `AdjacencyMatrix::wheel(n)` -/
theorem mx_wheel_facts (n : Nat) (hn : 4 ≤ n) (hf : n * n < 2 ^ 64) :
    ∃ w, Gen.MX.wheel n = some w ∧ w.size = 4 * (n - 1) ∧ (Blanket.isRegular (Query.MX.core w) = some true ↔ n = 4) := by
  obtain ⟨w, _, e, _, h1, _, h3, _⟩ := (degLaws mxRep).gen_wheel_degrees n hn hf
  exact ⟨w, e, h1, h3⟩

/-! ## 3. history laws (C01 / C20) -/

def StatementHist : Prop :=
  -- spec level: any fixed-order weighted arc set
  (∀ (s : SpecState Int) (u v : Nat) (w1 w2 : Int),
    (run (specStep .fixed) s [.add u v w1, .add u v w2]).1 = (run (specStep .fixed) s [.add u v w2]).1) ∧
  -- `AdjacencyListWeighted`: overwrite (identical structure), last weight is read back, adds commute, remove idempotent
  (∀ (d : AdjListW), d.WF → ∀ u v w1 w2,
    (run AdjListW.step d [.add u v w1, .add u v w2]).1 = (run AdjListW.step d [.add u v w2]).1) ∧
  (∀ (d : AdjListW), d.WF → ∀ u v w1 w2, rejected .fixed d.abs u v = false →
    ((run AdjListW.step d [.add u v w1, .add u v w2]).1).arcWeight u v = some w2 ∧
    ((run AdjListW.step d [.add u v w1, .add u v w2]).1).WF) ∧
  (∀ (d : AdjListW), d.WF → ∀ u v x y w w', ¬ (u = x ∧ v = y) →
    (run AdjListW.step d [.add u v w, .add x y w']).1 = (run AdjListW.step d [.add x y w', .add u v w]).1) ∧
  (∀ (d : AdjListW), d.WF → ∀ u v,
    (run AdjListW.step d [.rem u v, .rem u v]).1 = (run AdjListW.step d [.rem u v]).1) ∧
  -- unweighted shadows
  (∀ (d : AdjList), d.WF → ∀ u v,
    (run AdjList.step d [.add u v (), .add u v ()]).1 = (run AdjList.step d [.add u v ()]).1) ∧
  (∀ (d : AdjList), d.WF → ∀ u v x y, ¬ (u = x ∧ v = y) →
    (run AdjList.step d [.add u v (), .add x y ()]).1 = (run AdjList.step d [.add x y (), .add u v ()]).1) ∧
  (∀ (d : EdgeList), d.WF → ∀ u v,
    (run EdgeList.step d [.add u v (), .add u v ()]).1 = (run EdgeList.step d [.add u v ()]).1) ∧
  (∀ (d : EdgeList), d.WF → ∀ u v x y, ¬ (u = x ∧ v = y) →
    (run EdgeList.step d [.add u v (), .add x y ()]).1 = (run EdgeList.step d [.add x y (), .add u v ()]).1)

theorem statementHist : StatementHist :=
  ⟨fun s u v w1 w2 => spec_add_add s u v w1 w2, fun d h u v w1 w2 => adjListW_add_overwrite d h u v w1 w2,
   fun d h u v w1 w2 hok => adjListW_overwrite_reads d h u v w1 w2 hok,
   fun d h u v x y w w' hne => adjListW_add_comm d h u v x y w w' hne, fun d h u v => adjListW_rem_rem d h u v,
   fun d h u v => adjList_add_idem d h u v, fun d h u v x y hne => adjList_add_comm d h u v x y hne,
   fun d h u v => edgeList_add_idem d h u v, fun d h u v x y hne => edgeList_add_comm d h u v x y hne⟩

def Statement : Prop := StatementFilter ∧ StatementDeg ∧ StatementHist
theorem statement : Statement := ⟨statementFilter, statementDeg, statementHist⟩

/-! ## Non-vacuity -/

-- a map with sparse keys `{2, 5, 7, 9}`; keep the odd ids / the ids ≥ 5
example : filterAM (filterAM ⟨[(2, [5, 9]), (5, [2]), (7, [2, 9]), (9, [])]⟩ (fun v => decide (v ≥ 5))) (fun v => v % 2 == 1) =
    filterAM ⟨[(2, [5, 9]), (5, [2]), (7, [2, 9]), (9, [])]⟩ (fun v => v % 2 == 1 && decide (v ≥ 5)) := by decide +kernel
example : filterAM ⟨[(2, [5, 9]), (5, [2]), (7, [2, 9]), (9, [])]⟩ (fun v => v % 2 == 1) = ⟨[(5, []), (7, [9]), (9, [])]⟩ := by decide +kernel
example : filterAM ⟨[(2, [5, 9]), (5, [2]), (7, [2, 9]), (9, [])]⟩ (fun _ => true) = ⟨[(2, [5, 9]), (5, [2]), (7, [2, 9]), (9, [])]⟩ := by
  decide +kernel
example : converseAM (filterAM ⟨[(2, [5, 9]), (5, [2]), (7, [2, 9]), (9, [])]⟩ (fun v => decide (v ≥ 5))) =
    filterAM (converseAM ⟨[(2, [5, 9]), (5, [2]), (7, [2, 9]), (9, [])]⟩) (fun v => decide (v ≥ 5)) := by decide +kernel
example : complementAM (filterAM ⟨[(2, [5, 9]), (5, [2]), (7, [2, 9]), (9, [])]⟩ (fun v => decide (v ≥ 5))) =
    filterAM (complementAM ⟨[(2, [5, 9]), (5, [2]), (7, [2, 9]), (9, [])]⟩) (fun v => decide (v ≥ 5)) := by decide +kernel
example : Blanket.isSubdigraph (Query.AM.core (filterAM ⟨[(2, [5, 9]), (5, [2]), (7, [2, 9]), (9, [])]⟩ (fun v => v % 2 == 1)))
      (Query.AM.core ⟨[(2, [5, 9]), (5, [2]), (7, [2, 9]), (9, [])]⟩) = true ∧
    Blanket.isSpanningSubdigraph (Query.AM.core (filterAM ⟨[(2, [5, 9]), (5, [2]), (7, [2, 9]), (9, [])]⟩ (fun v => v % 2 == 1)))
      (Query.AM.core ⟨[(2, [5, 9]), (5, [2]), (7, [2, 9]), (9, [])]⟩) = false := by decide +kernel
/-- why `filter_union` needs a kept vertex: `union` of two vertex-less maps returns `trivial()` (vertex `0`),
while the filter of the union has no vertex -/
example : unionAM (filterAM ⟨[(2, [5]), (5, [])]⟩ (fun _ => false)) (filterAM ⟨[(7, [])]⟩ (fun _ => false)) 2 = some ⟨[(0, [])]⟩ ∧
    filterAM (unionSeqAM ⟨[(2, [5]), (5, [])]⟩ ⟨[(7, [])]⟩) (fun _ => false) = ⟨[]⟩ := by decide +kernel
-- a tournament on sparse ids stays one
example : Pred.AM.isTournament ⟨[(2, [7]), (7, [1000]), (1000, [2])]⟩ = true ∧
    Pred.AM.isTournament (filterAM ⟨[(2, [7]), (7, [1000]), (1000, [2])]⟩ (fun v => decide (v ≥ 7))) = true := by decide +kernel
-- degrees / sizes
example : (List.range 6).map (fun n => (Gen.AL.star n).map (fun s =>
      (s.size, Blanket.isRegular (Query.AL.core s), Blanket.isBalanced (Query.AL.core s)))) =
    [none, some (0, some true, some true), some (2, some true, some true), some (4, some false, some true),
     some (6, some false, some true), some (8, some false, some true)] := by decide +kernel
example : (List.range 7).map (fun n => (Gen.AL.wheel n).map (fun s => (s.size, Blanket.isRegular (Query.AL.core s)))) =
    [none, none, none, none, some (12, some true), some (16, some false), some (20, some false)] := by decide +kernel
example : Gen.AL.wheel 4 = Gen.AL.complete 4 3 := by decide +kernel
example : (List.range 4).map (fun n => (Gen.AL.path n).map (fun s =>
      (Blanket.isRegular (Query.AL.core s), Blanket.isBalanced (Query.AL.core s)))) =
    [none, some (some true, some true), some (some false, some false), some (some false, some false)] := by decide +kernel
example : ((Gen.AL.biclique 2 2).map (fun s => Blanket.isRegular (Query.AL.core s)),
    (Gen.AL.biclique 2 3).map (fun s => (Blanket.isRegular (Query.AL.core s), Blanket.isBalanced (Query.AL.core s)))) =
    (some (some true), some (some false, some true)) := by decide +kernel
-- histories on the weighted list
example :
    (do let d ← AdjListW.empty 3
        let a := (run AdjListW.step d [.add 0 1 5, .add 0 2 1, .add 0 1 (-2)]).1
        let b := (run AdjListW.step d [.add 0 2 1, .add 0 1 (-2)]).1
        pure (decide (a = b), a.arcWeight 0 1, a.arcs)) = some (true, some (-2), [(0, 1), (0, 2)]) := by decide +kernel

end GraafVerif.Laws2
