import GraafVerif.Proof.Cross2Unit
import GraafVerif.Thm.Cross
/-!
# Cross2 — a second family of cross-algorithm theorems, between the MODELS

`Thm/Cross.lean` connects the four distance models (Dijkstra / BFM / Floyd-Warshall / BFS).
This file connects the models of C08 + C18 (Floyd-Warshall, `DistanceMatrix`), C09 (Tarjan),
C10 (Johnson75) and C04 (BFS) through strong connectivity, reachability and circuits:

* `Fw.distances g`                      — model of `FloydWarshall::new(&g).distances()` (C08)
* `fwDM inf g : DistMatrix.DM`          — that result as the `DistanceMatrix<isize>` C18's model
                                           speaks about (`none ↦ inf = isize::MAX`,
                                           `infinity = inf`, `order = g.n`)
* `DistMatrix.isConnected / ecc / diameter` — models of `is_connected / eccentricities / diameter`
* `Tarjan.components (vgOf g)`          — model of `Tarjan::new(&g).components()` on the digraph
                                           with vertex ids `0..n` (C09)
* `Johnson.circuits g`                  — model of `Johnson75::new(&g).circuits()` (C10)
* `Bfs.bfs g [u]`, `Bfs.distances g [u] infB` — models of `Bfs::new(&g, [u])` collected and of
                                           `BfsDist::new(&g, [u]).distances()` (C04)

Each proof uses the property theorems `C04.bfs_correct / distances_correct`, `C08.fw_exact`,
`C09.tarjan_scc / tarjan_sets_ascending`, `C10.statement`, `C18.connected_spec / ecc_spec /
diameter_spec / center_spec / periphery_spec` as black boxes (restated for `fwDM`, `vgOf` and unit
weights in `Proof/Cross2Models.lean`, `Proof/Cross2Unit.lean`) plus model-free graph theory
(`Proof/Cross2.lean`).
-/
namespace GraafVerif.Cross2
open GraafVerif GraafVerif.Cross GraafVerif.Johnson GraafVerif.Tarjan

/-! ## 0. Vocabulary -/

theorem wreach_iff_reach (g : WGraph) (u v : Nat) : WReachFrom g [u] v ↔ Reach g.toGraph u v :=
  wreachFrom_single_iff

/-- The Floyd-Warshall result is one of the matrices C18 quantifies over, and its `(u, v)` index
reads the Floyd-Warshall cell (sentinel as the number `inf`). -/
theorem fwDM_spec (inf : Int) (g : WGraph) (hwf : g.WF) (hfun : g.Functional) (hnc : g.NoNegCycle)
    (hn : 0 < g.n) (hfit : DistFits inf g) :
    DistMatrix.WF (fwDM inf g) ∧ ∀ u v, u < g.n → v < g.n →
      DistMatrix.get (fwDM inf g) u v = .ok ((Fw.get g.n (Fw.distances g) u v).getD inf) :=
  ⟨fwDM_wf hwf hfun hnc hfit hn, fun _ _ hu hv => fwDM_get hwf hu hv⟩

/-- "Path sums fit" is checkable on the model's output: every finite entry below the sentinel. -/
theorem distFits_of_entries (inf : Int) (g : WGraph) (hwf : g.WF) (hfun : g.Functional)
    (hnc : g.NoNegCycle) (h : ∀ d, some d ∈ Fw.distances g → d < inf) : DistFits inf g :=
  fun u v d hu hv hmin => h d ((mem_distances_iff hwf).mpr
    ⟨u, v, hu, hv, ((C08.fw_exact g hwf hfun hnc hu hv).1 d).mpr hmin⟩)

/-- Executable form of the entry check (for evaluation on concrete digraphs). -/
def fitsB (inf : Int) (m : Fw.Mat) : Bool :=
  m.all (fun o => match o with | none => true | some d => decide (d < inf))

theorem distFits_of_check (inf : Int) (g : WGraph) (hwf : g.WF) (hfun : g.Functional)
    (hnc : g.NoNegCycle) (h : fitsB inf (Fw.distances g) = true) : DistFits inf g :=
  distFits_of_entries inf g hwf hfun hnc fun d hd => by
    simpa using List.all_eq_true.mp h (some d) hd

/-- The Tarjan model on `vgOf g` returns the partition into strongly connected components
(C09 instantiated at the vertex-id view of a `Graph`). -/
theorem tarjan_on_graph (g : Graph) (hg : g.WF) :
    ∃ cs, components (vgOf g) = .ret cs ∧ IsSCCPartition (vgOf g) cs ∧
      ∀ u v, u < g.n → v < g.n → ((∃ c ∈ cs, u ∈ c ∧ v ∈ c) ↔ (Reach g u v ∧ Reach g v u)) := by
  obtain ⟨cs, hcs, hp⟩ := tarjan_res hg
  exact ⟨cs, hcs, hp, fun _ _ hu hv => same_block_iff hp hu hv⟩

/-! ## 1. Floyd-Warshall + `DistanceMatrix::is_connected` ↔ Tarjan -/

/-- A cell of the Floyd-Warshall matrix is finite iff the column vertex is reachable from the row
vertex in the underlying unweighted digraph. -/
theorem fw_finite_iff_reach (g : WGraph) (hwf : g.WF) (hfun : g.Functional) (hnc : g.NoNegCycle)
    (u v : Nat) (hu : u < g.n) (hv : v < g.n) :
    (Fw.get g.n (Fw.distances g) u v).isSome = true ↔ Reach g.toGraph u v :=
  fw_isSome_iff_reach hwf hfun hnc hu hv

/-- … iff the BFS model on the underlying digraph, started at `u`, yields `v`. -/
theorem fw_finite_iff_bfs (g : WGraph) (hwf : g.WF) (hfun : g.Functional) (hnc : g.NoNegCycle)
    (u v : Nat) (hu : u < g.n) (hv : v < g.n) :
    ∃ out, Bfs.bfs g.toGraph [u] = .ok out ∧
      ((Fw.get g.n (Fw.distances g) u v).isSome = true ↔ v ∈ out) := by
  obtain ⟨out, ho⟩ := bfs_single_ok (toGraph_wf hwf) (u := u) hu
  exact ⟨out, ho, (fw_isSome_iff_reach hwf hfun hnc hu hv).trans
    (bfs_single_mem (toGraph_wf hwf) hu ho).symm⟩

/-- `is_connected()` of the Floyd-Warshall matrix decides strong connectivity of the digraph. -/
theorem fw_isConnected_iff_stronglyConnected (inf : Int) (g : WGraph) (hwf : g.WF)
    (hfun : g.Functional) (hnc : g.NoNegCycle) (hn : 0 < g.n) (hfit : DistFits inf g) :
    DistMatrix.isConnected (fwDM inf g) = true ↔ StronglyConnected g.toGraph :=
  fw_isConnected_iff_sc hwf hfun hnc hfit hn

/-- Strongly connected (order ≥ 1) iff the Tarjan model returns exactly one component, which is
then the whole vertex set in ascending order. -/
theorem stronglyConnected_iff_tarjan_one (g : Graph) (hg : g.WF) (hn : 0 < g.n) :
    StronglyConnected g ↔ components (vgOf g) = .ret [List.range g.n] :=
  sc_iff_tarjan_one hg hn

/-- "Exactly one component" in the weak reading `∃ c, … = .ret [c]` is the same statement. -/
theorem tarjan_one_component_iff (g : Graph) (hg : g.WF) (hn : 0 < g.n) :
    (∃ c, components (vgOf g) = .ret [c]) ↔ components (vgOf g) = .ret [List.range g.n] :=
  ⟨fun ⟨c, hc⟩ => (sc_iff_tarjan_one hg hn).mp
      ((one_block_iff hn (tarjan_partition_of_eq hg hc)).mp ⟨c, rfl⟩),
    fun h => ⟨_, h⟩⟩

/-- **Target 1.**  For a well-formed weighted digraph (order ≥ 1) without negative circuit whose
distances fit below the sentinel: `DistanceMatrix::is_connected` on the model of
`FloydWarshall::distances` holds iff the Tarjan model on the underlying unweighted digraph
returns exactly one component. -/
theorem fw_isConnected_iff_tarjan (inf : Int) (g : WGraph) (hwf : g.WF) (hfun : g.Functional)
    (hnc : g.NoNegCycle) (hn : 0 < g.n) (hfit : DistFits inf g) :
    DistMatrix.isConnected (fwDM inf g) = true ↔
      components (vgOf g.toGraph) = .ret [List.range g.n] :=
  (fw_isConnected_iff_sc hwf hfun hnc hfit hn).trans (sc_iff_tarjan_one (toGraph_wf hwf) hn)

/-- Same Tarjan component iff BOTH Floyd-Warshall cells `(u, v)` and `(v, u)` are finite
(no hypothesis on the sentinel: this is about `Fw.get`, where the sentinel is `none`). -/
theorem fw_both_finite_iff_same_tarjan_component (g : WGraph) (hwf : g.WF) (hfun : g.Functional)
    (hnc : g.NoNegCycle) (cs : List (List Nat)) (hcs : components (vgOf g.toGraph) = .ret cs)
    (u v : Nat) (hu : u < g.n) (hv : v < g.n) :
    (∃ c ∈ cs, u ∈ c ∧ v ∈ c) ↔
      ((Fw.get g.n (Fw.distances g) u v).isSome = true ∧
       (Fw.get g.n (Fw.distances g) v u).isSome = true) := by
  rw [same_block_iff (tarjan_partition_of_eq (toGraph_wf hwf) hcs) hu hv,
    fw_isSome_iff_reach hwf hfun hnc hu hv, fw_isSome_iff_reach hwf hfun hnc hv hu]

/-- `eccentricities()[u]` of the Floyd-Warshall matrix is `infinity` iff some vertex is not
reachable from `u` (the per-row content of `is_connected`). -/
theorem fw_eccentricity_infinite_iff (inf : Int) (g : WGraph) (hwf : g.WF) (hfun : g.Functional)
    (hnc : g.NoNegCycle) (hn : 0 < g.n) (hfit : DistFits inf g) (u : Nat) (hu : u < g.n) :
    (DistMatrix.ecc (fwDM inf g))[u]? = some inf ↔ ∃ v, v < g.n ∧ ¬ Reach g.toGraph u v := by
  obtain ⟨e, he, ⟨v₀, hv₀, rfl⟩, hle⟩ := fw_ecc_max hwf hfun hnc hfit hn hu
  rw [he, Option.some.injEq]
  constructor
  · intro h
    exact ⟨v₀, hv₀, (fw_cell_eq_inf_iff hwf hfun hnc hfit hu hv₀).mp h⟩
  · rintro ⟨v, hv, hnr⟩
    have := hle v hv
    rw [(fw_cell_eq_inf_iff hwf hfun hnc hfit hu hv).mpr hnr] at this
    exact Int.le_antisymm (fw_cell_le hwf hfun hnc hfit hu hv₀) this

/-! ## 2. Tarjan ↔ Johnson75 -/

/-- **Target 2a.**  The Johnson model returns no circuit iff every component the Tarjan model
returns is a singleton. -/
theorem johnson_empty_iff_tarjan_singletons (g : Graph) (hg : g.WF) (hloops : NoLoops g)
    (hrows : RowsNodup g) (cs : List (List Nat)) (hcs : components (vgOf g) = .ret cs) :
    circuits g = [] ↔ ∀ comp ∈ cs, comp.length = 1 :=
  (circuits_nil_iff hg hloops hrows).trans
    (no_circuit_iff_singletons hg hloops (tarjan_partition_of_eq hg hcs))

/-- … iff the digraph is acyclic (no arc `u → v` with `v` reaching `u`). -/
theorem johnson_empty_iff_acyclic (g : Graph) (hg : g.WF) (hloops : NoLoops g) (hrows : RowsNodup g) :
    circuits g = [] ↔ Acyclic g :=
  (circuits_nil_iff hg hloops hrows).trans (no_circuit_iff_acyclic hloops)

/-- **Target 2b.**  Every circuit the Johnson model returns lies inside ONE Tarjan component. -/
theorem johnson_circuit_in_one_tarjan_component (g : Graph) (hg : g.WF) (hloops : NoLoops g)
    (hrows : RowsNodup g) (cs : List (List Nat)) (hcs : components (vgOf g) = .ret cs)
    (c : List Nat) (hc : c ∈ circuits g) : ∃ comp ∈ cs, ∀ x ∈ c, x ∈ comp :=
  circuit_in_block hg (tarjan_partition_of_eq hg hcs) ((circuits_mem_iff hg hloops hrows c).mp hc)

/-- **Target 2c.**  The vertices that lie on some returned circuit are exactly the vertices of
the Tarjan components with at least two members. -/
theorem johnson_vertices_iff_nonsingleton_component (g : Graph) (hg : g.WF) (hloops : NoLoops g)
    (hrows : RowsNodup g) (cs : List (List Nat)) (hcs : components (vgOf g) = .ret cs)
    (v : Nat) (hv : v < g.n) :
    (∃ c ∈ circuits g, v ∈ c) ↔ ∃ comp ∈ cs, v ∈ comp ∧ 2 ≤ comp.length :=
  (johnson_vertex_iff hg hloops hrows).trans
    (on_circuit_iff_block_two hg hloops (tarjan_partition_of_eq hg hcs) hv)

/-- The graph theory behind 2a–2c, model-free: in a loop-free digraph every vertex of a closed
walk lies on a canonical elementary circuit. -/
theorem closed_walk_has_circuit (g : Graph) (hloops : NoLoops g) (u v : Nat) (huv : u ≠ v)
    (h₁ : Reach g u v) (h₂ : Reach g v u) : ∃ c, IsCanonicalElemCircuit g c ∧ u ∈ c :=
  circuit_through hloops huv h₁ h₂

/-- … and the vertices of a canonical elementary circuit are pairwise mutually reachable. -/
theorem circuit_vertices_mutual (g : Graph) (c : List Nat) (hc : IsCanonicalElemCircuit g c) :
    ∀ x ∈ c, ∀ y ∈ c, Reach g x y :=
  canonical_mutual hc

/-- Johnson75 ↔ Floyd-Warshall: the Johnson model on the underlying digraph returns some circuit
iff two different vertices have both Floyd-Warshall cells finite. -/
theorem johnson_nonempty_iff_fw_finite_pair (g : WGraph) (hwf : g.WF) (hfun : g.Functional)
    (hnc : g.NoNegCycle) (hloops : NoLoops g.toGraph) (hrows : RowsNodup g.toGraph) :
    circuits g.toGraph ≠ [] ↔ ∃ u v, u < g.n ∧ v < g.n ∧ u ≠ v ∧
      (Fw.get g.n (Fw.distances g) u v).isSome = true ∧
      (Fw.get g.n (Fw.distances g) v u).isSome = true := by
  have hg := toGraph_wf hwf
  rw [Ne, circuits_nil_iff hg hloops hrows, Classical.not_forall_not]
  constructor
  · rintro ⟨c, hc⟩
    obtain ⟨s, hsc, _⟩ := canonical_two hc
    have hs := canonical_lt hg hc s hsc
    obtain ⟨w, hw, hws, h₁, h₂⟩ := (on_circuit_iff_mutual hg hloops).mp ⟨c, hc, hsc⟩
    exact ⟨s, w, hs, hw, Ne.symm hws, (fw_isSome_iff_reach hwf hfun hnc hs hw).mpr h₁,
      (fw_isSome_iff_reach hwf hfun hnc hw hs).mpr h₂⟩
  · rintro ⟨u, v, hu, hv, huv, h₁, h₂⟩
    obtain ⟨c, hc, _⟩ := circuit_through hloops huv ((fw_isSome_iff_reach hwf hfun hnc hu hv).mp h₁)
      ((fw_isSome_iff_reach hwf hfun hnc hv hu).mp h₂)
    exact ⟨c, hc⟩

/-- Johnson75 ↔ BFS: `v` lies on a returned circuit iff the BFS model from `v` yields a different
vertex whose BFS yields `v` back. -/
theorem johnson_vertex_iff_bfs_pair (g : Graph) (hg : g.WF) (hloops : NoLoops g) (hrows : RowsNodup g)
    (v : Nat) (hv : v < g.n) :
    (∃ c ∈ circuits g, v ∈ c) ↔
      ∃ w, w < g.n ∧ w ≠ v ∧ ∃ ov ow, Bfs.bfs g [v] = .ok ov ∧ Bfs.bfs g [w] = .ok ow ∧
        w ∈ ov ∧ v ∈ ow := by
  rw [johnson_vertex_iff hg hloops hrows, on_circuit_iff_mutual hg hloops]
  constructor
  · rintro ⟨w, hw, hwv, h₁, h₂⟩
    obtain ⟨ov, hov⟩ := bfs_single_ok hg hv
    obtain ⟨ow, how⟩ := bfs_single_ok hg hw
    exact ⟨w, hw, hwv, ov, ow, hov, how, (bfs_single_mem hg hv hov).mpr h₁,
      (bfs_single_mem hg hw how).mpr h₂⟩
  · rintro ⟨w, hw, hwv, ov, ow, hov, how, h₁, h₂⟩
    exact ⟨w, hw, hwv, (bfs_single_mem hg hv hov).mp h₁, (bfs_single_mem hg hw how).mp h₂⟩

/-! ## 3. BFS ↔ Tarjan -/

/-- **Target 3.**  `u` and `v` are in the same Tarjan component iff the BFS model from `[u]`
yields `v` and the BFS model from `[v]` yields `u` (neither call panics). -/
theorem bfs_mutual_iff_same_tarjan_component (g : Graph) (hg : g.WF) (cs : List (List Nat))
    (hcs : components (vgOf g) = .ret cs) (u v : Nat) (hu : u < g.n) (hv : v < g.n) :
    ∃ ou ov, Bfs.bfs g [u] = .ok ou ∧ Bfs.bfs g [v] = .ok ov ∧
      ((∃ c ∈ cs, u ∈ c ∧ v ∈ c) ↔ (v ∈ ou ∧ u ∈ ov)) := by
  obtain ⟨ou, hou⟩ := bfs_single_ok hg hu
  obtain ⟨ov, hov⟩ := bfs_single_ok hg hv
  refine ⟨ou, ov, hou, hov, ?_⟩
  rw [same_block_iff (tarjan_partition_of_eq hg hcs) hu hv, bfs_single_mem hg hu hou,
    bfs_single_mem hg hv hov]

/-- The Tarjan model returns one component iff the BFS model from every vertex yields every
vertex. -/
theorem tarjan_one_iff_bfs_yields_all (g : Graph) (hg : g.WF) (hn : 0 < g.n) :
    components (vgOf g) = .ret [List.range g.n] ↔
      ∀ u, u < g.n → ∃ out, Bfs.bfs g [u] = .ok out ∧ ∀ v, v < g.n → v ∈ out := by
  rw [← sc_iff_tarjan_one hg hn]
  constructor
  · intro hsc u hu
    obtain ⟨out, ho⟩ := bfs_single_ok hg hu
    exact ⟨out, ho, fun v hv => (bfs_single_mem hg hu ho).mpr (hsc u v hu hv)⟩
  · intro h u v hu hv
    obtain ⟨out, ho, hall⟩ := h u hu
    exact (bfs_single_mem hg hu ho).mp (hall v hv)

/-! ## 4. `DistanceMatrix` metrics on unit weights = BFS hop distances -/

/-- `unitWeights g` meets every hypothesis of §1 as soon as the sentinel is at least the order. -/
theorem unitWeights_fits (g : Graph) (hg : g.WF) (inf : Int) (hinf : (g.n : Int) ≤ inf) :
    DistFits inf (unitWeights g) :=
  unit_fits hg hinf

/-- Cell by cell, row `u` of the `DistanceMatrix` of Floyd-Warshall on unit weights is the vector
the BFS model's `distances()` returns from `[u]` (BFS's sentinel `infB` becomes `inf`), for every
digraph, connected or not. -/
theorem unit_row_eq_bfs (g : Graph) (hg : g.WF) (infB : Nat) (hinfB : g.n ≤ infB) (inf : Int)
    (u : Nat) (hu : u < g.n) :
    ∃ d, Bfs.distances g [u] infB = .ok d ∧ d.length = g.n ∧
      ∀ v, v < g.n → ∃ k, d[v]? = some k ∧ (k = infB ↔ ¬ Reach g u v) ∧
        DistMatrix.get (fwDM inf (unitWeights g)) u v = .ok ((hopToOpt infB k).getD inf) := by
  obtain ⟨d, hd, hlen, hcell⟩ := unit_cell hg hinfB inf hu
  refine ⟨d, hd, hlen, fun v hv => ?_⟩
  obtain ⟨k, hk, hr, hc⟩ := hcell v hv
  exact ⟨k, hk, hr, (fwDM_get (unitWeights_wf hg) hu hv).trans (congrArg _ hc)⟩

/-- **Target 4a.**  Strongly connected ⇒ `eccentricities()[u]` is the maximum of the BFS distance
vector from `u` (attained, and bounding every entry). -/
theorem unit_eccentricity_eq_max_bfs (g : Graph) (hg : g.WF) (hn : 0 < g.n) (infB : Nat)
    (hinfB : g.n ≤ infB) (inf : Int) (hinf : (g.n : Int) ≤ inf) (hsc : StronglyConnected g)
    (u : Nat) (hu : u < g.n) :
    ∃ (d : List Nat) (e : Nat), Bfs.distances g [u] infB = .ok d ∧
      (DistMatrix.ecc (fwDM inf (unitWeights g)))[u]? = some (e : Int) ∧
      (∃ v, v < g.n ∧ d[v]? = some e) ∧ (∀ v, v < g.n → ∃ k, d[v]? = some k ∧ k ≤ e) := by
  obtain ⟨d, hd, hsp⟩ :=
    C04.distances_correct g hg [u] (single_lt hu) (List.pairwise_singleton _ u) infB hinfB
  obtain ⟨e, he, ⟨v₀, hv₀, h₀⟩, hmax⟩ := unit_ecc_isHopEcc hg hinf hn hsc hu
  refine ⟨d, e, hd, he, ⟨v₀, hv₀, hsp.dist v₀ e h₀⟩, fun v hv => ?_⟩
  obtain ⟨k, hk⟩ := sc_hopDist hsc hu hv
  exact ⟨k, hsp.dist v k hk, hmax v k hv hk⟩

/-- The same against the declarative hop distance. -/
theorem unit_eccentricity_is_max_hopDist (g : Graph) (hg : g.WF) (hn : 0 < g.n) (inf : Int)
    (hinf : (g.n : Int) ≤ inf) (hsc : StronglyConnected g) (u : Nat) (hu : u < g.n) :
    ∃ e : Nat, (DistMatrix.ecc (fwDM inf (unitWeights g)))[u]? = some (e : Int) ∧
      (∃ v, v < g.n ∧ IsHopDist g [u] v e) ∧ (∀ v k, v < g.n → IsHopDist g [u] v k → k ≤ e) :=
  unit_ecc_isHopEcc hg hinf hn hsc hu

/-- **Target 4b.**  Strongly connected ⇒ `diameter()` is the maximum BFS hop distance over all
sources. -/
theorem unit_diameter_eq_max_bfs (g : Graph) (hg : g.WF) (hn : 0 < g.n) (infB : Nat)
    (hinfB : g.n ≤ infB) (inf : Int) (hinf : (g.n : Int) ≤ inf) (hsc : StronglyConnected g) :
    ∃ D : Nat, DistMatrix.diameter (fwDM inf (unitWeights g)) = (D : Int) ∧
      (∃ u v d, u < g.n ∧ v < g.n ∧ Bfs.distances g [u] infB = .ok d ∧ d[v]? = some D) ∧
      (∀ u v d, u < g.n → v < g.n → Bfs.distances g [u] infB = .ok d →
        ∃ k, d[v]? = some k ∧ k ≤ D) := by
  obtain ⟨D, hD, ⟨u₀, hu₀, ⟨v₀, hv₀, h₀⟩, _⟩, hmax⟩ := unit_diameter hg hinf hn hsc
  refine ⟨D, hD, ?_, fun u v d hu hv hd => ?_⟩
  · obtain ⟨d, hd, hsp⟩ :=
      C04.distances_correct g hg [u₀] (single_lt hu₀) (List.pairwise_singleton _ u₀) infB hinfB
    exact ⟨u₀, v₀, d, hu₀, hv₀, hd, hsp.dist v₀ D h₀⟩
  · have hsp := bfs_distances_spec hg (single_lt hu) (List.pairwise_singleton _ u) hinfB hd
    obtain ⟨k, hk⟩ := sc_hopDist hsc hu hv
    obtain ⟨e, _, hE⟩ := unit_ecc_isHopEcc hg hinf hn hsc hu
    exact ⟨k, hsp.dist v k hk, Nat.le_trans (hE.2 v k hv hk) (hmax u e hu hE)⟩

/-- No connectivity hypothesis: `eccentricities()[u]` is the maximum of the BFS distance vector
from `u` read with the matrix's sentinel (`infB ↦ inf`). -/
theorem unit_eccentricity_general (g : Graph) (hg : g.WF) (hn : 0 < g.n) (infB : Nat)
    (hinfB : g.n ≤ infB) (inf : Int) (hinf : (g.n : Int) ≤ inf) (u : Nat) (hu : u < g.n) :
    ∃ (d : List Nat) (e : Int), Bfs.distances g [u] infB = .ok d ∧
      (DistMatrix.ecc (fwDM inf (unitWeights g)))[u]? = some e ∧
      (∃ v k, v < g.n ∧ d[v]? = some k ∧ e = (hopToOpt infB k).getD inf) ∧
      (∀ v, v < g.n → ∃ k, d[v]? = some k ∧ (hopToOpt infB k).getD inf ≤ e) := by
  obtain ⟨d, hd, _, hcell⟩ := unit_cell hg hinfB inf hu
  obtain ⟨e, he, ⟨v₀, hv₀, rfl⟩, hle⟩ := unit_ecc_max hg hinf hn hu
  refine ⟨d, _, hd, he, ?_, fun v hv => ?_⟩
  · obtain ⟨k, hk, _, hc⟩ := hcell v₀ hv₀
    exact ⟨v₀, k, hv₀, hk, hc⟩
  · obtain ⟨k, hk, _, hc⟩ := hcell v hv
    exact ⟨k, hk, hc ▸ hle v hv⟩

/-- Strongly connected ⇒ `periphery()` lists exactly the vertices from which some vertex is at hop
distance `diameter()`. -/
theorem unit_periphery_iff_diameter_attained (g : Graph) (hg : g.WF) (hn : 0 < g.n) (inf : Int)
    (hinf : (g.n : Int) ≤ inf) (hsc : StronglyConnected g) (u : Nat) (hu : u < g.n) :
    ∃ D : Nat, DistMatrix.diameter (fwDM inf (unitWeights g)) = (D : Int) ∧
      (u ∈ DistMatrix.periphery (fwDM inf (unitWeights g)) ↔ ∃ v, v < g.n ∧ IsHopDist g [u] v D) := by
  obtain ⟨D, hD, _, hmax⟩ := unit_diameter hg hinf hn hsc
  obtain ⟨e, he, hE⟩ := unit_ecc_isHopEcc hg hinf hn hsc hu
  refine ⟨D, hD, ?_⟩
  rw [(C18.periphery_spec _ (unit_wf hg hinf hn)).2 u, hD, he, Option.some.injEq, Int.natCast_inj]
  constructor
  · rintro rfl
    exact hE.1
  · rintro ⟨v, hv, hvD⟩
    exact Nat.le_antisymm (hmax u e hu hE) (hE.2 v D hv hvD)

/-- Strongly connected ⇒ `center()` lists exactly the vertices of minimum hop eccentricity
(`IsHopEcc g u e`: `e` is the largest hop distance from `u`). -/
theorem unit_center_iff_min_hopEcc (g : Graph) (hg : g.WF) (hn : 0 < g.n) (inf : Int)
    (hinf : (g.n : Int) ≤ inf) (hsc : StronglyConnected g) (u : Nat) (hu : u < g.n) :
    u ∈ DistMatrix.center (fwDM inf (unitWeights g)) ↔
      ∃ e, IsHopEcc g u e ∧ ∀ u' e', u' < g.n → IsHopEcc g u' e' → e ≤ e' :=
  unit_center_iff hg hinf hn hsc hu

/-- On unit weights `is_connected()` = "Tarjan returns one component" = strongly connected. -/
theorem unit_isConnected_iff_tarjan (g : Graph) (hg : g.WF) (hn : 0 < g.n) (inf : Int)
    (hinf : (g.n : Int) ≤ inf) :
    (DistMatrix.isConnected (fwDM inf (unitWeights g)) = true ↔
      components (vgOf g) = .ret [List.range g.n]) ∧
    (DistMatrix.isConnected (fwDM inf (unitWeights g)) = true ↔ StronglyConnected g) := by
  have h := fw_isConnected_iff_sc (unitWeights_wf hg) (unitWeights_functional g)
    (unitWeights_nonneg g).noNegCycle (unit_fits hg hinf) hn
  rw [unitWeights_toGraph] at h
  exact ⟨h.trans (sc_iff_tarjan_one hg hn), h⟩

/-! ## The clauses together -/

/-- The four targets in one proposition. -/
def Statement : Prop :=
  -- 1. Floyd-Warshall + DistanceMatrix ↔ Tarjan
  (∀ (inf : Int) (g : WGraph), g.WF → g.Functional → g.NoNegCycle → 0 < g.n → DistFits inf g →
    (DistMatrix.isConnected (fwDM inf g) = true ↔
      components (vgOf g.toGraph) = .ret [List.range g.n]) ∧
    (DistMatrix.isConnected (fwDM inf g) = true ↔ StronglyConnected g.toGraph) ∧
    ∀ u v, u < g.n → v < g.n →
      ((Fw.get g.n (Fw.distances g) u v).isSome = true ↔ Reach g.toGraph u v) ∧
      ∀ cs, components (vgOf g.toGraph) = .ret cs →
        ((∃ c ∈ cs, u ∈ c ∧ v ∈ c) ↔
          ((Fw.get g.n (Fw.distances g) u v).isSome = true ∧
           (Fw.get g.n (Fw.distances g) v u).isSome = true))) ∧
  -- 2. Tarjan ↔ Johnson75
  (∀ g : Graph, g.WF → NoLoops g → RowsNodup g →
    ∃ cs, components (vgOf g) = .ret cs ∧
      (circuits g = [] ↔ ∀ comp ∈ cs, comp.length = 1) ∧
      (circuits g = [] ↔ Acyclic g) ∧
      (∀ c ∈ circuits g, ∃ comp ∈ cs, ∀ x ∈ c, x ∈ comp) ∧
      (∀ v, v < g.n → ((∃ c ∈ circuits g, v ∈ c) ↔ ∃ comp ∈ cs, v ∈ comp ∧ 2 ≤ comp.length))) ∧
  -- 3. BFS ↔ Tarjan
  (∀ g : Graph, g.WF → ∃ cs, components (vgOf g) = .ret cs ∧
    ∀ u v, u < g.n → v < g.n →
      ∃ ou ov, Bfs.bfs g [u] = .ok ou ∧ Bfs.bfs g [v] = .ok ov ∧
        ((∃ c ∈ cs, u ∈ c ∧ v ∈ c) ↔ (v ∈ ou ∧ u ∈ ov))) ∧
  -- 4. DistanceMatrix metrics on unit weights = max BFS hop distances
  (∀ (g : Graph) (infB : Nat) (inf : Int), g.WF → 0 < g.n → g.n ≤ infB → (g.n : Int) ≤ inf →
    StronglyConnected g →
    (∀ u, u < g.n → ∃ (d : List Nat) (e : Nat), Bfs.distances g [u] infB = .ok d ∧
      (DistMatrix.ecc (fwDM inf (unitWeights g)))[u]? = some (e : Int) ∧
      (∃ v, v < g.n ∧ d[v]? = some e) ∧ (∀ v, v < g.n → ∃ k, d[v]? = some k ∧ k ≤ e)) ∧
    ∃ D : Nat, DistMatrix.diameter (fwDM inf (unitWeights g)) = (D : Int) ∧
      (∃ u v d, u < g.n ∧ v < g.n ∧ Bfs.distances g [u] infB = .ok d ∧ d[v]? = some D) ∧
      (∀ u v d, u < g.n → v < g.n → Bfs.distances g [u] infB = .ok d →
        ∃ k, d[v]? = some k ∧ k ≤ D))

theorem statement : Statement := by
  refine ⟨?_, ?_, ?_, ?_⟩
  · intro inf g hwf hfun hnc hn hfit
    exact ⟨fw_isConnected_iff_tarjan inf g hwf hfun hnc hn hfit,
      fw_isConnected_iff_sc hwf hfun hnc hfit hn,
      fun u v hu hv => ⟨fw_isSome_iff_reach hwf hfun hnc hu hv, fun cs hcs =>
        fw_both_finite_iff_same_tarjan_component g hwf hfun hnc cs hcs u v hu hv⟩⟩
  · intro g hg hloops hrows
    obtain ⟨cs, hcs, _⟩ := tarjan_res hg
    exact ⟨cs, hcs, johnson_empty_iff_tarjan_singletons g hg hloops hrows cs hcs,
      johnson_empty_iff_acyclic g hg hloops hrows,
      fun c hc => johnson_circuit_in_one_tarjan_component g hg hloops hrows cs hcs c hc,
      fun v hv => johnson_vertices_iff_nonsingleton_component g hg hloops hrows cs hcs v hv⟩
  · intro g hg
    obtain ⟨cs, hcs, _⟩ := tarjan_res hg
    exact ⟨cs, hcs, fun u v hu hv => bfs_mutual_iff_same_tarjan_component g hg cs hcs u v hu hv⟩
  · intro g infB inf hg hn hinfB hinf hsc
    exact ⟨fun u hu => unit_eccentricity_eq_max_bfs g hg hn infB hinfB inf hinf hsc u hu,
      unit_diameter_eq_max_bfs g hg hn infB hinfB inf hinf hsc⟩

/-! ## Non-vacuity

Sentinels: `isizeMax = 2^63 - 1`, `usizeMax = 2^64 - 1` (the values on the harness' target). -/

def isizeMax : Int := 9223372036854775807
def usizeMax : Nat := 18446744073709551615

/-! ### 1. Floyd-Warshall / `is_connected` / Tarjan

`C08.ex` (the doctest digraph of `FloydWarshall`: negative arcs, no negative circuit) is strongly
connected: both sides of `fw_isConnected_iff_tarjan` are TRUE.  `Cross.gx` (non-negative weights,
vertex 4 is reached by nothing) makes both sides FALSE. -/

theorem ex_fits : DistFits isizeMax C08.ex :=
  distFits_of_check _ _ Cross.ex_wf Cross.ex_functional Cross.ex_noNegCycle
    (by rw [C08.ex_fw]; decide +kernel)

example : DistMatrix.isConnected (fwDM isizeMax C08.ex) = true := by
  rw [fwDM, C08.ex_fw]
  decide +kernel
example : components (vgOf C08.ex.toGraph) = .ret [[0, 1, 2, 3]] := by decide +kernel
/-- The theorem applied with every hypothesis discharged. -/
example : DistMatrix.isConnected (fwDM isizeMax C08.ex) = true ↔
    components (vgOf C08.ex.toGraph) = .ret [List.range C08.ex.n] :=
  fw_isConnected_iff_tarjan isizeMax C08.ex Cross.ex_wf Cross.ex_functional Cross.ex_noNegCycle
    (by decide) ex_fits
/-- Strong connectivity of `C08.ex` obtained FROM the model run, through the theorem. -/
example : StronglyConnected C08.ex.toGraph :=
  (fw_isConnected_iff_stronglyConnected isizeMax C08.ex Cross.ex_wf Cross.ex_functional
    Cross.ex_noNegCycle (by decide) ex_fits).mp (by rw [fwDM, C08.ex_fw]; decide +kernel)

theorem gx_fits : DistFits isizeMax Cross.gx :=
  distFits_of_check _ _ Cross.gx_wf Cross.gx_functional Cross.gx_nonneg.noNegCycle
    (by rw [Cross.gx_fw]; decide +kernel)

example : DistMatrix.isConnected (fwDM isizeMax Cross.gx) = false := by
  rw [fwDM, Cross.gx_fw]
  decide +kernel
example : components (vgOf Cross.gx.toGraph) = .ret [[3], [1], [2], [0], [4]] := by decide +kernel
example : DistMatrix.ecc (fwDM isizeMax Cross.gx) = [isizeMax, isizeMax, isizeMax, isizeMax, 4] := by
  rw [fwDM, Cross.gx_fw]
  decide +kernel
/-- Hence (by the theorem) `gx` is not strongly connected. -/
example : ¬ StronglyConnected Cross.gx.toGraph := fun h => by
  have := (fw_isConnected_iff_stronglyConnected isizeMax Cross.gx Cross.gx_wf Cross.gx_functional
    Cross.gx_nonneg.noNegCycle (by decide) gx_fits).mpr h
  rw [fwDM, Cross.gx_fw] at this
  revert this; decide +kernel
/-- Cells: `(4, 3)` finite, `(3, 4)` the sentinel; 3 and 4 are in different components. -/
example : Fw.get 5 (Fw.distances Cross.gx) 4 3 = some 4 ∧ Fw.get 5 (Fw.distances Cross.gx) 3 4 = none := by
  rw [Cross.gx_fw]
  decide +kernel
example : (∃ c ∈ [[3], [1], [2], [0], [4]], 4 ∈ c ∧ 3 ∈ c) ↔
    ((Fw.get Cross.gx.n (Fw.distances Cross.gx) 4 3).isSome = true ∧
     (Fw.get Cross.gx.n (Fw.distances Cross.gx) 3 4).isSome = true) :=
  fw_both_finite_iff_same_tarjan_component Cross.gx Cross.gx_wf Cross.gx_functional
    Cross.gx_nonneg.noNegCycle _ (by decide +kernel) 4 3 (by decide) (by decide)

/-! ### 2. / 3. Tarjan, Johnson, BFS on C04's doc digraph `Bfs.g0`

8 vertices, components `{0,1,2,3}`, `{6,7}`, `{4}`, `{5}`: two circuits, two trivial components. -/

theorem g0_tail (k : Nat) : Bfs.g0.out (k + Bfs.g0.n) = [] := rfl

theorem g0_noloops : NoLoops Bfs.g0 := noLoops_of_table g0_tail (by decide +kernel)

theorem g0_rows : RowsNodup Bfs.g0 := rowsNodup_of_table g0_tail (by decide +kernel)

theorem g0_components : components (vgOf Bfs.g0) = .ret [[5], [6, 7], [4], [0, 1, 2, 3]] := by
  decide +kernel

theorem g0_circuits : circuits Bfs.g0 = [[0, 1, 2, 3], [6, 7]] := by decide +kernel

example : components (vgOf Bfs.g0) = .ret [[5], [6, 7], [4], [0, 1, 2, 3]] := g0_components
example : circuits Bfs.g0 = [[0, 1, 2, 3], [6, 7]] := g0_circuits
/-- 2b applied: the circuit `[6, 7]` lies inside one of the four components. -/
example : ∃ comp ∈ [[5], [6, 7], [4], [0, 1, 2, 3]], ∀ x ∈ [6, 7], x ∈ comp :=
  johnson_circuit_in_one_tarjan_component Bfs.g0 C04.g0_wf g0_noloops g0_rows _ g0_components _
    (by rw [g0_circuits]; decide)
/-- 2c applied, both ways: 7 is on a circuit, 4 is on none. -/
example : (∃ c ∈ circuits Bfs.g0, 7 ∈ c) ↔ ∃ comp ∈ [[5], [6, 7], [4], [0, 1, 2, 3]], 7 ∈ comp ∧ 2 ≤ comp.length :=
  johnson_vertices_iff_nonsingleton_component Bfs.g0 C04.g0_wf g0_noloops g0_rows _ g0_components 7
    (by decide)
example : ¬ ∃ c ∈ circuits Bfs.g0, 4 ∈ c := by
  rw [g0_circuits]
  decide +kernel
example : ¬ ∃ comp ∈ [[5], [6, 7], [4], [0, 1, 2, 3]], 4 ∈ comp ∧ 2 ≤ comp.length := by decide +kernel
/-- 2a, the non-empty side: not every component is a singleton. -/
example : ¬ (circuits Bfs.g0 = []) ∧ ¬ ∀ comp ∈ [[5], [6, 7], [4], [0, 1, 2, 3]], comp.length = 1 := by
  rw [g0_circuits]
  decide +kernel

/-- 2a, the empty side: an acyclic digraph (a diamond with a tail). -/
def dag : Graph := ⟨5, fun u => match u with | 0 => [1, 2] | 1 => [3] | 2 => [3] | 3 => [4] | _ => []⟩

theorem dag_tail (k : Nat) : dag.out (k + dag.n) = [] := rfl

theorem dag_wf : dag.WF := graph_wf_of_table dag_tail (by decide +kernel)

theorem dag_noloops : NoLoops dag := noLoops_of_table dag_tail (by decide +kernel)

theorem dag_rows : RowsNodup dag := rowsNodup_of_table dag_tail (by decide +kernel)

theorem dag_circuits : circuits dag = [] := by decide +kernel

example : circuits dag = [] := dag_circuits
example : components (vgOf dag) = .ret [[4], [3], [1], [2], [0]] := by decide +kernel
/-- Acyclicity of `dag` obtained from the Johnson model run, through the theorem. -/
example : Acyclic dag :=
  (johnson_empty_iff_acyclic dag dag_wf dag_noloops dag_rows).mp dag_circuits
example : circuits dag = [] ↔ ∀ comp ∈ [[4], [3], [1], [2], [0]], comp.length = 1 :=
  johnson_empty_iff_tarjan_singletons dag dag_wf dag_noloops dag_rows _ (by decide +kernel)

/-- 3: from 6 BFS yields 7 and from 7 it yields 6 (same component); from 1 it yields 6 but from 6
it does not yield 1 (different components). -/
example : Bfs.bfs Bfs.g0 [6] = .ok [6, 5, 7] ∧ Bfs.bfs Bfs.g0 [7] = .ok [7, 6, 5] ∧
    Bfs.bfs Bfs.g0 [1] = .ok [1, 2, 4, 3, 5, 6, 0, 7] := by decide +kernel
example : ∃ ou ov, Bfs.bfs Bfs.g0 [1] = .ok ou ∧ Bfs.bfs Bfs.g0 [6] = .ok ov ∧
    ((∃ c ∈ [[5], [6, 7], [4], [0, 1, 2, 3]], 1 ∈ c ∧ 6 ∈ c) ↔ (6 ∈ ou ∧ 1 ∈ ov)) :=
  bfs_mutual_iff_same_tarjan_component Bfs.g0 C04.g0_wf _ g0_components 1 6 (by decide) (by decide)

/-- Johnson ↔ BFS applied: 6 is on a circuit. -/
example : (∃ c ∈ circuits Bfs.g0, 6 ∈ c) ↔ ∃ w, w < Bfs.g0.n ∧ w ≠ 6 ∧ ∃ ov ow,
    Bfs.bfs Bfs.g0 [6] = .ok ov ∧ Bfs.bfs Bfs.g0 [w] = .ok ow ∧ w ∈ ov ∧ 6 ∈ ow :=
  johnson_vertex_iff_bfs_pair Bfs.g0 C04.g0_wf g0_noloops g0_rows 6 (by decide)

/-- Johnson ↔ Floyd-Warshall on `C08.ex` (negative arcs): two circuits, e.g. cells `(0,1)`, `(1,0)`. -/
theorem ex_noloops : NoLoops C08.ex.toGraph :=
  noLoops_of_table (toGraph_tail Cross.ex_tail) (by decide +kernel)

theorem ex_rows : RowsNodup C08.ex.toGraph :=
  rowsNodup_of_table (toGraph_tail Cross.ex_tail) (by decide +kernel)

example : circuits C08.ex.toGraph = [[0, 2, 3, 1], [1, 2, 3]] := by decide +kernel
example : circuits C08.ex.toGraph ≠ [] ↔ ∃ u v, u < C08.ex.n ∧ v < C08.ex.n ∧ u ≠ v ∧
    (Fw.get C08.ex.n (Fw.distances C08.ex) u v).isSome = true ∧
    (Fw.get C08.ex.n (Fw.distances C08.ex) v u).isSome = true :=
  johnson_nonempty_iff_fw_finite_pair C08.ex Cross.ex_wf Cross.ex_functional Cross.ex_noNegCycle
    ex_noloops ex_rows

/-! ### 4. Metrics on unit weights: a 4-circuit with a chord `0 → 2` -/

def gc : Graph := ⟨4, fun u => match u with | 0 => [1, 2] | 1 => [2] | 2 => [3] | 3 => [0] | _ => []⟩

theorem gc_wf : gc.WF := graph_wf_of_table (fun _ => rfl) (by decide +kernel)

/-- Strong connectivity of `gc` from the Tarjan model run, through `stronglyConnected_iff_tarjan_one`. -/
theorem gc_sc : StronglyConnected gc :=
  (stronglyConnected_iff_tarjan_one gc gc_wf (by decide)).mpr (by decide +kernel)

theorem gc_fw : Fw.distances (unitWeights gc) =
    [some 0, some 1, some 1, some 2,
     some 3, some 0, some 1, some 2,
     some 2, some 3, some 0, some 1,
     some 1, some 2, some 2, some 0] := by decide +kernel

example : DistMatrix.ecc (fwDM isizeMax (unitWeights gc)) = [2, 3, 3, 2] := by
  rw [fwDM, gc_fw]
  decide +kernel
example : DistMatrix.diameter (fwDM isizeMax (unitWeights gc)) = 3 := by
  rw [fwDM, gc_fw]
  decide +kernel
example : DistMatrix.isConnected (fwDM isizeMax (unitWeights gc)) = true := by
  rw [fwDM, gc_fw]
  decide +kernel
example : Bfs.distances gc [0] usizeMax = .ok [0, 1, 1, 2] ∧ Bfs.distances gc [1] usizeMax = .ok [3, 0, 1, 2] ∧
    Bfs.distances gc [2] usizeMax = .ok [2, 3, 0, 1] ∧ Bfs.distances gc [3] usizeMax = .ok [1, 2, 2, 0] := by
  decide +kernel
/-- The theorems applied to `gc` with every hypothesis discharged. -/
example : ∃ (d : List Nat) (e : Nat), Bfs.distances gc [1] usizeMax = .ok d ∧
    (DistMatrix.ecc (fwDM isizeMax (unitWeights gc)))[1]? = some (e : Int) ∧
    (∃ v, v < gc.n ∧ d[v]? = some e) ∧ (∀ v, v < gc.n → ∃ k, d[v]? = some k ∧ k ≤ e) :=
  unit_eccentricity_eq_max_bfs gc gc_wf (by decide) usizeMax (by decide) isizeMax (by decide) gc_sc 1 (by decide)
example : ∃ D : Nat, DistMatrix.diameter (fwDM isizeMax (unitWeights gc)) = (D : Int) ∧
    ∃ u v d, u < gc.n ∧ v < gc.n ∧ Bfs.distances gc [u] usizeMax = .ok d ∧ d[v]? = some D := by
  obtain ⟨D, h, hat, _⟩ :=
    unit_diameter_eq_max_bfs gc gc_wf (by decide) usizeMax (by decide) isizeMax (by decide) gc_sc
  exact ⟨D, h, hat⟩

example : DistMatrix.center (fwDM isizeMax (unitWeights gc)) = [0, 3] := by
  rw [fwDM, gc_fw]
  decide +kernel
example : 0 ∈ DistMatrix.center (fwDM isizeMax (unitWeights gc)) ↔
    ∃ e, IsHopEcc gc 0 e ∧ ∀ u' e', u' < gc.n → IsHopEcc gc u' e' → e ≤ e' :=
  unit_center_iff_min_hopEcc gc gc_wf (by decide) isizeMax (by decide) gc_sc 0 (by decide)
example : DistMatrix.periphery (fwDM isizeMax (unitWeights gc)) = [1, 2] := by
  rw [fwDM, gc_fw]
  decide +kernel
example : ∃ D : Nat, DistMatrix.diameter (fwDM isizeMax (unitWeights gc)) = (D : Int) ∧
    (1 ∈ DistMatrix.periphery (fwDM isizeMax (unitWeights gc)) ↔ ∃ v, v < gc.n ∧ IsHopDist gc [1] v D) :=
  unit_periphery_iff_diameter_attained gc gc_wf (by decide) isizeMax (by decide) gc_sc 1 (by decide)

set_option maxRecDepth 4096 in
/-- Not strongly connected: row 6 of `Bfs.g0`'s matrix has the sentinel where BFS has its own. -/
example : Bfs.distances Bfs.g0 [6] usizeMax
    = .ok [usizeMax, usizeMax, usizeMax, usizeMax, usizeMax, 1, 0, 1] := by decide +kernel
set_option maxRecDepth 100000 in
example : DistMatrix.get (fwDM isizeMax (unitWeights Bfs.g0)) 6 0 = .ok isizeMax ∧
    DistMatrix.get (fwDM isizeMax (unitWeights Bfs.g0)) 6 7 = .ok 1 := by decide +kernel

end GraafVerif.Cross2
