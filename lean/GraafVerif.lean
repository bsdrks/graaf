-- Root of the GraafVerif library: every property-theorem module (and through them models, specs, proofs),
-- together with `Proof.Par` and `Driver.ReprDesc`.
import GraafVerif.Thm.C01
import GraafVerif.Thm.C02
import GraafVerif.Thm.C03
import GraafVerif.Thm.C04
import GraafVerif.Thm.C05
import GraafVerif.Thm.C05Dijkstra
import GraafVerif.Thm.C06
import GraafVerif.Thm.C07
import GraafVerif.Thm.C08
import GraafVerif.Thm.C09
import GraafVerif.Thm.C10
import GraafVerif.Thm.C11
import GraafVerif.Thm.C12
import GraafVerif.Thm.C13
import GraafVerif.Thm.C13Gen
import GraafVerif.Thm.C14
import GraafVerif.Thm.C15
import GraafVerif.Thm.C16
import GraafVerif.Thm.C17
import GraafVerif.Thm.C18
import GraafVerif.Thm.C19
import GraafVerif.Thm.C20
import GraafVerif.Proof.Par
import GraafVerif.Thm.OpsGen
import GraafVerif.Thm.Cross
import GraafVerif.Thm.Oracles
import GraafVerif.Thm.OraclesFast
import GraafVerif.Thm.Compose
import GraafVerif.Thm.Cross2
import GraafVerif.Thm.Laws
import GraafVerif.Thm.Cross3
import GraafVerif.Thm.Laws2
import GraafVerif.Thm.ReprGen
import GraafVerif.Thm.ReprGenTransport
import GraafVerif.Thm.GenGen
import GraafVerif.Thm.AlgoGen
import GraafVerif.Thm.AlgoGen2
import GraafVerif.Thm.AlgoGen3
import GraafVerif.Thm.AlgoGen4
import GraafVerif.Thm.AlgoGen5
import GraafVerif.Thm.AlgoGen6
import GraafVerif.Driver.ReprDesc
import GraafVerif.Thm.Glue
